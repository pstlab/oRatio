/-
Model of `riddle::lexer` (/repo/riddle/riddle_lexer.{h,cpp}).

Input: the bytes of the text as `unsigned char` values (`Int` in 0..255); `next_char()` returns
`-1` at the end of the input only (the functions still test for `-1` inside the stream, as the
C++ does; with byte-valued streams those tests never fire).  Line/column bookkeeping is
omitted (it only decorates error messages).
Keywords: the C++ walks a hand-written trie letter by letter and falls back to `finish_id`;
that is "read the maximal run of identifier characters, then look the word up", which is what
the model does (the token-level correspondence ties the two, keyword by keyword and on every
prefix / extension of a keyword).
-/
import OratioModel.Arith.Rational

namespace Oratio.Riddle

inductive Sym where
  | BOOL | INT | REAL | TP | STRING | TYPEDEF | ENUM | CLASS | GOAL | FACT | PREDICATE | NEW | OR
  | THIS | VOID | RETURN | DOT | COMMA | COLON | SEMICOLON | LPAREN | RPAREN | LBRACKET | RBRACKET
  | LBRACE | RBRACE | PLUS | MINUS | STAR | SLASH | AMP | BAR | EQ | GT | LT | BANG | EQEQ | LTEQ
  | GTEQ | BANGEQ | IMPLICATION | CARET | EOF
deriving DecidableEq, Repr, Inhabited

inductive Tok where
  | sym (s : Sym)
  | id (name : List Int)
  | bool (b : Bool)
  | int (n : Int)
  | real (r : R)
  | str (s : List Int)
deriving DecidableEq, Repr, Inhabited

inductive LexErr where
  | newlineInString | unterminatedString | unterminatedComment | invalidNumeric | outOfRange | invalidToken
  | fuel   -- the model's own bound on re-entries was exhausted (never happens: `C18_lexer_total`)
deriving DecidableEq, Repr

def ch (c : Char) : Int := c.toNat

def isDigit (c : Int) : Bool := ch '0' ≤ c && c ≤ ch '9'
/-- `is_id_part` -/
def isIdPart (c : Int) : Bool :=
  c == ch '_' || (ch 'a' ≤ c && c ≤ ch 'z') || (ch 'A' ≤ c && c ≤ ch 'Z') || isDigit c
def isIdStart (c : Int) : Bool := c == ch '_' || (ch 'a' ≤ c && c ≤ ch 'z') || (ch 'A' ≤ c && c ≤ ch 'Z')
def isSpace (c : Int) : Bool := c == ch ' ' || c == ch '\t' || c == ch '\r' || c == ch '\n'

/-- the input as the lexer consumes it: the head is the current character `ch`; the empty
    list is end of input (`ch == -1`) -/
abbrev Stream := List Int

def cur (s : Stream) : Int := s.headD (-1)

def strInts (s : String) : List Int := s.toList.map ch

/-- the keyword table of the hand-written trie -/
def keywords : List (String × Tok) :=
  [("bool", .sym .BOOL), ("class", .sym .CLASS), ("enum", .sym .ENUM), ("fact", .sym .FACT), ("false", .bool false),
   ("goal", .sym .GOAL), ("int", .sym .INT), ("new", .sym .NEW), ("or", .sym .OR), ("predicate", .sym .PREDICATE),
   ("real", .sym .REAL), ("return", .sym .RETURN), ("string", .sym .STRING), ("tp", .sym .TP), ("true", .bool true),
   ("typedef", .sym .TYPEDEF), ("void", .sym .VOID)]

def wordTok (w : List Int) : Tok :=
  match keywords.find? (fun k => strInts k.1 == w) with
  | some k => k.2
  | none => .id w

/-- value of a digit string (`std::stol` on digits) -/
def digitsVal (ds : List Int) : Int := ds.foldl (fun a d => a * 10 + (d - ch '0')) 0

def longMax : Int := 9223372036854775807

/-- maximal run of characters satisfying `p` (`p (-1)` is false for every `p` used) -/
def takeRun (p : Int → Bool) : Stream → List Int × Stream
  | [] => ([], [])
  | c :: r => if p c then let (w, r') := takeRun p r; (c :: w, r') else ([], c :: r)

/-- body of a string literal (the stream starts after the opening quote); returns the
    contents and the stream after the closing quote -/
def lexString : Stream → Except LexErr (List Int × Stream)
  | [] => .error .unterminatedString
  | c :: r =>
    if c == ch '"' then .ok ([], r)
    else if c == ch '\\' then
      match r with
      | [] => .error .unterminatedString
      | e :: r' =>
        if e == -1 then .error .unterminatedString
        else match lexString r' with
          | .ok (w, r'') => .ok (e :: w, r'')
          | .error x => .error x
    else if c == ch '\r' || c == ch '\n' then .error .newlineInString
    else if c == -1 then .error .unterminatedString
    else match lexString r with
      | .ok (w, r') => .ok (c :: w, r')
      | .error x => .error x

/-- inside `/* … */`; `star` = the previous character was a `*` -/
def skipBlock (star : Bool) : Stream → Except LexErr Stream
  | [] => .error .unterminatedComment
  | c :: r =>
    if c == -1 then .error .unterminatedComment
    else if star && c == ch '/' then .ok r
    else skipBlock (c == ch '*') r

/-- inside `// …`: up to (not including) the end of line; `none` = end of input reached -/
def skipLine : Stream → Option Stream
  | [] => none
  | c :: r => if c == ch '\r' || c == ch '\n' then some (c :: r) else if c == -1 then none else skipLine r

/-- numeric literal starting with a digit: `[0-9]+ ('.' [0-9]*)?` -/
def lexNumber (s : Stream) : Except LexErr (Tok × Stream) :=
  let (intgr, r) := takeRun isDigit s
  if cur r == ch '.' then
    let (dec, r') := takeRun isDigit (r.drop 1)
    if cur r' == ch '.' then .error .invalidNumeric
    else if dec.length > 18 then .error .outOfRange
    else
      let n := digitsVal (intgr ++ dec)
      if n > longMax then .error .outOfRange else .ok (.real (R.mk2 n (10 ^ dec.length)), r')
  else
    let n := digitsVal intgr
    if n > longMax then .error .outOfRange else .ok (.int n, r)

/-- `lexer::next()`; the fuel bounds the re-entries after white space and comments -/
def nextTok : Nat → Stream → Except LexErr (Tok × Stream)
  | 0, _ => .error .fuel
  | fuel + 1, s =>
    match s with
    | [] => .ok (.sym .EOF, [])
    | c :: r =>
      if c == -1 then .ok (.sym .EOF, r)
      else if isSpace c then
        let r' := r.dropWhile isSpace
        if cur r' == -1 then .ok (.sym .EOF, r'.drop 1) else nextTok fuel r'
      else if c == ch '"' then
        match lexString r with
        | .ok (w, r') => .ok (.str w, r')
        | .error e => .error e
      else if c == ch '/' then
        if cur r == ch '/' then
          match skipLine (r.drop 1) with
          | none => .ok (.sym .EOF, [])
          | some r' => nextTok fuel r'
        else if cur r == ch '*' then
          match skipBlock false (r.drop 1) with
          | .ok r' => nextTok fuel r'
          | .error e => .error e
        else .ok (.sym .SLASH, r)
      else if c == ch '=' then (if cur r == ch '=' then .ok (.sym .EQEQ, r.drop 1) else .ok (.sym .EQ, r))
      else if c == ch '>' then (if cur r == ch '=' then .ok (.sym .GTEQ, r.drop 1) else .ok (.sym .GT, r))
      else if c == ch '<' then (if cur r == ch '=' then .ok (.sym .LTEQ, r.drop 1) else .ok (.sym .LT, r))
      else if c == ch '+' then .ok (.sym .PLUS, r)
      else if c == ch '-' then (if cur r == ch '>' then .ok (.sym .IMPLICATION, r.drop 1) else .ok (.sym .MINUS, r))
      else if c == ch '*' then .ok (.sym .STAR, r)
      else if c == ch '|' then .ok (.sym .BAR, r)
      else if c == ch '&' then .ok (.sym .AMP, r)
      else if c == ch '^' then .ok (.sym .CARET, r)
      else if c == ch '!' then (if cur r == ch '=' then .ok (.sym .BANGEQ, r.drop 1) else .ok (.sym .BANG, r))
      else if c == ch '.' then
        if isDigit (cur r) then
          let (dec, r') := takeRun isDigit r
          if cur r' == ch '.' then .error .invalidNumeric
          else if dec.length > 18 then .error .outOfRange
          else
            let n := digitsVal dec
            if n > longMax then .error .outOfRange else .ok (.real (R.mk2 n (10 ^ dec.length)), r')
        else .ok (.sym .DOT, r)
      else if c == ch ',' then .ok (.sym .COMMA, r)
      else if c == ch ';' then .ok (.sym .SEMICOLON, r)
      else if c == ch ':' then .ok (.sym .COLON, r)
      else if c == ch '(' then .ok (.sym .LPAREN, r)
      else if c == ch ')' then .ok (.sym .RPAREN, r)
      else if c == ch '[' then .ok (.sym .LBRACKET, r)
      else if c == ch ']' then .ok (.sym .RBRACKET, r)
      else if c == ch '{' then .ok (.sym .LBRACE, r)
      else if c == ch '}' then .ok (.sym .RBRACE, r)
      else if isDigit c then lexNumber s
      else if isIdStart c then
        let (w, r') := takeRun isIdPart s
        .ok (wordTok w, r')
      else .error .invalidToken

/-- the token stream up to and including `EOF`, as the parser pulls it -/
def lexAll : Nat → Stream → Except LexErr (List Tok)
  | 0, _ => .error .fuel
  | fuel + 1, s =>
    match nextTok (s.length + 2) s with
    | .error e => .error e
    | .ok (.sym .EOF, _) => .ok [.sym .EOF]
    | .ok (t, r) => match lexAll fuel r with
      | .ok ts => .ok (t :: ts)
      | .error e => .error e

def lex (s : Stream) : Except LexErr (List Tok) := lexAll (s.length + 2) s

end Oratio.Riddle
