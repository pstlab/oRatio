/-
Parallel tableau update of `lra_theory::pivot` (PARALLELIZE) and the thread pool it runs on
(/repo/smt/arith/lra/lra_theory.cpp:485-556, /repo/smt/concurrent/thread_pool.cpp).

One task per row containing the entering variable.  A task reads its OWN row and the (copied)
pivot expression, rewrites its own row, and inserts / erases ITSELF in the watch lists
`t_watches[v]`, each such update under the mutex of `v`.  The model makes the granularity
explicit: a task is a list of atomic steps, each owned by the task's row; a schedule is any
sequence of steps in which every task's steps keep their order.

The shared state is kept extensional (a row table and a membership relation for the watch
lists), so "same result" is plain equality.
-/
namespace Oratio.Par

/-- a row: variable ↦ coefficient (0 = absent), and the known term, over any coefficient type -/
structure Row (α : Type) where
  coeff : Nat → α
  known : α

structure Shared (α : Type) where
  rows : Nat → Option (Row α)
  /-- `watch v r`: row `r` is in `t_watches[v]` -/
  watch : Nat → Nat → Bool

inductive Step (α : Type) where
  /-- private write of the task's own row (no lock) -/
  | setRow (r : Nat) (row : Row α)
  /-- `t_watches[v].emplace(r)` under `t_mtxs[v]` -/
  | watchIns (v r : Nat)
  /-- `t_watches[v].erase(r)` under `t_mtxs[v]` -/
  | watchDel (v r : Nat)

def Step.owner {α : Type} : Step α → Nat
  | .setRow r _ => r
  | .watchIns _ r => r
  | .watchDel _ r => r

/-- the memory a step touches WITHOUT holding a lock (`none`: the access is under the mutex of the variable) -/
def Step.unsynchronised {α : Type} : Step α → Option Nat
  | .setRow r _ => some r
  | _ => none

def Shared.apply {α : Type} (σ : Shared α) : Step α → Shared α
  | .setRow r row => { σ with rows := fun x => if x = r then some row else σ.rows x }
  | .watchIns v r => { σ with watch := fun v' r' => if v' = v ∧ r' = r then true else σ.watch v' r' }
  | .watchDel v r => { σ with watch := fun v' r' => if v' = v ∧ r' = r then false else σ.watch v' r' }

def Shared.run {α : Type} (σ : Shared α) (l : List (Step α)) : Shared α := l.foldl Shared.apply σ

/-- the steps of the task of row `r`: the new row (computed from the old row and the pivot expression only) and
    one watch update per variable of the pivot expression, as the lambda in `pivot` does.
    `expr` lists the (variable, coefficient) pairs of the pivot expression; `cc` is the row's coefficient of the
    entering variable; `isZero` tests a coefficient. -/
def taskSteps {α : Type} [Add α] [Mul α] (isZero : α → Bool) (zero : α) (xj : Nat) (expr : List (Nat × α)) (exprKnown : α)
    (r : Nat) (old : Row α) : List (Step α) :=
  let cc := old.coeff xj
  let base : Row α := { old with coeff := fun v => if v = xj then zero else old.coeff v }
  let upd := expr.foldl (fun (acc : Row α × List (Step α)) (vc : Nat × α) =>
    let (row, steps) := acc
    let (v, c) := vc
    if isZero (row.coeff v) then
      ({ row with coeff := fun x => if x = v then c * cc else row.coeff x }, steps ++ [.watchIns v r])
    else
      let s := row.coeff v + c * cc
      if isZero s then ({ row with coeff := fun x => if x = v then zero else row.coeff x }, steps ++ [.watchDel v r])
      else ({ row with coeff := fun x => if x = v then s else row.coeff x }, steps)) (base, [])
  [.setRow r { upd.1 with known := upd.1.known + exprKnown * cc }] ++ upd.2

/-! ### the thread pool: enqueue / take / finish / join -/

structure Pool where
  queue : List Nat := []
  running : List Nat := []
  done : List Nat := []
  enqueued : List Nat := []

inductive PoolStep where
  | enqueue (t : Nat)
  /-- a worker pops the front task (`active++`) -/
  | take
  /-- a worker finishes task `t` (`active--`) -/
  | finish (t : Nat)

def Pool.step (p : Pool) : PoolStep → Pool
  | .enqueue t => { p with queue := p.queue ++ [t], enqueued := p.enqueued ++ [t] }
  | .take => match p.queue with
    | [] => p
    | t :: q => { p with queue := q, running := p.running ++ [t] }
  | .finish t => if p.running.contains t then { p with running := p.running.erase t, done := p.done ++ [t] } else p

/-- what `join()` waits for: `active == 0 && tasks.empty()` -/
def Pool.joinable (p : Pool) : Bool := p.running.isEmpty && p.queue.isEmpty

end Oratio.Par
