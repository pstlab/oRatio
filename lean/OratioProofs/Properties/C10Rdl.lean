/-
Property C10, real-valued instance — difference logic over `inf_rational`: distances are exact,
conflicts mean infeasibility.

`Dl` (OratioModel/Net/Dl.lean) is ONE model for `idl_theory` and `rdl_theory`.  C10.lean proves
the property for the integer instance `idlOps`; this file states and proves the counterparts
`C10R_*` for the real instance `rdlOps : DOps IR` (numbers `q + e·ε`, infinity `+∞`, strict
negation `-d - ε`), using the exactness of the `R` / `IR` arithmetic (C15 lemmas).

Vocabulary.  Values are ε-rationals `QV = Lex (ℚ × ℚ)` (pairs `(q, e)` = `q + e·ε`, ordered
lexicographically; an ordered abelian group).  A finite `IR` `x` denotes
`IR.val x = (x.rat.toRat, x.inf.toRat)`.  An *edge* `(f, t, w)` with `w : IR` is the difference
constraint `x_t - x_f ≤ IR.val w`; a valuation is `σ : Nat → QV`.  `E` is the ghost list of
edges enforced so far.

  * `IR.Fin w`  (weights):  `w.rat` and `w.inf` are canonical (`R.WF`) and finite (`den ≠ 0`);
  * `IR.Good x` (entries):  `x.rat` canonical and not `-∞`, `x.inf` canonical and finite.

There is no overflow range: the integer hypotheses `range` / `bounded` / `-K ≤ w ≤ K` disappear
and are replaced by these well-formedness conditions (`wf`, `edges_in`).

Differences with the integer statements:
  1. An entry is infinite iff its RATIONAL PART is `+∞`; it is not always the constant
     `rdlOps.inf = ⟨+∞, 0⟩`.  `finiteGuard` is constantly true for RDL, so the test
     `d[u][from] < d[u][to] - dist` also runs on two infinite entries and then compares their
     ε parts: `+∞ < +∞ - (0 - ε)` succeeds, the entry is overwritten with `⟨+∞, -1⟩` and `u`
     joins `set_i` spuriously (see the example on `exNet` below).  Harmless for the denoted values (all
     theorems below hold), but `rdist?` must test the rational part.
  2. Negation.  Over ε-rationals `¬ (u ≤ v) ↔ -u ≤ -v - ε` holds iff the ε parts of `u` and `v`
     differ by an integer (counterexample `v = 0`, `u = ε/2`).  Correspondingly a negated
     constraint is handled exactly only when the ε parts involved are integers (`inf.den = 1`),
     which `C10R_epsInt_*` shows is an invariant of every history whose constraint weights have
     integer ε parts (those built by `new_lt/new_leq/...`: `mkB k e = ⟨k, e⟩`, `e ∈ {0, -1}`).
     With a weight `v + ε/2` enforced on `(src, dst)` and the constraint `dst - src ≤ v` negated,
     the code reports no conflict and enforces `src - dst ≤ -v - ε`, closing a cycle of weight
     `-ε/2` unnoticed.
-/
import OratioModel
import OratioProofs.Lemmas.DlRdlHist

namespace Oratio

abbrev QEdge := Nat × Nat × IR

def QEdge.holds (σ : Nat → QV) (e : QEdge) : Prop := σ e.2.1 - σ e.1 ≤ IR.val e.2.2
def RFeasible (E : List QEdge) : Prop := ∃ σ : Nat → QV, ∀ e ∈ E, QEdge.holds σ e

/-- distance entry as an extended ε-rational: `none` = +∞.
    Infinite means "rational part infinite", not "equal to `rdlOps.inf`". -/
def Dl.rdist? (t : Dl IR) (i j : Nat) : Option QV :=
  let x := Dl.d rdlOps t i j; if x.rat.den = 0 then none else some (IR.val x)

/-- the matrix invariant relative to the enforced edges `E`, over the `n = t.nVars` time points -/
structure Dl.ExactR (E : List QEdge) (t : Dl IR) : Prop where
  size_ok : 1 ≤ t.nVars ∧ t.nVars ≤ t.dists.length ∧ (∀ r ∈ t.dists, r.length = t.dists.length) ∧
    t.preds.length = t.dists.length ∧ (∀ r ∈ t.preds, r.length = t.dists.length)
  /-- entries outside the used block are as `resize` / the constructor leave them -/
  fresh : ∀ i j, i < t.dists.length → j < t.dists.length → (t.nVars ≤ i ∨ t.nVars ≤ j) →
    Dl.d rdlOps t i j = if i = j then rdlOps.zero else rdlOps.inf
  /-- (in the place of `range` / `bounded` of `Dl.Exact`) the entries are well-formed: canonical, never `-∞`, finite ε part -/
  wf : ∀ i j, i < t.nVars → j < t.nVars → IR.Good (Dl.d rdlOps t i j)
  /-- the enforced weights are well-formed and finite -/
  edges_in : ∀ e ∈ E, e.1 < t.nVars ∧ e.2.1 < t.nVars ∧ IR.Fin e.2.2
  diag : ∀ i, i < t.nVars → t.rdist? i i = some 0
  /-- every enforced edge is respected by the matrix -/
  respects : ∀ e ∈ E, ∃ x, t.rdist? e.1 e.2.1 = some x ∧ x ≤ IR.val e.2.2
  /-- triangle inequality -/
  closed : ∀ i j k, i < t.nVars → j < t.nVars → k < t.nVars →
    ∀ a b, t.rdist? i k = some a → t.rdist? k j = some b → ∃ c, t.rdist? i j = some c ∧ c ≤ a + b
  /-- soundness: every finite entry is implied by the enforced edges -/
  implied : ∀ i j, i < t.nVars → j < t.nVars → ∀ x, t.rdist? i j = some x →
    ∀ σ : Nat → QV, (∀ e ∈ E, QEdge.holds σ e) → σ j - σ i ≤ x

theorem Dl.ExactR.toM {E : List QEdge} {t : Dl IR} (h : t.ExactR E) : DlR.ExactM E t :=
  ⟨h.size_ok, h.fresh, h.wf, h.edges_in, h.diag, h.respects, h.closed, h.implied⟩

theorem Dl.ExactR.ofM {E : List QEdge} {t : Dl IR} (h : DlR.ExactM E t) : t.ExactR E :=
  ⟨h.size_ok, h.fresh, h.wf, h.edges_in, h.diag, h.respects, h.closed, h.implied⟩

theorem Dl.ExactR.toG {E : List QEdge} {t : Dl IR} (h : t.ExactR E) : DlG.Exact DlR.rdlLaws E t := h.toM.toG

theorem Dl.ExactR.ofG {E : List QEdge} {t : Dl IR} (h : DlG.Exact DlR.rdlLaws E t) : t.ExactR E :=
  Dl.ExactR.ofM (DlR.ExactM.ofG h)

/-! ## what exactness means -/

/-- Tightness: a finite entry `d i j` is ATTAINED by a valuation satisfying all enforced edges, so
    together with `implied` it is exactly the tightest bound on `x_j - x_i`. -/
theorem C10R_tight_witness (E : List QEdge) (t : Dl IR) (h : t.ExactR E) (i j : Nat)
    (hi : i < t.nVars) (hj : j < t.nVars) (x : QV) (hx : t.rdist? i j = some x)
    (hreach : ∀ k, k < t.nVars → t.rdist? i k ≠ none) :
    ∃ σ : Nat → QV, (∀ e ∈ E, QEdge.holds σ e) ∧ σ j - σ i = x := by
  exact DlG.tight_witness DlR.rdlLaws h.toM.toG hi hj (DlR.distOpt_some.mp hx)

/-- an infinite entry means the difference is unbounded above -/
theorem C10R_infinite_means_unbounded (E : List QEdge) (t : Dl IR) (h : t.ExactR E) (i j : Nat)
    (hi : i < t.nVars) (hj : j < t.nVars) (hx : t.rdist? i j = none) (B : QV) :
    ∃ σ : Nat → QV, (∀ e ∈ E, QEdge.holds σ e) ∧ σ j - σ i > B := by
  exact DlG.infinite_means_unbounded DlR.rdlLaws h.toM.toG hi hj (DlR.distOpt_none.mp hx) B

/-- the enforced constraints of an exact state are feasible -/
theorem C10R_exact_feasible (E : List QEdge) (t : Dl IR) (h : t.ExactR E) : RFeasible E := by
  exact DlG.exact_feasible DlR.rdlLaws h.toG

theorem C10R_init_exact : (Dl.init rdlOps 16 : Dl IR).ExactR [] := by
  exact Dl.ExactR.ofG (DlG.init_exact DlR.rdlLaws 16 (by decide))

/-- growing the network keeps exactness (including the resize of the matrix) -/
theorem C10R_newVar_exact (E : List QEdge) (t : Dl IR) (h : t.ExactR E) :
    (Dl.newVar rdlOps t).2.ExactR E ∧ (Dl.newVar rdlOps t).1 = t.nVars := by
  have r := DlG.newVar_exact DlR.rdlLaws h.toG
  exact ⟨Dl.ExactR.ofG r.1, r.2⟩

/-- Closed form of `propagate(from, to, w)`: enforcing an edge that does not close a negative
    cycle and improves the entry updates every distance to `min (d i j) (d i f + w + d g j)`,
    and the state stays exact for the enlarged edge set. -/
theorem C10R_update_closed_form (E : List QEdge) (s : Sat) (t : Dl IR) (h : t.ExactR E)
    (f g : Nat) (w : IR) (hf : f < t.nVars) (hg : g < t.nVars) (hfg : f ≠ g) (hw : IR.Fin w)
    (hnocycle : ∀ x, t.rdist? g f = some x → 0 ≤ x + IR.val w)
    (himproves : ∀ x, t.rdist? f g = some x → IR.val w < x) :
    let t' := (Dl.propagateEdge rdlOps s t f g w).2
    t'.ExactR ((f, g, w) :: E) ∧ t'.nVars = t.nVars ∧
    ∀ i j, i < t.nVars → j < t.nVars →
      t'.rdist? i j =
        (match t.rdist? i f, t.rdist? g j with
         | some a, some b => match t.rdist? i j with
           | some c => some (min c (a + IR.val w + b))
           | none => some (a + IR.val w + b)
         | _, _ => t.rdist? i j) := by
  obtain ⟨r1, r2, r3⟩ := DlG.update_closed_form DlR.rdlLaws h.toG s hf hg hfg hw (DlR.room _ _ _ _)
    (DlG.nocycle_of_opt hnocycle) (DlG.improves_of_opt himproves)
  -- the new state becomes a variable (as in `C10_update_closed_form`: the unifier would evaluate `propagateEdge …`)
  generalize (Dl.propagateEdge rdlOps s t f g w).2 = t' at r1 r2 r3 ⊢
  refine ⟨Dl.ExactR.ofG r1, r2, fun i j hi hj => ?_⟩
  have e : DlR.dn t' i j = DlW.upd (DlR.dn t) f g (IR.val w) i j := r3 i j hi hj
  refine e.trans ((DlG.upd_val (t.rdist? i f) (t.rdist? g j) (t.rdist? i j) (IR.val w)).trans ?_)
  -- the two `match`es are different constants until the scrutinees are constructors
  cases t.rdist? i f <;> cases t.rdist? g j <;> try rfl
  cases t.rdist? i j <;> rfl

/-- `propagate(lit)` on an asserted constraint signals a conflict exactly when the enforced
    edges together with the new one are infeasible (a negative cycle) -/
theorem C10R_conflict_iff_infeasible (E : List QEdge) (s : Sat) (t : Dl IR) (h : t.ExactR E)
    (c : DConstr IR) (hc : t.constrOf c.b = some c) (hv : s.value ⟨c.b, true⟩ = some true)
    (hr : c.src < t.nVars ∧ c.dst < t.nVars ∧ c.src ≠ c.dst ∧ IR.Fin c.dist) :
    (∃ cl, Dl.propagateLit rdlOps s t ⟨c.b, true⟩ = .inl cl) ↔ ¬ RFeasible ((c.src, c.dst, c.dist) :: E) := by
  exact DlG.conflict_iff_infeasible DlR.rdlLaws h.toG s c hc hv hr.1 hr.2.1 hr.2.2.1 hr.2.2.2 (DlR.room _ _ _ _)

/-- The negation of `t - f ≤ d` is enforced as the reversed edge `f - t ≤ -d - ε`
    (`rdlOps.negStrict d`), and a negated constraint signals a conflict exactly when that reversed
    edge is infeasible.

    The integer statement `¬ holds σ (f,t,d) ↔ holds σ (t,f,-d-1)` for ALL `σ` is
    false over ε-rationals (`d = 0`, `σ t - σ f = ε/2`: the constraint fails, and so does
    `σ f - σ t ≤ -ε`).  What holds: the reversed edge always refutes the constraint; the two are
    equivalent for valuations whose ε part on `(f, t)` differs from that of `d` by an integer; and
    the conflict characterisation needs the integrality hypothesis `hint` on the weight and on
    the current entry (an invariant of histories with integer-ε weights: `C10R_epsInt_*`). -/
theorem C10R_negation_is_reverse_edge (E : List QEdge) (s : Sat) (t : Dl IR) (h : t.ExactR E)
    (c : DConstr IR) (hc : t.constrOf c.b = some c) (hv : s.value ⟨c.b, true⟩ = some false)
    (hr : c.src < t.nVars ∧ c.dst < t.nVars ∧ c.src ≠ c.dst ∧ IR.Fin c.dist)
    (hint : c.dist.inf.den = 1 ∧ (Dl.d rdlOps t c.src c.dst).inf.den = 1) :
    (IR.Fin (rdlOps.negStrict c.dist) ∧ IR.val (rdlOps.negStrict c.dist) = - IR.val c.dist - QV.eps) ∧
    (∀ σ : Nat → QV, QEdge.holds σ (c.dst, c.src, rdlOps.negStrict c.dist) → ¬ QEdge.holds σ (c.src, c.dst, c.dist)) ∧
    (∀ σ : Nat → QV, (∃ k : ℤ, (ofLex (σ c.dst - σ c.src)).2 - (ofLex (IR.val c.dist)).2 = (k : ℚ)) →
      (¬ QEdge.holds σ (c.src, c.dst, c.dist) ↔ QEdge.holds σ (c.dst, c.src, rdlOps.negStrict c.dist))) ∧
    ((∃ cl, Dl.propagateLit rdlOps s t ⟨c.b, false⟩ = .inl cl) ↔
      ¬ RFeasible ((c.dst, c.src, rdlOps.negStrict c.dist) :: E)) := by
  obtain ⟨h1, h2, h3, h4⟩ := hr
  have hns := IR.fin_negStrict h4
  have hneg : ∀ σ : Nat → QV, σ c.src - σ c.dst = -(σ c.dst - σ c.src) := fun σ => by abel
  refine ⟨hns, ?_, ?_, ?_⟩
  · intro σ hrev
    have hrev' : σ c.src - σ c.dst ≤ IR.val (rdlOps.negStrict c.dist) := hrev
    rw [hns.2, hneg] at hrev'
    exact DlR.QV.of_rev _ _ hrev'
  · intro σ ⟨k, hk⟩
    show ¬ (σ c.dst - σ c.src ≤ IR.val c.dist) ↔ σ c.src - σ c.dst ≤ IR.val (rdlOps.negStrict c.dist)
    rw [hns.2, hneg]
    exact DlR.QV.not_le_iff _ _ k hk
  · exact DlG.negated_conflict_iff_infeasible DlR.rdlLaws h.toG s c hc hv h1 h2 h3 h4 hns.1 ⟨hint.2, hint.1⟩
      (DlR.room _ _ _ _)

/-- asserting or negating a constraint without conflict keeps the state exact for the edge set
    extended by the asserted (resp. reversed) edge, or leaves it unchanged when redundant.
    For a negated constraint the ε parts of the weight and of the two entries
    the code inspects must be integers. -/
theorem C10R_propagate_exact (E : List QEdge) (s s' : Sat) (t t' : Dl IR) (h : t.ExactR E)
    (c : DConstr IR) (hc : t.constrOf c.b = some c) (b : Bool) (hv : s.value ⟨c.b, true⟩ = some b)
    (hr : c.src < t.nVars ∧ c.dst < t.nVars ∧ c.src ≠ c.dst ∧ IR.Fin c.dist)
    (hint : b = false → c.dist.inf.den = 1 ∧ (Dl.d rdlOps t c.src c.dst).inf.den = 1 ∧
      (Dl.d rdlOps t c.dst c.src).inf.den = 1)
    (hp : Dl.propagateLit rdlOps s t ⟨c.b, b⟩ = .inr (s', t')) :
    t'.ExactR ((if b then (c.src, c.dst, c.dist) else (c.dst, c.src, rdlOps.negStrict c.dist)) :: E) := by
  obtain ⟨h1, h2, h3, h4⟩ := hr
  exact Dl.ExactR.ofG (DlG.propagate_exact DlR.rdlLaws h.toG s s' c hc b hv h1 h2 h3 h4 (fun _ => DlR.room _ _ _ _)
    (fun hb => ⟨(IR.fin_negStrict h4).1, ⟨(hint hb).2.1, (hint hb).1⟩, ⟨(hint hb).2.2, (hint hb).1⟩, DlR.room _ _ _ _⟩) hp).1

/-- the literal returned by `new_distance` is a constant only when the matrix already decides
    the constraint -/
theorem C10R_new_distance_shortcut_valid (E : List QEdge) (s : Sat) (t : Dl IR) (h : t.ExactR E)
    (f g : Nat) (w : IR) (hf : f < t.nVars) (hg : g < t.nVars) (hw : IR.Fin w) (hs : 0 < s.vals.length) :
    ((Dl.newDistance rdlOps s t f g w).1 = Lit.trueLit → ∀ σ : Nat → QV, (∀ e ∈ E, QEdge.holds σ e) → QEdge.holds σ (f, g, w)) ∧
    ((Dl.newDistance rdlOps s t f g w).1 = Lit.falseLit → ∀ σ : Nat → QV, (∀ e ∈ E, QEdge.holds σ e) → ¬ QEdge.holds σ (f, g, w)) := by
  exact DlG.new_distance_shortcut_valid DlR.rdlLaws s h.toG hf hg hw hs

/-! ## integrality of the ε parts (discharges `hint` along histories) -/

/-- every entry of the matrix (and the default outside it) has an integer ε part -/
def Dl.EpsInt (t : Dl IR) : Prop := ∀ a b, (Dl.d rdlOps t a b).inf.den = 1

theorem C10R_epsInt_init : (Dl.init rdlOps 16 : Dl IR).EpsInt := by
  exact DlG.allP_init rdlOps DlR.EpsI DlR.epsI_zero DlR.epsI_inf 16

theorem C10R_epsInt_newVar (t : Dl IR) (h : t.EpsInt) : (Dl.newVar rdlOps t).2.EpsInt := by
  exact DlG.allP_newVar rdlOps DlR.EpsI DlR.epsI_zero DlR.epsI_inf t h

/-- `propagate(lit)` (either polarity, whatever it does) keeps the ε parts integers when the
    constraint's weight has an integer ε part; no exactness needed -/
theorem C10R_epsInt_propagate (s s' : Sat) (t t' : Dl IR) (pl : Lit) (h : t.EpsInt)
    (hc : ∀ c, t.constrOf pl.var = some c → c.dist.inf.den = 1)
    (hp : Dl.propagateLit rdlOps s t pl = .inr (s', t')) : t'.EpsInt := by
  exact DlG.allP_propagateLit rdlOps DlR.EpsI DlR.epsI_add DlR.epsI_negStrict s s' t t' pl h hc hp

/-- The conflict clause returned by `propagate(lit)` for a literal that is true consists only of
    literals that are false under the current assignment (the negated literal itself and, for
    every edge of the predecessor walk with a responsible constraint, the literal contradicting
    its current value).  That the clause is moreover a theory lemma is
    `C10XR_conflict_clause_valid` (Properties/C10Explain.lean), under the path invariant tying
    `_preds` and `dist_constr` to the matrix. -/
theorem C10R_explanation_lits_false_partial (s : Sat) (t : Dl IR) (pl : Lit) (cl : List Lit)
    (hpl : s.value pl = some true) (hp : Dl.propagateLit rdlOps s t pl = .inl cl) :
    ∀ l ∈ cl, s.value l = some false := by
  exact DlG.conflict_lits_false rdlOps s t pl cl hpl hp

/-! ## non-vacuity -/

/-- the network with three time points after enforcing `x2 - x1 ≤ 3/2 - ε` (i.e. `< 3/2`) -/
def exNet : Dl IR :=
  (Dl.propagateEdge rdlOps Sat.init ((Dl.newVar rdlOps ((Dl.newVar rdlOps (Dl.init rdlOps 16)).2)).2) 1 2
    ⟨⟨3, 2⟩, ⟨-1, 1⟩⟩).2

/-- concrete entries: the enforced bound, and an infinite entry that is NOT the
    constant `rdlOps.inf`: row 0 was rewritten with `⟨+∞, -1⟩` -/
example : Dl.d rdlOps exNet 1 2 = ⟨⟨3, 2⟩, ⟨-1, 1⟩⟩ ∧ Dl.d rdlOps exNet 2 1 = rdlOps.inf ∧
    Dl.d rdlOps exNet 0 2 = ⟨R.pinf, ⟨-1, 1⟩⟩ ∧ Dl.d rdlOps exNet 0 2 ≠ rdlOps.inf ∧ exNet.nVars = 3 := by
  decide

/-- a concrete real-valued network satisfying the invariant, with a non-empty edge set -/
example : exNet.ExactR [(1, 2, ⟨⟨3, 2⟩, ⟨-1, 1⟩⟩)] ∧ exNet.EpsInt ∧ RFeasible [(1, 2, ⟨⟨3, 2⟩, ⟨-1, 1⟩⟩)] := by
  have h0 := C10R_init_exact
  have h1 := (C10R_newVar_exact _ _ h0).1
  have h2 := (C10R_newVar_exact _ _ h1).1
  have hw : IR.Fin (⟨⟨3, 2⟩, ⟨-1, 1⟩⟩ : IR) := ⟨⟨by decide, by decide⟩, ⟨by decide, by decide⟩⟩
  have hn21 : (Dl.newVar rdlOps ((Dl.newVar rdlOps (Dl.init rdlOps 16)).2)).2.rdist? 2 1 = none := by
    unfold Dl.rdist?; dsimp only; rw [if_pos (by decide)]
  have hn12 : (Dl.newVar rdlOps ((Dl.newVar rdlOps (Dl.init rdlOps 16)).2)).2.rdist? 1 2 = none := by
    unfold Dl.rdist?; dsimp only; rw [if_pos (by decide)]
  have r := C10R_update_closed_form [] Sat.init _ h2 1 2 ⟨⟨3, 2⟩, ⟨-1, 1⟩⟩ (by decide) (by decide) (by decide) hw
    (by intro x hx; rw [hn21] at hx; cases hx) (by intro x hx; rw [hn12] at hx; cases hx)
  refine ⟨r.1, ?_, C10R_exact_feasible _ _ r.1⟩
  have e0 := C10R_epsInt_newVar _ (C10R_epsInt_newVar _ C10R_epsInt_init)
  exact DlG.allP_propagateEdge rdlOps DlR.EpsI DlR.epsI_add Sat.init _ 1 2 _ rfl e0

/-- The concrete counterexample to the unrestricted negation theorem: with
    `x2 - x1 ≤ ε/2` enforced (a well-formed finite weight whose ε part is not an integer), negating
    `x2 - x1 ≤ 0`: the conflict test `d[1][2] ≤ 0` is false, the enforcement test `-0 ≤ d[2][1]` is
    true, so `propagate(lit)` runs `propagate(2, 1, -0 - ε)`; the result has the NEGATIVE diagonal
    entry `-ε/2` (a negative cycle `ε/2 - ε` that no conflict reported), so it is not exact for
    any edge set. -/
def exHalf : Dl IR :=
  (Dl.propagateEdge rdlOps Sat.init ((Dl.newVar rdlOps ((Dl.newVar rdlOps (Dl.init rdlOps 16)).2)).2) 1 2
    ⟨R.zero, ⟨1, 2⟩⟩).2

example : rdlOps.le (Dl.d rdlOps exHalf 1 2) ⟨R.zero, R.zero⟩ = false ∧
    rdlOps.le (rdlOps.neg ⟨R.zero, R.zero⟩) (Dl.d rdlOps exHalf 2 1) = true ∧
    Dl.d rdlOps (Dl.propagateEdge rdlOps Sat.init exHalf 2 1 (rdlOps.negStrict ⟨R.zero, R.zero⟩)).2 1 1 = ⟨R.zero, ⟨-1, 2⟩⟩ := by
  decide

end Oratio
