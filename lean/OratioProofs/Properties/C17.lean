/-
Property C17 — object-oriented RIDDLE semantics: domains and enum unions.

Model: OratioModel/Core/Types.lean (type::new_instance, new_existential, enum_type::get_all_instances).
For ANY hierarchy (several supertypes, several levels, diamonds) and ANY creation history:
  * an item is among a type's instances — hence in the domain of a variable declared at that point — iff it was
    created so far with a class that is the type or one of its (transitive) subtypes;
  * instances created later do not appear in domains built earlier (domains are snapshots) and earlier ones are
    never lost;
  * an enum's values are exactly its own and the (transitively) included ones.
`fuel` bounds the breadth-first walk (the C++ loop has no bound and no visited set); `Covers` says the fuel was
enough for the walk to finish - e.g. any fuel above the number of upward paths.
-/
import OratioModel
import OratioProofs.Lemmas.Types

namespace Oratio
open Types

/-- the walk started at `t` finishes within `fuel` steps -/
def Covers (h : Hier) (fuel : Nat) (t : Nat) : Prop := ∀ u, Sub h t u → u ∈ bfs h fuel [t]

theorem C17_bfs_sound (h : Hier) (fuel : Nat) (t u : Nat) (hu : u ∈ bfs h fuel [t]) : Sub h t u :=
  bfs_sound h fuel t u hu

/-- registration: after `new_instance(t)` the item is with exactly the types the walk reaches -/
theorem C17_new_instance_registers (h : Hier) (fuel : Nat) (st : Store) (t i u : Nat) :
    (i ∈ newInstance h fuel st t i u ↔ (i ∈ st u ∨ u ∈ bfs h fuel [t])) ∧
    ∀ j, j ≠ i → (j ∈ newInstance h fuel st t i u ↔ j ∈ st u) := by
  constructor
  · rw [newInstance_mem]
    simp
  · intro j hj
    rw [newInstance_mem]
    simp [hj]

/-- the domain of a variable: exactly the items created so far whose class is the type or a subtype -/
theorem C17_domain_exact (h : Hier) (fuel : Nat) (ops : List (Nat × Nat))
    (hc : ∀ op ∈ ops, Covers h fuel op.1) (t i : Nat) :
    i ∈ existential (run h fuel ops) t ↔ ∃ op ∈ ops, op.2 = i ∧ Sub h op.1 t := by
  refine (mem_run_from h fuel ops (fun _ => []) t i).trans ((or_iff_right List.not_mem_nil).trans ?_)
  exact exists_congr fun op => and_congr_right fun hop => and_congr_right fun _ =>
    ⟨bfs_sound h fuel op.1 t, hc op hop t⟩

/-- domains are snapshots: later creations add, never remove -/
theorem C17_domain_monotone (h : Hier) (fuel : Nat) (ops more : List (Nat × Nat)) (t i : Nat)
    (hi : i ∈ existential (run h fuel ops) t) : i ∈ existential (run h fuel (ops ++ more)) t := by
  unfold existential run at *
  rw [List.foldl_append]
  exact (mem_run_from h fuel more _ t i).2 (.inl hi)

/-- with a diamond the common ancestor receives the item once per path (multiplicity, not membership, is affected) -/
example : existential (run ⟨fun t => if t = 3 then [1, 2] else if t = 1 ∨ t = 2 then [0] else []⟩ 10 [(3, 7)]) 0 = [7, 7] := by
  decide

/-- enum unions: own and transitively included values, nothing else -/
theorem C17_enum_values_sound (e : Enums) (fuel : Nat) (t v : Nat) (hv : v ∈ allValues e fuel t) :
    ∃ u, Includes e t u ∧ v ∈ e.own u := by
  induction fuel generalizing t with
  | zero => simp [allValues] at hv
  | succ n ih =>
    simp only [allValues, List.mem_append, List.mem_flatMap] at hv
    rcases hv with hv | ⟨w, hw, hv⟩
    · exact ⟨t, Includes.refl t, hv⟩
    · obtain ⟨u, hu, hvu⟩ := ih w hv
      exact ⟨u, Includes.step hw hu, hvu⟩

theorem C17_enum_values_complete (e : Enums) (t u v : Nat) (hi : Includes e t u) (hv : v ∈ e.own u) :
    ∃ fuel, ∀ f, fuel ≤ f → v ∈ allValues e f t := by
  induction hi with
  | refl t =>
    refine ⟨1, fun f hf => ?_⟩
    obtain ⟨f', rfl⟩ : ∃ f', f = f' + 1 := ⟨f - 1, by omega⟩
    simp only [allValues, List.mem_append]
    exact Or.inl hv
  | step hw _ ih =>
    obtain ⟨fuel, hfuel⟩ := ih hv
    refine ⟨fuel + 1, fun f hf => ?_⟩
    obtain ⟨f', rfl⟩ : ∃ f', f = f' + 1 := ⟨f - 1, by omega⟩
    simp only [allValues, List.mem_append, List.mem_flatMap]
    exact Or.inr ⟨_, hw, hfuel f' (by omega)⟩

end Oratio
