/-
Property C08 at the level of the WHOLE network (OratioModel/Net/Net.lean: SAT core + LRA + IDL + RDL)
- undoing decisions restores the network exactly - and its LRA part.

"After any interleaving of assumptions, conflicts, backjumps and pops, everything visible through the
network - literal values, arithmetic bounds, difference-logic distances - is determined by the literals
currently assigned alone, exactly as in a network that never took the undone decisions."

What is proved here (Properties/C08.lean has the DL theories and the bare SAT core):

  1. LRA (`C08N_lra_pop_restores`, `C08N_lra_balanced_history`).  `push`; ANY sequence of `assert_lower /
     assert_upper / propagate(lit) / check` calls - whatever SAT states they see, whatever variables they
     name (NO range hypothesis), conflicts included; `pop`: all bounds (values and reasons) and the older
     undo layers are those at the `push`; the registries `exprs`, `s_asrts`, `v_asrts`, `a_watches` and the
     number of variables are untouched (literally: none of these calls writes them; `new_var` is not among
     the calls); the tableau has the SAME SOLUTION SET and is still well-formed.  Nested levels compose
     (any balanced history).  NOT restored, by design: the stored values `vals`, which variables are
     basic (rows, `t_watches`) - see the examples at the end.  Only hypothesis: the tableau invariant
     `Lra.TabWF` of C09B (needed for "same solutions" only).
  2. Network (`C08N_assume_pop`).  `Net.assume p fuel = some (b, n')` followed by `Net.pop`.
     CASE COVERED: the CONFLICT-FREE one, `Net.quietAssume n p fuel` (Lemmas/UndoNetDefs.lean): along the
     run of `propagate` no clause is conflicting, no `th->propagate(p)` and no `lra.check()` reports a
     conflict - so `analyze_and_backjump` is never called; theory LEMMAS may be recorded freely (they are
     new clauses, with their propagated literals), the simplex may pivot, `assume` may also fail because
     `p` is already false.  Then the level opened by `assume` is still the current one
     (`decisionLevel n' = decisionLevel n + 1`) and `Net.pop` gives back (`Net.Undone`, `C08N_undone_def`):
     values, levels, reasons, trail, level marks, decisions, `exprs`, `dead` of the SAT core LITERALLY; the
     IDL and RDL theories LITERALLY (whole state); the LRA bounds, undo layers and registries literally
     and the tableau up to pivoting; the theory bindings.  The clause database has only GROWN (see the
     remarks below).  NOT given back: `watches`, `queue`, `log`, `nextId` of the SAT core (bookkeeping
     of the clause database), `vals` / rows of LRA.
  2b. (`C08N_assume_pop_level`, `C08N_propagate_level`)  The case the property speaks about - "the decision
     level of `n'` is that of `n` plus one, i.e. no backjump below happened" - IS the conflict-free case:
     under the network invariant `NetInv` of C07N (with its side condition `ConflictsCurrent`) `propagate`
     never raises the level and, above the root, keeps it only if it met no conflict (every conflict is
     followed by a backjump that strictly lowers it).  So `level n' = level n + 1 ↔ quietAssume`, and then
     `pop` gives `n` back.  For whole search histories: `C08N_search_level`.
  3. Root (`C08N_popTo_root`).  Any conflict-free search history (`Net.runQuiet`: `assume`s and further
     `propagate`s above root level, as `check(lits)` issues them) from a root-level network `r`, followed
     by `Net.popTo · 0`: the same conclusion relative to `r`.  This is the version "for conflict-free
     searches"; with learning see the NOT PROVED block.
  4. Determined by the asserted literals alone (`C08N_dl_distances_determined`, `..._rdl_...`).  On exact
     states (C10 / C10R) the distance matrix is a function of the SET of enforced edges: two histories
     ending with the same enforced constraints (in any order, any multiplicity, any bound `K`) have the
     same matrix entries (IDL) / the same denoted distances (RDL); more edges, smaller distances
     (`C08N_dl_distances_monotone`).  For LRA the visible state is the bounds: item 1.

Hypotheses and their status as invariants: `Sat.Clean` (unassigned variables have level 0 and no reason):
`C08N_clean_invariant`, kept by undoing (`C08N_undoable_kept`); `Lra.TabWF`: C09B; `Dl.KeysSorted`: C08;
`Sat.IdsOK` (only for the statement about clauses): part of C07's `Wf` / C07N's `WfS`.

-- "Every old clause is still there" is false literally: `clause::propagate` swaps the watched
-- literals of a stored clause in place.  Proved: every old clause id is still there with a PERMUTATION of
-- its literals (`Sat.ClsKept`); counterexample in the examples (clause 0 of `C08NEx.net`).
-- `level` and `reason` come back literally only if unassigned variables had level 0 / no reason
-- before (`Sat.Clean`, an invariant of the SAT core: `C08N_clean_invariant`); counterexample in the examples.
-- For RDL the ENTRIES of two exact states for the same edges need not coincide (an infinite
-- entry may carry any ε part, C10Rdl.lean); what coincides is the denoted distance `rdist?`.
-/
import OratioModel
import OratioProofs.Properties.C08
import OratioProofs.Properties.C09Bridge
import OratioProofs.Properties.C10
import OratioProofs.Properties.C10Rdl
import OratioProofs.Lemmas.UndoNetProp
import OratioProofs.Lemmas.DlEdgeSet
import OratioProofs.Lemmas.UndoNetExample
import OratioProofs.Lemmas.UndoNetLearn
import OratioProofs.Lemmas.UndoNetExample2

namespace Oratio
open Net

/-! ## 1. linear arithmetic -/

/-- what `pop` gives back of the LRA theory `t`: bounds, undo layers, registries, assertion watches,
    number of variables literally (`Lra.SameVisible`); the tableau invariant; the solutions of the tableau -/
def Lra.Undone (t u : Lra) : Prop :=
  Lra.SameVisible t u ∧ Lra.TabWF u ∧ ∀ σ, Lra.RowsHoldAt t σ ↔ Lra.RowsHoldAt u σ

theorem C08N_lra_undone_def (t u : Lra) :
    Lra.Undone t u ↔
      (u.bounds = t.bounds ∧ u.layers = t.layers ∧ u.exprs = t.exprs ∧ u.sAsrts = t.sAsrts ∧ u.vAsrts = t.vAsrts ∧
        u.aWatches = t.aWatches ∧ u.vals.length = t.vals.length) ∧
      Lra.TabWF u ∧ ∀ σ, Lra.RowsHoldAt t σ ↔ Lra.RowsHoldAt u σ :=
  ⟨fun ⟨v, w, s⟩ => ⟨⟨v.bounds, v.layers, v.exprs, v.sAsrts, v.vAsrts, v.aWatches, v.nvars⟩, w, s⟩,
    fun ⟨⟨a, b, c, d, e, f, g⟩, w, s⟩ => ⟨⟨a, b, c, d, e, f, g⟩, w, s⟩⟩

/-- **`push`; any theory calls; `pop`** -/
theorem C08N_lra_pop_restores (t : Lra) (ht : Lra.TabWF t) (calls : List Lra.LCall) :
    Lra.Undone t (Lra.runCalls t.push calls).pop := by
  have r := Lra.push_calls_pop ht calls
  exact ⟨r.vis, r.sol.1, r.sol.2⟩

/-- in particular every bound reads as before, value and reason -/
theorem C08N_lra_pop_restores_bounds (t : Lra) (ht : Lra.TabWF t) (calls : List Lra.LCall) (x : Nat) :
    let u := (Lra.runCalls t.push calls).pop
    u.lb x = t.lb x ∧ u.ub x = t.ub x ∧ u.lbReason x = t.lbReason x ∧ u.ubReason x = t.ubReason x := by
  have r := (C08N_lra_pop_restores t ht calls).1.bounds
  simp only [Lra.lb, Lra.ub, Lra.lbReason, Lra.ubReason, Lra.bnd, r, and_self]

/-- **nested levels compose**: any balanced history of `push` / calls / `pop`, of any depth -/
theorem C08N_lra_balanced_history (t : Lra) (ht : Lra.TabWF t) (evs : List Lra.LEvent)
    (h : Lra.balanced evs 0 = true) : Lra.Undone t (Lra.runEvents t evs) := by
  have r := Lra.balanced_history ht evs h
  exact ⟨r.vis, r.sol.1, r.sol.2⟩

/-- `Lra.InLevel B u` (Lemmas/UndoNetLra.lean), spelled out: `u` is inside the level opened by `B.push` - the
    newest undo layer holds, for every index of `c_bounds` it mentions, the bound `B` had there, every
    index it does not mention still has the bound of `B`, the older layers are those of `B`; registries,
    assertion watches and number of variables are those of `B`; the tableau is well-formed and has the
    solutions of that of `B` -/
theorem C08N_lra_inLevel_def (B u : Lra) :
    Lra.InLevel B u ↔
      (∃ l, u.layers = l :: B.layers ∧ u.bounds.length = B.bounds.length ∧
        (∀ e ∈ l, e.1 < B.bounds.length → B.bounds[e.1]? = some e.2) ∧
        (∀ i, (∀ e ∈ l, e.1 ≠ i) → u.bounds[i]? = B.bounds[i]?)) ∧
      u.exprs = B.exprs ∧ u.sAsrts = B.sAsrts ∧ u.vAsrts = B.vAsrts ∧ u.aWatches = B.aWatches ∧
      u.vals.length = B.vals.length ∧ Lra.TabWF u ∧ ∀ σ, Lra.RowsHoldAt B σ ↔ Lra.RowsHoldAt u σ :=
  ⟨fun h => ⟨h.pinv, h.exprs, h.sAsrts, h.vAsrts, h.aWatches, h.nvars, h.sol.1, h.sol.2⟩,
    fun ⟨a, b, c, d, e, f, g, k⟩ => ⟨a, b, c, d, e, f, ⟨g, k⟩⟩⟩

theorem C08N_lra_push_inLevel (t : Lra) (ht : Lra.TabWF t) : Lra.InLevel t t.push := Lra.inLevel_push ht

/-- the calls keep the undo discipline also for a level that is still open: after any calls above a
    `push` the next `pop` restores (this is the invariant the network theorems use) -/
theorem C08N_lra_call_keeps_level (B t : Lra) (h : Lra.InLevel B t) (c : Lra.LCall) :
    Lra.InLevel B (Lra.callStep t c) ∧ Lra.Undone B (Lra.callStep t c).pop := by
  have r := (h.callStep c).pop
  exact ⟨h.callStep c, r.vis, r.sol.1, r.sol.2⟩

/-! ## 2. the network: `assume` ; `pop` -/

/-- what undoing gives back of the network `B` (spelled out in `C08N_undone_def`) -/
def Net.Undone (B u : Net) : Prop :=
  Sat.SameAssignment B.sat u.sat ∧ u.sat.dead = B.sat.dead ∧
  (B.sat.IdsOK → u.sat.IdsOK ∧ Sat.ClsKept B.sat u.sat) ∧
  u.idl = B.idl ∧ u.rdl = B.rdl ∧ Lra.Undone B.lra u.lra ∧ u.bound = B.bound

theorem C08N_undone_def (B u : Net) :
    Net.Undone B u ↔
      -- SAT core: assignment, levels, reasons, trail, level marks, decisions, expression table, `dead`
      (u.sat.vals = B.sat.vals ∧ u.sat.level = B.sat.level ∧ u.sat.reason = B.sat.reason ∧ u.sat.trail = B.sat.trail ∧
        u.sat.trailLim = B.sat.trailLim ∧ u.sat.decisions = B.sat.decisions ∧ u.sat.exprs = B.sat.exprs) ∧
      u.sat.dead = B.sat.dead ∧
      -- clause database: ids distinct ⇒ still distinct, and every clause is still there (up to the order of its literals)
      (B.sat.IdsOK → u.sat.IdsOK ∧ ∀ e ∈ B.sat.cls, ∃ c', (e.1, c') ∈ u.sat.cls ∧ c'.Perm e.2) ∧
      -- difference logic: the whole state
      u.idl = B.idl ∧ u.rdl = B.rdl ∧
      -- linear arithmetic
      Lra.Undone B.lra u.lra ∧
      u.bound = B.bound :=
  ⟨fun ⟨s, d, c, i, r, l, b⟩ => ⟨⟨s.vals, s.level, s.reason, s.trail, s.trailLim, s.decisions, s.exprs⟩, d, c, i, r, l, b⟩,
    fun ⟨⟨a1, a2, a3, a4, a5, a6, a7⟩, d, c, i, r, l, b⟩ => ⟨⟨a1, a2, a3, a4, a5, a6, a7⟩, d, c, i, r, l, b⟩⟩

theorem Net.RestoredN.undone {B u : Net} (h : Net.RestoredN B u) : Net.Undone B u :=
  ⟨h.sat, h.dead, h.cls, h.idl, h.rdl, ⟨h.lra.vis, h.lra.sol.1, h.lra.sol.2⟩, h.bound⟩

/-- the hypotheses on the network the level is opened on -/
def Net.Undoable (n : Net) : Prop :=
  n.sat.Clean ∧ Lra.TabWF n.lra ∧ Dl.KeysSorted n.idl.distConstr ∧ Dl.KeysSorted n.rdl.distConstr

theorem Net.Undoable.good {n : Net} (h : Net.Undoable n) : Net.Good n :=
  ⟨h.1, h.2.1, Dl.KeysSorted.toUndo _ h.2.2.1, Dl.KeysSorted.toUndo _ h.2.2.2⟩

/-- **`assume(p)` without conflict, then `pop()`**: the level opened by `assume` is still open after
    it, and `pop` gives the network back -/
theorem C08N_assume_pop (n : Net) (hn : Net.Undoable n) (p : Lit) (fuel : Nat) (b : Bool) (n' : Net)
    (hq : Net.quietAssume n p fuel = true) (he : n.assume p fuel = some (b, n')) :
    n'.sat.decisionLevel = n.sat.decisionLevel + 1 ∧ Net.Undone n n'.pop :=
  ⟨Net.inLevelN_level (Net.assume_quiet hn.good hq he).1, (Net.assume_pop hn.good hq he).undone⟩

/-- `Sat.Step s s'` (Lemmas/SatCoreStep.lean), spelled out: `s'` is `s` with literals `add` assigned on top of
    the trail, each on a variable unassigned in `s`; level marks, decisions, `exprs`, `dead`, vector sizes
    and everything about the other variables as in `s`; clause ids stay distinct and the clauses are kept
    up to the order of their literals; `Clean` is kept -/
theorem C08N_step_def (s s' : Sat) :
    Sat.Step s s' ↔
      (s'.trailLim = s.trailLim ∧ s'.decisions = s.decisions ∧ s'.exprs = s.exprs ∧ s'.dead = s.dead ∧
        s'.vals.length = s.vals.length ∧ s'.level.length = s.level.length ∧ s'.reason.length = s.reason.length ∧
        ∃ add, s'.trail = add ++ s.trail ∧ (∀ l ∈ add, s.vals.getD l.var none = none) ∧
          ∀ v, (∀ l ∈ add, l.var ≠ v) → s'.vals.getD v none = s.vals.getD v none ∧
            s'.level.getD v 0 = s.level.getD v 0 ∧ s'.reason.getD v none = s.reason.getD v none) ∧
      (s.IdsOK → s'.IdsOK ∧ Sat.ClsKept s s') ∧ (s.Clean → s'.Clean) :=
  ⟨fun h => ⟨⟨h.grow.trailLim, h.grow.decisions, h.grow.exprs, h.grow.dead, h.grow.lenV, h.grow.lenL, h.grow.lenR, h.grow.added⟩,
      h.cls, h.clean⟩,
    fun ⟨⟨a1, a2, a3, a4, a5, a6, a7, a8⟩, b, c⟩ => ⟨⟨a1, a2, a3, a4, a5, a6, a7, a8⟩, b, c⟩⟩

/-- `Net.InLevelN B p c`: `c` is inside the level `assume(p)` opened on top of `B` -/
theorem C08N_inLevelN_def (B c : Net) (p : Lit) :
    Net.InLevelN B p c ↔
      Sat.Step { B.sat with trailLim := B.sat.trail.length :: B.sat.trailLim, decisions := p :: B.sat.decisions } c.sat ∧
      Lra.InLevel B.lra c.lra ∧ Undo.Lg idlOps B.idl c.idl ∧ Undo.Lg rdlOps B.rdl c.rdl ∧ c.bound = B.bound :=
  ⟨fun h => ⟨h.sat, h.lra, h.idl, h.rdl, h.bound⟩, fun ⟨a, b, c, d, e⟩ => ⟨a, b, c, d, e⟩⟩

/-- what the theories and the clause visits do to the SAT core inside a level are `Step`s: `enqueue`,
    `record` (all a theory call ever does to the SAT core: `C08N_theory_only_records`), `clause::propagate`,
    the visit of a watch list -/
theorem C08N_sat_steps (s : Sat) :
    (∀ p c, Sat.Step s (s.enqueue p c).2) ∧ (∀ c, Sat.Step s (s.record c)) ∧
    (∀ id p, Sat.Step s (s.clausePropagate id p).2) ∧ (∀ p ws, Sat.Step s (s.visitWatchers p ws).1) :=
  ⟨Sat.step_enqueue s, Sat.step_record s, Sat.step_clausePropagate s, fun p ws => Sat.step_visitWatchers p ws s⟩

/-- a theory call changes the SAT core by calls of `record` only (`Sat.RecTo`: reflexive-transitive
    closure of `s ↦ s.record c`) - for any states, conflicting or not -/
theorem C08N_theory_only_records (s : Sat) (t : Lra) (p : Lit) (x : Nat) (v : IR) :
    Sat.RecTo s (Lra.propagateLit s t p).sat ∧ Sat.RecTo s (Lra.assertLower s t x v p).sat ∧
    Sat.RecTo s (Lra.assertUpper s t x v p).sat ∧
    (∀ (i : Dl Int) s' i', Dl.propagateLit idlOps s i p = .inr (s', i') → Sat.RecTo s s') ∧
    (∀ (r : Dl IR) s' r', Dl.propagateLit rdlOps s r p = .inr (s', r') → Sat.RecTo s s') :=
  ⟨Lra.propagateLit_rec s t p, Lra.assertLower_rec s t x v p, Lra.assertUpper_rec s t x v p,
    fun i _ _ h => Dl.propagateLit_rec idlOps s i p h, fun r _ _ h => Dl.propagateLit_rec rdlOps s r p h⟩

/-- a conflict-free `propagate()` inside an open level keeps it open and undoable (the invariant
    behind the theorem, usable for any sequence of calls): `Net.InLevelN B p c` - the SAT core of `c` is
    that of `B` with a level mark and more literals assigned, the theories are inside the level pushed
    on those of `B` -/
theorem C08N_propagate_keeps_level (B c : Net) (p : Lit) (h : Net.InLevelN B p c) (hB : B.sat.Clean) (fuel : Nat)
    (b : Bool) (n' : Net) (hq : Net.quiet c fuel = true) (he : c.propagate fuel = some (b, n')) :
    b = true ∧ Net.InLevelN B p n' ∧ Net.Undone B n'.pop := by
  obtain ⟨h1, h2⟩ := Net.propagate_quiet fuel c b n' h hq he
  exact ⟨h2, h1, (h1.pop hB).undone⟩

/-- ... and so does a theory propagation on its own, conflicting or not -/
theorem C08N_theoryPropagate_keeps_level (B c : Net) (p : Lit) (h : Net.InLevelN B p c) (q : Lit) :
    Net.InLevelN B p (Net.theoryPropagate c q).2 := h.theoryPropagate q

/-! ## 2b. with learning: "the decision level is that of `n` plus one" IS the conflict-free case

Under the network invariant `NetInv` of C07N (Properties/C07Net.lean, `C07N_netInv_def`; with its side
condition `ConflictsCurrent`, automatic without tableau rows) every conflict above the root level is
followed by `analyze_and_backjump`, which strictly lowers the decision level, and nothing raises it
inside `propagate`.  So the level after `assume` is at most that before plus one, with equality exactly
in the conflict-free case - in which `C08N_assume_pop` applies. -/

/-- `propagate()` never raises the decision level and, above the root level, keeps it only when it
    meets no conflict -/
theorem C08N_propagate_level (orig : Cnf) (fuel : Nat) (n : Net) (L : Cnf) (fr : List Frame) (h : NetInv n orig L fr)
    (hd : n.sat.dead = false) (hg : ConflictsCurrent n fuel) (b : Bool) (n' : Net)
    (he : propagate n fuel = some (b, n')) :
    n'.sat.decisionLevel ≤ n.sat.decisionLevel ∧
    (n'.sat.decisionLevel = n.sat.decisionLevel → 0 < n.sat.decisionLevel → Net.quiet n fuel = true) := by
  have r := Net.propagate_level fuel n L fr h hd hg b n' he
  exact ⟨r.le, r.eq⟩

/-- **`assume(p)` then `pop()` when the decision level after `assume` is that before plus one** (no
    backjump below the new level happened): then no conflict was met at all, and `pop` gives the network
    back.  `assume` on an unassigned existing literal, empty queue, as documented for `sat_core::assume`. -/
theorem C08N_assume_pop_level (n : Net) (orig L : Cnf) (fr : List Frame) (h : NetInv n orig L fr) (hc : n.sat.Clean)
    (hq : n.sat.queue = []) (hd : n.sat.dead = false) (p : Lit) (hv : n.sat.value p = none) (hp : p.var < n.sat.vals.length)
    (fuel : Nat) (hg : ConflictsCurrent (assumeStart n p) fuel) (b : Bool) (n' : Net)
    (he : n.assume p fuel = some (b, n')) :
    n'.sat.decisionLevel ≤ n.sat.decisionLevel + 1 ∧
    (n'.sat.decisionLevel = n.sat.decisionLevel + 1 ↔ Net.quietAssume n p fuel = true) ∧
    (n'.sat.decisionLevel = n.sat.decisionLevel + 1 → b = true ∧ Net.Undone n n'.pop) := by
  obtain ⟨r1, r2, r3⟩ := Net.assume_pop_level h hc hq hd hv hp fuel hg b n' he
  exact ⟨r1, r2, fun hl => ⟨(r3 hl).1, (r3 hl).2.undone⟩⟩

/-! ## 3. back to the root -/

/-- **any conflict-free search history, then `popTo 0`**, gives the root-level network back -/
theorem C08N_popTo_root (r : Net) (hr : Net.Undoable r) (hroot : r.sat.trailLim = []) (fuel : Nat)
    (ops : List Net.SOp) (n : Net) (he : Net.runQuiet fuel r ops = some n) :
    Net.Undone r (Net.popTo n 0) ∧ (Net.popTo n 0).sat.decisionLevel = 0 := by
  have h := Net.popTo_root hr.good hroot fuel ops he
  refine ⟨h.undone, ?_⟩
  show (Net.popTo n 0).sat.trailLim.length = 0
  rw [h.sat.trailLim, hroot]; rfl

/-- the same for whole search histories WITH learning (`Net.runSearch`: `assume`s and further `propagate`s,
    conflicts and backjumps allowed, stopping at the first negative answer; `Net.SearchOK`: `assume` on
    unassigned existing literals and the side condition `ConflictsCurrent` of C07N at each call; both in
    Lemmas/UndoNetLearn.lean): from a root-level network the decision level reached is at most the number
    of `assume`s; it is that number exactly for the conflict-free histories, and then `popTo 0` gives the
    root-level network back -/
theorem C08N_search_level (r : Net) (orig L : Cnf) (fr : List Frame) (h : NetInv r orig L fr) (hc : r.sat.Clean)
    (hroot : r.sat.trailLim = []) (hq : r.sat.queue = []) (hd : r.sat.dead = false) (fuel : Nat) (ops : List Net.SOp)
    (hok : Net.SearchOK fuel r ops) (n : Net) (he : Net.runSearch fuel r ops = some n) :
    n.sat.decisionLevel ≤ Net.assumes ops ∧
    (n.sat.decisionLevel = Net.assumes ops → Net.runQuiet fuel r ops = some n ∧ Net.Undone r (Net.popTo n 0)) := by
  obtain ⟨r1, r2⟩ := Net.search_popTo_root h hc hroot hq hd fuel ops hok he
  exact ⟨r1, fun hl => ⟨(r2 hl).1, (r2 hl).2.undone⟩⟩

/-- the undone network can be searched again: the hypotheses are kept -/
theorem C08N_undoable_kept (B u : Net) (hB : Net.Undoable B) (h : Net.Undone B u) : Net.Undoable u := by
  obtain ⟨s, _, _, i, r, l, _⟩ := h
  exact ⟨Sat.clean_of_same hB.1 s.vals s.level s.reason, l.2.1, by rw [i]; exact hB.2.2.1, by rw [r]; exact hB.2.2.2⟩

/-- `Sat.Clean` is an invariant of the SAT core: the constructor, `new_var()`, every `enqueue`,
    `record` (what the theories call), `clause::propagate`, the visit of a watch list, `pop()` -/
theorem C08N_clean_invariant (s : Sat) (h : s.Clean) :
    Sat.init.Clean ∧ s.newVar.2.Clean ∧ (∀ p c, (s.enqueue p c).2.Clean) ∧ (∀ c, (s.record c).Clean) ∧
    (∀ id p, (s.clausePropagate id p).2.Clean) ∧ (∀ p ws, (s.visitWatchers p ws).1.Clean) ∧ s.pop.Clean :=
  ⟨Sat.clean_init, Sat.clean_newVar h, fun p c => (Sat.step_enqueue s p c).clean h, fun c => (Sat.step_record s c).clean h,
    fun id p => (Sat.step_clausePropagate s id p).clean h, fun p ws => (Sat.step_visitWatchers p ws s).clean h,
    Sat.clean_pop h⟩

/-! ## 4. determined by the enforced constraints alone -/

/-- **IDL**: two exact states over the same time points whose enforced edge SETS coincide have the same
    distance entries on the used block - whatever the histories (order of assertions, undone levels,
    redundant assertions), whatever the bounds `K₁`, `K₂` -/
theorem C08N_dl_distances_determined (K₁ K₂ : Int) (E₁ E₂ : List IEdge) (t₁ t₂ : Dl Int)
    (h₁ : t₁.Exact K₁ E₁) (h₂ : t₂.Exact K₂ E₂) (hE : ∀ e, e ∈ E₁ ↔ e ∈ E₂) (hn : t₁.nVars = t₂.nVars) :
    (∀ i j, i < t₁.nVars → j < t₁.nVars → Dl.d idlOps t₁ i j = Dl.d idlOps t₂ i j) ∧
    (t₁.dists.length = t₂.dists.length → ∀ i j, Dl.d idlOps t₁ i j = Dl.d idlOps t₂ i j) :=
  ⟨fun i j hi hj => Dl.d_determined h₁.toM h₂.toM hE hn hi hj, fun hc i j => Dl.d_determined_all h₁.toM h₂.toM hE hn hc i j⟩

/-- more enforced edges, smaller (or equal) distances -/
theorem C08N_dl_distances_monotone (K₁ K₂ : Int) (E₁ E₂ : List IEdge) (t₁ t₂ : Dl Int)
    (h₁ : t₁.Exact K₁ E₁) (h₂ : t₂.Exact K₂ E₂) (hE : ∀ e, e ∈ E₁ → e ∈ E₂) (hn : t₁.nVars = t₂.nVars)
    (i j : Nat) (hi : i < t₁.nVars) (hj : j < t₁.nVars) (x : Int) (hx : t₁.dist? i j = some x) :
    ∃ y, t₂.dist? i j = some y ∧ y ≤ x :=
  Dl.distOpt_mono h₁.toM h₂.toM hE hn hi hj hx

/-- **RDL**: the same for the denoted distances (`rdist?`: `none` = +∞, otherwise the ε-rational
    denoted).  The entries themselves need not coincide: an infinite entry may carry any ε part
    (C10Rdl.lean, difference 1). -/
theorem C08N_rdl_distances_determined (E₁ E₂ : List QEdge) (t₁ t₂ : Dl IR)
    (h₁ : t₁.ExactR E₁) (h₂ : t₂.ExactR E₂) (hE : ∀ e, e ∈ E₁ ↔ e ∈ E₂) (hn : t₁.nVars = t₂.nVars)
    (i j : Nat) (hi : i < t₁.nVars) (hj : j < t₁.nVars) : t₁.rdist? i j = t₂.rdist? i j :=
  DlG.Exact.determined h₁.toM.toG h₂.toM.toG (fun _ => rfl) hn hi hj hE

theorem C08N_rdl_distances_monotone (E₁ E₂ : List QEdge) (t₁ t₂ : Dl IR)
    (h₁ : t₁.ExactR E₁) (h₂ : t₂.ExactR E₂) (hE : ∀ e, e ∈ E₁ → e ∈ E₂) (hn : t₁.nVars = t₂.nVars)
    (i j : Nat) (hi : i < t₁.nVars) (hj : j < t₁.nVars) (x : QV) (hx : t₁.rdist? i j = some x) :
    ∃ y, t₂.rdist? i j = some y ∧ y ≤ x :=
  DlR.distOpt_mono h₁.toM h₂.toM hE hn hi hj hx

/-! ## non-vacuity

`C08NEx.net` (Lemmas/UndoNetExample.lean), built with the model's constructors: LRA variables x0, x1
with b1 : x0 ≤ x1 + 3 (slack x2 = x0 - x1) and b2 : x0 ≥ 5; IDL time points t1, t2 with b3 : t2 - t1 ≤ 5 and
b4 : t1 - t2 ≤ -7; a plain SAT variable b5; clauses [¬b1, b2], [¬b1, b3]. -/

theorem C08NEx.net_undoable : Net.Undoable C08NEx.net := by
  refine ⟨C08NEx.net_good.clean, C08NEx.net_good.tab, ?_, ?_⟩
  · rw [C08NEx.net_computed.1]; trivial
  · rw [C08NEx.net_computed.2.1]; trivial

/-- item 2: the hypotheses hold of `net`; `assume b1` runs without conflict and does a lot (four
    literals assigned, the IDL lemma [¬b4, ¬b3] recorded and stored, two LRA bounds tightened, a distance
    enforced, the tableau pivoted); by the theorem `pop` gives `net` back -/
example : Net.Undoable C08NEx.net ∧ C08NEx.net.sat.IdsOK ∧ Net.quietAssume C08NEx.net C08NEx.b1 50 = true ∧
    C08NEx.net.assume C08NEx.b1 50 = some (true, C08NEx.after) ∧
    C08NEx.after.sat.trail = [⟨4, false⟩, ⟨3, true⟩, ⟨2, true⟩, ⟨1, true⟩] ∧
    C08NEx.after.sat.log = [[⟨4, false⟩, ⟨3, false⟩]] ∧
    C08NEx.after.lra.lb 0 = IR.ofR ⟨5, 1⟩ ∧ C08NEx.net.lra.lb 0 = IR.ofR R.ninf ∧
    Dl.d idlOps C08NEx.after.idl 1 2 = 5 ∧ Dl.d idlOps C08NEx.net.idl 1 2 = idlInf ∧
    C08NEx.after.sat.decisionLevel = C08NEx.net.sat.decisionLevel + 1 ∧ Net.Undone C08NEx.net C08NEx.after.pop := by
  have hu := C08NEx.net_undoable
  obtain ⟨f1, _, f3, _, _, f6, _, _, _, f10, _, _, f13, f14⟩ := C08NEx.after_facts
  have r := C08N_assume_pop _ hu _ _ _ _ C08NEx.net_quiet C08NEx.net_assume
  exact ⟨hu, C08NEx.net_ids, C08NEx.net_quiet, C08NEx.net_assume, f1, f3, f6, f10, f13, f14, r.1, r.2⟩

/-- "every old clause is still there" holds only UP TO THE ORDER OF THE LITERALS:
    `clause::propagate` swaps the watched literals in place.  In the example the clause `[¬b1, b2]` (id 0) of
    `net` is `[b2, ¬b1]` after `assume b1 ; pop`. -/
example : (0, [⟨1, false⟩, ⟨2, true⟩]) ∈ C08NEx.net.sat.cls ∧ (0, [⟨1, false⟩, ⟨2, true⟩]) ∉ C08NEx.after.pop.sat.cls ∧
    (0, [⟨2, true⟩, ⟨1, false⟩]) ∈ C08NEx.after.pop.sat.cls := by
  obtain ⟨_, _, _, _, n5, n6⟩ := C08NEx.after_pop_not_restored
  rw [n5, n6]
  decide

/-- the hypothesis `Sat.Clean` is needed for `level` / `reason` to come back LITERALLY
    (`pop_one()` writes level 0 and "no reason" for the variable it unassigns, whatever was there): a SAT
    core whose unassigned variable 1 carries the stale level 7 is not `Clean`, and `assume b1 ; pop`
    leaves level 0 there.  (`Clean` is an invariant: `C08N_clean_invariant`.) -/
example :
    let s : Sat := { Sat.init with vals := [some false, none], level := [0, 7], reason := [none, none], watches := [[], [], [], []] }
    ¬ s.Clean ∧
    ((({ s with trailLim := s.trail.length :: s.trailLim, decisions := ⟨1, true⟩ :: s.decisions } : Sat).enqueue ⟨1, true⟩ none).2.pop).level
      = [0, 0] ∧ s.level = [0, 7] := by
  refine ⟨fun h => ?_, by decide, rfl⟩
  have := (h.2.2 1 (by decide)).1
  revert this
  decide

/-- the same comparison by computation, and WHAT IS NOT RESTORED: the values (x0 = 5, x1 = 2, x2 = 3
    instead of 0, 0, 0), the basic variable (x1 instead of x2); the clause database has grown by the
    lemma and the watched literals of the two clauses were swapped -/
example :
    (C08NEx.after.pop.sat.vals = C08NEx.net.sat.vals ∧ C08NEx.after.pop.sat.trail = C08NEx.net.sat.trail ∧
     C08NEx.after.pop.lra.bounds.map (fun b => (b.value, b.reason)) = C08NEx.net.lra.bounds.map (fun b => (b.value, b.reason)) ∧
     C08NEx.after.pop.idl.dists = C08NEx.net.idl.dists ∧ C08NEx.after.pop.idl.distConstr = C08NEx.net.idl.distConstr) ∧
    C08NEx.after.pop.lra.vals ≠ C08NEx.net.lra.vals ∧
    C08NEx.after.pop.lra.tableau.map (·.1) = [1] ∧ C08NEx.net.lra.tableau.map (·.1) = [2] ∧
    C08NEx.after.pop.sat.cls = [(0, [⟨2, true⟩, ⟨1, false⟩]), (1, [⟨3, true⟩, ⟨1, false⟩]), (2, [⟨4, false⟩, ⟨3, false⟩])] ∧
    C08NEx.net.sat.cls = [(0, [⟨1, false⟩, ⟨2, true⟩]), (1, [⟨1, false⟩, ⟨3, true⟩])] := by
  obtain ⟨c1, _, _, c4, _, _, c7, c8, _, c10, _⟩ := C08NEx.after_pop_computed
  obtain ⟨n1, n2, n3, n4, n5, n6⟩ := C08NEx.after_pop_not_restored
  exact ⟨⟨c1, c4, c7, c8, c10⟩, by rw [n1, n2]; decide, n3, n4, n5, n6⟩

/-- item 1 on the LRA theory of that network: `push`, the two literal propagations and the simplex
    run of the level (with the SAT state of `after`), `pop`: the theorem applies; the calls tightened two
    bounds and pivoted; values and basic variables are NOT restored -/
example : Lra.TabWF C08NEx.net.lra ∧
    Lra.Undone C08NEx.net.lra
      (Lra.runCalls C08NEx.net.lra.push [.lit C08NEx.after.sat ⟨1, true⟩, .lit C08NEx.after.sat ⟨2, true⟩, .check 10]).pop ∧
    (Lra.runCalls C08NEx.net.lra.push [.lit C08NEx.after.sat ⟨1, true⟩, .lit C08NEx.after.sat ⟨2, true⟩, .check 10]).lb 0 = IR.ofR ⟨5, 1⟩ ∧
    (Lra.runCalls C08NEx.net.lra.push [.lit C08NEx.after.sat ⟨1, true⟩, .lit C08NEx.after.sat ⟨2, true⟩, .check 10]).pop.lb 0 = IR.ofR R.ninf ∧
    (Lra.runCalls C08NEx.net.lra.push [.lit C08NEx.after.sat ⟨1, true⟩, .lit C08NEx.after.sat ⟨2, true⟩, .check 10]).pop.vals
      = [IR.ofR ⟨5, 1⟩, IR.ofR ⟨2, 1⟩, IR.ofR ⟨3, 1⟩] ∧
    C08NEx.net.lra.vals = [IR.ofR R.zero, IR.ofR R.zero, IR.ofR R.zero] ∧
    (Lra.runCalls C08NEx.net.lra.push [.lit C08NEx.after.sat ⟨1, true⟩, .lit C08NEx.after.sat ⟨2, true⟩, .check 10]).pop.tableau.map (·.1) = [1] ∧
    C08NEx.net.lra.tableau.map (·.1) = [2] :=
  ⟨C08NEx.net_good.tab, C08N_lra_pop_restores _ C08NEx.net_good.tab _, by decide +kernel⟩

/-- nested LRA levels: `push`, assert, `push`, assert + simplex, `pop`, assert, `pop` is balanced -/
example : Lra.balanced [.push, .call (.lit C08NEx.after.sat ⟨1, true⟩), .push, .call (.lit C08NEx.after.sat ⟨2, true⟩),
      .call (.check 10), .pop, .call (.lower Sat.init 1 (IR.ofR ⟨1, 1⟩) ⟨5, true⟩), .pop] 0 = true ∧
    Lra.Undone C08NEx.net.lra (Lra.runEvents C08NEx.net.lra
      [.push, .call (.lit C08NEx.after.sat ⟨1, true⟩), .push, .call (.lit C08NEx.after.sat ⟨2, true⟩),
        .call (.check 10), .pop, .call (.lower Sat.init 1 (IR.ofR ⟨1, 1⟩) ⟨5, true⟩), .pop]) :=
  ⟨by decide, C08N_lra_balanced_history _ C08NEx.net_good.tab _ (by decide)⟩

/-- item 3: `assume b1`, `propagate`, `assume b5` runs without conflict to decision level 2; by the
    theorem `popTo 0` gives `net` back -/
example : C08NEx.net.sat.trailLim = [] ∧ Net.runQuiet 50 C08NEx.net C08NEx.hist = some C08NEx.deep ∧
    C08NEx.deep.sat.decisionLevel = 2 ∧
    C08NEx.deep.sat.trail = [⟨5, true⟩, ⟨4, false⟩, ⟨3, true⟩, ⟨2, true⟩, ⟨1, true⟩] ∧
    Net.Undone C08NEx.net (Net.popTo C08NEx.deep 0) ∧ (Net.popTo C08NEx.deep 0).sat.decisionLevel = 0 := by
  have hu := C08NEx.net_undoable
  have r := C08N_popTo_root _ hu C08NEx.net_root 50 _ _ C08NEx.hist_runs
  exact ⟨C08NEx.net_root, C08NEx.hist_runs, C08NEx.deep_facts.1, C08NEx.deep_facts.2.1, r.1, r.2⟩

/-- item 2b, the decision-level hypothesis (`C08N_assume_pop_level`): the IDL network of C07N after
    `assume b1` satisfies the network invariant; `assume ¬b2` takes it from level 1 to level 2, the IDL
    theory enforcing `x2 - x3 ≤ -3`, recording the lemma `[¬b3, b2, ¬b1]` and `¬b3` being propagated; by
    the theorem the run was conflict-free and `pop` gives the level-1 network back -/
example : (∃ L fr, NetInv C08NEx2.lvl1 [] L fr) ∧ C08NEx2.lvl1.sat.Clean ∧
    C08NEx2.lvl1.assume ⟨2, false⟩ 100 = some (true, C08NEx2.lvl2) ∧
    C08NEx2.lvl2.sat.decisionLevel = C08NEx2.lvl1.sat.decisionLevel + 1 ∧
    C08NEx2.lvl2.sat.trail = [⟨3, false⟩, ⟨2, false⟩, ⟨1, true⟩] ∧
    C08NEx2.lvl2.sat.log = [[⟨3, false⟩, ⟨2, true⟩, ⟨1, false⟩]] ∧
    Dl.d idlOps C08NEx2.lvl1.idl 3 2 = idlInf ∧ Dl.d idlOps C08NEx2.lvl2.idl 3 2 = -3 ∧
    Net.quietAssume C08NEx2.lvl1 ⟨2, false⟩ 100 = true ∧ Net.Undone C08NEx2.lvl1 C08NEx2.lvl2.pop := by
  obtain ⟨L, fr, hi, hq⟩ := C08NEx2.lvl1_inv
  obtain ⟨f1, f2, _, f4, f5, _, f7, f8, _, f10, f11, f12, f13⟩ := C08NEx2.lvl_computed.1
  have hl : C08NEx2.lvl2.sat.decisionLevel = C08NEx2.lvl1.sat.decisionLevel + 1 := by rw [f1, f2]
  have r := C08N_assume_pop_level _ [] L fr hi C08NEx2.lvl1_clean hq f10 ⟨2, false⟩ f11 f12 100
    (Net.noRows_assumeStart 100 f13).1 true _ C08NEx2.lvl2_run
  exact ⟨⟨L, fr, hi⟩, C08NEx2.lvl1_clean, C08NEx2.lvl2_run, hl, f4, f5, f7, f8, r.2.1.1 hl, (r.2.2 hl).2⟩

/-- the same two decisions as a search history from the root-level network of C07N: the hypotheses of
    `C08N_search_level` hold, the level reached (2) is the number of `assume`s, so by the theorem the
    history was conflict-free and `popTo 0` gives the root-level network back -/
example : NetInv NetEx.rootNet [] [] [] ∧ Net.SearchOK 100 NetEx.rootNet C08NEx2.hist2 ∧
    Net.runSearch 100 NetEx.rootNet C08NEx2.hist2 = some C08NEx2.lvl2 ∧
    C08NEx2.lvl2.sat.decisionLevel = Net.assumes C08NEx2.hist2 ∧
    Net.runQuiet 100 NetEx.rootNet C08NEx2.hist2 = some C08NEx2.lvl2 ∧
    Net.Undone NetEx.rootNet (Net.popTo C08NEx2.lvl2 0) := by
  obtain ⟨f1, f2, f3, _⟩ := C08NEx2.root_computed.1
  have hl : C08NEx2.lvl2.sat.decisionLevel = Net.assumes C08NEx2.hist2 := C08NEx2.lvl_computed.1.2.1
  have r := (C08N_search_level _ [] [] [] NetEx.rootNet_inv C08NEx2.root_clean f1 f2 f3 100 _ C08NEx2.hist2_ok _
    C08NEx2.hist2_runs).2 hl
  exact ⟨NetEx.rootNet_inv, C08NEx2.hist2_ok, C08NEx2.hist2_runs, hl, r.1, r.2⟩

/-- three time points; the edges `x2 - x1 ≤ 3` and `x3 - x2 ≤ 4` enforced in the two possible orders -/
def c08nT0 : Dl Int := (Dl.newVar idlOps (Dl.newVar idlOps (Dl.newVar idlOps (Dl.init idlOps 16)).2).2).2
def c08nTA : Dl Int := (Dl.propagateEdge idlOps Sat.init (Dl.propagateEdge idlOps Sat.init c08nT0 1 2 3).2 2 3 4).2
def c08nTB : Dl Int := (Dl.propagateEdge idlOps Sat.init (Dl.propagateEdge idlOps Sat.init c08nT0 2 3 4).2 1 2 3).2

/-- `C10_update_closed_form` for a pair of points not yet related in either direction -/
theorem Dl.Exact.update_fresh {K : Int} {E : List IEdge} {t : Dl Int} (h : t.Exact K E) (f g : Nat) (w : Int)
    (hf : f < t.nVars) (hg : g < t.nVars) (hfg : f ≠ g) (hw : -K ≤ w ∧ w ≤ K) (h1 : t.dist? g f = none)
    (h2 : t.dist? f g = none) : (Dl.propagateEdge idlOps Sat.init t f g w).2.Exact K ((f, g, w) :: E) :=
  (C10_update_closed_form K E Sat.init t h f g w hf hg hfg hw (by rw [h1]; nofun) (by rw [h2]; nofun)).1

/-- item 4: both states are exact (by C10) for the same edge set, listed in different orders; by the
    theorem the matrices agree - e.g. on the derived distance `x3 - x1 ≤ 7` -/
example : c08nTA.Exact 10 [(2, 3, 4), (1, 2, 3)] ∧ c08nTB.Exact 10 [(1, 2, 3), (2, 3, 4)] ∧
    (∀ i j, Dl.d idlOps c08nTA i j = Dl.d idlOps c08nTB i j) ∧ Dl.d idlOps c08nTA 1 3 = 7 ∧
    Dl.d idlOps c08nT0 1 3 = idlInf := by
  have e0 : c08nT0.Exact 10 [] :=
    (C10_newVar_exact 10 [] _ (C10_newVar_exact 10 [] _ (C10_newVar_exact 10 [] _ (C10_init_exact 10 (by decide)) (by decide)).1
      (by decide)).1 (by decide)).1
  have hA : c08nTA.Exact 10 [(2, 3, 4), (1, 2, 3)] :=
    (e0.update_fresh 1 2 3 (by decide) (by decide) (by decide) (by decide) (by decide) (by decide)).update_fresh 2 3 4
      (by decide) (by decide) (by decide) (by decide) (by decide) (by decide)
  have hB : c08nTB.Exact 10 [(1, 2, 3), (2, 3, 4)] :=
    (e0.update_fresh 2 3 4 (by decide) (by decide) (by decide) (by decide) (by decide) (by decide)).update_fresh 1 2 3
      (by decide) (by decide) (by decide) (by decide) (by decide) (by decide)
  refine ⟨hA, hB, ?_, by decide, by decide⟩
  exact (C08N_dl_distances_determined 10 10 _ _ _ _ hA hB (fun _ => (List.Perm.swap _ _ []).mem_iff) (by decide)).2 (by decide)

-- NOT PROVED:
-- * `Net.popTo n 0` after searches WITH learning (item 3, general form): after a backjump to level 0
--   the learnt no-good is asserted at root level and the theories propagate it there, so the result is
--   the root-level network "plus consequences" - a different conclusion (values of `r` plus root-level
--   consequences, theory states reached from those of `r` by root-level propagations), not assembled.
--   What is proved: conflict-free histories (`C08N_popTo_root`), and that with learning the decision
--   level characterises the conflict-free case (`C08N_assume_pop_level`, `C08N_search_level`: a history
--   that reaches level = number of `assume`s met no conflict, and `popTo 0` then restores).  The analogue of
--   `C08N_assume_pop` for runs with backjumps that stay above the level of `n` plus one does not arise:
--   a conflict at level `n + 1` always backjumps below it (`C08N_propagate_level`).
-- * For LRA, "the bound of `x` is the tightest asserted one among the assertions currently assigned" on
--   reachable states (item 4, LRA part) - only `bounds after pop = bounds at push` (item 1).
-- * `Sat.Clean` for the reified constructors `new_eq … new_exct_one` and `simplify_db` (they only use
--   `new_var`, `new_clause` = `addClause` / `enqueue`, which keep it, and `removeClause`, which only
--   erases reasons; not assembled).

end Oratio
