/-
Property C08 — undoing decisions restores the network exactly.

Each theory keeps, per decision level, a first-write-wins log of the entries it overwrites
(`layers`); `pop()` writes the logged values back.  The theorems say that, for BOTH
difference-logic instances (the model is generic in the number type) and for ANY sequence of
theory propagations between a `push()` and the matching `pop()` — whatever the SAT state looked
like at each call, however many times the same distance, predecessor or responsible constraint
was overwritten, conflicts included — the popped state IS the pushed state; nested levels
compose; and the SAT core's `pop()` unassigns exactly the literals above the level mark.
(The bounds of `lra_theory` follow the same scheme: C08N_lra_* in C08Net.lean.)
-/
import OratioModel
import OratioProofs.Lemmas.UndoDl
import OratioProofs.Lemmas.UndoNetSat

namespace Oratio

/-- one theory-propagation call between push and pop: the SAT state it sees and the literal -/
abbrev DlCall := Sat × Lit

/-- run the calls; a conflicting call leaves the theory state as the C++ leaves it (unchanged) -/
def Dl.runCalls {α : Type} (O : DOps α) (t : Dl α) : List DlCall → Dl α
  | [] => t
  | (s, p) :: rest =>
    match Dl.propagateLit O s t p with
    | .inl _ => Dl.runCalls O t rest
    | .inr (_, t') => Dl.runCalls O t' rest

/-- the `std::map` invariant of `dist_constr`: keys strictly increasing (lexicographically) -/
def Dl.KeysSorted {β : Type} : List ((Nat × Nat) × β) → Prop
  | [] => True
  | [_] => True
  | a :: b :: t => (a.1.1 < b.1.1 ∨ (a.1.1 = b.1.1 ∧ a.1.2 < b.1.2)) ∧ Dl.KeysSorted (b :: t)

theorem Dl.KeysSorted.toUndo {β : Type} : ∀ (m : List ((Nat × Nat) × β)), Dl.KeysSorted m → Undo.SortedK m
  | [], _ => Undo.sortedK_nil
  | [a], _ => Undo.sortedK_single a
  | _ :: b :: t, h => Undo.sortedK_cons2 h.1 (toUndo (b :: t) h.2)

theorem Undo.Lg_runCalls {α : Type} (O : DOps α) {B : Dl α} : ∀ (calls : List DlCall) (cur : Dl α),
    Undo.Lg O B cur → Undo.Lg O B (Dl.runCalls O cur calls)
  | [], _, h => h
  | (s, p) :: rest, cur, h => by
    rw [Dl.runCalls]
    split
    · exact Lg_runCalls O rest cur h
    · next t' he => exact Lg_runCalls O rest t' (Undo.Lg_propagateLit O h s p he)

/-- push; any propagations; pop = identity (distances, predecessors, responsible constraints,
    constraint tables, outer layers: the whole state) -/
theorem C08_dl_pop_restores {α : Type} (O : DOps α) (t : Dl α) (calls : List DlCall)
    (hs : Dl.KeysSorted t.distConstr) :
    (Dl.runCalls O t.push calls).pop = t :=
  Undo.pop_of_Lg O (Undo.Lg_runCalls O calls _ (Undo.Lg_push O t (hs.toUndo _)))

/-- well-bracketed histories of push / propagations / pop -/
inductive DlEvent where
  | push
  | pop
  | call (s : Sat) (p : Lit)

def Dl.runEvents {α : Type} (O : DOps α) (t : Dl α) : List DlEvent → Dl α
  | [] => t
  | .push :: rest => Dl.runEvents O t.push rest
  | .pop :: rest => Dl.runEvents O t.pop rest
  | .call s p :: rest =>
    match Dl.propagateLit O s t p with
    | .inl _ => Dl.runEvents O t rest
    | .inr (_, t') => Dl.runEvents O t' rest

/-- every `pop` has a matching earlier `push` and every level opened is closed, with no theory
    call outside a level -/
def Balanced : List DlEvent → Nat → Bool
  | [], d => d == 0
  | .push :: r, d => Balanced r (d + 1)
  | .pop :: r, d => d > 0 && Balanced r (d - 1)
  | .call _ _ :: r, d => d > 0 && Balanced r d

theorem Undo.runEvents_chain {α : Type} (O : DOps α) {root : Dl α} (evs : List DlEvent) :
    ∀ (bases : List (Dl α)) (cur : Dl α), Undo.ChainTo (Undo.Lg O) Eq id root bases cur →
      Undo.SortedK cur.distConstr → Balanced evs bases.length = true → Dl.runEvents O cur evs = root := by
  induction evs with
  | nil =>
    intro bases cur hc _ hb
    cases bases with
    | nil => exact hc.symm
    | cons => cases hb
  | cons e rest ih =>
    intro bases cur hc hs hb
    cases e with
    | push => exact ih (cur :: bases) cur.push ⟨Undo.Lg_push O cur hs, hc⟩ hs hb
    | pop =>
      cases bases with
      | nil => cases hb
      | cons B bs =>
        rw [Dl.runEvents, Undo.pop_of_Lg O hc.1]
        exact ih bs B hc.2 (Undo.Lg_sorted O hc.1).2 hb
    | call s p =>
      cases bases with
      | nil => cases hb
      | cons B bs =>
        rw [Dl.runEvents]
        split
        · exact ih (B :: bs) cur hc hs hb
        · next t' he =>
          have h' := Undo.Lg_propagateLit O hc.1 s p he
          exact ih (B :: bs) t' ⟨h', hc.2⟩ (Undo.Lg_sorted O h').1 hb

/-- any balanced history of any depth returns the theory to the state it started from -/
theorem C08_dl_balanced_history_identity {α : Type} (O : DOps α) (t : Dl α) (evs : List DlEvent)
    (hs : Dl.KeysSorted t.distConstr) (h : Balanced evs 0 = true) : Dl.runEvents O t evs = t :=
  Undo.runEvents_chain O evs [] t rfl (hs.toUndo _) h

/-- `sat_core::pop()` unassigns exactly the literals assigned since the level was opened and
    nothing else: values, levels and reasons of every other variable, the clause database and the
    earlier part of the trail are untouched -/
theorem C08_sat_pop_exact (s : Sat) (lim : Nat) (lims : List Nat) (h : s.trailLim = lim :: lims) (hl : lim ≤ s.trail.length)
    (hnd : (s.trail.map (·.var)).Nodup) (hr : ∀ l ∈ s.trail, l.var < s.vals.length) :
    let s' := s.pop
    s'.trail = s.trail.drop (s.trail.length - lim) ∧ s'.trailLim = lims ∧ s'.decisions = s.decisions.drop 1 ∧
    s'.cls = s.cls ∧ s'.watches = s.watches ∧
    (∀ v, (∃ l ∈ s.trail.take (s.trail.length - lim), l.var = v) → s'.vals.getD v none = none) ∧
    (∀ v, (∀ l ∈ s.trail.take (s.trail.length - lim), l.var ≠ v) →
        s'.vals.getD v none = s.vals.getD v none ∧ s'.level.getD v 0 = s.level.getD v 0 ∧ s'.reason.getD v none = s.reason.getD v none) := by
  -- `hl`, `hnd`, `hr` are not used (the conclusion is stated with `getD` and `take`/`drop`)
  have _ := And.intro hl (And.intro hnd hr)
  obtain ⟨hp, h2, h3⟩ := Sat.pop_spec h
  exact ⟨hp.trail, h2, h3, hp.cls, hp.watches, fun v ⟨l, hl, e⟩ => e ▸ hp.gone l hl, hp.keep⟩

/-- `assume` immediately followed by `pop` (no conflict in between) is the identity on everything
    visible: values, levels, reasons, trail, decisions, clauses -/
theorem C08_sat_assume_pop (s : Sat) (p : Lit) (hq : s.queue = []) (hv : s.value p = none) (hp : p.var < s.vals.length)
    (hnd : (s.trail.map (·.var)).Nodup) (hr : ∀ l ∈ s.trail, l.var < s.vals.length ∧ s.vals.getD l.var none ≠ none)
    (hlen : s.level.length = s.vals.length ∧ s.reason.length = s.vals.length)
    (hz : s.level.getD p.var 0 = 0 ∧ s.reason.getD p.var none = none) :
    let s1 := { s with trailLim := s.trail.length :: s.trailLim, decisions := p :: s.decisions }
    let s2 := (s1.enqueue p none).2
    let s3 := { s2 with queue := [] }.pop
    s3.vals = s.vals ∧ s3.level = s.level ∧ s3.reason = s.reason ∧ s3.trail = s.trail ∧ s3.trailLim = s.trailLim ∧
    s3.decisions = s.decisions ∧ s3.cls = s.cls := by
  -- the one-literal case of `Sat.pop_of_grow`; `hq`, `hnd`, `hp`, `hlen` are not used
  have _ := And.intro (And.intro hq hnd) (And.intro hp hlen)
  intro s1 s2 s3
  have hv1 : s1.value p = none := hv
  have e2 : s2 = s1.enq p none := by show (s1.enqueue p none).2 = _; rw [Sat.enqueue_none none hv1]
  have hg : Sat.Grow (s.pushLevel p) { s2 with queue := [] } := by
    rw [e2]; exact (Sat.grow_enq s1 p none hv1).trans (Sat.Grow.of_same rfl rfl rfl rfl rfl rfl rfl rfl)
  have r := Sat.pop_of_grow p hg (by
    rw [e2]
    intro l hl hn
    rcases List.mem_cons.1 hl with rfl | hl
    · exact hz
    · exact absurd hn (hr l hl).2)
  exact ⟨r.vals, r.level, r.reason, r.trail, r.trailLim, r.decisions, (Sat.pop_frame _).1.trans (by rw [e2]; rfl)⟩

/-! ## non-vacuity: a level in which the same distance is tightened twice -/
example : ∃ t0 : Dl Int, t0 = (Dl.newVar idlOps ((Dl.newVar idlOps (Dl.init idlOps 16)).2)).2 ∧
    (Dl.propagateEdge idlOps Sat.init (Dl.propagateEdge idlOps Sat.init t0.push 1 2 5).2 1 2 3).2.pop = t0 := by
  refine ⟨_, rfl, ?_⟩
  have hs : Undo.SortedK ((Dl.newVar idlOps ((Dl.newVar idlOps (Dl.init idlOps 16)).2)).2).distConstr := by
    have e : ((Dl.newVar idlOps ((Dl.newVar idlOps (Dl.init idlOps 16)).2)).2).distConstr = [] := by decide
    rw [e]; exact Undo.sortedK_nil
  exact Undo.pop_of_Lg idlOps (Undo.Lg_propagateEdge idlOps (Undo.Lg_propagateEdge idlOps (Undo.Lg_push idlOps _ hs) _ 1 2 5) _ 1 2 3)

end Oratio
