/-
Property C09 (bridge) — the arithmetic of the CONCRETE simplex model (OratioModel/Net/Lra.lean).

Properties/C09Algebra.lean proves the simplex algebra on abstract rows, Properties/C09.lean proves
structural facts about the concrete model.  Here the model's own `pivot`, `substBasic` and
`newVarLin` (list-based rows over the rational model `R`, watch lists, `std::map` order) are shown
to be sound: they keep the set of solutions of the tableau.  `Lin.eval` (Lemmas/Lin.lean) is the value of a
linear expression under a valuation; its laws are Properties/C15.lean.

The proofs are in OratioProofs/Lemmas (LraTableau, LraPivot, LraSubst, LraTabWF, LraUpdate, LraCheckRows), but for the two
`C09B_update_keeps_rows*`.
-/
import OratioModel
import OratioProofs.Properties.C15
import OratioProofs.Lemmas.LraCheckRows

namespace Oratio
open Lra

/-- the valuation `σ` satisfies every row `x_b = Σ aₖ·xₖ + c` of the tableau -/
def Lra.RowsHoldAt (t : Lra) (σ : Nat → Rat) : Prop := ∀ e ∈ t.tableau, σ e.1 = Lin.eval e.2 σ

/-- `Lra.TabWF` (defined in Lemmas/LraState.lean), spelled out.  Nothing is assumed about zero
    coefficients, bounds, values, assertions or `exprs`. -/
theorem C09B_tabWF_def (t : Lra) :
    Lra.TabWF t ↔
      -- `tableau` is a `std::map`: basic variables strictly ascending
      (t.tableau.map Prod.fst).Pairwise (· < ·) ∧
      -- every row is a canonical finite `lin`
      (∀ e ∈ t.tableau, e.2.WF) ∧
      -- every variable of the tableau exists
      (∀ e ∈ t.tableau, e.1 < t.tWatches.length ∧ ∀ p ∈ e.2.vars, p.1 < t.tWatches.length) ∧
      -- no basic variable occurs in a row
      (∀ e ∈ t.tableau, ∀ p ∈ e.2.vars, t.isBasic p.1 = false) ∧
      -- watch lists strictly ascending
      (∀ w ∈ t.tWatches, w.Pairwise (· < ·)) ∧
      -- row `r` has an entry for `v` iff `r ∈ t_watches[v]`
      (∀ v r, r ∈ t.tWatches.getD v [] ↔ ∃ e ∈ t.tableau, e.1 = r ∧ ∃ p ∈ e.2.vars, p.1 = v) ∧
      -- one watch list and one value per variable
      t.tWatches.length = t.vals.length := by
  exact ⟨fun h => ⟨h.keys, h.rows, h.bound, h.nonbasic, h.wsorted, h.watch, h.wlen⟩,
    fun ⟨h1, h2, h3, h4, h5, h6, h7⟩ => ⟨h1, h2, h3, h4, h5, h6, h7⟩⟩

/-- the model establishes and maintains the invariant: `lra_theory()`, `new_var()`,
    `new_var(lin)` on a canonical expression over existing variables -/
theorem C09B_init_wf : Lra.TabWF Lra.init := by exact Lra.tabWF_init

theorem C09B_new_var_keeps_wf (t : Lra) (ht : Lra.TabWF t) : Lra.TabWF t.newVar.2 := by
  exact Lra.tabWF_newVar ht

theorem C09B_new_var_lin_keeps_wf (s : Sat) (t : Lra) (ht : Lra.TabWF t) (l : Lin) (hl : l.WF)
    (hlv : ∀ p ∈ l.vars, p.1 < t.vals.length) (slack : Nat) (t1 : Lra)
    (h : Lra.newVarLin s t l = some (slack, t1)) : Lra.TabWF t1 := by
  exact Lra.tabWF_newVarLin ht hl hlv h

/-- `pivot(x_i, x_j)` keeps the invariant: `x_i` basic with row `l`, `x_j` with a non-zero
    coefficient in `l` -/
theorem C09B_pivot_keeps_wf (t : Lra) (ht : Lra.TabWF t) (xi xj : Nat) (l : Lin)
    (hl : t.rowOf xi = some l) (hxj : (l.coeff xj).num ≠ 0) : Lra.TabWF (t.pivot xi xj) := by
  exact Lra.tabWF_pivot ht hl hxj

/-- `pivot(x_i, x_j)` keeps the solutions: a valuation satisfies all rows before iff it satisfies
    all rows after (the row of `x_i` solved for `x_j`, and `x_j` replaced by it in the rows of
    `t_watches[x_j]`) -/
theorem C09B_pivot_keeps_solutions (t : Lra) (ht : Lra.TabWF t) (xi xj : Nat) (l : Lin)
    (hl : t.rowOf xi = some l) (hxj : (l.coeff xj).num ≠ 0) (σ : Nat → Rat) :
    Lra.RowsHoldAt t σ ↔ Lra.RowsHoldAt (t.pivot xi xj) σ := by
  exact Lra.pivot_holds ht hl hxj σ

/-- `pivot` touches the tableau and the watch lists only -/
theorem C09B_pivot_keeps_vals (t : Lra) (xi xj : Nat) :
    (t.pivot xi xj).vals = t.vals ∧ (t.pivot xi xj).bounds = t.bounds := by
  exact Lra.pivot_vals_bounds t xi xj

/-- corollary: `check()` - any number of `pivot_and_update` steps chosen by Bland's rule, each of
    which meets the hypotheses above (the entering variable is found in the row with a positive or
    negative coefficient) - keeps the invariant and never changes the set of solutions of the
    tableau, whatever it returns -/
theorem C09B_check_keeps_solutions (t t' : Lra) (ht : Lra.TabWF t) (fuel : Nat) (c : Option (List Lit))
    (h : t.check fuel = some (c, t')) :
    Lra.TabWF t' ∧ ∀ σ, Lra.RowsHoldAt t σ ↔ Lra.RowsHoldAt t' σ := by
  exact Lra.sameSol_check fuel t t' c ht h

/-- replacing the basic variables of a canonical expression by their rows gives a canonical
    expression with the same value in every solution of the tableau (only the rows being
    canonical is needed) -/
theorem C09B_subst_basic_sound (t : Lra) (hrows : ∀ e ∈ t.tableau, e.2.WF) (l : Lin) (hl : l.WF) :
    (Lra.substBasic t l).WF ∧
    ∀ σ, Lra.RowsHoldAt t σ → Lin.eval (Lra.substBasic t l) σ = Lin.eval l σ := by
  exact Lra.substBasic_holds hrows hl

/-- `new_var(lin)` on a canonical expression over existing variables either finds a variable
    (tableau, watch lists and values untouched) or creates the slack variable `s = vals.size()`
    with the row `substBasic t l`, and nothing else changes in the tableau.  Then every solution
    `σ` of the old tableau, extended with `σ s := value of l`, is a solution of the new one, and
    every solution of the new tableau is a solution of the old one in which `s` has the value
    of `l`. -/
theorem C09B_new_row_sound (s : Sat) (t : Lra) (ht : Lra.TabWF t) (l : Lin) (hl : l.WF)
    (hlv : ∀ p ∈ l.vars, p.1 < t.vals.length) (slack : Nat) (t1 : Lra)
    (h : Lra.newVarLin s t l = some (slack, t1)) :
    (t1.tableau = t.tableau ∧ t1.tWatches = t.tWatches ∧ t1.vals = t.vals) ∨
    (slack = t.vals.length ∧ t1.vals.length = t.vals.length + 1 ∧
      t1.tableau = Lra.tabInsert t.tableau slack (Lra.substBasic t l) ∧
      (∀ e, e ∈ t1.tableau ↔ e ∈ t.tableau ∨ e = (slack, Lra.substBasic t l)) ∧
      (∀ σ, Lra.RowsHoldAt t σ →
        Lin.eval (Lra.substBasic t l) σ = Lin.eval l σ ∧
        Lra.RowsHoldAt t1 (Function.update σ slack (Lin.eval l σ))) ∧
      (∀ σ, Lra.RowsHoldAt t1 σ → Lra.RowsHoldAt t σ ∧ σ slack = Lin.eval l σ)) := by
  exact Lra.newVarLin_sound ht hl hlv h

/-! ## `update` (value level) -/

/-- `update(x_i, v)` for a non-basic `x_i`: if the rational parts of the current assignment
    (`Lra.ratAssign t x = (t.value x).rat`) satisfy every row, they still do afterwards; the tableau
    is untouched, `x_i` gets the value `v`, the other non-basic variables keep theirs, the invariant
    is kept.  HYPOTHESES NOT PART OF `TabWF`: the rational parts of all current values and of `v` are
    canonical and finite (`hfin`, `hv`) - the C++ only ever stores sums and products of finite
    bounds and coefficients in `vals`, but that is not proved here - and `x_i` is an existing
    variable. -/
theorem C09B_update_keeps_rows (t : Lra) (ht : Lra.TabWF t) (xi : Nat) (hnb : t.isBasic xi = false)
    (hxi : xi < t.vals.length) (v : IR) (hv : v.rat.WF ∧ v.rat.den ≠ 0)
    (hfin : ∀ x, (t.value x).rat.WF ∧ (t.value x).rat.den ≠ 0)
    (h : Lra.RowsHoldAt t t.ratAssign) :
    Lra.RowsHoldAt (t.update xi v) (t.update xi v).ratAssign ∧
    Lra.TabWF (t.update xi v) ∧ (t.update xi v).tableau = t.tableau ∧
    (t.update xi v).value xi = v ∧
    (∀ x, t.isBasic x = false → x ≠ xi → (t.update xi v).value x = t.value x) ∧
    (∀ x, ((t.update xi v).value x).rat.WF ∧ ((t.update xi v).value x).rat.den ≠ 0) := by
  obtain ⟨u1, u2, u3, u4, u5, u6, u7⟩ := update_holds isComp_rat ht ((isBasic_false_iff t xi).1 hnb) hxi hfin hv
    (fun _ => 0) (fun e he => by rw [sub_zero]; exact h e he)
  refine ⟨fun e he => ?_, tabWF_congr u1 u2 u3 ht, u1, u4,
    fun x hx hne => u5 x ((isBasic_false_iff t x).1 hx) hne, u6⟩
  have := u7 e he
  rw [sub_zero] at this
  exact this

/-- the same for the infinitesimal parts (`Lra.infAssign t x = (t.value x).inf`), which satisfy the
    rows without their known terms -/
theorem C09B_update_keeps_rows_inf (t : Lra) (ht : Lra.TabWF t) (xi : Nat) (hnb : t.isBasic xi = false)
    (hxi : xi < t.vals.length) (v : IR) (hv : v.inf.WF ∧ v.inf.den ≠ 0)
    (hfin : ∀ x, (t.value x).inf.WF ∧ (t.value x).inf.den ≠ 0)
    (h : ∀ e ∈ t.tableau, t.infAssign e.1 = Lin.eval { e.2 with known := R.zero } t.infAssign) :
    (∀ e ∈ (t.update xi v).tableau,
      (t.update xi v).infAssign e.1 = Lin.eval { e.2 with known := R.zero } (t.update xi v).infAssign) ∧
    (∀ x, ((t.update xi v).value x).inf.WF ∧ ((t.update xi v).value x).inf.den ≠ 0) := by
  obtain ⟨-, -, -, -, -, u6, u7⟩ := update_holds isComp_inf ht ((isBasic_false_iff t xi).1 hnb) hxi hfin hv
    (fun l => l.known.toRat) (fun e he => by rw [← evalS_homog]; exact h e he)
  exact ⟨fun e he => (u7 e he).trans (evalS_homog _ _).symm, u6⟩

/-! ## non-vacuity: `c09bState` is `x2 = x0 + 2·x1 + 3`, `x3 = x0 - x1` over the non-basic `x0`, `x1` -/

/-- the hypotheses of the pivot theorems hold for `pivot(x2, x1)`, and the result is
    `x1 = -1/2·x0 + 1/2·x2 - 3/2`, `x3 = 3/2·x0 - 1/2·x2 + 3/2` with the watch lists updated -/
example : Lra.TabWF c09bState ∧ c09bState.rowOf 2 = some c09bRow2 ∧ (c09bRow2.coeff 1).num ≠ 0 ∧
    (c09bState.pivot 2 1).tableau =
      [(1, ⟨[(0, ⟨-1, 2⟩), (2, ⟨1, 2⟩)], ⟨-3, 2⟩⟩), (3, ⟨[(0, ⟨3, 2⟩), (2, ⟨-1, 2⟩)], ⟨3, 2⟩⟩)] ∧
    (c09bState.pivot 2 1).tWatches = [[1, 3], [], [1, 3], []] :=
  ⟨c09bState_wf, by decide, by decide, by decide, by decide⟩

/-- both sides of the equivalence occur: `c09bSigma` solves the tableau (so, by the theorem, the
    pivoted one), the zero valuation solves neither -/
example : Lra.RowsHoldAt c09bState c09bSigma ∧ Lra.RowsHoldAt (c09bState.pivot 2 1) c09bSigma ∧
    ¬ Lra.RowsHoldAt c09bState c09bBad ∧ ¬ Lra.RowsHoldAt (c09bState.pivot 2 1) c09bBad := by
  have h1 : Lra.RowsHoldAt c09bState c09bSigma := by
    intro e he
    simp only [c09bState, List.mem_cons, List.not_mem_nil, or_false] at he
    rcases he with rfl | rfl <;> norm_num [Lin.eval, c09bSigma, R.toRat, c09bRow2, c09bRow3]
  have h2 : ¬ Lra.RowsHoldAt c09bState c09bBad := by
    intro h
    have := h (2, c09bRow2) (by simp [c09bState])
    norm_num [Lin.eval, c09bBad, R.toRat, c09bRow2] at this
  have hiff := C09B_pivot_keeps_solutions c09bState c09bState_wf 2 1 c09bRow2 (by decide) (by decide)
  exact ⟨h1, (hiff _).1 h1, h2, fun h => h2 ((hiff _).2 h)⟩

/-- `new_var(x0 + x2)` creates the slack `x4 = 2·x0 + 2·x1 + 3` (the basic `x2` replaced by its row) -/
example : (⟨[(0, ⟨1, 1⟩), (2, ⟨1, 1⟩)], ⟨0, 1⟩⟩ : Lin).WF ∧
    (Lra.newVarLin Sat.init c09bState ⟨[(0, ⟨1, 1⟩), (2, ⟨1, 1⟩)], ⟨0, 1⟩⟩).map (fun p => (p.1, p.2.tableau)) =
      some (4, [(2, c09bRow2), (3, c09bRow3), (4, ⟨[(0, ⟨2, 1⟩), (1, ⟨2, 1⟩)], ⟨3, 1⟩⟩)]) := by
  refine ⟨⟨⟨by decide, trivial⟩, ?_, by decide, by decide⟩, by decide +kernel⟩
  intro t ht; simp at ht; rcases ht with rfl | rfl <;> decide

/-- `update(x0, 2)`: the assignment of `c09bState` satisfies the rows, and `x2`, `x3` follow `x0` -/
example : Lra.RowsHoldAt c09bState c09bState.ratAssign ∧ c09bState.isBasic 0 = false ∧
    (c09bState.update 0 (IR.ofR ⟨2, 1⟩)).vals = [IR.ofR ⟨2, 1⟩, IR.ofR R.one, IR.ofR ⟨7, 1⟩, IR.ofR R.one] := by
  refine ⟨?_, by decide, by decide⟩
  intro e he
  simp only [c09bState, List.mem_cons, List.not_mem_nil, or_false] at he
  rcases he with rfl | rfl <;>
    norm_num [Lin.eval, Lra.ratAssign, Lra.value, c09bState, IR.ofR, R.toRat, R.one, R.zero, c09bRow2, c09bRow3]

/-- the state on which `check` is shown to pivot in Properties/C09.lean (`x1 = x0`, `x1 ≥ 1`) meets
    the invariant, so `C09B_check_keeps_solutions` applies to a run of `check` that pivots -/
example : Lra.TabWF c09ExampleState := by
  refine (C09B_tabWF_def _).2 ⟨by decide, ?_, by decide, by decide, by decide, ?_, by decide⟩
  · intro e he
    simp only [c09ExampleState, List.mem_cons, List.not_mem_nil, or_false] at he
    subst he
    refine ⟨trivial, ?_, by decide, by decide⟩
    intro t ht; simp [Lin.var] at ht; subst ht; decide
  · intro v r
    match v with
    | 0 => simp [c09ExampleState, Lin.var]; omega
    | 1 => simp [c09ExampleState, Lin.var]
    | n + 2 => simp [c09ExampleState, Lin.var]

end Oratio
