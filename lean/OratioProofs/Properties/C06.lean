/-
Property C06 — active atoms are temporally well-formed within [origin, horizon].

`Gen.initLA` / `Gen.initDL` are RE-EXTRACTED on every run from /repo/solver/CMakeLists.txt (the
text the solver reads first: the built-in `Impulse` and `Interval` predicates with their rules and
the declarations of `origin` / `horizon`).  The theorems parse that text with the models of the
lexer and parser and prove, from the rule bodies actually found there, that every valuation
satisfying the body of `Interval` satisfies `origin ≤ start ≤ end ≤ horizon`, `duration = end -
start ≥ 0` (LA) and that of `Impulse` `origin ≤ at ≤ horizon`, together with `0 ≤ origin ≤
horizon` from the top-level statements.  (That the rule is applied to every active atom — goals
through `apply_rule` with the supertypes first, facts through the smart types and, for plain
predicates, through `solver::new_atom` — is checked end to end on generated programs.)
-/
import OratioModel
import Gen.Init
import OratioProofs.Lemmas.InitRule
import Mathlib.Tactic.Linarith
import Mathlib.Algebra.Order.Field.Rat

namespace Oratio
open Riddle

/-- value of an arithmetic expression of the rule fragment (identifiers, real / integer literals,
    n-ary `+` `-`, unary minus) under a valuation of the identifiers; `none` outside the fragment -/
def arithVal (σ : Name → Rat) : Expr → Option Rat
  | .id [x] => some (σ x)
  | .real r => some r.toRat
  | .int n => some n
  | .un .minus e => (arithVal σ e).map (- ·)
  | .nary .add es => es.foldl (fun acc e => match acc, arithVal σ e with | some a, some b => some (a + b) | _, _ => none) (some 0)
  | .nary .sub (e :: es) => es.foldl (fun acc e => match acc, arithVal σ e with | some a, some b => some (a - b) | _, _ => none) (arithVal σ e)
  | _ => none

/-- truth of a constraint statement of the rule fragment -/
def stmtHolds (σ : Name → Rat) : Stmt → Prop
  | .expr (.bin op l r) =>
    match arithVal σ l, arithVal σ r with
    | some a, some b => (match op with | .geq => a ≥ b | .leq => a ≤ b | .eq => a = b | .lt => a < b | .gt => a > b | _ => False)
    | _, _ => False
  | _ => False

def nm (s : String) : Name := strInts s

/-- the text parses, and declares the two predicates and the two variables -/
theorem C06_init_parses :
    (∃ u, (lex (strInts Gen.initLA)).toOption.bind (fun ts => (parseUnit ts).toOption) = some u ∧
        (u.preds.map (·.name)) = [nm "Impulse", nm "Interval"]) ∧
    (∃ u, (lex (strInts Gen.initDL)).toOption.bind (fun ts => (parseUnit ts).toOption) = some u ∧
        (u.preds.map (·.name)) = [nm "Impulse", nm "Interval"]) := by
  refine ⟨⟨InitRule.laUnit, InitRule.parse_LA, ?_⟩, ⟨InitRule.dlUnit, InitRule.parse_DL, ?_⟩⟩ <;> rfl

/-- LA: the body of `Interval` forces origin ≤ start ≤ end ≤ horizon and duration = end − start ≥ 0 -/
theorem C06_interval_rule_wf (u : CompUnit) (p : PredDecl)
    (hu : (lex (strInts Gen.initLA)).toOption.bind (fun ts => (parseUnit ts).toOption) = some u)
    (hp : p ∈ u.preds) (hn : p.name = nm "Interval") (σ : Name → Rat)
    (hb : ∀ s ∈ p.body, stmtHolds σ s) :
    σ (nm "origin") ≤ σ (nm "start") ∧ σ (nm "start") ≤ σ (nm "end") ∧ σ (nm "end") ≤ σ (nm "horizon") ∧
    σ (nm "duration") = σ (nm "end") - σ (nm "start") ∧ 0 ≤ σ (nm "duration") := by
  obtain rfl := InitRule.unit_eq InitRule.parse_LA hu
  obtain rfl := (InitRule.pred_eq hp InitRule.impulse_ne_interval).2 hn
  simp only [InitRule.intervalLA, List.forall_mem_cons, InitRule.cmp, InitRule.v, stmtHolds, arithVal, List.foldl,
    InitRule.zero_toRat] at hb
  obtain ⟨h1, h2, h3, h4, -⟩ := hb
  simp only [nm]
  refine ⟨h1, ?_, h2, h3, h4⟩
  linarith

/-- DL: the body of `Interval` forces origin ≤ start ≤ end ≤ horizon -/
theorem C06_interval_rule_wf_dl (u : CompUnit) (p : PredDecl)
    (hu : (lex (strInts Gen.initDL)).toOption.bind (fun ts => (parseUnit ts).toOption) = some u)
    (hp : p ∈ u.preds) (hn : p.name = nm "Interval") (σ : Name → Rat)
    (hb : ∀ s ∈ p.body, stmtHolds σ s) :
    σ (nm "origin") ≤ σ (nm "start") ∧ σ (nm "start") ≤ σ (nm "end") ∧ σ (nm "end") ≤ σ (nm "horizon") := by
  obtain rfl := InitRule.unit_eq InitRule.parse_DL hu
  obtain rfl := (InitRule.pred_eq hp InitRule.impulse_ne_interval).2 hn
  simp only [InitRule.intervalDL, List.forall_mem_cons, InitRule.cmp, InitRule.v, stmtHolds, arithVal] at hb
  exact ⟨hb.1, hb.2.1, hb.2.2.1⟩

/-- the body of `Impulse` forces origin ≤ at ≤ horizon (both variants) -/
theorem C06_impulse_rule_wf (txt : String) (ht : txt = Gen.initLA ∨ txt = Gen.initDL) (u : CompUnit) (p : PredDecl)
    (hu : (lex (strInts txt)).toOption.bind (fun ts => (parseUnit ts).toOption) = some u)
    (hp : p ∈ u.preds) (hn : p.name = nm "Impulse") (σ : Name → Rat)
    (hb : ∀ s ∈ p.body, stmtHolds σ s) :
    σ (nm "origin") ≤ σ (nm "at") ∧ σ (nm "at") ≤ σ (nm "horizon") := by
  have key : ∀ tp, p = InitRule.impulse tp →
      σ (nm "origin") ≤ σ (nm "at") ∧ σ (nm "at") ≤ σ (nm "horizon") := by
    rintro tp rfl
    simp only [InitRule.impulse, List.forall_mem_cons, InitRule.cmp, InitRule.v, stmtHolds, arithVal] at hb
    exact ⟨hb.1, hb.2.1⟩
  rcases ht with rfl | rfl
  · obtain rfl := InitRule.unit_eq InitRule.parse_LA hu
    exact key _ ((InitRule.pred_eq hp InitRule.impulse_ne_interval).1 hn)
  · obtain rfl := InitRule.unit_eq InitRule.parse_DL hu
    exact key _ ((InitRule.pred_eq hp InitRule.impulse_ne_interval).1 hn)

/-- the top-level statements force 0 ≤ origin ≤ horizon (both variants) -/
theorem C06_origin_nonneg (txt : String) (ht : txt = Gen.initLA ∨ txt = Gen.initDL) (u : CompUnit)
    (hu : (lex (strInts txt)).toOption.bind (fun ts => (parseUnit ts).toOption) = some u) (σ : Name → Rat)
    (hb : ∀ s ∈ u.stmts, (match s with | .localField _ _ => True | _ => stmtHolds σ s)) :
    0 ≤ σ (nm "origin") ∧ σ (nm "origin") ≤ σ (nm "horizon") := by
  have key : ∀ tp, u.stmts = InitRule.topStmts tp →
      0 ≤ σ (nm "origin") ∧ σ (nm "origin") ≤ σ (nm "horizon") := by
    intro tp hs
    simp only [hs, InitRule.topStmts, List.forall_mem_cons, InitRule.cmp, InitRule.v, stmtHolds, arithVal,
      InitRule.zero_toRat] at hb
    exact ⟨hb.2.2.1, hb.2.2.2.1⟩
  rcases ht with rfl | rfl
  · obtain rfl := InitRule.unit_eq InitRule.parse_LA hu
    exact key _ rfl
  · obtain rfl := InitRule.unit_eq InitRule.parse_DL hu
    exact key _ rfl

end Oratio
