/-
Property C20 — parallel pivoting gives the sequential result and is race-free.

Model: OratioModel/Par/Pivot.lean.  A schedule is ANY sequence of the tasks' atomic steps that keeps each task's own
order; the theorems quantify over all of them (any number of rows, any pool size, any interleaving).
-/
import OratioModel
import OratioProofs.Lemmas.Par
import OratioProofs.Lemmas.ListAux

namespace Oratio
open Par

/-- two step sequences with the same per-task projections (same steps of every owner, in the same order) -/
def SameProjections {α : Type} (l l' : List (Step α)) : Prop :=
  ∀ r, l.filter (fun s => s.owner == r) = l'.filter (fun s => s.owner == r)

/-- schedule independence: the final shared state depends only on what each task did, not on how the tasks' steps
    were interleaved -/
theorem C20_schedule_independent {α : Type} (σ : Shared α) (l l' : List (Step α)) (h : SameProjections l l') :
    σ.run l = σ.run l' :=
  Shared.ext_slice fun r => by
    rw [Shared.slice_run_filter l r σ σ rfl, Shared.slice_run_filter l' r σ σ rfl, h r]

/-- hence every interleaving of the tasks of one pivot equals running the tasks one after the other (the
    sequential build's loop), whatever the number of tasks and threads -/
theorem C20_parallel_equals_sequential {α : Type} (σ : Shared α) (tasks : List (Nat × List (Step α)))
    (hown : ∀ t ∈ tasks, ∀ s ∈ t.2, s.owner = t.1) (hdist : (tasks.map (·.1)).Nodup)
    (sched : List (Step α))
    (hproj : ∀ t ∈ tasks, sched.filter (fun s => s.owner == t.1) = t.2)
    (hall : ∀ s ∈ sched, ∃ t ∈ tasks, s.owner = t.1) :
    σ.run sched = σ.run (tasks.flatMap (·.2)) := by
  apply C20_schedule_independent
  intro r
  by_cases hr : r ∈ tasks.map (·.1)
  · rcases List.mem_map.1 hr with ⟨t, ht, rfl⟩
    rw [hproj t ht, filter_flatMap_of_mem tasks hown hdist t ht]
  · rw [filter_owner_of_not_mem tasks sched hall r hr, filter_owner_of_not_mem tasks _ (owner_of_mem_flatMap hown) r hr]

/-- race freedom: every step of the task of row `r` is owned by `r`, and the only memory it touches without a lock
    is its own row - so two different tasks never touch the same memory unsynchronised -/
theorem C20_no_unsynchronised_sharing {α : Type} [Add α] [Mul α] (isZero : α → Bool) (zero : α) (xj : Nat)
    (expr : List (Nat × α)) (k : α) (r : Nat) (old : Row α) :
    ∀ s ∈ taskSteps isZero zero xj expr k r old, s.owner = r ∧ ∀ x, s.unsynchronised = some x → x = r := by
  unfold taskSteps
  refine List.forall_mem_append.2 ⟨List.forall_mem_singleton.2 ⟨rfl, fun x hx => (Option.some.inj hx).symm⟩, ?_⟩
  -- every step the fold adds is a watch update of `r`, made under the lock
  let P := fun acc : Row α × List (Step α) => ∀ s ∈ acc.2, s.owner = r ∧ ∀ x, s.unsynchronised = some x → x = r
  refine ListAux.foldl_inv P _ ?_ expr _ (fun _ hs => nomatch hs)
  rintro ⟨row, steps⟩ ⟨v, c⟩ hacc
  have hw : ∀ w : Step α, w.owner = r → w.unsynchronised = none →
      ∀ s ∈ steps ++ [w], s.owner = r ∧ ∀ x, s.unsynchronised = some x → x = r :=
    fun w h1 h2 => List.forall_mem_append.2 ⟨hacc, List.forall_mem_singleton.2 ⟨h1, fun _ hx => nomatch h2 ▸ hx⟩⟩
  exact ite_ind (P := P) (hw _ rfl rfl) (ite_ind (P := P) (hw _ rfl rfl) hacc)

/-- the tasks a pivot enqueues satisfy `hown` of `C20_parallel_equals_sequential` -/
theorem C20_pivot_tasks_are_independent {α : Type} [Add α] [Mul α] (isZero : α → Bool) (zero : α) (xj : Nat)
    (expr : List (Nat × α)) (k : α) (rows : List (Nat × Row α)) :
    ∀ t ∈ rows.map (fun p => (p.1, taskSteps isZero zero xj expr k p.1 p.2)), ∀ s ∈ t.2, s.owner = t.1 := by
  intro t ht s hs
  rcases List.mem_map.1 ht with ⟨p, _, rfl⟩
  exact (C20_no_unsynchronised_sharing isZero zero xj expr k p.1 p.2 s hs).1

/-- the thread pool: in every reachable state the enqueued tasks are exactly the queued, running and finished ones;
    so when `join()`'s condition holds (`active == 0 && tasks.empty()`) every enqueued task has finished -/
theorem C20_join_waits_for_all (steps : List PoolStep) :
    let p := steps.foldl Pool.step {}
    List.Perm p.enqueued (p.queue ++ p.running ++ p.done) ∧ (p.joinable = true → List.Perm p.enqueued p.done) := by
  intro p
  have hinv : p.Inv := ListAux.foldl_inv Pool.Inv Pool.step Pool.inv_step steps {} (List.Perm.refl _)
  refine ⟨hinv, ?_⟩
  intro hj
  unfold Pool.joinable at hj
  simp only [Bool.and_eq_true, List.isEmpty_iff] at hj
  have := hinv
  unfold Pool.Inv at this
  rw [hj.1, hj.2] at this
  simpa using this

/-- non-vacuity: two tasks, two different schedules, one result -/
example : (({ rows := fun _ => none, watch := fun _ _ => false } : Shared Int).run
      [.setRow 1 ⟨fun _ => 1, 0⟩, .watchIns 5 1, .setRow 2 ⟨fun _ => 2, 0⟩, .watchIns 5 2]).watch 5 2 =
    (({ rows := fun _ => none, watch := fun _ _ => false } : Shared Int).run
      [.setRow 2 ⟨fun _ => 2, 0⟩, .setRow 1 ⟨fun _ => 1, 0⟩, .watchIns 5 2, .watchIns 5 1]).watch 5 2 := by
  simp [Shared.run, Shared.apply]

end Oratio
