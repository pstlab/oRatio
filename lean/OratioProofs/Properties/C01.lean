/-
Property C01 — a reported solution satisfies every asserted constraint: the logical skeleton.

What the planner posts for a constraint is its reified encoding (the constructors of C13, in the
way `core::conj / disj / eq / negate` use them); it asserts the resulting literal and reports a
solution when propagation has succeeded and no flaw is left.  The theorems say what that buys:

* `C01_encoding_total`: in every TOTAL model of the network the literal of a constraint has the
  truth value of the constraint;
* `C01_tseitin_decided_sound`: for a PARTIAL assignment — which is what the solver ends with — it
  is enough that propagation is at its fixpoint (C07_bcp_fixpoint) and that every ATOM of the
  constraint is decided: then every sub-formula literal is decided with the right value, so an
  asserted constraint is true under the values of its atoms.  (The theory side — the values
  exposed for arithmetic / temporal / object variables satisfy every ASSIGNED theory literal — is
  C09, C10/C12, C14.  Atoms left undecided are exactly the recorded finding
  `undecided-constraint-literals`.)
-/
import OratioModel
import OratioProofs.Properties.C13
import OratioProofs.Lemmas.Form

namespace Oratio
open Enc

/-- constraints as the evaluator builds them over theory / boolean literals -/
inductive Form where
  | atom (l : Lit)
  | and (fs : List Form)
  | or (fs : List Form)
  | not (f : Form)
  | iff (f g : Form)

mutual
def Form.eval (v : Lit → Bool) : Form → Bool
  | .atom l => v l
  | .and fs => Form.evalAll v fs
  | .or fs => Form.evalAny v fs
  | .not f => !Form.eval v f
  | .iff f g => Form.eval v f == Form.eval v g
def Form.evalAll (v : Lit → Bool) : List Form → Bool
  | [] => true
  | f :: fs => Form.eval v f && Form.evalAll v fs
def Form.evalAny (v : Lit → Bool) : List Form → Bool
  | [] => false
  | f :: fs => Form.eval v f || Form.evalAny v fs
end

mutual
def Form.atoms : Form → List Lit
  | .atom l => [l]
  | .and fs => Form.atomsL fs
  | .or fs => Form.atomsL fs
  | .not f => Form.atoms f
  | .iff f g => Form.atoms f ++ Form.atoms g
def Form.atomsL : List Form → List Lit
  | [] => []
  | f :: fs => Form.atoms f ++ Form.atomsL fs
end

mutual
/-- the encoding: `core::conj → new_conj`, `core::disj → new_disj`, `core::negate → !l`, `core::eq → new_eq` -/
def Form.encode : Form → Enc → Lit × Enc
  | .atom l, s => (l, s)
  | .and fs, s => let (ls, s') := Form.encodeL fs s; s'.newConj ls
  | .or fs, s => let (ls, s') := Form.encodeL fs s; s'.newDisj ls
  | .not f, s => let (l, s') := Form.encode f s; (l.neg, s')
  | .iff f g, s => let (a, s1) := Form.encode f s; let (b, s2) := Form.encode g s1; s2.newEq a b
def Form.encodeL : List Form → Enc → List Lit × Enc
  | [], s => ([], s)
  | f :: fs, s => let (l, s1) := Form.encode f s; let (ls, s2) := Form.encodeL fs s1; (l :: ls, s2)
end

/-- a network with `n` undecided variables (besides the constant), no clauses, empty cache -/
def Enc.fresh (n : Nat) : Enc := ⟨some false :: List.replicate n none, [], []⟩

/-- partial assignments -/
abbrev PAsg := Nat → Option Bool
def PAsg.lit (ρ : PAsg) (l : Lit) : Option Bool := (ρ l.var).map (fun b => if l.sign then b else !b)

/-- `ρ` extends the root values and is a fixpoint of unit propagation on the clauses: no clause
    is falsified and none is unit (what C07_bcp_fixpoint establishes after a successful propagate) -/
def BcpFix (ρ : PAsg) (s : Enc) : Prop :=
  ρ 0 = some false ∧
  (∀ v b, s.vals.getD v none = some b → ρ v = some b) ∧
  ∀ c ∈ s.clauses, (∃ l ∈ c, ρ.lit l = some true) ∨ (∃ l₁ ∈ c, ∃ l₂ ∈ c, l₁ ≠ l₂ ∧ ρ.lit l₁ = none ∧ ρ.lit l₂ = none)

/-! ## the induction

The induction over `Form` / `List Form`, for total models and partial assignments at once
(`encode_good`, `encodeL_good`).  The constructor-level facts are C13 (total models) and
`OratioProofs/Lemmas/Form.lean` (partial assignments at the propagation fixpoint; `FormL.PAsg`,
`FormL.plit`, `FormL.BcpFix` there are definitionally equal copies of `PAsg`, `PAsg.lit`, `BcpFix`). -/
namespace C01L
open FormL

theorem fresh_inv (n : Nat) : (Enc.fresh n).Inv :=
  ⟨⟨rfl, fun c hc => (by cases hc), fun e he => (by cases he)⟩, fun e he => (by cases he)⟩

theorem fresh_pinv (n : Nat) : FormL.PInv (Enc.fresh n) := fun e he => by cases he

theorem fresh_nvars (n : Nat) : (Enc.fresh n).nvars = n + 1 := by simp [Enc.fresh, Enc.nvars]

theorem evalAll_eq (v : Lit → Bool) : ∀ fs : List Form, Form.evalAll v fs = (fs.map (Form.eval v)).all id
  | [] => rfl
  | f :: fs => by simp [Form.evalAll, evalAll_eq v fs]

theorem evalAny_eq (v : Lit → Bool) : ∀ fs : List Form, Form.evalAny v fs = (fs.map (Form.eval v)).any id
  | [] => rfl
  | f :: fs => by simp [Form.evalAny, evalAny_eq v fs]

theorem pmap {ρ : FormL.PAsg} {v : Lit → Bool} {fs : List Form} {ls : List Lit}
    (h : ls.map (plit ρ) = fs.map (fun f => some (f.eval v))) :
    (∀ x ∈ ls, plit ρ x ≠ none) ∧ ls.map (val ρ) = fs.map (Form.eval v) := by
  refine ⟨fun x hx hn => ?_, ?_⟩
  · have := List.mem_map_of_mem (f := plit ρ) hx
    rw [h, hn] at this
    simp at this
  · have := congrArg (List.map (·.getD false)) h
    simp only [List.map_map, Function.comp_def, Option.getD_some] at this
    exact this

def evalJunct (abs : Bool) (v : Lit → Bool) (fs : List Form) : Bool :=
  match abs with
  | false => Form.evalAll v fs
  | true => Form.evalAny v fs

theorem junctVal_of_map {abs : Bool} {v g : Lit → Bool} {fs : List Form} {ls : List Lit}
    (h : ls.map g = fs.map (Form.eval v)) : EncL.junctVal abs g ls = evalJunct abs v fs := by
  cases abs
  · rw [evalJunct, evalAll_eq, ← h, List.all_map]; rfl
  · rw [evalJunct, evalAny_eq, ← h, List.any_map]; rfl

/-- `f.encode s` in both semantics: total models, and fixpoints that decide the atoms (from a state with `PInv`) -/
def Encodes (s : Enc) (f : Form) (r : Lit × Enc) : Prop :=
  EncL.Defines s (fun α => f.eval α.lit) r ∧
  (PInv s → PDefines s (fun ρ => ∀ l ∈ f.atoms, plit ρ l ≠ none) (fun ρ => f.eval (val ρ)) r)

structure EncodesL (s : Enc) (fs : List Form) (r : List Lit × Enc) : Prop where
  inv : EncL.Inv r.2
  range : EncL.InRange r.2 r.1
  ext : EncL.Extends s r.2
  ref : EncL.Refines s r.2
  sem : ∀ α, EncL.Sat α r.2 → r.1.map α.lit = fs.map (Form.eval α.lit)
  part : PInv s → Mono s r.2 ∧ PInv r.2 ∧
    ∀ ρ : FormL.PAsg, FormL.BcpFix ρ r.2 → (∀ l ∈ Form.atomsL fs, plit ρ l ≠ none) →
      r.1.map (plit ρ) = fs.map (fun f => some (f.eval (val ρ)))

theorem encodes_junct (abs : Bool) {s : Enc} {fs : List Form} {r : List Lit × Enc} (hL : EncodesL s fs r) :
    EncL.Defines s (fun α => evalJunct abs α.lit fs) (Cons.newJunct Enc.prim abs r.2 r.1) ∧
    (PInv s → PDefines s (fun ρ => ∀ l ∈ Form.atomsL fs, plit ρ l ≠ none)
      (fun ρ => evalJunct abs (val ρ) fs) (Cons.newJunct Enc.prim abs r.2 r.1)) := by
  have g := EncL.junct_spec (abs := abs) hL.inv hL.range
  refine ⟨.of_trans hL.ext hL.ref g.toDefines fun α hα => junctVal_of_map (hL.sem α (g.ref.2 α hα)),
    fun hp => ?_⟩
  obtain ⟨m, p, hs⟩ := hL.part hp
  have gp := junct_p (abs := abs) p hL.range
  refine .of_trans m gp fun ρ hρ hd => ?_
  obtain ⟨m1, m2⟩ := pmap (hs ρ (BcpFix.mono gp.mono hρ) hd)
  exact ⟨m1, junctVal_of_map m2⟩

mutual
theorem encode_good : ∀ (f : Form) (s : Enc), s.Inv → (∀ l ∈ f.atoms, l.var < s.nvars) →
    Encodes s f (f.encode s)
  | .atom l, s, h, hr =>
    ⟨.same h (hr l (by simp [Form.atoms])) fun _ _ => rfl,
      fun hp => .same hp fun ρ _ hd => plit_eq_val (hd l (by simp [Form.atoms]))⟩
  | .and fs, s, h, hr => by
    have := encodes_junct false (encodeL_good fs s h hr)
    rw [← Cons.newConj_eq, Cons_enc_newConj] at this
    exact this
  | .or fs, s, h, hr => by
    have := encodes_junct true (encodeL_good fs s h hr)
    rw [← Cons.newDisj_eq, Cons_enc_newDisj] at this
    exact this
  | .not f, s, h, hr => by
    obtain ⟨t, p⟩ := encode_good f s h hr
    exact ⟨⟨⟨t.inv, t.lt, t.ext, t.ref⟩, fun α hα => by
        show α.lit (f.encode s).1.neg = !f.eval α.lit
        rw [Asg.lit_neg, t.sem α hα]⟩,
      fun hp => ⟨(p hp).mono, (p hp).pinv, fun ρ hρ hd => plit_neg_some ((p hp).sem ρ hρ hd)⟩⟩
  | .iff f g, s, h, hr => by
    obtain ⟨t1, p1⟩ := encode_good f s h fun l hl => hr l (by simp [Form.atoms, hl])
    obtain ⟨t2, p2⟩ := encode_good g _ t1.inv fun l hl =>
      Nat.lt_of_lt_of_le (hr l (by simp [Form.atoms, hl])) t1.ref.1
    have ha := Nat.lt_of_lt_of_le t1.lt t2.ref.1
    refine ⟨.of_trans (EncL.Extends.trans t1.ref.1 t1.ext t2.ext) (t1.ref.trans t2.ref)
      (EncL.eq_defines t2.inv ha t2.lt) fun α hα => ?_, fun hp => ?_⟩
    · have h2 := (EncL.eq_defines t2.inv ha t2.lt).ref.2 α hα
      show (α.lit _ == α.lit _) = (f.eval α.lit == g.eval α.lit)
      rw [t1.sem α (t2.ref.2 α h2), t2.sem α h2]
    · have q1 := p1 hp
      have q2 := p2 q1.pinv
      have e := eq_p q2.pinv ha t2.lt
      refine .of_trans (q1.mono.trans q2.mono) e fun ρ hρ hd => ?_
      have hρ2 := BcpFix.mono e.mono hρ
      have ea := q1.sem ρ (BcpFix.mono q2.mono hρ2) fun l hl => hd l (by simp [Form.atoms, hl])
      have eb := q2.sem ρ hρ2 fun l hl => hd l (by simp [Form.atoms, hl])
      refine ⟨⟨by rw [ea]; nofun, by rw [eb]; nofun⟩, ?_⟩
      show (val ρ _ == val ρ _) = (f.eval (val ρ) == g.eval (val ρ))
      rw [val_of_some ea, val_of_some eb]
theorem encodeL_good : ∀ (fs : List Form) (s : Enc), s.Inv → (∀ l ∈ Form.atomsL fs, l.var < s.nvars) →
    EncodesL s fs (Form.encodeL fs s)
  | [], s, h, _ =>
    ⟨h, nofun, EncL.Extends.refl s, EncL.Refines.refl s, fun _ _ => rfl,
      fun hp => ⟨Mono.refl s, hp, fun _ _ _ => rfl⟩⟩
  | f :: fs, s, h, hr => by
    obtain ⟨t, p⟩ := encode_good f s h fun l hl => hr l (by simp [Form.atomsL, hl])
    have L := encodeL_good fs _ t.inv fun l hl =>
      Nat.lt_of_lt_of_le (hr l (by simp [Form.atomsL, hl])) t.ref.1
    refine ⟨L.inv, fun l hl => ?_, EncL.Extends.trans t.ref.1 t.ext L.ext, t.ref.trans L.ref,
      fun α hα => ?_, fun hp => ?_⟩
    · rcases List.mem_cons.1 hl with rfl | hl
      · exact Nat.lt_of_lt_of_le t.lt L.ref.1
      · exact L.range l hl
    · show α.lit (f.encode s).1 :: (Form.encodeL fs (f.encode s).2).1.map α.lit = f.eval α.lit :: fs.map (Form.eval α.lit)
      rw [t.sem α (L.ref.2 α hα), L.sem α hα]
    · obtain ⟨m, q, hs⟩ := L.part (p hp).pinv
      refine ⟨(p hp).mono.trans m, q, fun ρ hρ hd => ?_⟩
      show plit ρ (f.encode s).1 :: (Form.encodeL fs (f.encode s).2).1.map (plit ρ) =
        some (f.eval (val ρ)) :: fs.map (fun f => some (f.eval (val ρ)))
      rw [(p hp).sem ρ (BcpFix.mono m hρ) (fun l hl => hd l (by simp [Form.atomsL, hl])),
        hs ρ hρ (fun l hl => hd l (by simp [Form.atomsL, hl]))]
end

theorem encodeL_total (fs : List Form) (s : Enc) (h : s.Inv) (hr : ∀ l ∈ Form.atomsL fs, l.var < s.nvars) :
    (Form.encodeL fs s).2.Inv ∧ InRange (Form.encodeL fs s).2 (Form.encodeL fs s).1 ∧
    s.Extends (Form.encodeL fs s).2 ∧ s.Refines (Form.encodeL fs s).2 ∧
    ∀ α, Enc.Sat α (Form.encodeL fs s).2 → (Form.encodeL fs s).1.map α.lit = fs.map (Form.eval α.lit) :=
  have L := encodeL_good fs s h hr
  ⟨L.inv, L.range, L.ext, L.ref, L.sem⟩

end C01L

/-- total models: the literal of a constraint has the constraint's truth value -/
theorem C01_encoding_total (n : Nat) (f : Form) (hr : ∀ l ∈ f.atoms, l.var < n + 1) :
    let r := f.encode (Enc.fresh n)
    r.2.Inv ∧ r.1.var < r.2.nvars ∧ (Enc.fresh n).Extends r.2 ∧
    ∀ α, Enc.Sat α r.2 → α.lit r.1 = f.eval α.lit := by
  have hr' : ∀ l ∈ f.atoms, l.var < (Enc.fresh n).nvars := by rw [C01L.fresh_nvars]; exact hr
  have g := (C01L.encode_good f (Enc.fresh n) (C01L.fresh_inv n) hr').1
  exact ⟨g.inv, g.lt, g.ext, g.sem⟩

/-- partial assignments at the propagation fixpoint: once the atoms are decided, the constraint's
    literal is decided and has the constraint's truth value under the atoms' values -/
theorem C01_tseitin_decided_sound (n : Nat) (f : Form) (hr : ∀ l ∈ f.atoms, l.var < n + 1) (ρ : PAsg)
    (hfix : BcpFix ρ (f.encode (Enc.fresh n)).2) (hdec : ∀ l ∈ f.atoms, ρ.lit l ≠ none) :
    ρ.lit (f.encode (Enc.fresh n)).1 = some (f.eval (fun l => (ρ.lit l).getD false)) := by
  have hr' : ∀ l ∈ f.atoms, l.var < (Enc.fresh n).nvars := by rw [C01L.fresh_nvars]; exact hr
  exact ((C01L.encode_good f (Enc.fresh n) (C01L.fresh_inv n) hr').2 (C01L.fresh_pinv n)).sem ρ hfix hdec

/-- hence: an ASSERTED constraint (its literal true) whose atoms are decided is true -/
theorem C01_asserted_constraint_holds (n : Nat) (f : Form) (hr : ∀ l ∈ f.atoms, l.var < n + 1) (ρ : PAsg)
    (hfix : BcpFix ρ (f.encode (Enc.fresh n)).2) (hdec : ∀ l ∈ f.atoms, ρ.lit l ≠ none)
    (hass : ρ.lit (f.encode (Enc.fresh n)).1 = some true) :
    f.eval (fun l => (ρ.lit l).getD false) = true := by
  have h := C01_tseitin_decided_sound n f hr ρ hfix hdec
  rw [hass] at h
  exact (Option.some.inj h).symm

/-- the same for a list of constraints posted one after the other into the same network (shared
    sub-formulas are fetched from the cache) -/
theorem C01_all_asserted_constraints_hold (n : Nat) (fs : List Form) (hr : ∀ l ∈ Form.atomsL fs, l.var < n + 1) (ρ : PAsg)
    (hfix : BcpFix ρ (Form.encodeL fs (Enc.fresh n)).2) (hdec : ∀ l ∈ Form.atomsL fs, ρ.lit l ≠ none)
    (hass : ∀ l ∈ (Form.encodeL fs (Enc.fresh n)).1, ρ.lit l = some true) :
    ∀ f ∈ fs, f.eval (fun l => (ρ.lit l).getD false) = true := by
  have hr' : ∀ l ∈ Form.atomsL fs, l.var < (Enc.fresh n).nvars := by rw [C01L.fresh_nvars]; exact hr
  have hm : (Form.encodeL fs (Enc.fresh n)).1.map (FormL.plit ρ) =
      fs.map (fun f => some (f.eval (FormL.val ρ))) :=
    ((C01L.encodeL_good fs (Enc.fresh n) (C01L.fresh_inv n) hr').part (C01L.fresh_pinv n)).2.2 ρ hfix hdec
  intro f hf
  have hmem : some (f.eval (FormL.val ρ)) ∈ (Form.encodeL fs (Enc.fresh n)).1.map (FormL.plit ρ) := by
    rw [hm]; exact List.mem_map.2 ⟨f, hf, rfl⟩
  obtain ⟨l, hl, hl2⟩ := List.mem_map.1 hmem
  have h1 : FormL.plit ρ l = some true := hass l hl
  rw [h1] at hl2
  exact (Option.some.inj hl2).symm

/-- why undecided atoms matter (the recorded finding): after encoding `¬(a ∧ b)` the state with
    nothing decided is a propagation fixpoint: no clause forces a value on `a` or `b` -/
example : ∃ ρ : PAsg, BcpFix ρ ((Form.not (.and [.atom ⟨1, true⟩, .atom ⟨2, true⟩])).encode (Enc.fresh 2)).2 ∧
    ρ 1 = none ∧ ρ 2 = none := by
  have hs : ((Form.not (.and [.atom ⟨1, true⟩, .atom ⟨2, true⟩])).encode (Enc.fresh 2)).2 =
      ⟨[some false, none, none, none],
       [[⟨1, true⟩, ⟨3, false⟩], [⟨2, true⟩, ⟨3, false⟩], [⟨1, false⟩, ⟨2, false⟩, ⟨3, true⟩]],
       [(.conj [⟨1, true⟩, ⟨2, true⟩], ⟨3, true⟩)]⟩ := by rfl
  rw [hs]
  refine ⟨fun v => if v = 0 then some false else none, ⟨rfl, ?_, ?_⟩, rfl, rfl⟩
  · intro v b hv
    match v, hv with
    | 0, hv => exact hv
    | 1, hv => cases hv
    | 2, hv => cases hv
    | 3, hv => cases hv
    | _ + 4, hv => cases hv
  · intro c hc
    simp only [List.mem_cons, List.not_mem_nil, or_false] at hc
    rcases hc with rfl | rfl | rfl
    · exact Or.inr ⟨⟨1, true⟩, by simp, ⟨3, false⟩, by simp, by decide, rfl, rfl⟩
    · exact Or.inr ⟨⟨2, true⟩, by simp, ⟨3, false⟩, by simp, by decide, rfl, rfl⟩
    · exact Or.inr ⟨⟨1, false⟩, by simp, ⟨2, false⟩, by simp, by decide, rfl, rfl⟩

end Oratio
