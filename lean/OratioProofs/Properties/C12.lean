/-
Property C12 — difference-logic relation literals and expression queries mean what they say.

`Dl.newRel` transcribes the twenty sign / arity branches of `new_lt … new_gt` (one text for
idl_theory and rdl_theory), `Dl.boundsLin / distanceLin / equatesLin` the expression queries.
`relOut` (Lemmas/DlRelDefs.lean) is the specification-side reading of a request: which difference constraints the
relation between two linear expressions amounts to.  The theorems say (i) `newRel` posts exactly
those constraints through `new_distance` (for BOTH instances), (ii) over the integers those
constraints hold exactly when the relation holds, for either sign and order of the variables,
one- and two-variable forms, strict and non-strict relations, (iii) the expression queries are
the exact image of the variable-level distances.  The semantic part (ii)/(iii) is proved here for
the integer instance and in C12Rdl.lean for the real one, from the same lemmas (Lemmas/DlRel.lean).
-/
import OratioModel
import OratioProofs.Lemmas.DlRel

namespace Oratio
open Dl

/-- (i) `newRel` does what `relOut` says, through `new_distance` (and `new_conj` for equality,
    after the pre-check against the current distance of the pair); `invalid` = the C++ throws -/
theorem C12_newRel_refines {α : Type} (O : DOps α) (nc : Sat → List Lit → Lit × Sat) (s : Sat) (t : Dl α)
    (r : Rel) (left right : Lin) :
    newRel O nc s t r left right =
      (match relOut O r left right with
       | .const b => some (if b then Lit.trueLit else Lit.falseLit, s, t)
       | .one src dst w => some (newDistance O s t src dst w)
       | .two s1 d1 w1 s2 d2 w2 =>
         if O.le (distance O t s1 d1).1 w1 && O.le w1 (distance O t s1 d1).2 then
           let (l1, sa, ta) := newDistance O s t s1 d1 w1
           let (l2, sb, tb) := newDistance O sa ta s2 d2 w2
           let (l, sc) := nc sb [l1, l2]
           some (l, sc, tb)
         else some (Lit.falseLit, s, t)
       | .invalid => none) := by
  unfold newRel relOut
  generalize Lin.sub left right = e
  obtain ⟨vars, known⟩ := e
  -- in the one- and two-variable arms each side is a function of the weight(s) `O.mkB _ _`
  match vars with
  | [] => rfl
  | [(x, c)] =>
    dsimp only
    cases R.lt c R.zero <;> cases r <;> simp +decide only [↓reduceIte]
    case false.eq | true.eq => generalize O.mkB _ _ = m; generalize O.mkB _ _ = m'; cases m <;> cases m' <;> rfl
    all_goals generalize O.mkB _ _ = m; cases m <;> rfl
  | [(v0, c0), (v1, c1)] =>
    dsimp only
    split
    · rfl
    cases R.lt c0 R.zero <;> cases r <;> simp +decide only [↓reduceIte]
    case false.eq | true.eq => generalize O.mkB _ _ = m; generalize O.mkB _ _ = m'; cases m <;> cases m' <;> rfl
    all_goals generalize O.mkB _ _ = m; cases m <;> rfl
  | _ :: _ :: _ :: _ => rfl

/-! ## (ii) integer semantics -/

/-- the relation between two linear expressions holds exactly when the constraints of its
    normal form hold — for every integer valuation with the origin at 0, for all five relations,
    any non-zero coefficients, either variable order, one- and two-variable forms; and a request
    is rejected only when the expressions are not an integer difference -/
theorem C12_idl_relation_meaning (r : Rel) (left right : Lin) (hl : left.WF) (hr : right.WF)
    (σ : Nat → Int) (h0 : σ 0 = 0) :
    match relOut idlOps r left right with
    | .const b => (b = true ↔ relHolds r (Lin.evalI left σ) (Lin.evalI right σ))
    | .one src dst w => (edgeHolds σ src dst w ↔ relHolds r (Lin.evalI left σ) (Lin.evalI right σ))
    | .two s1 d1 w1 s2 d2 w2 => ((edgeHolds σ s1 d1 w1 ∧ edgeHolds σ s2 d2 w2) ↔ relHolds r (Lin.evalI left σ) (Lin.evalI right σ))
    | .invalid => True := by
  by_cases hnz : ∀ x c, (Lin.sub left right).vars = [(x, c)] → c.num ≠ 0
  · have h := DlRel.relOut_means (DlRel.idl_reads σ) (by rw [h0]; rfl) r left right hl hr hnz
    revert h
    cases relOut idlOps r left right <;> exact id
  · push Not at hnz
    obtain ⟨x, c, hv, hc⟩ := hnz
    rw [DlRel.relOut_idl_zero r hl hr hv hc]
    trivial

/-- what is rejected: the difference has more than two variables, two variables whose
    coefficients are not opposite, or a constant that is not an integer multiple of the
    coefficient -/
theorem C12_idl_invalid_iff (r : Rel) (left right : Lin) (hl : left.WF) (hr : right.WF) :
    (∃ x, relOut idlOps r left right = x ∧ (match x with | .invalid => True | _ => False)) ↔
      (let e := Lin.sub left right
       match e.vars with
       | [] => False
       | [(_, c)] => (R.div e.known c).den ≠ 1
       | [(_, c0), (_, c1)] => R.ne (R.div c1 c0) (R.neg R.one) = true ∨ (R.div e.known c0).den ≠ 1
       | _ => True) := by
  rw [exists_eq_left']
  refine Iff.trans (by cases relOut idlOps r left right <;> simp)
    ((DlRel.relOut_invalid_iff DlRel.idl_mkB_none (fun _ => Iff.rfl) r left right hl hr).trans ?_)
  generalize Lin.sub left right = e
  rcases e with ⟨_ | ⟨⟨x, c⟩, _ | ⟨⟨y, d⟩, _ | _⟩⟩, known⟩ <;> exact Iff.rfl

/-! ## (iii) expression queries -/

/-- `bounds(c·x + k)` and `bounds(c·(x − y) + k)` contain the value of the expression in every
    valuation that respects the variable-level distances, for either sign of `c` (enclosure only;
    the closed form of the two ends is `C12_idl_bounds_lin_image`).  `hfin` is not used. -/
theorem C12_idl_bounds_lin_sound (t : Dl Int) (l : Lin) (hl : l.WF) (lo hi : Int)
    (hb : boundsLin idlOps t l = some (lo, hi))
    (hfin : ∀ v ∈ l.vars.map (·.1), ∀ u ∈ (0 :: l.vars.map (·.1)), Dl.d idlOps t v u ≠ idlInf ∧ Dl.d idlOps t u v ≠ idlInf)
    (σ : Nat → Int) (h0 : σ 0 = 0)
    (hσ : ∀ v ∈ (0 :: l.vars.map (·.1)), ∀ u ∈ (0 :: l.vars.map (·.1)), σ u - σ v ≤ Dl.d idlOps t v u) :
    (lo : Rat) ≤ Lin.evalI l σ ∧ Lin.evalI l σ ≤ (hi : Rat) := by
  have _ := hfin
  rw [DlRel.boundsLin_eq_shape] at hb
  cases hs : DlRel.exprShape l with
  | const k =>
    obtain rfl := DlRel.exprShape_const hs
    simp only [hs] at hb
    split at hb
    · rename_i hv
      cases hb
      rw [show Lin.evalI ⟨[], k⟩ σ = k.toRat by simp [Lin.evalI],
        R.toRat_den_one ((DlRel.idl_valid k).1 hv), DlRel.idl_addK, DlRel.idl_zero, Int.zero_add]
      exact ⟨le_refl _, le_refl _⟩
    · cases hb
  | diff a b c k =>
    obtain ⟨hc, hk, -⟩ := DlRel.exprShape_diff hl hs
    obtain ⟨ha, hb'⟩ := DlRel.exprShape_diff_mem hl hs
    simp only [hs] at hb
    split at hb
    · rename_i hv
      rw [Bool.and_eq_true, DlRel.idl_valid, DlRel.idl_valid] at hv
      have ev : Lin.evalI l σ = (((σ a - σ b) * c.num + k.num : Int) : Rat) := by
        show Lin.eval l (fun v => (σ v : Rat)) = _
        rw [DlRel.exprShape_diff_eval hl hs _ (by rw [h0]; rfl), R.toRat_den_one hv.1,
          R.toRat_den_one hv.2]
        push_cast
        ring
      have h1 : -(Dl.d idlOps t a b) ≤ σ a - σ b := by rw [neg_le, neg_sub]; exact hσ a ha b hb'
      have hm := DlRel.affine_mono (c := c.num) k.num h1 (hσ b hb' a ha)
      rw [ev, Int.cast_le, Int.cast_le]
      injection hb with hb
      split at hb
      · rename_i hp
        cases hb
        exact hm.1 (le_of_lt (of_decide_eq_true hp))
      · rename_i hp
        cases hb
        exact hm.2 (not_lt.1 fun h => hp (decide_eq_true h))
    · cases hb
  | other =>
    simp only [hs] at hb
    cases hb

theorem C12_idl_bounds_lin_image (t : Dl Int) (x : Nat) (c k : Int) (hc : c ≠ 0) :
    boundsLin idlOps t ⟨[(x, R.ofInt c)], R.ofInt k⟩ =
      some (if c > 0 then (c * Dl.lb idlOps t x + k, c * Dl.ub idlOps t x + k) else (c * Dl.ub idlOps t x + k, c * Dl.lb idlOps t x + k)) ∧
    (∀ y, x < y → boundsLin idlOps t ⟨[(x, R.ofInt c), (y, R.ofInt (-c))], R.ofInt k⟩ =
      some (if c > 0 then (c * (Dl.distance idlOps t y x).1 + k, c * (Dl.distance idlOps t y x).2 + k)
            else (c * (Dl.distance idlOps t y x).2 + k, c * (Dl.distance idlOps t y x).1 + k))) := by
  refine ⟨DlRel.boundsLin_idl_diff t rfl, fun y hxy => DlRel.boundsLin_idl_diff t ?_⟩
  rw [DlRel.exprShape_two (Nat.ne_of_lt hxy), DlRel.div_negOne c hc]
  rfl

/-- `distance(from, to)` is `bounds(to − from)`; `equates(l0, l1)` holds exactly when 0 lies
    within `bounds(l0 − l1)` (one-variable operands) -/
theorem C12_distance_equates_agree {α : Type} (O : DOps α) (t : Dl α) (a b : Lin) :
    distanceLin O t a b = boundsLin O t (Lin.sub b a) ∧
    (∀ x c k y d m, a = ⟨[(x, c)], k⟩ → b = ⟨[(y, d)], m⟩ →
      equatesLin O t a b = (boundsLin O t (Lin.sub a b)).map (fun p => O.leZero p.1 && O.geZero p.2)) := by
  refine ⟨rfl, ?_⟩
  intro x c k y d m ha hb
  subst ha hb
  rfl

/-! ## non-vacuity -/
example : (match relOut idlOps .gt ⟨[(1, R.one)], R.zero⟩ ⟨[(2, R.one)], R.ofInt 2⟩ with | .one 1 2 (-3) => True | _ => False) := by
  rw [show relOut idlOps .gt ⟨[(1, R.one)], R.zero⟩ ⟨[(2, R.one)], R.ofInt 2⟩ = .one 1 2 (-3) from rfl]
  trivial

end Oratio
