/-
Property C07N — the combined constraint network (SAT core + LRA + IDL + RDL, OratioModel/Net/Net.lean)
only infers what is entailed MODULO THE THEORIES.

Vocabulary (Lemmas/NetSoundDefs.lean, spelled out by the `C07N_*_def` theorems): `Net.TModel n α` - α agrees, on every
registered atom of `n`, with a solution of the LRA tableau, an integer valuation of the IDL time points and an ε-rational
one of the RDL time points; `Net.TEntails n F c` - every α with `α 0 = false`, `α ⊨ F`, `TModel n α` satisfies `c`;
`Net.NetSound n orig` - stored clauses, logged clauses (learnt + theory lemmas) and trail literals are T-entailed by the
added clauses `orig` (+ decisions), and `dead` ⇒ T-unsat; `Net.ThInv n orig fr` - the invariants of the three theories
(C09X, C10X, C10XR) with `LraJ` (below) and the ghost list `fr` of the states at the standing `push`es.

The theorems that stand for C07N:
  1. Theory calls, `C07N_theory_conflict_valid` (`theoryPropagate`) and `C07N_check_conflict_valid` (`lra.check`): the
     conflict clause is T-entailed by `orig` and false, every clause recorded is T-entailed, `ThInv` is kept (as it is by
     further assignments, `push`, `pop`, `popTo`: `C07N_thinv_*`).
  2. Conflict analysis, `C07N_learn_inv`: the step `Net.propagate` takes.  `C07N_learnFrom_sound` states it over C07's
     strong `Sat.Wf` (`SatInv`), which the network does NOT keep (`C07N_lra_not_pure`).
  3. `C07N_propagate_sound`: `Net.propagate` keeps `NetInv` (SAT side over the weak `Sat.WfS`), the result is `NetSound`,
     the answer `false` is given at root level only and implies `TUnsat`.  Derived, not assumed: the theories change the
     SAT core by recording well-shaped clauses only (`C07N_theory_records_good`), and a conflict clause of
     `theoryPropagate` contains `¬p`, `p` the propagated literal, which is of the current level.
  4. Histories: one call keeps the invariant (`C07N_step_sound`), so after any history of `NetOp`s from `Net.init`, or from
     any network satisfying the invariant, the network is sound (`C07N_all_histories`, `C07N_all_histories_init`).
     `NetOp` (Lemmas/NetHistory.lean): the SAT calls and reified constructors, `propagate` / `assume` / `pop` / `next` / `bj`,
     the constructors and relation requests of IDL, RDL and LRA, whether or not an LRA request creates a slack variable
     and its tableau row; per operation `C07N_constructors_sound`, `C07N_bj_sound`, `C07N_dl_relations_sound`,
     `C07N_lra_requests_sound`, `C07N_newSlack_sound`, `C07N_lraNewEq_sound`.  `check(lits)` is not a `NetOp`: see
     Properties/C07NetCheck.lean; histories may go on after it.

Assumed of a history (the hypotheses of `C07N_all_histories`):
  * `NetRun.guards`: `ConflictsCurrent` for the `lra.check` branch of every `propagate` (see NOT PROVED at the end of this
    file).  It holds of itself while the tableau has no rows (`C07N_noRows`), hence along histories in which no LRA request
    creates a slack variable (`C07N_all_histories_init_noGuard`); on a concrete run it is established by evaluation
    (`C07N_conflictsCurrent_check`).
  * `NetRun.rooms`: the numeric preconditions of the constructors (the no-overflow room of C10 for IDL, finite weights with
    integer ε part for RDL, canonical expressions over existing variables, `Lra.LinOK`, for LRA) and, for `bj cnfl`, that
    the clause is T-entailed by `orig` and all its literals are false.

Why 1. says `TEntails n' orig cnfl` and not `TEntails n' [] cnfl` (a pure theory lemma).  For IDL / RDL the latter is proved
(`C07N_dl_conflict_pure`); for LRA it is FALSE (`C07N_lra_not_pure`): a slack variable created at root level gets the bounds
`lb(lin)`, `ub(lin)` with reason TRUE, computed from bounds whose reasons are root-level literals, and an explanation using
such a bound cites `¬TRUE` instead of those literals.  Hence the invariant `LraJ` (every bound holds in every T-consistent
model of the ghost set that makes its reason true).  Root-level literals are consequences of `orig ++ L` (`L` the recorded
lemmas, possibly of IDL / RDL), not of `orig` modulo LRA alone, so `NetInv` carries the theory invariants relative to
`orig ++ L`; every lemma being T-entailed by `orig`, T-entailment from `orig ++ L` is T-entailment from `orig`
(`C07N_tentails_cut`), and 1.-4. speak of `orig` only.
-/
import OratioModel
import OratioProofs.Lemmas.NetSatInv
import OratioProofs.Properties.C07
import OratioProofs.Lemmas.NetSoundExample
import OratioProofs.Lemmas.NetSoundCex
import OratioProofs.Lemmas.NetHistoryEx1
import OratioProofs.Lemmas.NetHistoryEx2
import OratioProofs.Lemmas.NetHistoryEx3

namespace Oratio
open Net

/-! ## the vocabulary, spelled out -/

theorem C07N_tmodel_def (n : Net) (α : Asg) :
    TModel n α ↔ ∃ (σr σi : Nat → Rat) (σz : Nat → Int) (σq : Nat → QV),
      Lra.Solves n.lra σr σi ∧ Lra.AsrtAgrees α σr σi n.lra ∧
      (∀ c ∈ n.idl.varDists, (α c.b = true → σz c.dst - σz c.src ≤ c.dist) ∧
                              (α c.b = false → σz c.src - σz c.dst ≤ -c.dist - 1)) ∧
      (∀ c ∈ n.rdl.varDists, (α c.b = true → σq c.dst - σq c.src ≤ IR.val c.dist) ∧
                              (α c.b = false → σq c.src - σq c.dst ≤ -IR.val c.dist - QV.eps)) := Iff.rfl

theorem C07N_tentails_def (n : Net) (F : Cnf) (c : Clause) :
    (TEntails n F c ↔ ∀ α : Asg, α 0 = false → α.cnf F = true → TModel n α → α.clause c = true) ∧
    (TUnsat n F ↔ ∀ α : Asg, α 0 = false → TModel n α → α.cnf F = false) := ⟨Iff.rfl, Iff.rfl⟩

theorem C07N_netSound_def (n : Net) (orig : Cnf) :
    NetSound n orig ↔
      (∀ e ∈ n.sat.cls, TEntails n orig e.2) ∧ (∀ c ∈ n.sat.log, TEntails n orig c) ∧
      (∀ l ∈ n.sat.trail, TEntails n (orig ++ unitsOf n.sat.decisions) [l]) ∧
      (n.sat.dead = true → TUnsat n orig) :=
  ⟨fun h => ⟨h.clauses, h.log, h.trail, h.dead⟩, fun ⟨a, b, c, d⟩ => ⟨a, b, c, d⟩⟩

/-- `LraJ`: every bound holds of every solution that agrees, on the assertion literals, with a model
    of the added clauses making the reason of the bound true -/
theorem C07N_lraJ_def (orig : Cnf) (t : Lra) :
    LraJ orig t ↔ ∀ (α : Asg) (σr σi : Nat → Rat), α 0 = false → α.cnf orig = true →
      Lra.Solves t σr σi → Lra.AsrtAgrees α σr σi t → Lra.BoundsJust α σr σi t := Iff.rfl

/-- `ThInv`: the invariants now (`ThBase`), and for the newest standing `push` - ghost frame `f` - the
    current theories were reached from the pushed `f` inside the level (so that `pop` gives `f` back:
    `C09PopInv`, `Undo.Lg`; the LRA tableau may have been pivoted: same solutions, same assertions),
    the SAT core kept the values it had, and the invariant held of `f` with the older frames -/
theorem C07N_thInv_def (n : Net) (orig : Cnf) (f : Frame) (fs : List Frame) :
    (ThInv n orig [] ↔ ThBase orig n.sat n.lra n.idl n.rdl) ∧
    (ThInv n orig (f :: fs) ↔
      ThBase orig n.sat n.lra n.idl n.rdl ∧ Lra.C09PopInv f.lra n.lra ∧ LraSame f.lra n.lra ∧
      Undo.Lg idlOps f.idl n.idl ∧ Undo.Lg rdlOps f.rdl n.rdl ∧ Dl.SatLe f.sat n.sat ∧
      ThInv ⟨f.sat, f.lra, f.idl, f.rdl, n.bound⟩ orig fs) := ⟨Iff.rfl, Iff.rfl⟩

theorem C07N_thBase_def (orig : Cnf) (s : Sat) (l : Lra) (i : Dl Int) (r : Dl IR) :
    ThBase orig s l i r ↔
      (Lra.ExplInv l ∧ Lra.ValsOK l ∧ Lra.AsrtKey l ∧ Lra.AsrtVars l ∧ LraJ orig l ∧ Lra.ReasonsTrue s l) ∧
      ((∃ K E, i.Exact K E ∧ Dl.ConstrsOk K i) ∧ Dl.PathInv s i ∧ Undo.SortedK i.distConstr) ∧
      ((∃ E, r.ExactR E) ∧ DlR.ConstrsOkR r ∧ DlR.PathInvR s r ∧ Undo.SortedK r.distConstr ∧ Dl.EpsInt r ∧
        ∀ c ∈ r.varDists, c.dist.inf.den = 1) :=
  ⟨fun h => ⟨⟨h.lra.inv, h.lra.vals, h.lra.key, h.lra.vars, h.lra.just, h.lra.reasons⟩,
      ⟨h.idl.exact, h.idl.path, h.idl.sorted⟩,
      ⟨h.rdl.exact, h.rdl.ok, h.rdl.path, h.rdl.sorted, h.rdl.eps, h.rdl.epsC⟩⟩,
    fun ⟨⟨a1, a2, a3, a4, a5, a6⟩, ⟨b1, b2, b3⟩, ⟨c1, c2, c3, c4, c5, c6⟩⟩ =>
      ⟨⟨a1, a2, a3, a4, a5, a6⟩, ⟨b1, b2, b3⟩, ⟨c1, c2, c3, c4, c5, c6⟩⟩⟩

theorem C07N_satInv_def (n : Net) (orig L : Cnf) :
    SatInv n orig L ↔ n.sat.Wf ∧ n.sat.Ent (orig ++ L) orig ∧ ∀ c ∈ L, TEntails n orig c :=
  ⟨fun h => ⟨h.wf, h.ent, h.lemmas⟩, fun ⟨a, b, c⟩ => ⟨a, b, c⟩⟩

/-! ## 1. the theory calls -/

/-- **`theoryPropagate`** (`th->propagate(p)` for the theory bound to the variable of `p`: LRA, IDL or
    RDL) for a literal `p` that is true in the SAT core: the theory invariants are kept (same ghost
    frames), the SAT core only gains values, the T-models are the same, every clause of the new SAT
    log that was not in the old one is T-entailed by the added clauses, and a returned conflict
    clause is T-entailed by the added clauses and has all its literals false. -/
theorem C07N_theory_conflict_valid (n : Net) (orig : Cnf) (fr : List Frame) (h : ThInv n orig fr) (p : Lit)
    (hp : n.sat.value p = some true) :
    ThInv (theoryPropagate n p).2 orig fr ∧ Dl.SatLe n.sat (theoryPropagate n p).2.sat ∧
    (∀ α, TModel (theoryPropagate n p).2 α ↔ TModel n α) ∧
    (∀ c ∈ (theoryPropagate n p).2.sat.log, c ∈ n.sat.log ∨ TEntails (theoryPropagate n p).2 orig c) ∧
    (∀ cnfl, (theoryPropagate n p).1 = some cnfl →
      TEntails (theoryPropagate n p).2 orig cnfl ∧ ∀ l ∈ cnfl, (theoryPropagate n p).2.sat.value l = some false) :=
  theoryPropagate_spec h p hp

/-- for the difference-logic theories the conflict clause and the recorded clauses are PURE theory
    lemmas: T-entailed by the empty clause set -/
theorem C07N_dl_conflict_pure (n : Net) (orig : Cnf) (fr : List Frame) (h : ThInv n orig fr) (p : Lit)
    (hp : n.sat.value p = some true) :
    (∀ cl, Dl.propagateLit idlOps n.sat n.idl p = .inl cl → TEntails n [] cl) ∧
    (∀ cl, Dl.propagateLit rdlOps n.sat n.rdl p = .inl cl → TEntails n [] cl) ∧
    (∀ s' t', Dl.propagateLit idlOps n.sat n.idl p = .inr (s', t') →
      ∃ new, s'.log = n.sat.log ++ new ∧ ∀ c ∈ new, TEntails n [] c) ∧
    (∀ s' t', Dl.propagateLit rdlOps n.sat n.rdl p = .inr (s', t') →
      ∃ new, s'.log = n.sat.log ++ new ∧ ∀ c ∈ new, TEntails n [] c) := by
  have hi := idl_propagate h.base.idl p hp
  have hr := rdl_propagate h.base.rdl p hp
  refine ⟨fun cl hc => ?_, fun cl hc => ?_, fun s' t' hc => ?_, fun s' t' hc => ?_⟩
  · rw [hc] at hi
    exact fun α _ _ ⟨_, _, σz, _, _, _, m, _⟩ => hi.2 σz α m
  · rw [hc] at hr
    exact fun α _ _ ⟨_, _, _, σq, _, _, _, m⟩ => hr.2 σq α m
  · rw [hc] at hi
    obtain ⟨_, _, _, _, new, e, v⟩ := hi
    exact ⟨new, e, fun c hc' α _ _ ⟨_, _, σz, _, _, _, m, _⟩ => v c hc' σz α m⟩
  · rw [hc] at hr
    obtain ⟨_, _, _, _, new, e, v⟩ := hr
    exact ⟨new, e, fun c hc' α _ _ ⟨_, _, _, σq, _, _, _, m⟩ => v c hc' σq α m⟩

/-- **`lra.check`** (the simplex, run when the queue is exhausted): the theory invariants are kept,
    the T-models are the same, and a conflict clause is T-entailed by the added clauses and has all
    its literals false -/
theorem C07N_check_conflict_valid (n : Net) (orig : Cnf) (fr : List Frame) (h : ThInv n orig fr) (fuel : Nat)
    (c : Option (List Lit)) (t' : Lra) (hc : n.lra.check fuel = some (c, t')) :
    ThInv { n with lra := t' } orig fr ∧ (∀ α, TModel { n with lra := t' } α ↔ TModel n α) ∧
    ∀ cnfl, c = some cnfl → TEntails { n with lra := t' } orig cnfl ∧ ∀ l ∈ cnfl, n.sat.value l = some false :=
  lraCheck_spec h hc

/-- `ThInv` is kept when the SAT core assigns more variables (whatever else it changes) -/
theorem C07N_thinv_assign (n : Net) (orig : Cnf) (fr : List Frame) (h : ThInv n orig fr) (s' : Sat)
    (hs : Dl.SatLe n.sat s') : ThInv { n with sat := s' } orig fr := h.assign s' hs

/-- ... by the `push` of every theory inside `assume` (the new ghost frame is the network before) ... -/
theorem C07N_thinv_push (n : Net) (orig : Cnf) (fr : List Frame) (h : ThInv n orig fr) (s' : Sat)
    (hs : Dl.SatLe n.sat s') :
    ThInv { n with sat := s', lra := n.lra.push, idl := n.idl.push, rdl := n.rdl.push } orig
      (⟨n.sat, n.lra, n.idl, n.rdl⟩ :: fr) := h.push s' hs

/-- ... by `Net.pop` (the IDL / RDL theories are EXACTLY those of the frame, the LRA theory has its
    bounds and a pivoted tableau with the same solutions) ... -/
theorem C07N_thinv_pop (n : Net) (orig : Cnf) (f : Frame) (fr : List Frame) (h : ThInv n orig (f :: fr))
    (hs : Dl.SatLe f.sat n.sat.pop) :
    ThInv n.pop orig fr ∧ n.pop.idl = f.idl ∧ n.pop.rdl = f.rdl ∧ n.pop.lra.bounds = f.lra.bounds :=
  ⟨h.pop hs, Undo.pop_of_Lg idlOps h.2.2.2.1, Undo.pop_of_Lg rdlOps h.2.2.2.2.1, (Lra.pop_restores h.2.1).1⟩

/-- ... and by `Net.popTo`; `FramesLe s fr`: every frame's SAT state keeps its values when the SAT
    core pops back to the level it opened -/
theorem C07N_thinv_popTo (n : Net) (orig : Cnf) (fr : List Frame) (h : ThInv n orig fr) (hf : FramesLe n.sat fr)
    (hl : fr.length = n.sat.decisionLevel) (lvl : Nat) :
    ∃ fr', ThInv (popTo n lvl) orig fr' ∧ FramesLe (popTo n lvl).sat fr' ∧
      fr'.length = (popTo n lvl).sat.decisionLevel := h.popTo hf hl lvl

theorem C07N_framesLe_def (s : Sat) (f : Frame) (fs : List Frame) :
    FramesLe s [] ∧ (FramesLe s (f :: fs) ↔ Dl.SatLe f.sat s.pop ∧ FramesLe s.pop fs) := ⟨trivial, Iff.rfl⟩

/-- backtracking and theory calls do not change the T-models (the registries are not touched and
    the tableau keeps its solutions), so T-entailments survive them -/
theorem C07N_tmodel_stable (n : Net) (lvl : Nat) (α : Asg) :
    (TModel n.pop α ↔ TModel n α) ∧ (TModel (popTo n lvl) α ↔ TModel n α) :=
  ⟨TModel.pop n α, TModel.popTo n lvl α⟩

/-! ## 2. conflict analysis -/

/-- `SatInv` gives `NetSound`: entailment from `orig ++ L` is T-entailment from `orig` -/
theorem C07N_netSound_of_satInv (n : Net) (orig L : Cnf) (h : SatInv n orig L) : NetSound n orig := h.sound

/-- **`learnFrom` is sound.**  `cnfl` T-entailed by the added clauses (e.g. a conflict clause of
    `C07N_theory_conflict_valid` / `C07N_check_conflict_valid`, or a stored clause), all its literals
    false on the trail, one of them of the current decision level, which is not 0; empty queue (as
    at the three call sites in `Net.propagate`).  Then `learnFrom` records exactly one clause, the
    no-good, which is T-entailed by the added clauses; the result is `popTo n bt` with the no-good
    recorded; the T-models are unchanged; `SatInv` holds for the ghost list extended by `cnfl`;
    the network is sound; and `ThInv` holds for the remaining frames. -/
theorem C07N_learnFrom_sound (n n' : Net) (orig L : Cnf) (cnfl : Clause) (h : SatInv n orig L)
    (hq : n.sat.queue = []) (hL : 0 < n.sat.decisionLevel) (hT : TEntails n orig cnfl)
    (hcF : ∀ l ∈ cnfl, l.neg ∈ n.sat.trail) (hcL : ∃ l ∈ cnfl, n.sat.lvl l = n.sat.decisionLevel)
    (hl : learnFrom n cnfl = some n') :
    ∃ noGood bt, n' = { popTo n bt with sat := (n.sat.popTo bt).record noGood } ∧ bt < n.sat.decisionLevel ∧
      n'.sat.decisionLevel = bt ∧ n'.sat.log = n.sat.log ++ [noGood] ∧ n'.sat.dead = n.sat.dead ∧
      n'.sat.decisions <:+ n.sat.decisions ∧ (∀ α, TModel n' α ↔ TModel n α) ∧
      TEntails n' orig noGood ∧ SatInv n' orig (L ++ [cnfl]) ∧ NetSound n' orig ∧
      (∀ fr, ThInv n orig fr → FramesLe n.sat fr → fr.length = n.sat.decisionLevel →
        ∃ fr', ThInv n' orig fr' ∧ fr'.length = bt) := by
  obtain ⟨ng, bt, e, h1, h2, h3, h4, h5, h6, h7, h8, h9⟩ := learnFrom_sound h hq hL hT hcF hcL hl
  refine ⟨ng, bt, e, h1, h2, h3, h4, h5, h6, h7, h8, h9, fun fr hth hf hlen => ?_⟩
  obtain ⟨fr', t1, t2⟩ := learnFrom_thInv hth hf hlen bt ng
  refine ⟨fr', by rw [e]; exact t1, ?_⟩
  rw [t2]; omega

/-- the SAT-level core of it, for the pure model `Sat` and ANY base formula: C07's invariants
    `Wf`, `Ent orig K` are kept by analyze + backjump + record -/
theorem C07N_learn_sat (orig K : Cnf) (s : Sat) (hw : s.Wf) (he : s.Ent orig K) (hq : s.queue = [])
    (hL : 0 < s.decisionLevel) (cnfl : Clause) (hcE : Ents orig cnfl) (hcF : ∀ l ∈ cnfl, l.neg ∈ s.trail)
    (hcL : ∃ l ∈ cnfl, s.lvl l = s.decisionLevel) (noGood : List Lit) (bt : Nat) (s3 : Sat)
    (han : s.analyze cnfl = some (noGood, bt, s3)) :
    ((s3.popTo bt).record noGood).Wf ∧ ((s3.popTo bt).record noGood).Ent orig K ∧ Ents orig noGood ∧
    ((s3.popTo bt).record noGood).log = s.log ++ [noGood] := by
  obtain ⟨_, _, r, a, b⟩ := Sat.learn_spec hw he hq hL hcE hcF hcL han
  exact ⟨a, b, r.lits ▸ r.ent, r.frame.1⟩

/-! ## the counterexample: an LRA conflict clause that is not a pure theory lemma -/

/-- Along a run of the network's own API (`NetCex`: `lraNewVar` ×3, `lraNewRel` ×7, three unit clauses,
    `propagate`, `assume b5`, `pop`, `assume b7` - every call succeeds, no conflict) the LRA bound
    propagation records, and the SAT core stores as clause 0, the lemma `[¬b6, ¬b7, FALSE_lit]`:
    the slack variable x3 = x0 + x1 has the lower bound 2 with reason TRUE (computed at root level from
    x0 ≥ 1, x1 ≥ 1, reasons b1, b2).  The clause is NOT T-entailed by the empty clause set
    (`cexAlpha`, all variables 0, is T-consistent and falsifies it), and the resulting SAT state
    violates C07's structural invariant `Sat.Wf` (a stored clause contains variable 0). -/
theorem C07N_lra_not_pure :
    NetCex.m2.1 = true ∧ NetCex.m3.1 = true ∧ NetCex.m5.1 = true ∧
    NetCex.m4.sat.log = [] ∧ NetCex.m5.2.sat.log = [[⟨6, false⟩, ⟨7, false⟩, ⟨0, true⟩]] ∧
    NetCex.m5.2.sat.cls = [(0, [⟨6, false⟩, ⟨7, false⟩, ⟨0, true⟩])] ∧
    (NetCex.m4.lra.bnd (Lra.lbIdx 3)).reason = Lit.trueLit ∧ NetCex.m4.lra.lb 3 = IR.ofR ⟨2, 1⟩ ∧
    ¬ TEntails NetCex.m5.2 [] [⟨6, false⟩, ⟨7, false⟩, ⟨0, true⟩] ∧ ¬ NetCex.m5.2.sat.Wf :=
  ⟨NetCex.run_facts.2.1, NetCex.run_facts.2.2.1, NetCex.run_facts.2.2.2.1, NetCex.run_facts.2.2.2.2.1,
    NetCex.run_facts.2.2.2.2.2.1, NetCex.run_facts.2.2.2.2.2.2.1, NetCex.run_facts.2.2.2.2.2.2.2.1,
    NetCex.run_facts.2.2.2.2.2.2.2.2.1, NetCex.not_pure, NetCex.wf_broken⟩

/-! ## non-vacuity: the IDL cycle of C10X under three decisions (`NetEx`)

SAT core: `assume b1`, `assume ¬b2`, `assume b3` (run through the C07 step function); IDL theory with
`b1 : x3 - x1 ≤ 5`, `b2 : x3 - x2 ≤ 2`, `b3 : x1 - x2 ≤ -3`, `b1` and `¬b2` propagated. -/

/-- item 1: all hypotheses of `C07N_theory_conflict_valid` hold of `exNet`; `theoryPropagate` of `b3`
    returns the conflict clause `[b2, ¬b1, ¬b3]`, which is therefore T-entailed and all false -/
example : ThInv NetEx.exNet [] [] ∧ NetEx.exNet.sat.value ⟨3, true⟩ = some true ∧
    (theoryPropagate NetEx.exNet ⟨3, true⟩).1 = some [⟨2, true⟩, ⟨1, false⟩, ⟨3, false⟩] ∧
    TEntails (theoryPropagate NetEx.exNet ⟨3, true⟩).2 [] [⟨2, true⟩, ⟨1, false⟩, ⟨3, false⟩] ∧
    ∀ l ∈ [(⟨2, true⟩ : Lit), ⟨1, false⟩, ⟨3, false⟩], (theoryPropagate NetEx.exNet ⟨3, true⟩).2.sat.value l = some false := by
  have h := (C07N_theory_conflict_valid NetEx.exNet [] [] NetEx.exNet_thInv ⟨3, true⟩ (by decide)).2.2.2.2
    [⟨2, true⟩, ⟨1, false⟩, ⟨3, false⟩] (by rw [NetEx.exNet_propagate]; rfl)
  exact ⟨NetEx.exNet_thInv, by decide, by rw [NetEx.exNet_propagate]; rfl, h.1, h.2⟩

/-- item 2: all hypotheses of `C07N_learnFrom_sound` hold of `exNet` at decision level 3 with that
    conflict clause; `learnFrom` backjumps to level 2 and records a no-good, which is T-entailed, and
    the resulting network is sound -/
example : SatInv NetEx.exNet [] [] ∧ NetEx.exNet.sat.decisionLevel = 3 ∧
    learnFrom NetEx.exNet NetEx.exCnfl = some NetEx.exNet' ∧
    NetEx.exNet'.sat.decisionLevel = 2 ∧
    NetEx.exNet'.sat.log = [[⟨3, false⟩, ⟨2, true⟩, ⟨1, false⟩]] ∧
    TEntails NetEx.exNet' [] [⟨3, false⟩, ⟨2, true⟩, ⟨1, false⟩] ∧ NetSound NetEx.exNet' [] := by
  obtain ⟨ng, bt, _, _, h2, h3, _, _, _, h7, _, h9, _⟩ := C07N_learnFrom_sound NetEx.exNet NetEx.exNet' [] []
    NetEx.exCnfl NetEx.exNet_satInv (by decide) (by decide) NetEx.exNet_conflict.1 (by decide)
    ⟨⟨3, false⟩, by decide, by decide⟩ NetEx.exNet_learn
  have hlog : NetEx.exNet'.sat.log = [[⟨3, false⟩, ⟨2, true⟩, ⟨1, false⟩]] := by decide
  have hng : ng = [⟨3, false⟩, ⟨2, true⟩, ⟨1, false⟩] := by
    rw [hlog] at h3
    have : NetEx.exNet.sat.log = [] := by decide
    rw [this] at h3
    simpa using h3.symm
  rw [hng] at h7
  exact ⟨NetEx.exNet_satInv, by decide, NetEx.exNet_learn, by decide, hlog, h7, h9⟩

/-! ## 3. `Net.propagate`

C07's structural invariant `Sat.Wf` is not kept by the network (`C07N_lra_not_pure`), so the SAT side
runs over the WEAK well-formedness `Sat.WfS` (Lemmas/SatCoreUpd.lean): `WfA` unchanged; distinct clause
ids; existing variables; `WfRN` - the reason clause of a trail literal has it as head and every other
literal is FALSE_lit or has its negation earlier on the trail; a clause in the watch list of `p`
contains `¬p` somewhere; variable 0 is of level 0.  Repeated literals and FALSE_lit are allowed, nothing
is said about watch positions (soundness does not need it).  Proved over `WfS` and the
two-parameter `Sat.Ent orig K`: `clausePropagate` / `visitWatchers` (`Sat.visit_sound`), `pop` / `popTo`
(`Sat.wfs_popTo`), first-UIP analysis with FALSE_lit in reasons and in the conflict clause
(`Sat.analyze_sound` with `Sat.WfS.reasonsOK`), `record` with a non-empty queue (`Sat.record_wfs`), analyze + backjump + record
(`Sat.learn_wfs`, an instance of `Sat.analyze_learnt`). -/

theorem C07N_wfS_def (s : Sat) :
    s.WfS ↔ s.WfA ∧ s.level.getD 0 0 = 0 ∧ (∀ e ∈ s.cls, e.1 < s.nextId) ∧ (s.cls.map (·.1)).Nodup ∧
      (∀ e ∈ s.cls, ∀ l ∈ e.2, l.var < s.vals.length) ∧
      (∀ l b, (l :: b) <:+ s.trail → ∀ id, s.reason.getD l.var none = some id →
        ∃ rest, (id, l :: rest) ∈ s.cls ∧ ∀ r ∈ rest, r.neg ∈ b ∨ r = Lit.falseLit) ∧
      (∀ i id, id ∈ s.watches.getD i [] → ∃ c, (id, c) ∈ s.cls ∧ ∃ l ∈ c, l.neg.idx = i) :=
  ⟨fun h => ⟨h.a, h.lvl0, h.idlt, h.ids, h.rng, h.r, h.w⟩, fun ⟨a, b, c, d, e, f, g⟩ => ⟨a, b, c, d, e, f, g⟩⟩

/-- the invariant of the network: the SAT-level soundness invariant over `orig ++ L` (`L` the ghost list
    of theory lemmas and theory conflict clauses, each T-entailed by `orig`), the theory invariants - RELATIVE TO
    THE LEMMA-CLOSED SET `orig ++ L` (`LraJ (orig ++ L)`, i.e. every bound holds in the LRA-consistent
    models of the added clauses and the lemmas; what is T-entailed by `orig ++ L` is T-entailed by `orig`,
    `C07N_tentails_cut`) - with one ghost frame per decision level, `FramesLv` (every value a frame's SAT core had is a current
    value of a level below the one the frame opened), and the registries `NetReg`: every assertion /
    distance constraint is controlled by an existing SAT variable, and the LRA theory satisfies
    `Lra.GoodState` (C09R: no zero coefficient in a row, ...) and its assertion watch lists and its cache of
    assertion literals only name existing SAT variables -/
theorem C07N_netInv_def (n : Net) (orig L : Cnf) (fr : List Frame) :
    NetInv n orig L fr ↔
      (n.sat.WfS ∧ n.sat.Ent (orig ++ L) orig ∧ ∀ m, n.sat.DecOK m) ∧ (∀ c ∈ L, TEntails n orig c) ∧
      ThInv n (orig ++ L) fr ∧ FramesLv n.sat fr ∧ fr.length = n.sat.decisionLevel ∧
      ((∀ e ∈ n.lra.vAsrts, e.1 < n.sat.vals.length) ∧ (∀ c ∈ n.idl.varDists, c.b < n.sat.vals.length) ∧
        (∀ c ∈ n.rdl.varDists, c.b < n.sat.vals.length) ∧ Lra.GoodState n.lra ∧
        (∀ x, ∀ b ∈ n.lra.aWatches.getD x [], b < n.sat.vals.length) ∧
        (∀ e ∈ n.lra.sAsrts, e.2.var < n.sat.vals.length)) :=
  ⟨fun h => ⟨⟨h.sat.wf, h.sat.ent, h.sat.dec⟩, h.lemmas, h.th, h.flv, h.flen, h.reg.lra, h.reg.idl, h.reg.rdl, h.reg.good,
      h.reg.aw, h.reg.sa⟩,
    fun ⟨⟨a, b, c⟩, d, e, f, g, r1, r2, r3, r4, r5, r6⟩ => ⟨⟨a, b, c⟩, d, e, f, g, ⟨r1, r2, r3, r4, r5, r6⟩⟩⟩

/-- the recorded lemmas may be cut out of the premises of a T-entailment -/
theorem C07N_tentails_cut (n : Net) (orig L : Cnf) (c : Clause) (hl : ∀ d ∈ L, TEntails n orig d)
    (h : TEntails n (orig ++ L) c) : TEntails n orig c := TEntails.cut hl h

theorem C07N_netInv_sound (n : Net) (orig L : Cnf) (fr : List Frame) (h : NetInv n orig L fr) : NetSound n orig := h.sound

theorem C07N_init_inv : NetInv Net.init [] [] [] := netInv_init

/-- **The theories record well-shaped clauses only** (`Sat.Recs`: each clause handed to `record` has an
    unassigned existing variable as head and its other literals - at least one - are false when it is
    recorded), a conflict clause of `theoryPropagate` contains the negation of the propagated literal,
    and the registries are kept.  IDL / RDL: the scan records a lemma for an UNDECIDED constraint only
    and the explanation walk is non-empty because `src ≠ dst`; LRA: the unate and row propagations record
    in the unassigned branch only, and the explanation contains the reason of the bound just asserted
    (the row has a non-zero coefficient for the variable: `TabWF` + `GoodState`). -/
theorem C07N_theory_records_good (n : Net) (orig : Cnf) (fr : List Frame) (h : ThInv n orig fr) (hreg : NetReg n)
    (p : Lit) (hp : n.sat.value p = some true) :
    (∃ new, Sat.Recs n.sat new (theoryPropagate n p).2.sat) ∧
    (∀ c, (theoryPropagate n p).1 = some c → p.neg ∈ c) ∧ NetReg (theoryPropagate n p).2 :=
  (theoryPropagate_recs h hreg p hp).imp_left Sat.RecBy.recs

theorem C07N_goodRec_def (s : Sat) (c : Clause) :
    (Sat.GoodRec s c ↔ ∃ l0 rest, c = l0 :: rest ∧ s.value l0 = none ∧ l0.var < s.vals.length ∧
      (∀ x ∈ rest, s.value x = some false) ∧ rest ≠ []) ∧
    (HasCurrent s c ↔ ∃ l ∈ c, l.neg ∈ s.trail ∧ s.lvl l = s.decisionLevel) := ⟨Iff.rfl, Iff.rfl⟩

/-- **`Net.propagate` is sound** (clause conflicts, theory propagation with recorded lemmas, theory
    conflicts, `lra.check` conflicts, each followed by `learnFrom`; queue empty and check ok): the
    invariant is kept (for a longer ghost list and the frames of the remaining levels), hence the
    resulting network is sound; the queue is empty; the T-models are unchanged; and the answer
    `false` is given at root level only and means that NO T-CONSISTENT ASSIGNMENT SATISFIES THE ADDED
    CLAUSES.  `ConflictsCurrent n fuel` (same recursion as `Net.propagate`): every conflict of
    `lra.check` found above root level along the run cites a literal of the current decision level. -/
theorem C07N_propagate_sound (orig : Cnf) (fuel : Nat) (n : Net) (L : Cnf)
    (fr : List Frame) (h : NetInv n orig L fr) (hd : n.sat.dead = false) (hg : ConflictsCurrent n fuel)
    (b : Bool) (n' : Net) (he : propagate n fuel = some (b, n')) :
    (∃ L' fr', NetInv n' orig L' fr') ∧ NetSound n' orig ∧ n'.sat.queue = [] ∧ n'.sat.dead = !b ∧
    (∀ α, TModel n' α ↔ TModel n α) ∧ (b = false → n'.sat.trailLim = [] ∧ TUnsat n' orig ∧ TUnsat n orig) := by
  have r := propagate_inv fuel n L fr h hd hg b n' he
  obtain ⟨L', fr', hi⟩ := r.inv
  refine ⟨⟨L', fr', hi⟩, hi.sound, r.queue, r.dead, r.tm, fun hb => ?_⟩
  have hu : TUnsat n' orig := hi.sound.dead (by rw [r.dead, hb]; rfl)
  exact ⟨r.root hb, hu, fun α h0 hm => hu α h0 ((r.tm α).2 hm)⟩

/-- no rows in the LRA tableau (no slack variable: pure SAT + IDL + RDL + single-variable LRA
    assertions): the side condition holds, and the tableau stays empty -/
theorem C07N_noRows (fuel : Nat) (n : Net) (ht : n.lra.tableau = []) :
    ConflictsCurrent n fuel ∧ ∀ b n', propagate n fuel = some (b, n') → n'.lra.tableau = [] :=
  noRows_propagate fuel n ht

/-- conflict analysis on ANY T-entailed falsified clause with a current-level literal keeps the
    invariant (`C07N_learnFrom_sound` under the weak invariant `NetInv` in place of `SatInv`) -/
theorem C07N_learn_inv (n n' : Net) (orig L : Cnf) (fr : List Frame) (cnfl : Clause) (h : NetInv n orig L fr)
    (hq : n.sat.queue = []) (hL : 0 < n.sat.decisionLevel) (hT : TEntails n orig cnfl)
    (hcF : ∀ l ∈ cnfl, n.sat.value l = some false) (hcL : HasCurrent n.sat cnfl)
    (hl : learnFrom n cnfl = some n') :
    ∃ fr', NetInv n' orig (L ++ [cnfl]) fr' ∧ n'.sat.dead = n.sat.dead ∧ (∀ α, TModel n' α ↔ TModel n α) ∧
      n'.sat.decisionLevel < n.sat.decisionLevel := h.learn hq hL hT hcF hcL hl

/-! ## 4. histories of search operations

`NetOp`: the SAT-level calls (`satNewVar`, `clause c`, the reified constructors), the search calls (`propagate`,
`assume p`, `pop`, `next`, `bj`) and the theory constructors and requests of IDL, RDL and LRA; `NetRun.step` runs one call under
the documented preconditions (`NetRun.pre`, those of C07) and maintains the ghost set of added clauses as
C07's `Run.step` does; `NetRun.guard` is the side condition `ConflictsCurrent` of the `propagate` inside
the call; `NetOK r`: the invariant holds for some ghost list and frames, and the
queue is empty or the network is at root level. -/

theorem C07N_step_def (fuel : Nat) (r : NetRun) (p : Lit) :
    (r.pre .satNewVar = !r.n.sat.dead) ∧ (r.pre .propagate = !r.n.sat.dead) ∧
    (r.pre (.assume p) = (!r.n.sat.dead && decide (p.var < r.n.sat.nvars) && r.n.sat.queue.isEmpty && r.n.sat.value p == none)) ∧
    (r.pre .pop = (!r.n.sat.dead && !r.n.sat.rootLevel)) ∧
    (∀ c, r.pre (.clause c) = (!r.n.sat.dead && c.all (fun l => decide (l.var < r.n.sat.nvars)) && r.n.sat.rootLevel)) ∧
    (r.pre .next = (!r.n.sat.dead && r.n.sat.queue.isEmpty)) ∧
    (∀ c, r.pre (.clause c) = true → r.step fuel (.clause c) =
      some (⟨{ r.n with sat := (r.n.sat.newClause c).2 }, r.orig ++ [c]⟩, (r.n.sat.newClause c).1)) ∧
    (r.pre .next = true → r.step fuel .next = (r.n.next fuel).map fun (b, n') =>
      (⟨n', if r.n.sat.rootLevel then r.orig else r.orig ++ [r.n.sat.decisions.map Lit.neg]⟩, b)) ∧
    (r.guard fuel .next ↔ (r.n.sat.rootLevel = false → ConflictsCurrent (nextStart r.n) fuel)) ∧
    (r.pre .satNewVar = true → r.step fuel .satNewVar = some (⟨{ r.n with sat := r.n.sat.newVar.2 }, r.orig⟩, true)) ∧
    (r.pre .propagate = true → r.step fuel .propagate = (r.n.propagate fuel).map fun (b, n') => (⟨n', r.orig⟩, b)) ∧
    (r.pre (.assume p) = true → r.step fuel (.assume p) = (r.n.assume p fuel).map fun (b, n') => (⟨n', r.orig⟩, b)) ∧
    (r.pre .pop = true → r.step fuel .pop = some (⟨r.n.pop, r.orig⟩, true)) ∧
    (r.guard fuel .propagate ↔ ConflictsCurrent r.n fuel) ∧
    (r.guard fuel (.assume p) ↔ ConflictsCurrent (assumeStart r.n p) fuel) ∧
    (NetOK r ↔ (∃ L fr, NetInv r.n r.orig L fr) ∧ (r.n.sat.queue = [] ∨ r.n.sat.trailLim = [])) := by
  exact ⟨rfl, rfl, rfl, rfl, fun _ => rfl, rfl, fun _ h => step_of_pre h rfl, (step_of_pre · rfl), Iff.rfl,
    (step_of_pre · rfl), (step_of_pre · rfl), (step_of_pre · rfl), (step_of_pre · rfl), Iff.rfl, Iff.rfl, Iff.rfl⟩

/-- one more call keeps the invariant; the added clauses only grow; the T-models are unchanged; a
    negative answer (other than that of `next` at root level) means that no T-consistent assignment
    satisfies the added clauses -/
theorem C07N_step_sound (fuel : Nat) (r r' : NetRun) (op : NetOp) (b : Bool) (h : NetOK r) (hg : r.guard fuel op)
    (hm : r.room op) (he : r.step fuel op = some (r', b)) :
    NetOK r' ∧ NetSound r'.n r'.orig ∧ (∀ d ∈ r.orig, d ∈ r'.orig) ∧ (∀ α, TModel r'.n α → TModel r.n α) ∧
    (b = false → (op = .next ∧ r.n.sat.rootLevel = true) ∨ TUnsat r'.n r'.orig) := by
  obtain ⟨k1, k2, k3, k4⟩ := step_ok h hg hm he
  obtain ⟨⟨L, fr, hi⟩, hq⟩ := k1
  exact ⟨⟨⟨L, fr, hi⟩, hq⟩, hi.sound, k2, k3, k4⟩

/-- **after ANY history of search operations, from any network satisfying the invariant (e.g.
    `Net.init`), the network is sound** -/
theorem C07N_all_histories (fuel : Nat) (ops : List NetOp) (r r' : NetRun) (h : NetOK r) (hg : r.guards fuel ops)
    (hm : r.rooms fuel ops) (he : r.steps fuel ops = some r') :
    NetOK r' ∧ NetSound r'.n r'.orig ∧ ∀ d ∈ r.orig, d ∈ r'.orig := by
  obtain ⟨k1, k2⟩ := steps_ok ops r r' h hg hm he
  obtain ⟨⟨L, fr, hi⟩, hq⟩ := k1
  exact ⟨⟨⟨L, fr, hi⟩, hq⟩, hi.sound, k2⟩

theorem C07N_init_ok : NetOK ⟨Net.init, []⟩ := netOK_init

/-- without rows in the LRA tableau the side condition holds along every history -/
theorem C07N_all_histories_noRows (fuel : Nat) (ops : List NetOp) (r r' : NetRun) (h : NetOK r)
    (ht : r.n.lra.tableau = []) (hns : r.noSlacks fuel ops) (hm : r.rooms fuel ops) (he : r.steps fuel ops = some r') :
    NetOK r' ∧ NetSound r'.n r'.orig :=
  ⟨(steps_ok ops r r' h (guards_noRows ops r ht hns) hm he).1,
    (C07N_all_histories fuel ops r r' h (guards_noRows ops r ht hns) hm he).2.1⟩

/-- non-vacuity (`NetEx.rootNet`: three IDL constraints at root level; history `assume b1`, `assume ¬b2`):
    the invariant holds of the start, the history runs, during the second call the IDL theory RECORDS the
    lemma `[¬b3, b2, ¬b1]` in the middle of propagation and `¬b3` is propagated at level 2; by the
    theorem the final network is sound - in particular the recorded lemma is T-entailed -/
example : NetOK ⟨NetEx.rootNet, []⟩ ∧ NetRun.steps 100 ⟨NetEx.rootNet, []⟩ NetEx.exHist = some NetEx.exFinal ∧
    NetEx.exFinal.n.sat.log = [[⟨3, false⟩, ⟨2, true⟩, ⟨1, false⟩]] ∧ NetEx.exFinal.n.sat.decisionLevel = 2 ∧
    NetEx.exFinal.n.sat.value ⟨3, true⟩ = some false ∧ NetSound NetEx.exFinal.n [] ∧
    TEntails NetEx.exFinal.n [] [⟨3, false⟩, ⟨2, true⟩, ⟨1, false⟩] := by
  have h0 : NetOK ⟨NetEx.rootNet, []⟩ := ⟨⟨[], [], NetEx.rootNet_inv⟩, Or.inl (by decide)⟩
  obtain ⟨a, b, c, d⟩ := NetEx.exFinal_ok
  have hs := (C07N_all_histories_noRows 100 NetEx.exHist _ _ h0 (by decide)
    ⟨trivial, fun _ _ _ => ⟨trivial, fun _ _ _ => trivial⟩⟩
    ⟨trivial, fun _ _ _ => ⟨trivial, fun _ _ _ => trivial⟩⟩ NetEx.exFinal_run).2
  have horig : NetEx.exFinal.orig = [] := by decide
  rw [horig] at hs
  exact ⟨h0, NetEx.exFinal_run, b, c, d, hs, hs.log _ (by rw [b]; simp)⟩

/-- the constructor operations, spelled out: documented precondition "root level" (and arguments in range)
    in `NetRun.pre`; the numeric side conditions in `NetRun.room` -/
theorem C07N_step_def_cons (fuel : Nat) (r : NetRun) (a b : Lit) (ls : List Lit) (f g : Nat) (w : Int) (v : IR) :
    (r.pre (.eq a b) = (!r.n.sat.dead && r.n.sat.rootLevel && decide (a.var < r.n.sat.nvars) && decide (b.var < r.n.sat.nvars))) ∧
    (r.pre (.conj ls) = (!r.n.sat.dead && r.n.sat.rootLevel && ls.all (fun l => decide (l.var < r.n.sat.nvars)))) ∧
    (r.pre .idlNewVar = (!r.n.sat.dead && r.n.sat.rootLevel)) ∧
    (r.pre (.idlNewDistance f g w) = (!r.n.sat.dead && r.n.sat.rootLevel && decide (f < r.n.idl.nVars) && decide (g < r.n.idl.nVars))) ∧
    (r.pre (.rdlNewDistance f g v) = (!r.n.sat.dead && r.n.sat.rootLevel && decide (f < r.n.rdl.nVars) && decide (g < r.n.rdl.nVars))) ∧
    (r.pre (.eq a b) = true → r.step fuel (.eq a b) =
      some (⟨{ r.n with sat := (r.n.sat.newEq a b).2 }, r.orig ++ (r.n.sat.newEq a b).2.toEnc.cnf⟩, true)) ∧
    (r.pre (.conj ls) = true → r.step fuel (.conj ls) =
      some (⟨{ r.n with sat := (r.n.sat.newConj ls).2 }, r.orig ++ (r.n.sat.newConj ls).2.toEnc.cnf⟩, true)) ∧
    (r.pre .idlNewVar = true → r.step fuel .idlNewVar = some (⟨(Net.idlNewVar r.n).2, r.orig⟩, true)) ∧
    (r.pre .lraNewVar = true → r.step fuel .lraNewVar = some (⟨(Net.lraNewVar r.n).2, r.orig⟩, true)) ∧
    (r.pre (.idlNewDistance f g w) = true →
      r.step fuel (.idlNewDistance f g w) = some (⟨(Net.idlNewDistance r.n f g w).2, r.orig⟩, true)) ∧
    (r.pre (.rdlNewDistance f g v) = true →
      r.step fuel (.rdlNewDistance f g v) = some (⟨(Net.rdlNewDistance r.n f g v).2, r.orig⟩, true)) ∧
    (r.room .idlNewVar ↔ ∃ K E, r.n.idl.Exact K E ∧ Dl.ConstrsOk K r.n.idl ∧ 4 * ((r.n.idl.nVars : Int) + 2) * K < idlInf) ∧
    (r.room (.idlNewDistance f g w) ↔ ∃ K E, r.n.idl.Exact K E ∧ Dl.ConstrsOk K r.n.idl ∧ f ≠ g ∧ -K ≤ w ∧ w + 1 ≤ K) ∧
    (r.room (.rdlNewDistance f g v) ↔ f ≠ g ∧ IR.Fin v ∧ v.inf.den = 1) ∧
    (r.room .propagate ↔ True) := by
  exact ⟨rfl, rfl, rfl, rfl, rfl, (step_of_pre · rfl), (step_of_pre · rfl), (step_of_pre · rfl), (step_of_pre · rfl),
    (step_of_pre · rfl), (step_of_pre · rfl), Iff.rfl, Iff.rfl, Iff.rfl, Iff.rfl⟩

/-- each theory constructor at root level keeps the invariant, and a T-model of the extended network is
    a T-model of the old one (for the `new_var`s: the T-models are the same) -/
theorem C07N_constructors_sound (n : Net) (orig L : Cnf) (fr : List Frame) (h : NetInv n orig L fr)
    (hroot : n.sat.trailLim = []) :
    (NetInv (rdlNewVar n).2 orig L [] ∧ ∀ α, TModel (rdlNewVar n).2 α ↔ TModel n α) ∧
    (NetInv (lraNewVar n).2 orig L [] ∧ ∀ α, TModel (lraNewVar n).2 α ↔ TModel n α) ∧
    ((∃ K E, n.idl.Exact K E ∧ Dl.ConstrsOk K n.idl ∧ 4 * ((n.idl.nVars : Int) + 2) * K < idlInf) →
      NetInv (idlNewVar n).2 orig L [] ∧ ∀ α, TModel (idlNewVar n).2 α ↔ TModel n α) ∧
    (∀ f g w, (∃ K E, n.idl.Exact K E ∧ Dl.ConstrsOk K n.idl ∧ f < n.idl.nVars ∧ g < n.idl.nVars ∧ f ≠ g ∧ -K ≤ w ∧ w + 1 ≤ K) →
      NetInv (idlNewDistance n f g w).2 orig L [] ∧ ∀ α, TModel (idlNewDistance n f g w).2 α → TModel n α) ∧
    (∀ f g w, (f < n.rdl.nVars ∧ g < n.rdl.nVars ∧ f ≠ g ∧ IR.Fin w ∧ w.inf.den = 1) →
      NetInv (rdlNewDistance n f g w).2 orig L [] ∧ ∀ α, TModel (rdlNewDistance n f g w).2 α → TModel n α) :=
  ⟨h.at_rdlNewVar hroot, h.at_lraNewVar hroot, fun hg => h.at_idlNewVar hroot hg,
    fun f g w hg => h.at_idlNewDistance hroot f g w hg, fun f g w hg => h.at_rdlNewDistance hroot f g w hg⟩

/-- a reified SAT constructor at root level: the SAT core goes to a state `s'` reached by the primitives
    (`GoodN`, `ConsFrame`: what `Sat.newEq_good … Sat.newExctOne_good` of C07 give for `new_eq … new_exct_one`);
    the ghost set grows by the CNF of `s'` -/
theorem C07N_sat_constructor_sound (n : Net) (orig L : Cnf) (fr : List Frame) (h : NetInv n orig L fr)
    (hroot : n.sat.trailLim = []) (hd : n.sat.dead = false) (s' : Sat) (hg : Sat.GoodN s') (hf : Sat.ConsFrame n.sat s') :
    NetInv { n with sat := s' } (orig ++ s'.toEnc.cnf) L [] := h.consSat hroot hd hg hf

/-- `Net.popTo` keeps the invariant -/
theorem C07N_popTo_inv (n : Net) (orig L : Cnf) (fr : List Frame) (h : NetInv n orig L fr) (hq : n.sat.queue = []) (lvl : Nat) :
    ∃ fr', NetInv (popTo n lvl) orig L fr' ∧ (popTo n lvl).sat.decisionLevel = min lvl n.sat.decisionLevel ∧
      ∀ α, TModel (popTo n lvl) α ↔ TModel n α := by
  obtain ⟨fr', h1, pf⟩ := h.popTo hq lvl
  exact ⟨fr', h1, pf.level, TModel.popTo n lvl⟩

/-- **`backtrack_analyze_and_backjump`** (the `bj` operation of the driver) for a conflict clause given from
    outside that is T-entailed by the added clauses and all of whose literals are false (empty queue): the
    invariant is kept, the T-models are unchanged, `false` means T-unsatisfiable.  `BjGuard`: the
    `ConflictsCurrent` side condition of the call of `propagate` it ends with. -/
theorem C07N_bj_sound (n : Net) (orig L : Cnf) (fr : List Frame) (h : NetInv n orig L fr) (hq : n.sat.queue = [])
    (hd : n.sat.dead = false) (cnfl : Clause) (hT : TEntails n orig cnfl) (hF : ∀ l ∈ cnfl, n.sat.value l = some false)
    (fuel : Nat) (hg : BjGuard n cnfl fuel) (b : Bool) (n' : Net)
    (he : backtrackAnalyzeAndBackjump n cnfl fuel = some (b, n')) :
    (∃ L' fr', NetInv n' orig L' fr') ∧ NetSound n' orig ∧ (n'.sat.queue = [] ∨ n'.sat.trailLim = []) ∧
    (∀ α, TModel n' α ↔ TModel n α) ∧ (b = false → TUnsat n' orig) := by
  obtain ⟨⟨L', fr', hi⟩, k2, k3, k4⟩ := h.bj hq hd cnfl hT hF fuel hg b n' he
  exact ⟨⟨L', fr', hi⟩, hi.sound, k2, k3, k4⟩

/-- `bj` as an operation of the histories: its precondition, step, side conditions -/
theorem C07N_step_def_bj (fuel : Nat) (r : NetRun) (cnfl : List Lit) :
    (r.pre (.bj cnfl) = (!r.n.sat.dead && r.n.sat.queue.isEmpty)) ∧
    (r.pre (.bj cnfl) = true → r.step fuel (.bj cnfl) =
      (r.n.backtrackAnalyzeAndBackjump cnfl fuel).map fun (b, n') => (⟨n', r.orig⟩, b)) ∧
    (r.room (.bj cnfl) ↔ TEntails r.n r.orig cnfl ∧ ∀ l ∈ cnfl, r.n.sat.value l = some false) ∧
    (r.guard fuel (.bj cnfl) ↔ BjGuard r.n cnfl fuel) := by
  exact ⟨rfl, (step_of_pre · rfl), Iff.rfl, Iff.rfl⟩

/-- **conservativity of `idl.new_distance`**: every T-model of the old network extends - by a value for the
    new constraint variable only - to a T-model of the extended network; so `TUnsat` / `TEntails` statements
    about the extended network are not vacuous with respect to the old one -/
theorem C07N_idlNewDistance_conservative (n : Net) (orig L : Cnf) (fr : List Frame) (h : NetInv n orig L fr)
    (f g : Nat) (w : Int) (α : Asg) (hm : TModel n α) :
    ∃ α' : Asg, (∀ v, v < n.sat.vals.length → α' v = α v) ∧ TModel (idlNewDistance n f g w).2 α' := by
  have hkey : Lra.AsrtKey n.lra := h.th.base.lra.key
  obtain ⟨σr, σi, σz, σq, m1, m2, m3, m4⟩ := hm
  -- the value of the new constraint variable, if one is created
  let α' : Asg := fun v => if v = n.sat.vals.length then decide (σz g - σz f ≤ w) else α v
  have hold : ∀ v, v < n.sat.vals.length → α' v = α v := fun v hv => if_neg (Nat.ne_of_lt hv)
  have hnew : α' n.sat.vals.length = decide (σz g - σz f ≤ w) := if_pos rfl
  refine ⟨α', hold, σr, σi, σz, σq, m1, ?_, ?_, ?_⟩
  · intro e' he'
    have hl : α'.lit e'.2.b = α.lit e'.2.b := EncL.lit_congr (by rw [hkey e' he']; exact hold _ (h.reg.lra e' he'))
    rw [hl]; exact m2 e' he'
  · intro c hc
    rcases (newDistance_out idlOps n.sat n.idl f g w).mem c hc with hc | ⟨rfl, _⟩
    · rw [hold _ (h.reg.idl c hc)]; exact m3 c hc
    · constructor
      · intro ht
        show σz g - σz f ≤ w
        rw [hnew] at ht; simpa using ht
      · intro hf
        show σz f - σz g ≤ -w - 1
        rw [hnew] at hf
        have : ¬ (σz g - σz f ≤ w) := by simpa using hf
        omega
  · intro c hc
    rw [hold _ (h.reg.rdl c hc)]; exact m4 c hc

/-- the LRA requests and the DL relation requests as operations of the histories: precondition (root
    level), step, side conditions -/
theorem C07N_step_def_rel (fuel : Nat) (r : NetRun) (l : Lin) (rel : LRel) (drel : Dl.Rel) (a b : Lin) :
    (r.pre (.lraNewVarLin l) = (!r.n.sat.dead && r.n.sat.rootLevel)) ∧
    (r.pre (.lraNewRel rel a b) = (!r.n.sat.dead && r.n.sat.rootLevel)) ∧
    (r.pre (.idlNewRel drel a b) = (!r.n.sat.dead && r.n.sat.rootLevel)) ∧
    (r.pre (.rdlNewRel drel a b) = (!r.n.sat.dead && r.n.sat.rootLevel)) ∧
    (r.pre (.lraNewVarLin l) = true → r.step fuel (.lraNewVarLin l) =
      (Net.lraNewVarLin r.n l).map fun (_, n') => (⟨n', r.orig⟩, true)) ∧
    (r.pre (.lraNewRel rel a b) = true → r.step fuel (.lraNewRel rel a b) =
      (Net.lraNewRel r.n rel a b).map fun (_, n') => (⟨n', r.orig⟩, true)) ∧
    (r.pre (.idlNewRel drel a b) = true → r.step fuel (.idlNewRel drel a b) =
      (Net.idlNewRel r.n drel a b).map fun (_, n') => (⟨n', r.orig ++ n'.sat.toEnc.cnf⟩, true)) ∧
    (r.pre (.rdlNewRel drel a b) = true → r.step fuel (.rdlNewRel drel a b) =
      (Net.rdlNewRel r.n drel a b).map fun (_, n') => (⟨n', r.orig ++ n'.sat.toEnc.cnf⟩, true)) ∧
    (r.room (.lraNewVarLin l) ↔ Lra.LinOK r.n.lra l) ∧
    (r.room (.lraNewRel rel a b) ↔ Lra.LinOK r.n.lra a ∧ Lra.LinOK r.n.lra b) ∧
    (r.noSlack (.lraNewVarLin l) ↔
      ∀ v n', Net.lraNewVarLin r.n l = some (v, n') → n'.lra.vals.length = r.n.lra.vals.length) ∧
    (r.noSlack (.lraNewRel rel a b) ↔
      ∀ p n', Net.lraNewRel r.n rel a b = some (p, n') → n'.lra.vals.length = r.n.lra.vals.length) ∧
    (r.room (.idlNewRel drel a b) ↔ ∃ K E, r.n.idl.Exact K E ∧ Dl.ConstrsOk K r.n.idl ∧
      ∀ p n', Net.idlNewRel r.n drel a b = some (p, n') → Dl.ConstrsOk K n'.idl) ∧
    (r.room (.rdlNewRel drel a b) ↔ ∀ p n', Net.rdlNewRel r.n drel a b = some (p, n') →
      DlR.ConstrsOkR n'.rdl ∧ ∀ c ∈ n'.rdl.varDists, c.dist.inf.den = 1) := by
  exact ⟨rfl, rfl, rfl, rfl, (step_of_pre · rfl), (step_of_pre · rfl), (step_of_pre · rfl), (step_of_pre · rfl), Iff.rfl,
    Iff.rfl, Iff.rfl, Iff.rfl, Iff.rfl, Iff.rfl⟩

/-- **the LRA requests `new_var(lin)` and `new_lt / new_leq / new_geq / new_gt`** at root level, for canonical
    expressions over existing variables (`Lra.LinOK`), WHETHER OR NOT A SLACK VARIABLE AND ITS ROW ARE CREATED: the
    invariant is kept (in particular `LraJ` for the TRUE-reason bounds of a new slack, `ExplInv`, `ValsOK`, the
    registries, `Lra.GoodState`, and for a new assertion: its controlling SAT variable is new and watched on
    the right LRA variable), and every T-model of the new network is a T-model of the old one -/
theorem C07N_lra_requests_sound (n : Net) (orig L : Cnf) (fr : List Frame) (h : NetInv n orig L fr)
    (hroot : n.sat.trailLim = []) :
    (∀ (l : Lin) (v : Nat) (n' : Net), Lra.LinOK n.lra l → lraNewVarLin n l = some (v, n') →
      NetInv n' orig L [] ∧ (∀ α, TModel n' α → TModel n α) ∧ n'.sat = n.sat) ∧
    (∀ (r : LRel) (a b : Lin) (l : Lit) (n' : Net), Lra.LinOK n.lra a → Lra.LinOK n.lra b →
      lraNewRel n r a b = some (l, n') →
      NetInv n' orig L [] ∧ (∀ α, TModel n' α → TModel n α) ∧ n'.sat.trailLim = [] ∧ n'.sat.dead = n.sat.dead ∧
        n'.sat.queue = n.sat.queue) :=
  ⟨fun _ _ _ hl he => h.at_lraNewVarLinG hroot hl he, fun _ _ _ _ _ ha hb he => h.at_lraNewRelG hroot ha hb he⟩

/-- **`lra.new_eq(left, right)`** (`new_geq`, `new_leq` and the reified conjunction of the two answers) at root level
    for canonical expressions over existing variables: the invariant is kept, the ghost set growing by the CNF
    of the resulting SAT core; every T-model of the new network is a T-model of the old one.  (The answers
    of the two requests name existing SAT variables: constants, a cached literal of `sAsrts` - registry
    invariant `ThReg.sa` -, or the new controlling variable.) -/
theorem C07N_lraNewEq_sound (n : Net) (orig L : Cnf) (fr : List Frame) (h : NetInv n orig L fr)
    (hroot : n.sat.trailLim = []) (hd : n.sat.dead = false) (a b : Lin) (ha : Lra.LinOK n.lra a) (hb : Lra.LinOK n.lra b)
    (l : Lit) (n' : Net) (he : lraNewEq n a b = some (l, n')) :
    NetInv n' (orig ++ n'.sat.toEnc.cnf) L [] ∧ ∀ α, TModel n' α → TModel n α :=
  h.at_lraNewEq hroot hd ha hb he

/-- `lraNewEq` as an operation of the histories -/
theorem C07N_step_def_lraNewEq (fuel : Nat) (r : NetRun) (a b : Lin) :
    (r.pre (.lraNewEq a b) = (!r.n.sat.dead && r.n.sat.rootLevel)) ∧
    (r.pre (.lraNewEq a b) = true → r.step fuel (.lraNewEq a b) =
      (Net.lraNewEq r.n a b).map fun (_, n') => (⟨n', r.orig ++ n'.sat.toEnc.cnf⟩, true)) ∧
    (r.room (.lraNewEq a b) ↔ Lra.LinOK r.n.lra a ∧ Lra.LinOK r.n.lra b) ∧
    (r.noSlack (.lraNewEq a b) ↔ ∀ l n', Net.lraNewEq r.n a b = some (l, n') → n'.lra.tableau = r.n.lra.tableau) := by
  exact ⟨rfl, (step_of_pre · rfl), Iff.rfl, Iff.rfl⟩

/-- the slack-creating case of `new_var(lin)` on its own -/
theorem C07N_newSlack_sound (n : Net) (orig L : Cnf) (fr : List Frame) (h : NetInv n orig L fr)
    (hroot : n.sat.trailLim = []) (l : Lin) (hl : Lra.LinOK n.lra l) (slack : Nat) (t1 : Lra)
    (hv : Lra.newVarLin n.sat n.lra l = some (slack, t1)) (hnew : t1.vals.length = n.lra.vals.length + 1)
    (bd : List (Nat × Th)) :
    NetInv { n with lra := t1, bound := bd } orig L [] ∧ ∀ α, TModel { n with lra := t1, bound := bd } α → TModel n α :=
  h.at_newSlack hroot hl hv hnew bd

/-- **soundness of the interval evaluation `lb(lin)`, `ub(lin)` in the ε-rational semantics of `BoundsJust`**: a
    valuation `(σr x, σi x)` within the bounds of every variable gives the expression a value - rational part
    `lin(σr)`, infinitesimal part `lin(σi)` without the known term - between `lb(lin)` and `ub(lin)`
    (infinite bounds included; the sign of each coefficient decides which bound of the variable is used) -/
theorem C07N_interval_eps (t : Lra) (g : Lra.GoodState t) (l : Lin) (hl : Lra.LinOK t l) (σr σi : Nat → Rat)
    (h : ∀ x, x < t.vals.length → Lra.BLe (t.lb x) (Lra.nu σr σi x) ∧ Lra.VLe (Lra.nu σr σi x) (t.ub x)) :
    Lra.BLe (t.lbLin l) (toLex (Lin.evalS l σr, Lin.evalS { l with known := R.zero } σi)) ∧
    Lra.VLe (toLex (Lin.evalS l σr, Lin.evalS { l with known := R.zero } σi)) (t.ubLin l) := by
  rw [← Lra.evalQ_nu]
  exact Lra.lbLin_ubLin_holds hl.1 (fun p hp => (hl.2 p hp).2)
    (fun p hp => ⟨(Lra.lowerOK_iff.1 (g.bwf _ (hl.2 p hp).1).1).1, (Lra.upperOK_iff.1 (g.bwf _ (hl.2 p hp).1).2.1).1⟩)
    fun p hp => h _ (hl.2 p hp).1

/-- at root level every true literal - in particular the reason of every LRA bound - holds in every model of
    the added clauses and the recorded lemmas -/
theorem C07N_root_true (orig L : Cnf) (s : Sat) (h : Sat.SInv (orig ++ L) orig s) (hroot : s.trailLim = []) (p : Lit)
    (hp : s.value p = some true) (α : Asg) (h0 : α 0 = false) (ho : α.cnf (orig ++ L) = true) : α.lit p = true :=
  root_true h hroot hp α h0 ho

/-- the side condition `ConflictsCurrent` can be established by evaluation: `ccB` is the same recursion with
    Boolean tests -/
theorem C07N_conflictsCurrent_check (fuel : Nat) (n : Net) (h : ccB n fuel = true) : ConflictsCurrent n fuel :=
  ccB_sound fuel n h

/-- a request that creates no slack variable creates no tableau row -/
theorem C07N_lraNewRel_noRow (n : Net) (r : LRel) (a b : Lin) (l : Lit) (n' : Net)
    (he : lraNewRel n r a b = some (l, n')) (hns : n'.lra.vals.length = n.lra.vals.length) :
    n'.lra.tableau = n.lra.tableau := lraNewRel_tableau he hns

/-- what a relation request of a difference logic does -/
theorem C07N_dl_newRel_outcome {α : Type} (O : DOps α) (nc : Sat → List Lit → Lit × Sat) (s : Sat) (t : Dl α) (r : Dl.Rel)
    (a b : Lin) (l : Lit) (s' : Sat) (t' : Dl α) (h : Dl.newRel O nc s t r a b = some (l, s', t')) :
    (s' = s ∧ t' = t) ∨ (∃ f g w, Dl.newDistance O s t f g w = (l, s', t')) ∨
    (∃ f g w w', nc (Dl.newDistance O (Dl.newDistance O s t f g w).2.1 (Dl.newDistance O s t f g w).2.2 g f w').2.1
        [(Dl.newDistance O s t f g w).1,
          (Dl.newDistance O (Dl.newDistance O s t f g w).2.1 (Dl.newDistance O s t f g w).2.2 g f w').1] = (l, s') ∧
      t' = (Dl.newDistance O (Dl.newDistance O s t f g w).2.1 (Dl.newDistance O s t f g w).2.2 g f w').2.2) :=
  Dl.newRel_out O nc h

/-- **the relation requests of IDL and RDL** at root level: the invariant is kept, the ghost set growing by
    the CNF of the resulting SAT core (the definitional clauses of the conjunction of `new_eq`); every T-model of
    the new network is a T-model of the old one.  Side conditions: those of `new_distance` (C10's no-overflow
    room `K` for IDL; finite weights with integer ε part for RDL) for the constraints of the resulting theory -/
theorem C07N_dl_relations_sound (n : Net) (orig L : Cnf) (fr : List Frame) (h : NetInv n orig L fr)
    (hroot : n.sat.trailLim = []) (hd : n.sat.dead = false) (r : Dl.Rel) (a b : Lin) (l : Lit) (n' : Net) :
    (∀ K E, n.idl.Exact K E → Dl.ConstrsOk K n.idl → idlNewRel n r a b = some (l, n') → Dl.ConstrsOk K n'.idl →
      NetInv n' (orig ++ n'.sat.toEnc.cnf) L [] ∧ ∀ α, TModel n' α → TModel n α) ∧
    (rdlNewRel n r a b = some (l, n') → (DlR.ConstrsOkR n'.rdl ∧ ∀ c ∈ n'.rdl.varDists, c.dist.inf.den = 1) →
      NetInv n' (orig ++ n'.sat.toEnc.cnf) L [] ∧ ∀ α, TModel n' α → TModel n α) :=
  ⟨fun _ _ hE _ he hok' => h.at_idlNewRel hroot hd hE he hok', fun he hok' => h.at_rdlNewRel hroot hd he hok'⟩

/-- **from `Net.init`**: after any history of admitted operations the network is sound -/
theorem C07N_all_histories_init (fuel : Nat) (ops : List NetOp) (r' : NetRun)
    (hg : NetRun.guards fuel ⟨Net.init, []⟩ ops) (hm : NetRun.rooms fuel ⟨Net.init, []⟩ ops)
    (he : NetRun.steps fuel ⟨Net.init, []⟩ ops = some r') : NetOK r' ∧ NetSound r'.n r'.orig :=
  ⟨(C07N_all_histories fuel ops _ r' netOK_init hg hm he).1, (C07N_all_histories fuel ops _ r' netOK_init hg hm he).2.1⟩

/-- along a history in which no LRA request creates a slack variable (`NetRun.noSlacks`) no tableau row is
    created, so from `Net.init` the side condition `guards` is automatic: only the side conditions `rooms` of
    the constructors remain -/
theorem C07N_all_histories_init_noGuard (fuel : Nat) (ops : List NetOp) (r' : NetRun)
    (hns : NetRun.noSlacks fuel ⟨Net.init, []⟩ ops) (hm : NetRun.rooms fuel ⟨Net.init, []⟩ ops)
    (he : NetRun.steps fuel ⟨Net.init, []⟩ ops = some r') :
    NetOK r' ∧ NetSound r'.n r'.orig :=
  C07N_all_histories_init fuel ops r' (guards_noRows ops _ rfl hns) hm he

/-- non-vacuity from `Net.init` (`NetEx2.hist`): three IDL time points, three distance constraints `b1 b2 b3`, the
    IDL equality `x3 = x1 + 4` through `idlNewRel` (two constraints `b4 b5` and their reified conjunction `b6`),
    an LRA variable `y0` and the two LRA assertions `b7 : y0 ≤ 5`, `b8 : y0 ≥ 7` created through `lraNewRel`, an RDL
    variable, a SAT variable `b9`, the reified disjunction `b10 := b1 ∨ b9`, the clauses `[b10]`, `[¬b9]`, `[b7]`,
    then `propagate` (unit propagation gives `b1`, handed to IDL, and `b7`, handed to LRA, which RECORDS the
    lemma `[¬b8, ¬b7]` and propagates `¬b8`), `assume ¬b2` (IDL records the lemma `[¬b3, b2, ¬b1]`), `next`
    (blocking clause `[b2]` added, propagated at root).  The history runs, its side conditions hold, and the
    theorem gives soundness of the final network. -/
example : NetRun.steps 100 ⟨Net.init, []⟩ NetEx2.hist = some (NetEx2.st 19) ∧
    NetRun.rooms 100 ⟨Net.init, []⟩ NetEx2.hist ∧ NetOK (NetEx2.st 19) ∧ NetSound (NetEx2.st 19).n (NetEx2.st 19).orig ∧
    (NetEx2.st 19).n.sat.log = [[⟨8, false⟩, ⟨7, false⟩], [⟨3, false⟩, ⟨2, true⟩, ⟨1, false⟩], [⟨2, true⟩]] ∧
    (NetEx2.st 19).orig.length = 15 ∧ (NetEx2.st 19).n.sat.dead = false ∧
    (NetEx2.st 19).n.lra.vAsrts.map (·.1) = [7, 8] ∧ (NetEx2.st 19).n.sat.value ⟨8, true⟩ = some false ∧
    (NetEx2.st 19).n.idl.varDists.map (·.b) = [1, 2, 3, 4, 5] := by
  obtain ⟨a, b, _, d, e, f, g, k⟩ := NetEx2.final_ok
  exact ⟨NetEx2.run_all, NetEx2.hist_rooms, a,
    (C07N_all_histories_init_noGuard 100 NetEx2.hist _ NetEx2.hist_noSlacks NetEx2.hist_rooms NetEx2.run_all).2, b, d, e, f, g, k⟩

/-- non-vacuity WITH A TABLEAU ROW (`NetEx3.hist`, from `Net.init`): two LRA variables; `lraNewRel .leq (y0 + y1) 3`
    creates the slack variable `y2 = y0 + y1` with its row and the assertion `b1 : y2 ≤ 3`; `b2 : y0 ≥ 2`,
    `b3 : y1 ≥ 2`; `lraNewEq y0 2` (answers `b2` from the cache, creates `b4 : y0 ≤ 2` and the reified conjunction
    `b5 := b2 ∧ b4`); clause `[b1]`; `propagate` (the bound is asserted, `check` succeeds); `assume b2`; `assume b3`:
    `lra.check` finds a conflict above root level, it cites `b3` (current level), `[¬b3, ¬b2]` is learnt, the
    network backjumps to level 1 and `¬b3` is assigned.  The history runs, `rooms` and `guards` hold (the
    latter by evaluation), and `C07N_all_histories_init` gives soundness of the final network. -/
example : NetRun.steps 100 ⟨Net.init, []⟩ NetEx3.hist = some (NetEx3.st 10) ∧
    NetRun.rooms 100 ⟨Net.init, []⟩ NetEx3.hist ∧ NetRun.guards 100 ⟨Net.init, []⟩ NetEx3.hist ∧
    NetOK (NetEx3.st 10) ∧ NetSound (NetEx3.st 10).n (NetEx3.st 10).orig ∧
    (NetEx3.st 10).n.sat.log = [[⟨3, false⟩, ⟨2, false⟩]] ∧ (NetEx3.st 10).n.lra.tableau.length = 1 ∧
    (NetEx3.st 10).n.sat.decisionLevel = 1 ∧ (NetEx3.st 10).n.sat.value ⟨3, true⟩ = some false ∧
    (NetEx3.st 10).n.lra.vAsrts.map (·.1) = [1, 2, 3, 4] := by
  obtain ⟨a, b, c, _, e, f, _, g⟩ := NetEx3.final_ok
  exact ⟨NetEx3.run_all, NetEx3.hist_rooms, NetEx3.hist_guards, a,
    (C07N_all_histories_init 100 NetEx3.hist _ NetEx3.hist_guards NetEx3.hist_rooms NetEx3.run_all).2, b, c, e, f, g⟩

-- NOT PROVED:
-- * `ConflictsCurrent` (the side condition `NetRun.guard` / `BjGuard`) as a THEOREM: every conflict of `lra.check`
--   above root level cites a literal of the current decision level.  It needs "the bounds of the lower levels
--   are feasible" (completeness of the simplex at the previous successful `check` + `LayersOK`).  It is a
--   hypothesis (`guards`) of `C07N_all_histories(_init)`; it is automatic without tableau rows (`C07N_noRows`),
--   hence along every history in which no LRA request creates a slack variable
--   (`C07N_all_histories_init_noGuard`), and on a concrete run it can be established by evaluation
--   (`C07N_conflictsCurrent_check`, used in the `NetEx3` example).
-- * CONSERVATIVITY of a new LRA assertion / of `rdlNewDistance`: with `TModel` as defined (arbitrary ε-rational
--   valuations) it is FALSE in general - `¬ (x ≤ v)` does not give `x ≥ v + ε`, and `¬ (σ g - σ f ≤ w)` does
--   not give `σ f - σ g ≤ -w - ε` when the ε parts differ by a non-integer (Properties/C10Rdl.lean, difference 2); it
--   would need `TModel` restricted to valuations with integer ε parts.  Proved: restriction (every T-model of the extended
--   network is one of the old) for all admitted constructors, equivalence for the `new_var`s and the SAT
--   constructors, conservativity for `idlNewDistance`.  (For a new slack ROW conservativity holds - C09B's
--   `new_row` extends every solution - but is not restated here.)
-- * `check(lits)` is not an operation of these histories (inside its loop a literal may already be assigned when it
--   is assumed, which the `DecOK` component of the invariant excludes); see `Properties/C07NetCheck.lean`.

end Oratio
