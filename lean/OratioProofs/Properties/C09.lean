/-
Property C09 — linear arithmetic: what the concrete model of `lra_theory` (OratioModel/Net/Lra.lean) guarantees.

The algebra (pivoting preserves solutions, conflict rows are infeasible, derived row bounds are valid, update keeps
the row equations) is proved once, model-independently, in Properties/C09Algebra.lean.  The theorems here connect it
to the code's state: what `check()` returns and what its explanation cites, what a bound assertion stores, saves and
explains, what the unate propagation records, and that `pop()` undoes a level exactly.  The comparisons are the
model's own (`IR.lt`, `IR.le`, ... - shown to be the order of the denoted values in C15).
-/
import OratioModel
import OratioProofs.Lemmas.LraUndoLog

namespace Oratio
open Lra

/-- a successful `check()` leaves every basic variable within its bounds -/
theorem C09_check_success_in_bounds (t t' : Lra) (fuel : Nat) (h : t.check fuel = some (none, t')) :
    ∀ e ∈ t'.tableau, t'.inBounds e.1 :=
  Lra.check_success_inBounds h

/-- a failed `check()` names a row: its basic variable is out of bounds, no non-basic variable of the row can move
    in the helping direction, and the explanation is exactly the negated reasons of the bounds that block it
    (upper bounds of the positive terms and lower bounds of the negative ones, then the violated lower bound - or the
    mirror image).  That this explanation is a theory lemma is `C09X_check_conflict_valid`
    (Properties/C09Explain.lean). -/
theorem C09_check_conflict_shape (t t' : Lra) (fuel : Nat) (c : List Lit) (h : t.check fuel = some (some c, t')) :
    ∃ xi fl, (xi, fl) ∈ t'.tableau ∧
      ((IR.lt (t'.value xi) (t'.lb xi) = true ∧
        (∀ e ∈ fl.vars, (e.2.isPositive = true → IR.lt (t'.value e.1) (t'.ub e.1) = false) ∧
                        (e.2.isNegative = true → IR.gt (t'.value e.1) (t'.lb e.1) = false)) ∧
        c = fl.vars.foldl (fun c e => if e.2.isPositive then c ++ [(t'.ubReason e.1).neg]
                                       else if e.2.isNegative then c ++ [(t'.lbReason e.1).neg] else c) [] ++ [(t'.lbReason xi).neg]) ∨
       (IR.gt (t'.value xi) (t'.ub xi) = true ∧
        (∀ e ∈ fl.vars, (e.2.isNegative = true → IR.lt (t'.value e.1) (t'.ub e.1) = false) ∧
                        (e.2.isPositive = true → IR.gt (t'.value e.1) (t'.lb e.1) = false)) ∧
        c = fl.vars.foldl (fun c e => if e.2.isPositive then c ++ [(t'.lbReason e.1).neg]
                                       else if e.2.isNegative then c ++ [(t'.ubReason e.1).neg] else c) [] ++ [(t'.ubReason xi).neg])) := by
  have hblock : ∀ {q : Nat × R → Bool} {fl : Lin}, fl.vars.find? q = none → ∀ e ∈ fl.vars, q e = false :=
    fun hq e he => by simpa using List.find?_eq_none.1 hq e he
  cases check_exit h with
  | lower hf hlt hq =>
    refine ⟨_, _, List.mem_of_find?_eq_some hf, Or.inl ⟨hlt, fun e he => ?_, rfl⟩⟩
    simpa [canGrow] using hblock hq e he
  | upper hf _ hgt hq =>
    refine ⟨_, _, List.mem_of_find?_eq_some hf, Or.inr ⟨hgt, fun e he => ?_, rfl⟩⟩
    simpa [canShrink] using hblock hq e he

/-- `check()` never touches bounds, assertions or the undo log: only values and the tableau move -/
theorem C09_check_keeps_bounds (t t' : Lra) (fuel : Nat) (c : Option (List Lit)) (h : t.check fuel = some (c, t')) :
    t'.bounds = t.bounds ∧ t'.vAsrts = t.vAsrts ∧ t'.layers = t.layers ∧ t'.exprs = t.exprs ∧ t'.sAsrts = t.sAsrts := by
  exact (C09_core_iff t t').1 (C09_core_check fuel t t' c h)

/-- a bound assertion: vacuous when not tighter; an immediate conflict citing the assertion and the opposite bound's
    reason when it crosses the opposite bound (nothing is changed then); otherwise the bound becomes `val` with reason
    `p`, and no other bound changes -/
theorem C09_assert_lower_effect (s : Sat) (t : Lra) (xi : Nat) (val : IR) (p : Lit) :
    let r := assertLower s t xi val p
    (IR.le val (t.lb xi) = true → r.cnfl = none ∧ r.th = t ∧ r.sat = s) ∧
    (IR.le val (t.lb xi) = false → IR.gt val (t.ub xi) = true → r.cnfl = some [p.neg, (t.ubReason xi).neg] ∧ r.th = t ∧ r.sat = s) ∧
    (IR.le val (t.lb xi) = false → IR.gt val (t.ub xi) = false → lbIdx xi < t.bounds.length →
      r.th.bnd (lbIdx xi) = ⟨val, p⟩ ∧ ∀ i, i ≠ lbIdx xi → r.th.bnd i = t.bnd i) := by
  exact C09_assertLower_effect s t xi val p

theorem C09_assert_upper_effect (s : Sat) (t : Lra) (xi : Nat) (val : IR) (p : Lit) :
    let r := assertUpper s t xi val p
    (IR.ge val (t.ub xi) = true → r.cnfl = none ∧ r.th = t ∧ r.sat = s) ∧
    (IR.ge val (t.ub xi) = false → IR.lt val (t.lb xi) = true → r.cnfl = some [p.neg, (t.lbReason xi).neg] ∧ r.th = t ∧ r.sat = s) ∧
    (IR.ge val (t.ub xi) = false → IR.lt val (t.lb xi) = false → ubIdx xi < t.bounds.length →
      r.th.bnd (ubIdx xi) = ⟨val, p⟩ ∧ ∀ i, i ≠ ubIdx xi → r.th.bnd i = t.bnd i) := by
  exact C09_assertUpper_effect s t xi val p

/-- unate propagation only ever cites the assertion's own literal and the reason of the bound that decides it:
    the conflict / recorded clause of `assertion::propagate_lb` is `[±b, ¬reason(lb x)]` and is produced only when the
    lower bound really decides the assertion (`lb > v` for `x ≤ v`, `lb ≥ v` for `x ≥ v`) -/
theorem C09_unate_lower_explanation (s : Sat) (t : Lra) (a : LAsrt) (xi : Nat) (c : List Lit)
    (h : (asrtPropagateLb s t a xi).1 = some c) :
    (a.o = .leq ∧ IR.gt (t.lb xi) a.v = true ∧ s.value a.b = some true ∧ c = [a.b.neg, (t.lbReason xi).neg]) ∨
    (a.o = .geq ∧ IR.ge (t.lb xi) a.v = true ∧ s.value a.b = some false ∧ c = [a.b, (t.lbReason xi).neg]) := by
  unfold asrtPropagateLb at h
  cases ho : a.o <;> rcases hv : s.value a.b with _ | _ | _ <;> simp only [ho, hv] at h
  -- two of the six branches can return a clause; the others return `none`, with or without a recorded clause
  case leq.some.true =>
    split at h
    · exact Or.inl ⟨rfl, ‹_›, rfl, (Option.some.inj h).symm⟩
    · cases h
  case geq.some.false =>
    split at h
    · exact Or.inr ⟨rfl, ‹_›, rfl, (Option.some.inj h).symm⟩
    · cases h
  all_goals first | cases h | (split at h <;> cases h)

theorem C09_unate_upper_explanation (s : Sat) (t : Lra) (a : LAsrt) (xi : Nat) (c : List Lit)
    (h : (asrtPropagateUb s t a xi).1 = some c) :
    (a.o = .leq ∧ IR.le (t.ub xi) a.v = true ∧ s.value a.b = some false ∧ c = [a.b, (t.ubReason xi).neg]) ∨
    (a.o = .geq ∧ IR.lt (t.ub xi) a.v = true ∧ s.value a.b = some true ∧ c = [a.b.neg, (t.ubReason xi).neg]) := by
  unfold asrtPropagateUb at h
  cases ho : a.o <;> rcases hv : s.value a.b with _ | _ | _ <;> simp only [ho, hv] at h
  case leq.some.false =>
    split at h
    · exact Or.inl ⟨rfl, ‹_›, rfl, (Option.some.inj h).symm⟩
    · cases h
  case geq.some.true =>
    split at h
    · exact Or.inr ⟨rfl, ‹_›, rfl, (Option.some.inj h).symm⟩
    · cases h
  all_goals first | cases h | (split at h <;> cases h)

/-- a sequence of bound writes, each saved in the newest layer first -/
def Lra.overwrite (t : Lra) (ws : List (Nat × LBound)) : Lra :=
  ws.foldl (fun t w => (t.saveBound w.1).setBound w.1 w.2) t

/-- the undo log: `saveBound` keeps the FIRST value a bound had in the level, and `pop` after `push` and any number
    of saved-then-overwritten bounds restores every bound (values and reasons) and the older layers -/
theorem C09_pop_restores_bounds (t : Lra) (ws : List (Nat × LBound)) (hw : ∀ w ∈ ws, w.1 < t.bounds.length) :
    (((t.push).overwrite ws).pop).bounds = t.bounds ∧ (((t.push).overwrite ws).pop).layers = t.layers := by
  exact C09_pop_of_inv t _ (C09_popInv_overwrite t ws t.push hw (C09_popInv_push t))

/-- non-vacuity: a two-variable system where `check` pivots and succeeds, and one where it reports a conflict -/
example : ∃ t fuel t', Lra.check t fuel = some (none, t') ∧ t'.tableau ≠ t.tableau := by
  -- x0 free and non-basic, x1 = x0 basic with x1 ≥ 1, every value 0: `check` pivots x1 with x0 and succeeds
  exact ⟨c09ExampleState, 2, C09_example_witness c09ExampleState 2 (by decide +kernel)⟩

/-- the same system with x0 ≤ 0 in addition: no variable of the row can move, `check` reports the conflict -/
example : ∃ t fuel c t', Lra.check t fuel = some (some c, t') :=
  ⟨c09ConflictState, 1, C09_example_conflict_witness c09ConflictState 1 (by decide +kernel)⟩

end Oratio
