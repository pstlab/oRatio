/-
Property C09 (reachability) — after ANY history of operations of the LRA model
(OratioModel/Net/Lra.lean) the values it reports satisfy every defining equation, are canonical
finite eps-rationals, and every non-basic variable is within its bounds; after a successful
`check()` all variables are.

The operations (`LraOp`), the function that runs one of them on (SAT core, theory) (`Lra.step`),
their side conditions (`Lra.ValidOp`) and the invariant (`Lra.GoodState`) are defined in
OratioProofs/Lemmas/LraReachDefs.lean and spelled out here (`C09R_step_def`, `C09R_validOp_def`,
`C09R_goodState_def`).  `Lra.RowsHoldAt` is that of Properties/C09Bridge.lean, `Lra.TabWF`, `Lra.ratAssign`,
`Lra.infAssign` those of Lemmas/LraState.lean, `Lra.inBounds` that of Lemmas/LraCheckOps.lean, `Lin.eval` that of
Lemmas/Lin.lean.  The comparisons are the model's own (`IR.le`, `IR.lt`, ...: the
lexicographic order of the denoted values by C15).

A hypothesis the statement cannot do without:

`ValidOp` requires the expressions passed to `new_var(lin)` / `new_lt … new_eq` to
have NO ZERO COEFFICIENT (in addition to being canonical over existing variables).  Without it the
claim is false: `C09R_zero_coefficient_counterexample` - for `x0 + 0·x1` the model computes the
lower bound `+inf` for the slack variable (`0 * +inf` is evaluated as `+inf`; the C++ `assert`s
there), and `check()` then "succeeds" with the value `+inf` for `x0`.  The harness guarantees the
condition (`linOk` in OratioModel/Driver/Net.lean), and it is an invariant of the tableau: no
operation creates a zero coefficient (field `nz` of `GoodState`).

`ValidOp` also requires the value of `set_lb` not to be `+inf`, that of `set_ub` not
to be `-inf` and that of `set` to be finite (the infinitesimal part finite in all three): a lower
bound `+inf` makes `check()` store infinite values in the same way.  The bounds created by the
model itself (`lb(lin)`, `ub(lin)` for a slack variable, `v ± ε` for a negated assertion) meet the
condition (field `bwf` of `GoodState`: a lower bound is never `+inf`, an upper bound never `-inf`,
lower ≤ upper - the last is needed because the variable that leaves the basis in `check()` is left
AT its violated bound).

`pop()` does not restore values.  It is nevertheless true that the non-basic variables stay within
their bounds: a bound saved in a layer is looser than the bound it replaces when the layer is
popped (`Lra.LayersOK`, an invariant: `assert_lower` only ever raises a lower bound and
`saveBound` keeps the first value per layer), so `pop` only loosens bounds.

The proofs are in OratioProofs/Lemmas/LraGood*.lean; `C09R_values_are_a_model` and `C09R_update_hyp_discharged` are
read off the invariant here.
-/
import OratioModel
import OratioProofs.Properties.C09
import OratioProofs.Properties.C09Bridge
import OratioProofs.Lemmas.LraGoodMain

namespace Oratio
open Lra

/-! ## the definitions, spelled out -/

/-- one operation: the model's function on the current pair; when the model returns `none` (an
    `assert` of the C++ fails, or `check` runs out of fuel) the state is kept, as the driver does;
    on a conflict the state is the one the model leaves.  `satMove s'` replaces the SAT state by an
    arbitrary one (whatever the SAT core does between two theory calls). -/
theorem C09R_step_def (s : Sat) (t : Lra) :
    Lra.step (s, t) .newVar = (s, t.newVar.2) ∧
    (∀ l, Lra.step (s, t) (.newVarLin l) =
      match Lra.newVarLin s t l with | some (_, t') => (s, t') | none => (s, t)) ∧
    (∀ r a b, Lra.step (s, t) (.newRel r a b) =
      match Lra.newRel s t r a b with | some (_, s', t', _) => (s', t') | none => (s, t)) ∧
    (∀ a b, Lra.step (s, t) (.newEq a b) =
      match Lra.newEq s t a b with | some (_, s', t', _) => (s', t') | none => (s, t)) ∧
    (∀ x v p, Lra.step (s, t) (.setLb x v p) = ((Lra.setLb s t x v p).sat, (Lra.setLb s t x v p).th)) ∧
    (∀ x v p, Lra.step (s, t) (.setUb x v p) = ((Lra.setUb s t x v p).sat, (Lra.setUb s t x v p).th)) ∧
    (∀ x v p, Lra.step (s, t) (.setEq x v p) = ((Lra.setEq s t x v p).sat, (Lra.setEq s t x v p).th)) ∧
    (∀ p, Lra.step (s, t) (.propagateLit p) = ((Lra.propagateLit s t p).sat, (Lra.propagateLit s t p).th)) ∧
    (∀ fuel, Lra.step (s, t) (.check fuel) = match t.check fuel with | some (_, t') => (s, t') | none => (s, t)) ∧
    Lra.step (s, t) .push = (s, t.push) ∧ Lra.step (s, t) .pop = (s, t.pop) ∧
    (∀ s', Lra.step (s, t) (.satMove s') = (s', t)) ∧
    (∀ ops, Lra.run (s, t) ops = ops.foldl Lra.step (s, t)) :=
  ⟨rfl, fun _ => rfl, fun _ _ _ => rfl, fun _ _ => rfl, fun _ _ _ => rfl, fun _ _ _ => rfl, fun _ _ _ => rfl,
    fun _ => rfl, fun _ => rfl, rfl, rfl, fun _ => rfl, fun _ => rfl⟩

/-- the side conditions: expressions canonical over existing variables with no zero coefficient;
    bound values canonical with a finite infinitesimal part, a lower bound not `+inf`, an upper bound
    not `-inf`, the value of `set` finite; variables existing.  `ValidRun st ops`: every operation
    is valid in the state in which it is run. -/
theorem C09R_validOp_def (t : Lra) :
    (∀ l, Lra.LinOK t l ↔ l.WF ∧ ∀ p ∈ l.vars, p.1 < t.vals.length ∧ p.2.num ≠ 0) ∧
    Lra.ValidOp t .newVar ∧ (∀ p, Lra.ValidOp t (.propagateLit p)) ∧ (∀ f, Lra.ValidOp t (.check f)) ∧
    Lra.ValidOp t .push ∧ Lra.ValidOp t .pop ∧ (∀ s', Lra.ValidOp t (.satMove s')) ∧
    (∀ l, Lra.ValidOp t (.newVarLin l) ↔ Lra.LinOK t l) ∧
    (∀ r a b, Lra.ValidOp t (.newRel r a b) ↔ Lra.LinOK t a ∧ Lra.LinOK t b) ∧
    (∀ a b, Lra.ValidOp t (.newEq a b) ↔ Lra.LinOK t a ∧ Lra.LinOK t b) ∧
    (∀ x v p, Lra.ValidOp t (.setLb x v p) ↔ x < t.vals.length ∧ v.WF ∧ v.inf.den ≠ 0 ∧ v.rat ≠ R.pinf) ∧
    (∀ x v p, Lra.ValidOp t (.setUb x v p) ↔ x < t.vals.length ∧ v.WF ∧ v.inf.den ≠ 0 ∧ v.rat ≠ R.ninf) ∧
    (∀ x v p, Lra.ValidOp t (.setEq x v p) ↔ x < t.vals.length ∧ v.WF ∧ v.inf.den ≠ 0 ∧ v.rat.den ≠ 0) ∧
    (∀ st op ops, Lra.ValidRun st (op :: ops) ↔ Lra.ValidOp st.2 op ∧ Lra.ValidRun (Lra.step st op) ops) :=
  ⟨fun _ => Iff.rfl, trivial, fun _ => trivial, fun _ => trivial, trivial, trivial, fun _ => trivial,
    fun _ => Iff.rfl, fun _ _ _ => Iff.rfl, fun _ _ => Iff.rfl, fun _ _ _ => Iff.rfl, fun _ _ _ => Iff.rfl,
    fun _ _ _ => Iff.rfl, fun _ _ _ => Iff.rfl⟩

/-- the invariant.  `LowerOK a` / `UpperOK a`: `a` is canonical, its infinitesimal part is finite and
    its rational part is not `+inf` / not `-inf`; `FinIR a`: both parts canonical and finite.
    `LayersOK bounds layers`: every entry `(i, b)` of the newest layer is an index of `c_bounds`, `b`
    is a bound value of the right kind (lower for even `i`, upper for odd `i`) at least as loose as
    `c_bounds[i]`, and the same holds of the older layers with respect to `c_bounds` after the pop
    of the newer ones (`C09R_layersOK_def`). -/
theorem C09R_goodState_def (t : Lra) :
    Lra.GoodState t ↔
      Lra.TabWF t ∧
      (∀ e ∈ t.tableau, ∀ p ∈ e.2.vars, p.2.num ≠ 0) ∧
      (∀ v ∈ t.vals, (v.rat.WF ∧ v.rat.den ≠ 0) ∧ (v.inf.WF ∧ v.inf.den ≠ 0)) ∧
      Lra.RowsHoldAt t t.ratAssign ∧
      (∀ e ∈ t.tableau, t.infAssign e.1 = Lin.eval { e.2 with known := R.zero } t.infAssign) ∧
      t.bounds.length = 2 * t.vals.length ∧
      (∀ x, x < t.vals.length →
        ((t.lb x).rat.WF ∧ (t.lb x).rat ≠ R.pinf ∧ (t.lb x).inf.WF ∧ (t.lb x).inf.den ≠ 0) ∧
        ((t.ub x).rat.WF ∧ (t.ub x).rat ≠ R.ninf ∧ (t.ub x).inf.WF ∧ (t.ub x).inf.den ≠ 0) ∧
        IR.le (t.lb x) (t.ub x) = true) ∧
      (∀ e ∈ t.vAsrts, e.2.x < t.vals.length ∧ Lra.FinIR e.2.v) ∧
      Lra.LayersOK t.bounds t.layers ∧
      (∀ e ∈ t.exprs, e.2 < t.vals.length) ∧
      (∀ x, x < t.vals.length → t.isBasic x = false → t.inBounds x) :=
  ⟨fun g => ⟨g.tab, g.nz, g.vfin, g.rowsRat, g.rowsInf, g.blen, g.bwf, g.asrts, g.lay, g.exprs, g.nbin⟩,
    fun ⟨h1, h2, h3, h4, h5, h6, h7, h8, h9, h10, h11⟩ => ⟨⟨h1, h2, h3, h4, h5, h6, h7, h8, h9, h10⟩, h11⟩⟩

theorem C09R_layersOK_def (bs : List LBound) (l : List (Nat × LBound)) (ls : List (List (Nat × LBound))) :
    Lra.LayersOK bs [] ∧
    (Lra.LayersOK bs (l :: ls) ↔
      (∀ e ∈ l, e.1 < bs.length ∧
        (if e.1 % 2 = 0 then Lra.LowerOK e.2.value else Lra.UpperOK e.2.value) ∧
        (if e.1 % 2 = 0 then IR.le e.2.value (bs.getD e.1 ⟨IR.ofR R.zero, Lit.trueLit⟩).value = true
         else IR.le (bs.getD e.1 ⟨IR.ofR R.zero, Lit.trueLit⟩).value e.2.value = true)) ∧
      Lra.LayersOK (l.foldl (fun bs e => bs.set e.1 e.2) bs) ls) :=
  ⟨trivial, Iff.rfl⟩

theorem C09R_init_good : Lra.GoodState Lra.init := by exact Lra.init_good

/-- whatever the operation returns - `none`, a literal, a conflict - and whatever the SAT state is -/
theorem C09R_step_good (st : Sat × Lra) (op : LraOp) (g : Lra.GoodState st.2) (hv : Lra.ValidOp st.2 op) :
    Lra.GoodState (Lra.step st op).2 := by
  exact Lra.step_good st op g hv

/-- whether `check` succeeds or reports a conflict -/
theorem C09R_check_good (t t' : Lra) (fuel : Nat) (c : Option (List Lit)) (g : Lra.GoodState t)
    (h : t.check fuel = some (c, t')) : Lra.GoodState t' := by
  exact Lra.check_good fuel t t' c g h

/-- `pop` restores bounds, not values: the restored bounds are looser -/
theorem C09R_pop_good (t : Lra) (g : Lra.GoodState t) : Lra.GoodState t.pop := by
  exact Lra.pop_good g

/-- whether the assertion is vacuous, conflicting or stored -/
theorem C09R_assert_good (s : Sat) (t : Lra) (xi : Nat) (val : IR) (p : Lit) (g : Lra.GoodState t)
    (hxi : xi < t.vals.length) :
    (Lra.LowerOK val → Lra.GoodState (Lra.assertLower s t xi val p).th) ∧
    (Lra.UpperOK val → Lra.GoodState (Lra.assertUpper s t xi val p).th) := by
  exact ⟨fun h => (Lra.assertLower_good g hxi h).1, fun h => (Lra.assertUpper_good g hxi h).1⟩

theorem C09R_reachable_good (ops : List LraOp) (hv : Lra.ValidRun (Sat.init, Lra.init) ops) :
    Lra.GoodState (Lra.run (Sat.init, Lra.init) ops).2 := by
  exact Lra.run_good ops _ Lra.init_good hv

/-- In every reachable state in which `check fuel` returns `some (none, t')`: every variable of
    `t'`, basic or not, is within its bounds; every value is a finite canonical eps-rational; the
    rational parts satisfy every row and the infinitesimal parts every row without its known term;
    and for every registered assertion `x ≤ v` / `x ≥ v` controlled by `b` whose bound is the one
    currently stored for `x` (value `v`, reason `b`) the value of `x` satisfies it - as does, for an
    assertion asserted false, the bound `v + ε` / `v - ε` stored with reason `¬b`. -/
theorem C09R_values_are_a_model (ops : List LraOp) (hv : Lra.ValidRun (Sat.init, Lra.init) ops)
    (fuel : Nat) (t' : Lra) (h : (Lra.run (Sat.init, Lra.init) ops).2.check fuel = some (none, t')) :
    (∀ x, x < t'.vals.length → t'.inBounds x) ∧
    (∀ v ∈ t'.vals, Lra.FinIR v) ∧
    Lra.RowsHoldAt t' t'.ratAssign ∧
    (∀ e ∈ t'.tableau, t'.infAssign e.1 = Lin.eval { e.2 with known := R.zero } t'.infAssign) ∧
    (∀ e ∈ t'.vAsrts,
      (e.2.o = .leq → t'.bnd (ubIdx e.2.x) = ⟨e.2.v, e.2.b⟩ → IR.le (t'.value e.2.x) e.2.v = true) ∧
      (e.2.o = .geq → t'.bnd (lbIdx e.2.x) = ⟨e.2.v, e.2.b⟩ → IR.ge (t'.value e.2.x) e.2.v = true) ∧
      (e.2.o = .leq → t'.bnd (lbIdx e.2.x) = ⟨IR.add e.2.v ⟨R.zero, R.one⟩, e.2.b.neg⟩ →
        IR.ge (t'.value e.2.x) (IR.add e.2.v ⟨R.zero, R.one⟩) = true) ∧
      (e.2.o = .geq → t'.bnd (ubIdx e.2.x) = ⟨IR.sub e.2.v ⟨R.zero, R.one⟩, e.2.b.neg⟩ →
        IR.le (t'.value e.2.x) (IR.sub e.2.v ⟨R.zero, R.one⟩) = true)) := by
  have g := run_good ops _ init_good hv
  have g' := check_good fuel _ _ _ g h
  have hin : ∀ x, x < t'.vals.length → t'.inBounds x := by
    intro x hx
    cases hb : t'.isBasic x
    · exact g'.nbin x hx hb
    · obtain ⟨e, he, hk⟩ := List.mem_map.1 ((isBasic_iff_keys t' x).1 hb)
      rw [← hk]
      exact check_success_inBounds h e he
  refine ⟨hin, g'.vfin, g'.rowsRat, g'.rowsInf, ?_⟩
  intro e he
  obtain ⟨hx, hvf⟩ := g'.asrts e he
  obtain ⟨hlo, hup, -⟩ := g'.bwf e.2.x hx
  have hval := (value_fin_of_vals g'.vfin e.2.x).wf
  obtain ⟨c1, c2⟩ := (IR.within_iff hval hlo.wf hup.wf).1 (hin e.2.x hx)
  refine ⟨fun _ hb => ?_, fun _ hb => ?_, fun _ hb => ?_, fun _ hb => ?_⟩
  · have : t'.ub e.2.x = e.2.v := by unfold ub; rw [hb]
    rw [← this]; exact c2
  · have : t'.lb e.2.x = e.2.v := by unfold lb; rw [hb]
    rw [IR.ge_swap, ← this]; exact c1
  · have : t'.lb e.2.x = IR.add e.2.v ⟨R.zero, R.one⟩ := by unfold lb; rw [hb]
    rw [IR.ge_swap, ← this]; exact c1
  · have : t'.ub e.2.x = IR.sub e.2.v ⟨R.zero, R.one⟩ := by unfold ub; rw [hb]
    rw [← this]; exact c2

/-- `C09B_update_keeps_rows` and `C09B_update_keeps_rows_inf` for a reachable state: neither the
    finiteness of the stored values (`hfin`) nor the row equations are hypotheses -/
theorem C09R_update_hyp_discharged (ops : List LraOp) (hv : Lra.ValidRun (Sat.init, Lra.init) ops)
    (xi : Nat) (v : IR) :
    let t := (Lra.run (Sat.init, Lra.init) ops).2
    t.isBasic xi = false → xi < t.vals.length → (v.rat.WF ∧ v.rat.den ≠ 0) → (v.inf.WF ∧ v.inf.den ≠ 0) →
    Lra.RowsHoldAt (t.update xi v) (t.update xi v).ratAssign ∧
    (∀ e ∈ (t.update xi v).tableau,
      (t.update xi v).infAssign e.1 = Lin.eval { e.2 with known := R.zero } (t.update xi v).infAssign) ∧
    Lra.TabWF (t.update xi v) ∧ (t.update xi v).tableau = t.tableau ∧
    (t.update xi v).value xi = v ∧
    (∀ x, t.isBasic x = false → x ≠ xi → (t.update xi v).value x = t.value x) ∧
    (∀ x, Lra.FinIR ((t.update xi v).value x)) := by
  intro t hnb hxi hvr hvi
  have g : GoodState t := run_good ops _ init_good hv
  obtain ⟨u1, u2, u3, u4, -, -⟩ := g.toGoodCore.update hnb hxi (v := v) ⟨hvr, hvi⟩
  exact ⟨u1.rowsRat, u1.rowsInf, u1.tab, u4, u2, u3, value_fin_of_vals u1.vfin⟩

/-- `x0 + 0·x1` is canonical over existing variables, yet after `new_var(x0 + 0·x1)` the slack
    variable `x2` has the lower bound `+inf`, and `check()` succeeds with the value `+inf` for `x0` -/
theorem C09R_zero_coefficient_counterexample :
    (⟨[(0, ⟨1, 1⟩), (1, ⟨0, 1⟩)], ⟨0, 1⟩⟩ : Lin).WF ∧
    (Lra.run (Sat.init, Lra.init) [.newVar, .newVar, .newVarLin ⟨[(0, ⟨1, 1⟩), (1, ⟨0, 1⟩)], ⟨0, 1⟩⟩]).2.lb 2 =
      IR.ofR R.pinf ∧
    ((Lra.run (Sat.init, Lra.init) [.newVar, .newVar, .newVarLin ⟨[(0, ⟨1, 1⟩), (1, ⟨0, 1⟩)], ⟨0, 1⟩⟩]).2.check 5).map
      (fun r => (r.1, r.2.value 0)) = some (none, IR.ofR R.pinf) := by
  exact ⟨Lin.wf_two (by decide) (by decide) (by decide) (by decide), by decide +kernel⟩

/-! ## non-vacuity: `x2 = x0 + x1`, `x3 = x0 - x1`, `x2 ≥ 1`, `x3 ≤ -2`; `check` pivots twice -/

def c09rOps : List LraOp :=
  [.newVar, .newVar,
   .newVarLin ⟨[(0, ⟨1, 1⟩), (1, ⟨1, 1⟩)], ⟨0, 1⟩⟩, .newVarLin ⟨[(0, ⟨1, 1⟩), (1, ⟨-1, 1⟩)], ⟨0, 1⟩⟩,
   .setLb 2 (IR.ofR ⟨1, 1⟩) Lit.trueLit, .setUb 3 (IR.ofR ⟨-2, 1⟩) Lit.trueLit]

theorem C09R_example_valid : Lra.ValidRun (Sat.init, Lra.init) c09rOps :=
  ⟨trivial, trivial, ⟨Lin.wf_two (by decide) (by decide) (by decide) (by decide), by decide +kernel⟩,
    ⟨Lin.wf_two (by decide) (by decide) (by decide) (by decide), by decide +kernel⟩,
    ⟨by decide +kernel, by decide, by decide, by decide⟩, ⟨by decide +kernel, by decide, by decide, by decide⟩, trivial⟩

/-- the final state of that history, evaluated once: `x2`, `x3` are basic, `x0` is not; what `check 5`
    returns; the values after `update(x0, 2)` -/
theorem c09r_final :
    (Lra.run (Sat.init, Lra.init) c09rOps).2.tableau.map Prod.fst = [2, 3] ∧
    (Lra.run (Sat.init, Lra.init) c09rOps).2.isBasic 0 = false ∧
    0 < (Lra.run (Sat.init, Lra.init) c09rOps).2.vals.length ∧
    ((Lra.run (Sat.init, Lra.init) c09rOps).2.check 5).map (fun r => (r.1, r.2.tableau.map Prod.fst, r.2.vals)) =
      some (none, [0, 1], [IR.ofR ⟨-1, 2⟩, IR.ofR ⟨3, 2⟩, IR.ofR ⟨1, 1⟩, IR.ofR ⟨-2, 1⟩]) ∧
    ((Lra.run (Sat.init, Lra.init) c09rOps).2.update 0 (IR.ofR ⟨2, 1⟩)).vals =
      [IR.ofR ⟨2, 1⟩, IR.ofR ⟨0, 1⟩, IR.ofR ⟨2, 1⟩, IR.ofR ⟨2, 1⟩] := by decide +kernel

/-- the history is valid, its final state is good (by the theorem), `check` succeeds after pivoting
    (the tableau changes: `x0`, `x1` become basic), and the values found are `x0 = -1/2`, `x1 = 3/2`,
    `x2 = 1`, `x3 = -2`: all within bounds and satisfying both rows, as `C09R_values_are_a_model` says -/
example : Lra.ValidRun (Sat.init, Lra.init) c09rOps ∧ Lra.GoodState (Lra.run (Sat.init, Lra.init) c09rOps).2 ∧
    ∃ t', (Lra.run (Sat.init, Lra.init) c09rOps).2.check 5 = some (none, t') ∧
      t'.tableau.map Prod.fst = [0, 1] ∧ (Lra.run (Sat.init, Lra.init) c09rOps).2.tableau.map Prod.fst = [2, 3] ∧
      t'.vals = [IR.ofR ⟨-1, 2⟩, IR.ofR ⟨3, 2⟩, IR.ofR ⟨1, 1⟩, IR.ofR ⟨-2, 1⟩] ∧
      (∀ x, x < t'.vals.length → t'.inBounds x) ∧ Lra.RowsHoldAt t' t'.ratAssign := by
  refine ⟨C09R_example_valid, C09R_reachable_good _ C09R_example_valid, ?_⟩
  have h1 := c09r_final.2.2.2.1
  cases hc : (Lra.run (Sat.init, Lra.init) c09rOps).2.check 5 with
  | none => rw [hc] at h1; cases h1
  | some r =>
    obtain ⟨c, t'⟩ := r
    rw [hc] at h1
    simp only [Option.map_some, Option.some.injEq, Prod.mk.injEq] at h1
    obtain ⟨rfl, h2, h3⟩ := h1
    obtain ⟨m1, -, m3, -⟩ := C09R_values_are_a_model c09rOps C09R_example_valid 5 t' hc
    exact ⟨t', rfl, h2, c09r_final.1, h3, m1, m3⟩

/-- `update(x0, 2)` in the final state of that history (`x0` is non-basic there): the hypotheses of
    `C09R_update_hyp_discharged` hold, and `x2`, `x3` follow `x0` -/
example : (Lra.run (Sat.init, Lra.init) c09rOps).2.isBasic 0 = false ∧
    0 < (Lra.run (Sat.init, Lra.init) c09rOps).2.vals.length ∧
    ((Lra.run (Sat.init, Lra.init) c09rOps).2.update 0 (IR.ofR ⟨2, 1⟩)).vals =
      [IR.ofR ⟨2, 1⟩, IR.ofR ⟨0, 1⟩, IR.ofR ⟨2, 1⟩, IR.ofR ⟨2, 1⟩] ∧
    Lra.RowsHoldAt ((Lra.run (Sat.init, Lra.init) c09rOps).2.update 0 (IR.ofR ⟨2, 1⟩))
      ((Lra.run (Sat.init, Lra.init) c09rOps).2.update 0 (IR.ofR ⟨2, 1⟩)).ratAssign :=
  ⟨c09r_final.2.1, c09r_final.2.2.1, c09r_final.2.2.2.2,
    (C09R_update_hyp_discharged c09rOps C09R_example_valid 0 (IR.ofR ⟨2, 1⟩) c09r_final.2.1 c09r_final.2.2.1
      (by decide) (by decide)).1⟩

/-- `pop` does not restore values: `x0 ≥ 5` asserted above a `push` moves `x0` to 5; after `pop` the
    bound is `-inf` again, the value is still 5 - within the restored (looser) bounds -/
example : Lra.ValidRun (Sat.init, Lra.init) [.newVar, .push, .setLb 0 (IR.ofR ⟨5, 1⟩) Lit.trueLit, .pop] ∧
    (Lra.run (Sat.init, Lra.init) [.newVar, .push, .setLb 0 (IR.ofR ⟨5, 1⟩) Lit.trueLit]).2.lb 0 = IR.ofR ⟨5, 1⟩ ∧
    (Lra.run (Sat.init, Lra.init) [.newVar, .push, .setLb 0 (IR.ofR ⟨5, 1⟩) Lit.trueLit, .pop]).2.lb 0 = IR.ofR R.ninf ∧
    (Lra.run (Sat.init, Lra.init) [.newVar, .push, .setLb 0 (IR.ofR ⟨5, 1⟩) Lit.trueLit, .pop]).2.vals = [IR.ofR ⟨5, 1⟩] ∧
    (Lra.run (Sat.init, Lra.init) [.newVar, .push, .setLb 0 (IR.ofR ⟨5, 1⟩) Lit.trueLit, .pop]).2.inBounds 0 := by
  have hv : Lra.ValidRun (Sat.init, Lra.init) [.newVar, .push, .setLb 0 (IR.ofR ⟨5, 1⟩) Lit.trueLit, .pop] :=
    ⟨trivial, trivial, ⟨by decide +kernel, by decide, by decide, by decide⟩, trivial, trivial⟩
  exact ⟨hv, by decide +kernel, by decide +kernel, by decide +kernel,
    (C09R_reachable_good _ hv).nbin 0 (by decide +kernel) (by decide +kernel)⟩

end Oratio
