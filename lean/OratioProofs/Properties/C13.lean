/-
Property C13 — reified boolean constructs are equivalent to the formula they stand for.

`Enc` (OratioModel/Sat/Enc.lean) models the root-level part of `smt::sat_core`: clause
creation, the five reified constructors with their simplifications, shortcuts and expression
cache, and root-level propagation.  `Models α s` says the total assignment `α` satisfies
every clause and every root value of state `s` (variable 0 is the false constant).

For every constructor the theorems give, for ALL argument lists (any length, signs,
duplicates, complements, constants) and ALL states reachable from `Enc.init`:
  * `…_equiv / …_forces` (one theorem per constructor): the state invariant (well-formedness +
    soundness of every cached expression) is preserved; the meaning of the returned literal in
    every model of the new state; no model of the old state is lost (`Enc.Extends`: each extends
    to a model of the new state that agrees on every old variable, auxiliary ones included);
  * `…_complete` (at-most-one / exactly-one): an assignment satisfying the cardinality constraint
    can make the literal true, whenever the expression is built rather than fetched from the
    cache.
-/
import OratioModel
import OratioProofs.Lemmas.EncOps

namespace Oratio
open Enc

/-- `α` satisfies state `s` -/
def Enc.Sat (α : Asg) (s : Enc) : Prop := α 0 = false ∧ Enc.Models α s

/-- at most one *distinct* true literal (duplicates have set semantics, as in the code) -/
def AtMostOne (α : Asg) (ls : List Lit) : Prop := ∀ a ∈ ls, ∀ b ∈ ls, α.lit a = true → α.lit b = true → a = b
def ExactlyOne (α : Asg) (ls : List Lit) : Prop := AtMostOne α ls ∧ ∃ a ∈ ls, α.lit a = true

/-- meaning of a cached expression -/
def KeySem (α : Asg) : Key → Lit → Prop
  | .eq a b, l => α.lit l = (α.lit a == α.lit b)
  | .conj ls, l => α.lit l = ls.all α.lit
  | .disj ls, l => α.lit l = ls.any α.lit
  | .amo ls, l => α.lit l = true → AtMostOne α ls
  | .exo ls, l => α.lit l = true → ExactlyOne α ls

def Key.lits : Key → List Lit
  | .eq a b => [a, b]
  | .conj ls => ls
  | .disj ls => ls
  | .amo ls => ls
  | .exo ls => ls

/-- structural well-formedness -/
def Enc.WF (s : Enc) : Prop :=
  s.vals.head? = some (some false) ∧
  (∀ c ∈ s.clauses, ∀ l ∈ c, l.var < s.nvars) ∧
  (∀ e ∈ s.exprs, e.2.var < s.nvars ∧ ∀ l ∈ e.1.lits, l.var < s.nvars)

/-- the invariant: well-formed, and every cached expression means what its key says -/
def Enc.Inv (s : Enc) : Prop := s.WF ∧ ∀ e ∈ s.exprs, ∀ α, Enc.Sat α s → KeySem α e.1 e.2

/-- every model of `s` extends to a model of `s'` that agrees on all variables of `s` -/
def Enc.Extends (s s' : Enc) : Prop :=
  ∀ α, Enc.Sat α s → ∃ α', Enc.Sat α' s' ∧ ∀ v, v < s.nvars → α' v = α v
/-- `s'` only adds constraints and variables -/
def Enc.Refines (s s' : Enc) : Prop := s.nvars ≤ s'.nvars ∧ ∀ α, Enc.Sat α s' → Enc.Sat α s

def InRange (s : Enc) (ls : List Lit) : Prop := ∀ l ∈ ls, l.var < s.nvars

/-! ## the invariant holds initially and is kept by every operation -/

theorem C13_init_inv : Enc.init.Inv := EncL.init_inv

theorem C13_newVar_inv (s : Enc) (h : s.Inv) : (s.newVar).2.Inv ∧ s.Extends (s.newVar).2 ∧ s.Refines (s.newVar).2 := EncL.newVar_spec h

/-- `new_clause`: on success the new state means "old state and the clause"; failure means
    the old state already contradicts the clause -/
theorem C13_new_clause_sem (s : Enc) (c : List Lit) (h : s.Inv) (hc : InRange s c) :
    (s.newClause c).2.Inv ∧
    ((s.newClause c).1 = true → ∀ α, Enc.Sat α (s.newClause c).2 ↔ (Enc.Sat α s ∧ α.clause c = true)) ∧
    ((s.newClause c).1 = false → ∀ α, Enc.Sat α s → α.clause c = false) := by
  have hp := EncL.newClause_sat h hc
  refine ⟨hp.inv, fun ht α => ⟨fun hα => ⟨hp.ref α hα, ht ▸ hp.ans1 hα⟩, fun hα => hp.keep1 hα.1 hα.2⟩,
    fun hf α hα => ?_⟩
  cases hcl : α.clause c with
  | false => rfl
  | true => exact hcl.symm.trans ((hp.ans1 (hp.keep1 hα hcl)).trans hf)

/-- root-level propagation keeps the set of models; failure means there is none -/
theorem C13_propagate_sem (s : Enc) (h : s.Inv) :
    (s.propagate).2.Inv ∧
    ((s.propagate).1 = true → ∀ α, Enc.Sat α (s.propagate).2 ↔ Enc.Sat α s) ∧
    ((s.propagate).1 = false → ∀ α, ¬ Enc.Sat α s) := EncL.propagateFuel_spec (s.nvars + 1) s h

/-! ## equality, conjunction, disjunction: the literal is equivalent to the formula -/

theorem C13_eq_equiv (s : Enc) (a b : Lit) (h : s.Inv) (ha : a.var < s.nvars) (hb : b.var < s.nvars) :
    (s.newEq a b).2.Inv ∧ (s.newEq a b).1.var < (s.newEq a b).2.nvars ∧
    (∀ α, Enc.Sat α (s.newEq a b).2 → α.lit (s.newEq a b).1 = (α.lit a == α.lit b)) ∧
    s.Extends (s.newEq a b).2 ∧ s.Refines (s.newEq a b).2 :=
  have g := EncL.eq_defines h ha hb
  ⟨g.inv, g.lt, g.sem, g.ext, g.ref⟩

theorem C13_conj_equiv (s : Enc) (ls : List Lit) (h : s.Inv) (hl : InRange s ls) :
    (s.newConj ls).2.Inv ∧ (s.newConj ls).1.var < (s.newConj ls).2.nvars ∧
    (∀ α, Enc.Sat α (s.newConj ls).2 → α.lit (s.newConj ls).1 = ls.all α.lit) ∧
    s.Extends (s.newConj ls).2 ∧ s.Refines (s.newConj ls).2 := by
  obtain ⟨c1, c2, c3, c4, c5, _⟩ := EncL.conj_spec h hl
  exact ⟨c1, c2, c3, c4, c5⟩

theorem C13_disj_equiv (s : Enc) (ls : List Lit) (h : s.Inv) (hl : InRange s ls) :
    (s.newDisj ls).2.Inv ∧ (s.newDisj ls).1.var < (s.newDisj ls).2.nvars ∧
    (∀ α, Enc.Sat α (s.newDisj ls).2 → α.lit (s.newDisj ls).1 = ls.any α.lit) ∧
    s.Extends (s.newDisj ls).2 ∧ s.Refines (s.newDisj ls).2 := by
  rw [← Cons_enc_newDisj, Cons.newDisj_eq]
  have g := EncL.junct_spec (abs := true) h hl
  exact ⟨g.inv, g.lt, g.sem, g.ext, g.ref⟩

/-! ## at-most-one / exactly-one: pairwise and product encodings, any length -/

/-- the recursion of the product encoding terminates within the fuel `newAtMostOne` passes:
    the result does not depend on extra fuel -/
theorem C13_amo_fuel_enough (s : Enc) (ls : List Lit) (k : Nat) :
    Enc.amoCore (ls.length + k) s ls = Enc.amoCore ls.length s ls := by
  rw [← Cons_enc_amoCore, ← Cons_enc_amoCore]
  exact EncL.amoCore_fuel _ s ls _ (Nat.le_add_right _ _) (Nat.le_refl _)

theorem C13_amo_forces (s : Enc) (ls : List Lit) (h : s.Inv) (hl : InRange s ls) :
    (s.newAtMostOne ls).2.Inv ∧ (s.newAtMostOne ls).1.var < (s.newAtMostOne ls).2.nvars ∧
    (∀ α, Enc.Sat α (s.newAtMostOne ls).2 → α.lit (s.newAtMostOne ls).1 = true → AtMostOne α ls) ∧
    s.Extends (s.newAtMostOne ls).2 ∧ s.Refines (s.newAtMostOne ls).2 := (EncL.amo_good h hl).1.tuple

/-- a freshly built at-most-one excludes no assignment that satisfies the constraint;
    a cached one leaves the state untouched -/
theorem C13_amo_complete (s : Enc) (ls : List Lit) (h : s.Inv) (hl : InRange s ls) :
    (s.amoCached ls = false →
      ∀ α, Enc.Sat α s → AtMostOne α ls →
        ∃ α', Enc.Sat α' (s.newAtMostOne ls).2 ∧ (∀ v, v < s.nvars → α' v = α v) ∧ α'.lit (s.newAtMostOne ls).1 = true) ∧
    (s.amoCached ls = true → (s.newAtMostOne ls).2 = s) := (EncL.amo_good h hl).2

theorem C13_exo_forces (s : Enc) (ls : List Lit) (h : s.Inv) (hl : InRange s ls) :
    (s.newExctOne ls).2.Inv ∧ (s.newExctOne ls).1.var < (s.newExctOne ls).2.nvars ∧
    (∀ α, Enc.Sat α (s.newExctOne ls).2 → α.lit (s.newExctOne ls).1 = true → ExactlyOne α ls) ∧
    s.Extends (s.newExctOne ls).2 ∧ s.Refines (s.newExctOne ls).2 := (EncL.exo_good h hl).1.tuple

theorem C13_exo_complete (s : Enc) (ls : List Lit) (h : s.Inv) (hl : InRange s ls) (hf : s.exoFresh ls = true) :
    ∀ α, Enc.Sat α s → ExactlyOne α ls →
      ∃ α', Enc.Sat α' (s.newExctOne ls).2 ∧ (∀ v, v < s.nvars → α' v = α v) ∧ α'.lit (s.newExctOne ls).1 = true :=
  (EncL.exo_good h hl).2 hf

/-- the operations of the root-level API -/
inductive EncOp where
  | newVar
  | clause (c : List Lit)
  | eq (a b : Lit)
  | conj (ls : List Lit)
  | disj (ls : List Lit)
  | amo (ls : List Lit)
  | exo (ls : List Lit)
  | propagate

def EncOp.lits : EncOp → List Lit
  | .newVar => [] | .clause c => c | .eq a b => [a, b] | .conj ls => ls | .disj ls => ls
  | .amo ls => ls | .exo ls => ls | .propagate => []

def Enc.step (s : Enc) : EncOp → Enc
  | .newVar => (s.newVar).2
  | .clause c => (s.newClause c).2
  | .eq a b => (s.newEq a b).2
  | .conj ls => (s.newConj ls).2
  | .disj ls => (s.newDisj ls).2
  | .amo ls => (s.newAtMostOne ls).2
  | .exo ls => (s.newExctOne ls).2
  | .propagate => (s.propagate).2

/-- a history is valid when every operation only mentions variables that exist when it is issued -/
def ValidHistory : Enc → List EncOp → Prop
  | _, [] => True
  | s, op :: ops => InRange s op.lits ∧ ValidHistory (s.step op) ops

/-- after any valid history the invariant holds: in particular every expression ever
    returned from the cache still means what it was built to mean, whatever was added since -/
theorem C13_inv_reachable (ops : List EncOp) (hv : ValidHistory Enc.init ops) :
    (ops.foldl Enc.step Enc.init).Inv := by
  have key : ∀ (ops : List EncOp) (s : Enc), s.Inv → ValidHistory s ops → (ops.foldl Enc.step s).Inv := by
    intro ops
    induction ops with
    | nil => intro s h _; exact h
    | cons op ops ih =>
      intro s h hv
      obtain ⟨hr, hv'⟩ := hv
      refine ih _ ?_ hv'
      cases op with
      | newVar => exact (C13_newVar_inv s h).1
      | clause c => exact (C13_new_clause_sem s c h hr).1
      | eq a b =>
        exact (C13_eq_equiv s a b h (hr a (by simp [EncOp.lits])) (hr b (by simp [EncOp.lits]))).1
      | conj ls => exact (C13_conj_equiv s ls h hr).1
      | disj ls => exact (C13_disj_equiv s ls h hr).1
      | amo ls => exact (C13_amo_forces s ls h hr).1
      | exo ls => exact (C13_exo_forces s ls h hr).1
      | propagate => exact (C13_propagate_sem s h).1
  exact key ops _ C13_init_inv hv

/-- a cache hit returns a literal with the meaning of the requested expression -/
theorem C13_cache_hit_valid (s : Enc) (k : Key) (l : Lit) (h : s.Inv) (hk : s.lookup k = some l) :
    l.var < s.nvars ∧ ∀ α, Enc.Sat α s → KeySem α k l := EncL.cache_hit h hk

/-! ## non-vacuity -/

example : ValidHistory Enc.init [.newVar, .newVar, .newVar, .eq ⟨1, true⟩ ⟨2, false⟩, .amo [⟨1, true⟩, ⟨2, true⟩, ⟨3, true⟩],
    .clause [⟨1, true⟩], .exo [⟨1, true⟩, ⟨2, true⟩, ⟨3, false⟩], .propagate] := by
  simp only [ValidHistory, InRange, EncOp.lits]
  decide

example : (Enc.init.newVar.2.newVar.2.newEq ⟨1, true⟩ ⟨2, false⟩).1 = ⟨3, true⟩ := by decide

end Oratio
