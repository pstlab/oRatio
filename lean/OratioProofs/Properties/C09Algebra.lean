/-
Property C09 — the algebra behind the simplex of `lra_theory` (model-independent part).

Definitions (the first four and `lbv`/`ubv` are in `OratioProofs/Lemmas/LraAlgebra.lean`):
  * `Var := ℕ`; `Val := Lex (ℚ × ℚ)`: values `q + e·ε` ordered lexicographically, componentwise `+`, componentwise
    multiplication by a rational (`c • v`).  `Val.ofRat q = (q, 0)`.
  * `Row`: `coeffs : Var →₀ ℚ` (finitely many variables with a NONZERO coefficient — a `Finsupp` cannot store a
    zero) and a rational known term `k`.  `Row.eval r ν = Σ_{v ∈ supp} c_v • ν v + (k, 0)`.
  * `Row.bound r p n = Σ_{c_v>0} c_v • p v + Σ_{c_v<0} c_v • n v + (k, 0)`.
  * `Row.solveFor r xi xj = (r − a·xj)/(−a) + (1/a)·xi` with `a = r.coeffs xj`;
    `Row.subst r xj e`: erase `xj`, add `cc • e.coeffs` (zero sums vanish from the support), `k += cc * e.k`;
    it is the identity on a row that does not contain `xj` (`Row.subst_of_not_mem`).
  * `Tableau := Var → Option Row`: the map from BASIC variables to rows (`none` = not basic).  Nothing below needs
    the domain to be finite, so the theorems hold a fortiori for finite maps.
  * `Sat T ν`: every equation `x = row_x` holds under `ν`.
  * `WF T`: no basic variable occurs in a row.
  * `pivot T xi xj`, `updateAssign`, `pivotUpdateAssign`: as in `lra_theory::pivot / update / pivot_and_update`.
  * Bounds: `lb : Var → WithBot Val` (`⊥` = −∞), `ub : Var → WithTop Val` (`⊤` = +∞); `lbv`/`ubv` read a bound as a
    value (0 for an infinite one; the theorems only read them where they are assumed finite).

All theorems are for ANY tableau, row, coefficients, bounds and valuation.
-/
import OratioProofs.Lemmas.LraAlgebra
import OratioProofs.Lemmas.PivotCore

namespace Oratio.C09A

noncomputable section

/-- The tableau: basic variable ↦ its row; `none` for a variable that is not basic. -/
abbrev Tableau := Var → Option Row

/-- `ν` satisfies every equation `x = Σ c_v·v + k` of the tableau. -/
def Sat (T : Tableau) (ν : Var → Val) : Prop := ∀ x r, T x = some r → ν x = r.eval ν

/-- Basic variables do not occur in rows. -/
def WF (T : Tableau) : Prop := ∀ x r, T x = some r → ∀ y, r.coeffs y ≠ 0 → T y = none

/-- `pivot(xi, xj)`: the row of `xi` is removed, `xj` gets the row of `xi` solved for `xj`, and `xj` is replaced
by that expression in every other row (`Row.subst` leaves the rows without `xj` alone). -/
def pivot (T : Tableau) (xi xj : Var) : Tableau :=
  match T xi with
  | none => T
  | some ri => fun x =>
      if x = xj then some (ri.solveFor xi xj)
      else if x = xi then none
      else (T x).map fun r => r.subst xj (ri.solveFor xi xj)

/-- `update(xi, v)`: the non-basic `xi` moves to `v`, every basic `x_b` moves by `c_{b,xi}·(v − β(xi))`. -/
def updateAssign (T : Tableau) (β : Var → Val) (xi : Var) (v : Val) : Var → Val := fun x =>
  if x = xi then v
  else match T x with
    | some r => β x + r.coeffs xi • (v - β xi)
    | none => β x

/-- The assignment part of `pivot_and_update(xi, xj, v)`: `θ = (v − β(xi))/a`, the basic `xi` moves to `v`, `xj`
moves by `θ`, every other basic `x_b` moves by `c_{b,xj}·θ`. -/
def pivotUpdateAssign (T : Tableau) (β : Var → Val) (xi xj : Var) (v : Val) : Var → Val :=
  match T xi with
  | none => β
  | some ri => fun x =>
      if x = xi then v
      else if x = xj then β xj + (ri.coeffs xj)⁻¹ • (v - β xi)
      else match T x with
        | some r => β x + r.coeffs xj • ((ri.coeffs xj)⁻¹ • (v - β xi))
        | none => β x

/-! ### 1. Pivoting -/

theorem pivot_apply {T : Tableau} {xi : Var} {ri : Row} (hi : T xi = some ri) (xj x : Var) :
    pivot T xi xj x = if x = xj then some (ri.solveFor xi xj) else if x = xi then none
      else (T x).map fun r => r.subst xj (ri.solveFor xi xj) := by
  simp only [pivot, hi]

/-- **Pivoting does not change the set of solutions.**
Assumed: `xi` is basic with row `ri`, the coefficient `a` of `xj` in `ri` is not zero, `xj` is not basic.
NOT assumed: that basic variables do not occur in rows (the equivalence holds without it), finiteness. -/
theorem C09A_pivot_preserves_solutions (T : Tableau) (xi xj : Var) (ri : Row)
    (hi : T xi = some ri) (ha : ri.coeffs xj ≠ 0) (hj : T xj = none) (ν : Var → Val) :
    Sat T ν ↔ Sat (pivot T xi xj) ν :=
  pivot_sat Row.eval hi hj (pivot_apply hi xj) ν (Row.solveFor_iff ri xi xj ha ν) fun _ r _ h => by
    rw [Row.eval_subst, ← h, sub_self, smul_zero, add_zero]

/-- Pivoting keeps the invariant "basic variables do not occur in rows" (so the assumptions of
`C09A_update_keeps_rows` / `C09A_pivot_and_update_keeps_rows` are available again after a pivot), and it makes
`xj` basic and `xi` non-basic.  Assumed: `WF T`, `xi` basic with row `ri`, `ri.coeffs xj ≠ 0`. -/
theorem C09A_pivot_preserves_wf (T : Tableau) (xi xj : Var) (ri : Row)
    (hwf : WF T) (hi : T xi = some ri) (ha : ri.coeffs xj ≠ 0) :
    WF (pivot T xi xj) ∧ pivot T xi xj xi = none ∧ pivot T xi xj xj = some (ri.solveFor xi xj) := by
  have hj : T xj = none := hwf xi ri hi xj ha
  have hne : xi ≠ xj := fun h => by rw [h, hj] at hi; cases hi
  have hp := pivot_apply hi xj
  -- a variable of an old row other than `xj` was not basic and is not `xi`: it is not basic after the pivot
  have hold : ∀ {x r y}, T x = some r → y ≠ xj → r.coeffs y ≠ 0 → pivot T xi xj y = none := by
    intro x r y hx hyj hy
    have hTy : T y = none := hwf x r hx y hy
    have hyi : y ≠ xi := fun h => by rw [h, hi] at hTy; cases hTy
    rw [hp, if_neg hyj, if_neg hyi, hTy]; rfl
  have he : ∀ y, (ri.solveFor xi xj).coeffs y ≠ 0 → pivot T xi xj y = none := by
    intro y hy
    rcases Row.solveFor_coeff_ne_zero hy with rfl | ⟨hyj, hry⟩
    · rw [hp, if_neg hne, if_pos rfl]
    · exact hold hi hyj hry
  refine ⟨?_, by rw [hp, if_neg hne, if_pos rfl], by rw [hp, if_pos rfl]⟩
  intro x r hx y hy
  rw [hp] at hx
  split_ifs at hx with h1 h2
  · cases hx; exact he y hy
  · cases hT : T x with
    | none => rw [hT] at hx; cases hx
    | some r0 =>
      rw [hT] at hx; cases hx
      rcases Row.subst_coeff_ne_zero hy with ⟨hyj, hry⟩ | hey
      · exact hold hT hyj hry
      · exact he y hey

/-! ### 2. The explanation of `check()` is a conflict -/

/-- **A row stuck below the lower bound of its basic variable is infeasible.**
Assumed: every variable with a positive coefficient has a finite upper bound, every variable with a negative
coefficient has a finite lower bound, and `Σ_{c_v>0} c_v·u_v + Σ_{c_v<0} c_v·l_v + k` is (strictly) below the
lower bound of `x` (which is therefore finite).  Conclusion: no valuation satisfies the row equation together
with exactly those bounds and `lb x ≤ x`.  Nothing is assumed about `x` occurring in the row or not, nor about
the bounds of the other variables. -/
theorem C09A_conflict_row_infeasible_lower (r : Row) (x : Var) (lb : Var → WithBot Val) (ub : Var → WithTop Val)
    (hub : ∀ v, 0 < r.coeffs v → ub v ≠ ⊤) (hlb : ∀ v, r.coeffs v < 0 → lb v ≠ ⊥)
    (hconf : ((r.bound (ubv ub) (lbv lb) : Val) : WithBot Val) < lb x) :
    ¬ ∃ ν : Var → Val, ν x = r.eval ν
        ∧ (∀ v, 0 < r.coeffs v → ((ν v : Val) : WithTop Val) ≤ ub v)
        ∧ (∀ v, r.coeffs v < 0 → lb v ≤ ((ν v : Val) : WithBot Val))
        ∧ lb x ≤ ((ν x : Val) : WithBot Val) := by
  rintro ⟨ν, hx, h1, h2, h3⟩
  have hle := Row.eval_le_bound_of_bounds r ν lb ub hub hlb h1 h2
  exact lt_irrefl _ (lt_of_le_of_lt (WithBot.coe_le_coe.mpr (hx ▸ hle)) (lt_of_lt_of_le hconf h3))

/-- **A row stuck above the upper bound of its basic variable is infeasible** (symmetric).
Assumed: finite lower bounds for positive coefficients, finite upper bounds for negative ones,
`ub x < Σ_{c_v>0} c_v·l_v + Σ_{c_v<0} c_v·u_v + k`. -/
theorem C09A_conflict_row_infeasible_upper (r : Row) (x : Var) (lb : Var → WithBot Val) (ub : Var → WithTop Val)
    (hlb : ∀ v, 0 < r.coeffs v → lb v ≠ ⊥) (hub : ∀ v, r.coeffs v < 0 → ub v ≠ ⊤)
    (hconf : ub x < ((r.bound (lbv lb) (ubv ub) : Val) : WithTop Val)) :
    ¬ ∃ ν : Var → Val, ν x = r.eval ν
        ∧ (∀ v, 0 < r.coeffs v → lb v ≤ ((ν v : Val) : WithBot Val))
        ∧ (∀ v, r.coeffs v < 0 → ((ν v : Val) : WithTop Val) ≤ ub v)
        ∧ ((ν x : Val) : WithTop Val) ≤ ub x := by
  rintro ⟨ν, hx, h1, h2, h3⟩
  have hle := Row.bound_le_eval_of_bounds r ν lb ub hlb hub h1 h2
  exact lt_irrefl _ (lt_of_le_of_lt h3 (lt_of_lt_of_le hconf (WithTop.coe_le_coe.mpr (hx ▸ hle))))

/-- How the hypothesis of `C09A_conflict_row_infeasible_lower` arises in `check()`: the current assignment `β`
satisfies the row equation, `β x` is below the lower bound of `x`, and no non-basic variable of the row can move
in the helping direction (positive coefficient: `β v` is at — not below — its finite upper bound; negative
coefficient: `β v` is at — not above — its finite lower bound).  Then the conflict hypothesis holds. -/
theorem C09A_conflict_hyp_of_assignment_lower (r : Row) (x : Var) (lb : Var → WithBot Val)
    (ub : Var → WithTop Val) (β : Var → Val) (hx : β x = r.eval β)
    (hbelow : ((β x : Val) : WithBot Val) < lb x)
    (hpos : ∀ v, 0 < r.coeffs v → ub v ≠ ⊤ ∧ ub v ≤ ((β v : Val) : WithTop Val))
    (hneg : ∀ v, r.coeffs v < 0 → lb v ≠ ⊥ ∧ ((β v : Val) : WithBot Val) ≤ lb v) :
    ((r.bound (ubv ub) (lbv lb) : Val) : WithBot Val) < lb x := by
  refine lt_of_le_of_lt (WithBot.coe_le_coe.mpr ?_) hbelow
  rw [hx]
  exact Row.bound_le_eval r β _ _ (fun v hv => (ub_le_coe (hpos v hv).1 _).1 (hpos v hv).2)
    (fun v hv => (coe_le_lb (hneg v hv).1 _).1 (hneg v hv).2)

/-- Symmetric to `C09A_conflict_hyp_of_assignment_lower`. -/
theorem C09A_conflict_hyp_of_assignment_upper (r : Row) (x : Var) (lb : Var → WithBot Val)
    (ub : Var → WithTop Val) (β : Var → Val) (hx : β x = r.eval β)
    (habove : ub x < ((β x : Val) : WithTop Val))
    (hpos : ∀ v, 0 < r.coeffs v → lb v ≠ ⊥ ∧ ((β v : Val) : WithBot Val) ≤ lb v)
    (hneg : ∀ v, r.coeffs v < 0 → ub v ≠ ⊤ ∧ ub v ≤ ((β v : Val) : WithTop Val)) :
    ub x < ((r.bound (lbv lb) (ubv ub) : Val) : WithTop Val) := by
  refine lt_of_lt_of_le habove (WithTop.coe_le_coe.mpr ?_)
  rw [hx]
  exact Row.eval_le_bound r β _ _ (fun v hv => (coe_le_lb (hpos v hv).1 _).1 (hpos v hv).2)
    (fun v hv => (ub_le_coe (hneg v hv).1 _).1 (hneg v hv).2)

/-! ### 3. Bound propagation -/

/-- **The lower bound derived by `row::propagate_lb` is valid.**
Assumed: finite lower bounds for the variables with a positive coefficient, finite upper bounds for those with a
negative one.  Conclusion: in every valuation that satisfies the row equation and exactly those bounds,
`x ≥ Σ_{c_v>0} c_v·l_v + Σ_{c_v<0} c_v·u_v + k`. -/
theorem C09A_row_lower_bound_valid (r : Row) (x : Var) (lb : Var → WithBot Val) (ub : Var → WithTop Val)
    (hlb : ∀ v, 0 < r.coeffs v → lb v ≠ ⊥) (hub : ∀ v, r.coeffs v < 0 → ub v ≠ ⊤)
    (ν : Var → Val) (hx : ν x = r.eval ν)
    (h1 : ∀ v, 0 < r.coeffs v → lb v ≤ ((ν v : Val) : WithBot Val))
    (h2 : ∀ v, r.coeffs v < 0 → ((ν v : Val) : WithTop Val) ≤ ub v) :
    r.bound (lbv lb) (ubv ub) ≤ ν x :=
  hx ▸ Row.bound_le_eval_of_bounds r ν lb ub hlb hub h1 h2

/-- **The upper bound derived by `row::propagate_ub` is valid** (symmetric).
Assumed: finite upper bounds for positive coefficients, finite lower bounds for negative ones. -/
theorem C09A_row_upper_bound_valid (r : Row) (x : Var) (lb : Var → WithBot Val) (ub : Var → WithTop Val)
    (hub : ∀ v, 0 < r.coeffs v → ub v ≠ ⊤) (hlb : ∀ v, r.coeffs v < 0 → lb v ≠ ⊥)
    (ν : Var → Val) (hx : ν x = r.eval ν)
    (h1 : ∀ v, 0 < r.coeffs v → ((ν v : Val) : WithTop Val) ≤ ub v)
    (h2 : ∀ v, r.coeffs v < 0 → lb v ≤ ((ν v : Val) : WithBot Val)) :
    ν x ≤ r.bound (ubv ub) (lbv lb) :=
  hx ▸ Row.eval_le_bound_of_bounds r ν lb ub hub hlb h1 h2

/-- The use made of the propagated lower bound: if it exceeds the constant `c` of an assertion `x ≤ c`, the
assertion is false in every valuation within the bounds used (same assumptions as
`C09A_row_lower_bound_valid`); likewise an assertion `x ≥ c` with `c ≤` the bound is true. -/
theorem C09A_row_lower_bound_refutes (r : Row) (x : Var) (lb : Var → WithBot Val) (ub : Var → WithTop Val)
    (hlb : ∀ v, 0 < r.coeffs v → lb v ≠ ⊥) (hub : ∀ v, r.coeffs v < 0 → ub v ≠ ⊤)
    (ν : Var → Val) (hx : ν x = r.eval ν)
    (h1 : ∀ v, 0 < r.coeffs v → lb v ≤ ((ν v : Val) : WithBot Val))
    (h2 : ∀ v, r.coeffs v < 0 → ((ν v : Val) : WithTop Val) ≤ ub v) (c : Val) :
    (c < r.bound (lbv lb) (ubv ub) → ¬ ν x ≤ c) ∧ (c ≤ r.bound (lbv lb) (ubv ub) → c ≤ ν x) := by
  have h := C09A_row_lower_bound_valid r x lb ub hlb hub ν hx h1 h2
  exact ⟨fun hc hle => absurd (lt_of_lt_of_le hc h) (not_lt.mpr hle), fun hc => le_trans hc h⟩

/-- Symmetric to `C09A_row_lower_bound_refutes`. -/
theorem C09A_row_upper_bound_refutes (r : Row) (x : Var) (lb : Var → WithBot Val) (ub : Var → WithTop Val)
    (hub : ∀ v, 0 < r.coeffs v → ub v ≠ ⊤) (hlb : ∀ v, r.coeffs v < 0 → lb v ≠ ⊥)
    (ν : Var → Val) (hx : ν x = r.eval ν)
    (h1 : ∀ v, 0 < r.coeffs v → ((ν v : Val) : WithTop Val) ≤ ub v)
    (h2 : ∀ v, r.coeffs v < 0 → lb v ≤ ((ν v : Val) : WithBot Val)) (c : Val) :
    (r.bound (ubv ub) (lbv lb) < c → ¬ c ≤ ν x) ∧ (r.bound (ubv ub) (lbv lb) ≤ c → ν x ≤ c) := by
  have h := C09A_row_upper_bound_valid r x lb ub hub hlb ν hx h1 h2
  exact ⟨fun hc hle => absurd (lt_of_le_of_lt h hc) (not_lt.mpr hle), fun hc => le_trans h hc⟩

/-! ### 4. `update` and `pivot_and_update` keep the row equations -/

/-- **`update(xi, v)` keeps every row equation.**
Assumed: basic variables do not occur in rows (`WF T`), `xi` is not basic, `β` satisfies all row equations.
Conclusion: so does `updateAssign T β xi v`, which maps `xi` to `v`. -/
theorem C09A_update_keeps_rows (T : Tableau) (β : Var → Val) (xi : Var) (v : Val)
    (hwf : WF T) (hi : T xi = none) (hs : Sat T β) :
    Sat T (updateAssign T β xi v) ∧ updateAssign T β xi v xi = v := by
  refine ⟨?_, by simp [updateAssign]⟩
  intro x r hx
  have hne : x ≠ xi := fun h => by rw [h, hi] at hx; simp at hx
  have hch : lin r.coeffs (updateAssign T β xi v)
      = lin r.coeffs β + r.coeffs xi • (updateAssign T β xi v xi - β xi) := by
    apply lin_change
    intro w hw hwi
    have hTw : T w = none := hwf x r hx w hw
    simp only [updateAssign, if_neg hwi, hTw]
  have hxi : updateAssign T β xi v xi = v := by simp [updateAssign]
  have hxx : updateAssign T β xi v x = β x + r.coeffs xi • (v - β xi) := by
    simp only [updateAssign, if_neg hne, hx]
  rw [hxx, Row.eval, hch, hxi, hs x r hx, Row.eval]
  abel

/-- The assignment of `pivot_and_update(xi, xj, v)` is `update(xj, β(xj) + θ)` read on the tableau BEFORE the
pivot.  Assumed: `xi` basic with row `ri`, `ri.coeffs xj ≠ 0`, `xj` not basic, `β xi = ri.eval β`. -/
theorem pivotUpdateAssign_eq (T : Tableau) (β : Var → Val) (xi xj : Var) (v : Val) (ri : Row)
    (hi : T xi = some ri) (ha : ri.coeffs xj ≠ 0) (hj : T xj = none) :
    pivotUpdateAssign T β xi xj v = updateAssign T β xj (β xj + (ri.coeffs xj)⁻¹ • (v - β xi)) := by
  have hne : xi ≠ xj := fun h => by rw [h, hj] at hi; simp at hi
  funext x
  simp only [pivotUpdateAssign, hi, updateAssign]
  by_cases h1 : x = xi
  · subst h1
    rw [if_pos rfl, if_neg hne, hi]
    simp only [add_sub_cancel_left, smul_smul, mul_inv_cancel₀ ha, one_smul]
    abel
  · rw [if_neg h1]
    by_cases h2 : x = xj
    · rw [if_pos h2, if_pos h2]
    · rw [if_neg h2, if_neg h2]
      cases T x with
      | none => rfl
      | some r => simp only [add_sub_cancel_left]

/-- **`pivot_and_update(xi, xj, v)` keeps every row equation.**
Assumed: basic variables do not occur in rows (`WF T`), `xi` is basic with row `ri`, the coefficient of `xj` in
`ri` is not zero (hence `xj` is not basic), `β` satisfies all row equations.
Conclusion: the new assignment maps `xi` to `v` and satisfies all row equations of the tableau both before and
after `pivot(xi, xj)` (the latter by `C09A_pivot_preserves_solutions`). -/
theorem C09A_pivot_and_update_keeps_rows (T : Tableau) (β : Var → Val) (xi xj : Var) (v : Val) (ri : Row)
    (hwf : WF T) (hi : T xi = some ri) (ha : ri.coeffs xj ≠ 0) (hs : Sat T β) :
    pivotUpdateAssign T β xi xj v xi = v
      ∧ Sat T (pivotUpdateAssign T β xi xj v)
      ∧ Sat (pivot T xi xj) (pivotUpdateAssign T β xi xj v) := by
  have hj : T xj = none := hwf xi ri hi xj ha
  have hsat : Sat T (pivotUpdateAssign T β xi xj v) := by
    rw [pivotUpdateAssign_eq T β xi xj v ri hi ha hj]
    exact (C09A_update_keeps_rows T β xj _ hwf hj hs).1
  refine ⟨by simp [pivotUpdateAssign, hi], hsat, ?_⟩
  exact (C09A_pivot_preserves_solutions T xi xj ri hi ha hj _).mp hsat

/-! ### 5. Non-vacuity: a concrete tableau  `x2 = x0 + 2·x1 + 3`,  `x3 = x0 − x1`

The `Finsupp`s are removed by `exRow*_c*`, `exRow*_eval`, `exRow*_bound`; what is left are closed facts about pairs of
rationals, which the kernel evaluates (`=`, `≤`, `<` on `Val`, `WithBot Val`, `WithTop Val` are decidable).  They are
stated once per assignment / table of bounds (`exν_rows` … `exβ_facts`); the examples are arguments from them. -/

def exRow2 : Row := ⟨Finsupp.single 0 1 + Finsupp.single 1 2, 3⟩
def exRow3 : Row := ⟨Finsupp.single 0 1 + Finsupp.single 1 (-1), 0⟩
def exT : Tableau := fun x => if x = 2 then some exRow2 else if x = 3 then some exRow3 else none

/-- `x0 = 1 + ε, x1 = 1, x2 = 6 + ε, x3 = ε`. -/
def exν : Var → Val := fun x =>
  if x = 0 then toLex (1, 1) else if x = 1 then toLex (1, 0) else if x = 2 then toLex (6, 1)
  else if x = 3 then toLex (0, 1) else 0

theorem exRow2_c0 : exRow2.coeffs 0 = 1 := pair_coeff_left (by decide) _ _
theorem exRow2_c1 : exRow2.coeffs 1 = 2 := pair_coeff_right (by decide) _ _
theorem exRow3_c0 : exRow3.coeffs 0 = 1 := pair_coeff_left (by decide) _ _
theorem exRow3_c1 : exRow3.coeffs 1 = -1 := pair_coeff_right (by decide) _ _
theorem exRow2_k : exRow2.k = 3 := rfl
theorem exRow3_k : exRow3.k = 0 := rfl
theorem exT_2 : exT 2 = some exRow2 := rfl

/-- the two rows without `Finsupp`, on a valuation of `x0` and one of `x1` (the same one for `Row.eval`) -/
def exVal2 (p n : Var → Val) : Val := (1 : ℚ) • p 0 + (2 : ℚ) • n 1 + Val.ofRat 3
def exVal3 (p n : Var → Val) : Val := (1 : ℚ) • p 0 + (-1 : ℚ) • n 1 + Val.ofRat 0

theorem exRow2_eval (ν : Var → Val) : exRow2.eval ν = exVal2 ν ν := by
  simp only [Row.eval, exRow2, lin_add, lin_single, exVal2]

theorem exRow3_eval (ν : Var → Val) : exRow3.eval ν = exVal3 ν ν := by
  simp only [Row.eval, exRow3, lin_add, lin_single, exVal3]

/-- both coefficients of `exRow2` are positive: its bound reads `p` twice -/
theorem exRow2_bound (p n : Var → Val) : exRow2.bound p n = exVal2 p p := by
  rw [Row.bound_eq, exRow2_eval, exVal2, exRow2_c0, exRow2_c1, if_pos one_pos, if_pos two_pos]
  rfl

/-- `exRow3` has a positive and a negative coefficient: its bound reads `p` at `x0` and `n` at `x1` -/
theorem exRow3_bound (p n : Var → Val) : exRow3.bound p n = exVal3 p n := by
  rw [Row.bound_eq, exRow3_eval, exVal3, exRow3_c0, exRow3_c1, if_pos one_pos, if_neg (by norm_num)]
  rfl

theorem exν_rows : exν 2 = exVal2 exν exν ∧ exν 3 = exVal3 exν exν := by decide +kernel

theorem exSat : Sat exT exν := by
  intro x r hx
  unfold exT at hx
  split_ifs at hx with h1 h2
  · cases hx; subst h1; rw [exRow2_eval]; exact exν_rows.1
  · cases hx; subst h2; rw [exRow3_eval]; exact exν_rows.2

theorem exWF : WF exT := by
  intro x r hx y hy
  have hy' : y = 0 ∨ y = 1 := by
    unfold exT at hx
    split_ifs at hx <;> cases hx <;> exact pair_coeff_ne_zero hy
  rcases hy' with rfl | rfl <;> rfl

theorem exRow2_pos (v : Var) (hv : exRow2.coeffs v ≠ 0) : v = 0 ∨ v = 1 := pair_coeff_ne_zero hv

theorem exRow2_not_neg (v : Var) : ¬ exRow2.coeffs v < 0 := by
  intro hv
  rcases exRow2_pos v hv.ne with rfl | rfl
  · rw [exRow2_c0] at hv; norm_num at hv
  · rw [exRow2_c1] at hv; norm_num at hv

/-- A valuation that violates the first equation. -/
def exνbad : Var → Val := fun _ => 0

theorem exνbad_row : exνbad 2 ≠ exVal2 exνbad exνbad := by decide +kernel

theorem exNotSat : ¬ Sat exT exνbad := fun h =>
  exνbad_row (by have := h 2 exRow2 exT_2; rwa [exRow2_eval] at this)

/-- Theorem 1 applies to the concrete tableau with `xi = x2`, `xj = x1` (coefficient 2), and both sides of the
equivalence are inhabited: `exν` is a solution before and after, `exνbad` is a solution neither before nor after. -/
example : exT 2 = some exRow2 ∧ exRow2.coeffs 1 ≠ 0 ∧ exT 1 = none
    ∧ Sat exT exν ∧ Sat (pivot exT 2 1) exν ∧ ¬ Sat exT exνbad ∧ ¬ Sat (pivot exT 2 1) exνbad := by
  have h2 : exRow2.coeffs 1 ≠ 0 := exRow2_c1 ▸ two_ne_zero
  exact ⟨exT_2, h2, rfl, exSat, (C09A_pivot_preserves_solutions exT 2 1 exRow2 exT_2 h2 rfl exν).mp exSat, exNotSat,
    fun h => exNotSat ((C09A_pivot_preserves_solutions exT 2 1 exRow2 exT_2 h2 rfl exνbad).mpr h)⟩

/-- The pivot of the concrete tableau on `(x2, x1)` keeps the invariant and swaps the roles of `x2` and `x1`. -/
example : WF (pivot exT 2 1) ∧ pivot exT 2 1 2 = none ∧ pivot exT 2 1 1 = some (exRow2.solveFor 2 1) :=
  C09A_pivot_preserves_wf exT 2 1 exRow2 exWF exT_2 (exRow2_c1 ▸ two_ne_zero)

/-- Bounds for the conflict "below the lower bound" on the row `x2 = x0 + 2·x1 + 3`:
`x0 ≤ 1`, `x1 < 1` (i.e. `x1 ≤ 1 − ε`), `x2 ≥ 6`; everything else unbounded. -/
def exLb : Var → WithBot Val := fun v => if v = 2 then ((toLex (6, 0) : Val) : WithBot Val) else ⊥
def exUb : Var → WithTop Val := fun v =>
  if v = 0 then ((toLex (1, 0) : Val) : WithTop Val)
  else if v = 1 then ((toLex (1, -1) : Val) : WithTop Val) else ⊤

/-- Bounds for the row `x3 = x0 − x1`: `x0 ≥ 2`, `x1 ≤ 1`, `x3 ≤ 0`; everything else unbounded. -/
def exLb' : Var → WithBot Val := fun v => if v = 0 then ((toLex (2, 0) : Val) : WithBot Val) else ⊥
def exUb' : Var → WithTop Val := fun v =>
  if v = 1 then ((toLex (1, 0) : Val) : WithTop Val)
  else if v = 3 then ((toLex (0, 0) : Val) : WithTop Val) else ⊤

theorem exBounds_fin : exUb 0 ≠ ⊤ ∧ exUb 1 ≠ ⊤ ∧ exLb' 0 ≠ ⊥ ∧ exUb' 1 ≠ ⊤ := by decide +kernel

theorem exBounds_vals : exVal2 (ubv exUb) (ubv exUb) = toLex (6, -2)
    ∧ exVal3 (lbv exLb') (ubv exUb') = toLex (1, 0) := by decide +kernel

theorem exConflicts : (toLex (6, -2) : Val) < exLb 2 ∧ exUb' 3 < (toLex (1, 0) : Val) := by decide +kernel

theorem exBound2 : exRow2.bound (ubv exUb) (lbv exLb) = toLex (6, -2) := by
  rw [exRow2_bound]; exact exBounds_vals.1

theorem exBound3 : exRow3.bound (lbv exLb') (ubv exUb') = toLex (1, 0) := by
  rw [exRow3_bound]; exact exBounds_vals.2

theorem exRow3_pos (v : Var) (hv : 0 < exRow3.coeffs v) : v = 0 := by
  rcases pair_coeff_ne_zero hv.ne' with h | h
  · exact h
  · rw [h, exRow3_c1] at hv; norm_num at hv

theorem exRow3_neg (v : Var) (hv : exRow3.coeffs v < 0) : v = 1 := by
  rcases pair_coeff_ne_zero hv.ne with h | h
  · rw [h, exRow3_c0] at hv; norm_num at hv
  · exact h

theorem exUb_fin (v : Var) (hv : 0 < exRow2.coeffs v) : exUb v ≠ ⊤ := by
  rcases exRow2_pos v hv.ne' with rfl | rfl
  · exact exBounds_fin.1
  · exact exBounds_fin.2.1
theorem exLb_fin (v : Var) (hv : exRow2.coeffs v < 0) : exLb v ≠ ⊥ := absurd hv (exRow2_not_neg v)
theorem exLb3_fin (v : Var) (hv : 0 < exRow3.coeffs v) : exLb' v ≠ ⊥ := exRow3_pos v hv ▸ exBounds_fin.2.2.1
theorem exUb3_fin (v : Var) (hv : exRow3.coeffs v < 0) : exUb' v ≠ ⊤ := exRow3_neg v hv ▸ exBounds_fin.2.2.2

/-- Theorem 2 (lower) applies: `1 + 2·(1 − ε) + 3 = 6 − 2ε < 6`. -/
example : ¬ ∃ ν : Var → Val, ν 2 = exRow2.eval ν
    ∧ (∀ v, 0 < exRow2.coeffs v → ((ν v : Val) : WithTop Val) ≤ exUb v)
    ∧ (∀ v, exRow2.coeffs v < 0 → exLb v ≤ ((ν v : Val) : WithBot Val))
    ∧ exLb 2 ≤ ((ν 2 : Val) : WithBot Val) :=
  C09A_conflict_row_infeasible_lower _ _ _ _ exUb_fin exLb_fin (exBound2 ▸ exConflicts.1)

/-- Theorem 2 (upper) applies: `2 − 1 = 1 > 0`. -/
example : ¬ ∃ ν : Var → Val, ν 3 = exRow3.eval ν
    ∧ (∀ v, 0 < exRow3.coeffs v → exLb' v ≤ ((ν v : Val) : WithBot Val))
    ∧ (∀ v, exRow3.coeffs v < 0 → ((ν v : Val) : WithTop Val) ≤ exUb' v)
    ∧ ((ν 3 : Val) : WithTop Val) ≤ exUb' 3 :=
  C09A_conflict_row_infeasible_upper _ _ _ _ exLb3_fin exUb3_fin (exBound3 ▸ exConflicts.2)

/-- `x0 = 2 + ε, x1 = 1, x3 = 1 + ε` satisfies the row `x3 = x0 − x1` and the bounds `x0 ≥ 2`, `x1 ≤ 1`. -/
def exν3 : Var → Val := fun x =>
  if x = 0 then toLex (2, 1) else if x = 1 then toLex (1, 0) else if x = 3 then toLex (1, 1) else 0

theorem exν3_facts : exν3 3 = exVal3 exν3 exν3 ∧ exLb' 0 ≤ exν3 0 ∧ exν3 1 ≤ exUb' 1
    ∧ (toLex (0, 0) : Val) < toLex (1, 0) := by decide +kernel

/-- Theorem 3 (lower) applies with all hypotheses true: the derived bound is `x3 ≥ 1`; the assertion `x3 ≤ 0` is
therefore false in `exν3`. -/
example : exRow3.bound (lbv exLb') (ubv exUb') = toLex (1, 0)
    ∧ exRow3.bound (lbv exLb') (ubv exUb') ≤ exν3 3 ∧ ¬ exν3 3 ≤ toLex (0, 0) := by
  obtain ⟨e, b0, b1, hlt⟩ := exν3_facts
  have hx : exν3 3 = exRow3.eval exν3 := by rw [exRow3_eval]; exact e
  have h1 : ∀ v, 0 < exRow3.coeffs v → exLb' v ≤ ((exν3 v : Val) : WithBot Val) := fun v hv => exRow3_pos v hv ▸ b0
  have h2 : ∀ v, exRow3.coeffs v < 0 → ((exν3 v : Val) : WithTop Val) ≤ exUb' v := fun v hv => exRow3_neg v hv ▸ b1
  exact ⟨exBound3, C09A_row_lower_bound_valid exRow3 3 exLb' exUb' exLb3_fin exUb3_fin exν3 hx h1 h2,
    (C09A_row_lower_bound_refutes exRow3 3 exLb' exUb' exLb3_fin exUb3_fin exν3 hx h1 h2 (toLex (0, 0))).1 (exBound3 ▸ hlt)⟩

/-- `x0 = 0, x1 = 1 − ε, x2 = 5 − 2ε` satisfies the row `x2 = x0 + 2·x1 + 3` and `x0 ≤ 1`, `x1 ≤ 1 − ε`. -/
def exν2 : Var → Val := fun x =>
  if x = 0 then toLex (0, 0) else if x = 1 then toLex (1, -1) else if x = 2 then toLex (5, -2) else 0

theorem exν2_facts : exν2 2 = exVal2 exν2 exν2 ∧ exν2 0 ≤ exUb 0 ∧ exν2 1 ≤ exUb 1
    ∧ (toLex (6, -2) : Val) < toLex (6, 0) := by decide +kernel

/-- Theorem 3 (upper) applies with all hypotheses true: the derived bound is `x2 ≤ 6 − 2ε`; the assertion
`x2 ≥ 6` is therefore false in `exν2`. -/
example : exRow2.bound (ubv exUb) (lbv exLb) = toLex (6, -2)
    ∧ exν2 2 ≤ exRow2.bound (ubv exUb) (lbv exLb) ∧ ¬ toLex (6, 0) ≤ exν2 2 := by
  obtain ⟨e, b0, b1, hlt⟩ := exν2_facts
  have hx : exν2 2 = exRow2.eval exν2 := by rw [exRow2_eval]; exact e
  have h1 : ∀ v, 0 < exRow2.coeffs v → ((exν2 v : Val) : WithTop Val) ≤ exUb v := by
    intro v hv
    rcases exRow2_pos v hv.ne' with rfl | rfl
    · exact b0
    · exact b1
  have h2 : ∀ v, exRow2.coeffs v < 0 → exLb v ≤ ((exν2 v : Val) : WithBot Val) :=
    fun v hv => absurd hv (exRow2_not_neg v)
  exact ⟨exBound2, C09A_row_upper_bound_valid exRow2 2 exLb exUb exUb_fin exLb_fin exν2 hx h1 h2,
    (C09A_row_upper_bound_refutes exRow2 2 exLb exUb exUb_fin exLb_fin exν2 hx h1 h2 (toLex (6, 0))).1 (exBound2 ▸ hlt)⟩

/-- where `update(x0, 5)` and `pivot_and_update(x2, x1, 10 + ε)` (`θ = ((10 + ε) − (6 + ε))/2 = 2`) move the basic
variables and `x1`, from `exν` -/
theorem exν_moves : exν 2 + (1 : ℚ) • ((toLex (5, 0) : Val) - exν 0) = toLex (10, 0)
    ∧ exν 3 + (1 : ℚ) • ((toLex (5, 0) : Val) - exν 0) = toLex (4, 0)
    ∧ exν 1 + (2 : ℚ)⁻¹ • ((toLex (10, 1) : Val) - exν 2) = toLex (3, 0)
    ∧ exν 3 + (-1 : ℚ) • ((2 : ℚ)⁻¹ • ((toLex (10, 1) : Val) - exν 2)) = toLex (-2, 1) := by decide +kernel

/-- Theorem 4 (`update`) applies: moving the non-basic `x0` from `1 + ε` to `5` moves `x2` to `10` and `x3` to
`4`, and the row equations still hold. -/
example : Sat exT (updateAssign exT exν 0 (toLex (5, 0)))
    ∧ updateAssign exT exν 0 (toLex (5, 0)) 0 = toLex (5, 0)
    ∧ updateAssign exT exν 0 (toLex (5, 0)) 2 = toLex (10, 0)
    ∧ updateAssign exT exν 0 (toLex (5, 0)) 3 = toLex (4, 0) := by
  refine ⟨(C09A_update_keeps_rows exT exν 0 _ exWF rfl exSat).1, rfl, ?_, ?_⟩
  · show exν 2 + exRow2.coeffs 0 • ((toLex (5, 0) : Val) - exν 0) = _
    rw [exRow2_c0]; exact exν_moves.1
  · show exν 3 + exRow3.coeffs 0 • ((toLex (5, 0) : Val) - exν 0) = _
    rw [exRow3_c0]; exact exν_moves.2.1

/-- Theorem 4 (`pivot_and_update`) applies: the basic `x2` moves from `6 + ε` to `10 + ε` through `x1`
(coefficient 2, `θ = 2`): `x1` moves to `3`, `x3` to `−2 + ε`; the equations hold before and after the pivot. -/
example : pivotUpdateAssign exT exν 2 1 (toLex (10, 1)) 2 = toLex (10, 1)
    ∧ Sat exT (pivotUpdateAssign exT exν 2 1 (toLex (10, 1)))
    ∧ Sat (pivot exT 2 1) (pivotUpdateAssign exT exν 2 1 (toLex (10, 1)))
    ∧ pivotUpdateAssign exT exν 2 1 (toLex (10, 1)) 1 = toLex (3, 0)
    ∧ pivotUpdateAssign exT exν 2 1 (toLex (10, 1)) 3 = toLex (-2, 1) := by
  obtain ⟨h1, h2, h3⟩ := C09A_pivot_and_update_keeps_rows exT exν 2 1 (toLex (10, 1)) exRow2 exWF
    exT_2 (exRow2_c1 ▸ two_ne_zero) exSat
  refine ⟨h1, h2, h3, ?_, ?_⟩
  · show exν 1 + (exRow2.coeffs 1)⁻¹ • ((toLex (10, 1) : Val) - exν 2) = _
    rw [exRow2_c1]; exact exν_moves.2.2.1
  · show exν 3 + exRow3.coeffs 1 • ((exRow2.coeffs 1)⁻¹ • ((toLex (10, 1) : Val) - exν 2)) = _
    rw [exRow2_c1, exRow3_c1]; exact exν_moves.2.2.2

/-- `x0 = 1, x1 = 1 − ε, x2 = 6 − 2ε`: the assignment at which `check()` finds the conflict of theorem 2 -/
def exβ : Var → Val := fun x =>
  if x = 0 then toLex (1, 0) else if x = 1 then toLex (1, -1) else if x = 2 then toLex (6, -2) else 0

theorem exβ_facts : exβ 2 = exVal2 exβ exβ ∧ exβ 2 < exLb 2 ∧ exUb 0 ≤ exβ 0 ∧ exUb 1 ≤ exβ 1 := by
  decide +kernel

/-- The hypothesis of theorem 2 as `check()` finds it: under `x0 = 1, x1 = 1 − ε, x2 = 6 − 2ε` the basic `x2` is
below its lower bound 6 while `x0`, `x1` (positive coefficients) sit at their upper bounds. -/
example : ((exRow2.bound (ubv exUb) (lbv exLb) : Val) : WithBot Val) < exLb 2 := by
  obtain ⟨e, hb, b0, b1⟩ := exβ_facts
  refine C09A_conflict_hyp_of_assignment_lower exRow2 2 exLb exUb exβ (by rw [exRow2_eval]; exact e) hb ?_
    (fun v hv => absurd hv (exRow2_not_neg v))
  intro v hv
  rcases exRow2_pos v hv.ne' with rfl | rfl
  · exact ⟨exBounds_fin.1, b0⟩
  · exact ⟨exBounds_fin.2.1, b1⟩

end

end Oratio.C09A
