/-
Property C07NC_neg — the answer `false` of `Net.check(lits)` (PARTIAL mirror of the `.check` clause of
`C07_false_only_if_unsat`).  Target: under the hypotheses of `C07NC_check_sound`,
`Net.check r.n ls fuel = some (false, n')` implies
`TUnsat r.n (r.orig ++ unitsOf r.n.sat.decisions ++ unitsOf ls)`.

The loop of `check` answers `false` at three exits.  COVERED HERE:
  (E1) the literal assumed is ALREADY FALSE:
       - in the FIRST round, i.e. `ls = p :: ps` with `p` false at the call: `C07NC_neg_first_false` - `check` answers
         `false` and the target holds (full statement, decisions standing at the call);
       - in a LATER round: `C07NC_neg_round_false` gives T-unsatisfiability relative to the decisions standing at the
         start of THAT round (for the network of that round, under the bounded invariant of C07NC).  Relative to
         "decisions at the call ++ literals assumed so far" it is in Properties/C07NetCheckNegB.lean, which uses
         `n'.sat.decisions <:+ n.sat.decisions` for `Net.propagate` (`Net.PropOutB.decs`).
  (E2) an inner `propagate` answered `false` - the one inside `assume` or the one after it, IN ANY ROUND.  These are
       exactly the exits that return a dead network; `C07NC_neg_dead`: if the returned network is dead, the target
       holds (indeed the added clauses alone are T-unsatisfiable).
NOT COVERED:
  (E3) "the decision level did not grow" (a backjump below the level of the round inside `assume` / `propagate`,
       both answering `true`): needs, inside `propagate_invB`, "if the level drops below the level at the start then
       the conflict analysed was falsified by consequences of `orig` and the decisions at the start"
       (`Sat.Ent.uns_of_false` at the moment of the conflict).  Hence even the single-literal case `ls = [p]` is not
       complete.
-/
import OratioModel
import OratioProofs.Properties.C07NetCheck
import OratioProofs.Lemmas.NetCheckFalse

namespace Oratio
open Net

/-- (E2) **if `check` returns a dead network** (an inner `propagate` answered `false`, in any round) **the added
    clauses are T-unsatisfiable**, a fortiori together with the standing decisions and `ls` as units -/
theorem C07NC_neg_dead (fuel : Nat) (r : NetRun) (ls : List Lit) (b : Bool) (n' : Net) (h : NetOK r)
    (hq : r.n.sat.queue = []) (hd : r.n.sat.dead = false) (hg : NetCheck.CheckGuard fuel r.n ls)
    (he : Net.check r.n ls fuel = some (b, n')) (hdead : n'.sat.dead = true) :
    TUnsat r.n r.orig ∧ TUnsat r.n (r.orig ++ unitsOf r.n.sat.decisions ++ unitsOf ls) := by
  obtain ⟨_, k2, _, _, k5⟩ := C07NC_check_sound fuel r ls b n' h hq hd hg he
  have hu : TUnsat r.n r.orig := fun α h0 hm => k2.dead hdead α h0 ((k5 α).2 hm)
  exact ⟨hu, NetCheck.tunsat_mono hu (fun d hd' => List.mem_append_left _ (List.mem_append_left _ hd'))⟩

/-- (E1, first round) **the first literal is already false at the call**: `check` answers `false` (whatever the
    fuel), and the added clauses together with the standing decisions and the literals as units are
    T-unsatisfiable -/
theorem C07NC_neg_first_false (fuel : Nat) (r : NetRun) (p : Lit) (ps : List Lit) (h : NetOK r)
    (hv : r.n.sat.value p = some false) :
    (∃ n', Net.check r.n (p :: ps) fuel = some (false, n')) ∧
    TUnsat r.n (r.orig ++ unitsOf r.n.sat.decisions ++ unitsOf (p :: ps)) := by
  obtain ⟨⟨L, fr, hi⟩, _⟩ := h
  refine ⟨⟨Net.popTo (NetCheck.pushStart r.n p) r.n.sat.decisionLevel, ?_⟩, NetCheck.false_lit_unsat hi.sound hi.sat.wf hv ps⟩
  show Net.check.go fuel r.n.sat.decisionLevel r.n (p :: ps) = _
  rw [Net.check.go, NetCheck.assume_false hv]

/-- (E1, any round) at the start of a round of the loop (network `n`, bounded invariant of C07NC) a literal that is
    already false is T-inconsistent with the added clauses and the decisions standing in that round -/
theorem C07NC_neg_round_false (m : Nat) (n : Net) (orig L : Cnf) (fr : List Frame) (h : NetCheck.NetInvB m n orig L fr)
    (p : Lit) (hv : n.sat.value p = some false) (ps : List Lit) (fuel : Nat) :
    n.assume p fuel = some (false, NetCheck.pushStart n p) ∧
    TUnsat n (orig ++ unitsOf n.sat.decisions ++ unitsOf (p :: ps)) :=
  ⟨NetCheck.assume_false hv fuel, NetCheck.false_lit_unsat h.sound h.sat.wf hv ps⟩

/-- non-vacuity of `C07NC_neg_first_false`: after `NetEx3.hist` (level 1, `¬b3` propagated) `check [b3, b4]` answers
    `false`, and by the theorem the added clauses, the decision `b2` and the units `b3`, `b4` are T-unsatisfiable -/
example : (NetEx3.st 10).n.sat.value ⟨3, true⟩ = some false ∧
    (∃ n', Net.check (NetEx3.st 10).n [⟨3, true⟩, ⟨4, true⟩] 100 = some (false, n')) ∧
    TUnsat (NetEx3.st 10).n ((NetEx3.st 10).orig ++ unitsOf (NetEx3.st 10).n.sat.decisions ++ unitsOf [⟨3, true⟩, ⟨4, true⟩]) :=
  ⟨NetEx3.final_ok.2.2.2.2.2.1, C07NC_neg_first_false 100 (NetEx3.st 10) ⟨3, true⟩ [⟨4, true⟩] NetEx3.final_ok.1
    NetEx3.final_ok.2.2.2.2.2.1⟩

end Oratio
