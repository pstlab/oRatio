/-
Property C18 (input part) — reading never hangs or aborts: for EVERY byte string the lexer
model returns a token or a reported error.

The model's loops are structurally recursive on the input except the re-entry of `next()`
after white space and comments, which is bounded by a fuel that `lex` sets to the input
length + 2; `LexErr.fuel` is the model's own "did not finish" outcome.  The theorems say it is
never produced, i.e. every call of `next()` returns after consuming input.
-/
import OratioModel
import OratioProofs.Lemmas.Lexer
import OratioProofs.Lemmas.LexerTotal
import Batteries.Lean.Except

namespace Oratio
open Riddle

/-- a single `next()` never runs out of the fuel `lex` gives it, and leaves a stream that is
    not longer than before -/
theorem C18_nextTok_total (s : Stream) (k : Nat) :
    nextTok (s.length + 2 + k) s ≠ .error .fuel ∧
    ∀ t r, nextTok (s.length + 2 + k) s = .ok (t, r) → r.length ≤ s.length ∧ (t ≠ .sym .EOF → r.length < s.length) :=
  have h := nextTok_good (s.length + 2 + k) s (by omega)
  ⟨fun he => h.of_error he rfl, fun _ _ he => h.of_ok he⟩

/-- the whole token stream: for every input, tokens ending in `EOF` or one of the six reported errors -/
theorem C18_lexer_total (s : Stream) : lex s ≠ .error .fuel :=
  lexAll_ne_fuel (s.length + 2) s (by omega)

/-- and the stream of a successful run always ends with `EOF` -/
theorem C18_lex_ends_with_eof (s : Stream) (ts : List Tok) (h : lex s = .ok ts) : ts.getLast? = some (.sym .EOF) :=
  lexAll_last (s.length + 2) s ts h

example : lex (strInts "\"never closed") = .error .unterminatedString ∧ lex (strInts "/* never closed **") = .error .unterminatedComment ∧
    lex (strInts "99999999999999999999") = .error .outOfRange := by
  refine ⟨?_, ?_, ?_⟩ <;> decide +kernel

end Oratio
