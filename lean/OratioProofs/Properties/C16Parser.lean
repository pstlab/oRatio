/-
Property C16, parser part — RIDDLE expressions are grouped by the precedence and associativity
the hand-written parser implements.

Objects.  `Oratio.Riddle.parseExpr` is the model of `riddle::parser::_expression()` (tied to the
C++ by the differential probe tools/checks/parse_probe.py), `pExpr F p` is `_expression(p)` with
fuel `F`, `exprFuel toks = 3 * toks.length + 2` the fuel the entry point passes.
`printExpr : Expr → List Tok` (OratioProofs/Lemmas/ParserPrint.lean) prints a tree with
parentheses exactly where the four precedence levels need them:

  level 0  `==  !=`                       (left operand at level 0, right operand at level 1)
  level 1  `<  <=  >=  >  ->  |  &  ^`   (left operand at level 1, right operand(s) at level 2)
  level 2  `+  -`                         (operands at level 3)
  level 3  `*  /`                         (operands at level 4)
  level 4  literals, qualified ids, calls, `new`, unary `+ - !` (operand at level 4)

A child is parenthesised iff its level is below the level of its position, a FIRST operand
also when it is a cast (a cast extends as far to the right as possible) or when it is the same
n-ary operator as its parent (`a + b + c` is ONE node; `(a + b) + c` is a node whose first child
is a node).  Parentheses are not nodes.  The operand of a cast is parenthesised when it does
not begin like an operand (`(T) (-x)`: without the parentheses the parser reads `T - x`).

`Expr.WF`: n-ary nodes have at least two operands; the qualified ids of `id`, `new`, casts are
non-empty — exactly the trees the parser can build.
-/
import OratioProofs.Lemmas.ParserRoundtrip
import OratioProofs.Lemmas.ParserTotal

namespace Oratio.Riddle

/-- the entry point the theorems speak about: `_expression()` with the fuel of the model -/
abbrev parseExprTop (toks : List Tok) : Except PErr (Expr × List Tok) := parseExpr toks

/-- General form: at an operand position of precedence `p ≤ 4`, followed by any input `rest` that
    starts with a token which is not an operator of level `≥ p` (nor `.` / `(`, which would
    extend a trailing identifier), `_expression(p)` returns exactly the tree and leaves `rest`. -/
theorem C16_parse_print_roundtrip_at (e : Expr) (h : e.WF) (p : Nat) (hp : p ≤ 4) (rest : List Tok)
    (hs : stopsAt p rest = true) :
    pExpr (exprFuel (printP p e ++ rest)) p (printP p e ++ rest) = .ok (e, rest) :=
  pExpr_of_settles (parse_operand h (mp e h) hp hs) (Nat.le_refl _)

theorem C16_parse_print_roundtrip_rest (e : Expr) (h : e.WF) (rest : List Tok) (hs : stopsAt 0 rest = true) :
    parseExprTop (printExpr e ++ rest) = .ok (e, rest) :=
  pExpr_of_settles (parse_raw (mp e h) (Nat.zero_le _) hs) (Nat.le_refl _)

/-- parsing the minimally parenthesised print of a well-formed tree returns the tree -/
theorem C16_parse_print_roundtrip (e : Expr) (h : e.WF) :
    parseExprTop (printExpr e ++ [.sym .SEMICOLON, .sym .EOF]) = .ok (e, [.sym .SEMICOLON, .sym .EOF]) :=
  C16_parse_print_roundtrip_rest e h _ rfl

/-- A parenthesis may enclose any expression: `( e )` parses to the tree of `e` at every
    precedence — except that `( qualified-id )` followed by the beginning of an operand is read
    as a cast; this is the side condition the code has (`hside`). -/
theorem C16_parenthesised_any (e : Expr) (h : e.WF) (p : Nat) (rest : List Tok) (hs : stopsAt p rest = true)
    (hside : e.isId = true → operandStart rest = false) :
    pExpr (exprFuel (paren (printExpr e) ++ rest)) p (paren (printExpr e) ++ rest) = .ok (e, rest) := by
  have hr := stopsAt_ne_nil hs
  have hcl : castLook (printE e ++ .sym .RPAREN :: rest) = .ok false := by
    cases hid : e.isId with
    | false => exact castLook_printE e h hid _
    | true =>
      obtain ⟨q, rfl⟩ := eq_id_of_isId hid
      cases q with
      | nil => exact absurd rfl h
      | cons n ns =>
        cases rest with
        | nil => exact absurd rfl hr
        | cons t r =>
          rw [printE]
          simp only [qidToks, List.cons_append]
          rw [castLook_ids_rparen, hside hid]
  exact pExpr_of_settles (.of_succ (.bind (primary_paren (mp e h) hcl hr) (pLoop_settles hs))) (Nat.le_refl _)

/-- the side condition of `C16_parenthesised_any` is necessary: `( qualified-id )` followed by
    an expression that begins like an operand is a cast of that expression -/
theorem C16_paren_id_then_operand_is_cast (q : QId) (hq : q ≠ []) (x : Expr) (h : x.WF)
    (hx : operandStart (printExpr x) = true) :
    parseExprTop (paren (printExpr (.id q)) ++ printExpr x ++ [.sym .SEMICOLON, .sym .EOF])
      = .ok (.cast q x, [.sym .SEMICOLON, .sym .EOF]) := by
  have hwf : (Expr.cast q x).WF := ⟨hq, h⟩
  have := C16_parse_print_roundtrip (.cast q x) hwf
  unfold printExpr at hx
  have e1 : printExpr (.cast q x) = paren (printExpr (.id q)) ++ printExpr x := by
    unfold printExpr
    rw [printE, printE, hx]
    simp [paren, wrap]
  rwa [e1] at this

/-! ### `Expr.WF` is exactly "the parser can build it" -/

/-- every tree `_expression(pr)` returns is well-formed -/
theorem C16_parse_result_wf (F pr : Nat) (toks : List Tok) (e : Expr) (r : List Tok)
    (h : pExpr F pr toks = .ok (e, r)) : e.WF :=
  Post_elim (P := fun v => v.1.WF) (pExpr_wf F pr toks) h

/-- a tree is well-formed iff some token list parses to it -/
theorem C16_wf_iff_parseable (e : Expr) : e.WF ↔ ∃ toks r, parseExprTop toks = .ok (e, r) :=
  ⟨fun h => ⟨_, _, C16_parse_print_roundtrip e h⟩, fun ⟨toks, r, h⟩ => C16_parse_result_wf _ 0 toks e r h⟩

/-! ### totality: the fuel of the entry points always suffices -/

/-- `parser::parse()` on ANY token list (in particular every list that ends in `EOF`), with the
    fuel the model's entry points compute from the number of tokens: the result is a
    compilation unit, a parser error message, "the lexer failed", or "undefined behaviour in
    the C++" — never the out-of-fuel result. -/
theorem C16_parser_total (toks : List Tok) : parseUnit toks ≠ .error .fuel :=
  Spec_ne_fuel parseUnit_spec

/-- No input makes the model report undefined behaviour of the C++ (in `_statement`, too, every
    `static_cast<id_token *>` follows a check of the token): `PErr.ub` is unreachable. -/
theorem C16_parser_no_ub (toks : List Tok) (w : String) : parseUnit toks ≠ .error (.ub w) :=
  Spec_ne_ub parseUnit_spec w

theorem C16_parser_total_of_eof (pre : List Tok) :
    (∃ u, parseUnit (pre ++ [.sym .EOF]) = .ok u) ∨ (∃ m, parseUnit (pre ++ [.sym .EOF]) = .error (.msg m)) ∨
      parseUnit (pre ++ [.sym .EOF]) = .error .lexer ∨ (∃ w, parseUnit (pre ++ [.sym .EOF]) = .error (.ub w)) := by
  have h := C16_parser_total (pre ++ [.sym .EOF])
  cases hr : parseUnit (pre ++ [.sym .EOF]) with
  | ok u => exact .inl ⟨u, rfl⟩
  | error e =>
    cases e with
    | msg m => exact .inr (.inl ⟨m, rfl⟩)
    | lexer => exact .inr (.inr (.inl rfl))
    | ub w => exact .inr (.inr (.inr ⟨w, rfl⟩))
    | fuel => exact absurd hr h

/-- the same for the entry points of the three recursive layers; a successful call consumes
    at least one token -/
theorem C16_parseExpr_total (toks : List Tok) :
    parseExpr toks ≠ .error .fuel ∧ ∀ e r, parseExpr toks = .ok (e, r) → r.length < toks.length :=
  ⟨parseExpr_spec.ne_fuel, fun _ _ hr => (parseExpr_spec.of_ok hr).2⟩

theorem C16_parseStmt_total (toks : List Tok) :
    parseStmt toks ≠ .error .fuel ∧ ∀ s r, parseStmt toks = .ok (s, r) → r.length < toks.length :=
  ⟨parseStmt_spec.ne_fuel, fun _ _ hr => (parseStmt_spec.of_ok hr).2⟩

theorem C16_parseClass_total (toks : List Tok) :
    parseClass toks ≠ .error .fuel ∧ ∀ d r, parseClass toks = .ok (d, r) → r.length < toks.length :=
  ⟨parseClass_spec.ne_fuel, fun _ _ hr => (parseClass_spec.of_ok hr).2⟩

/-! ### the hypotheses are satisfiable by non-trivial trees -/

section Examples

private def n (s : String) : Name := strInts s
private def v (s : String) : Expr := .id [n s]

/-- `a + b * (c - d - e) < - f == (T.U) g.h(x, 1) | ! k`  (as a tree) -/
private def ex1 : Expr :=
  .bin .eq
    (.bin .lt
      (.nary .add [v "a", .nary .mul [v "b", .nary .sub [v "c", v "d", v "e"]]])
      (.un .minus (v "f")))
    (.cast [n "T", n "U"] (.nary .disj [.call [n "g"] (n "h") [v "x", .int 1], .un .not (v "k")]))

theorem C16_example1_wf : ex1.WF := by simp [ex1, v, Expr.WF, WFs]

/-- what the printer produces for `ex1`: parentheses around `c - d - e` (level 2 under `*`) and around the
    cast (right operand of `==`, level 1), none elsewhere -/
example : printExpr ex1 =
    [.id (n "a"), .sym .PLUS, .id (n "b"), .sym .STAR, .sym .LPAREN, .id (n "c"), .sym .MINUS, .id (n "d"), .sym .MINUS,
     .id (n "e"), .sym .RPAREN, .sym .LT, .sym .MINUS, .id (n "f"), .sym .EQEQ,
     .sym .LPAREN, .sym .LPAREN, .id (n "T"), .sym .DOT, .id (n "U"), .sym .RPAREN,
       .id (n "g"), .sym .DOT, .id (n "h"), .sym .LPAREN, .id (n "x"), .sym .COMMA, .int 1, .sym .RPAREN,
       .sym .BAR, .sym .BANG, .id (n "k"), .sym .RPAREN] := by
  simp [printExpr, ex1, v, printE, printArgs, printTail, wrap, paren, qidToks, dotToks, Expr.level, Expr.isCast, Expr.isNary,
    BOp.level, NOp.level, BOp.sym, NOp.sym, UOp.sym, operandStart]

example : parseExprTop (printExpr ex1 ++ [.sym .SEMICOLON, .sym .EOF]) = .ok (ex1, [.sym .SEMICOLON, .sym .EOF]) :=
  C16_parse_print_roundtrip ex1 C16_example1_wf

/-- `(a + b) + c` and `a + b + c` are different trees and both round-trip -/
private def ex2 : Expr := .nary .add [.nary .add [v "a", v "b"], v "c"]
theorem C16_example2_wf : ex2.WF := by simp [ex2, v, Expr.WF, WFs]
example : parseExprTop (printExpr ex2 ++ [.sym .SEMICOLON, .sym .EOF]) = .ok (ex2, [.sym .SEMICOLON, .sym .EOF]) :=
  C16_parse_print_roundtrip ex2 C16_example2_wf

/-- `C16_parse_print_roundtrip_at`: `ex1` as an operand of `*` (level 4) followed by `+ …` -/
example : stopsAt 4 [.sym .PLUS, .int 1, .sym .EOF] = true := rfl
example : pExpr (exprFuel (printP 4 ex1 ++ [.sym .PLUS, .int 1, .sym .EOF])) 4 (printP 4 ex1 ++ [.sym .PLUS, .int 1, .sym .EOF])
    = .ok (ex1, [.sym .PLUS, .int 1, .sym .EOF]) :=
  C16_parse_print_roundtrip_at ex1 C16_example1_wf 4 (Nat.le_refl _) _ rfl

/-- `C16_parenthesised_any`: `( ex1 )` as an operand of level 4, followed by `* 2` -/
example : pExpr (exprFuel (paren (printExpr ex1) ++ [.sym .STAR, .int 2, .sym .EOF])) 4 (paren (printExpr ex1) ++ [.sym .STAR, .int 2, .sym .EOF])
    = .ok (ex1, [.sym .STAR, .int 2, .sym .EOF]) :=
  C16_parenthesised_any ex1 C16_example1_wf 4 _ rfl (by simp [ex1, Expr.isId])

/-- … and for a bare identifier the side condition holds when e.g. an operator follows: `(a) - b` -/
example : pExpr (exprFuel (paren (printExpr (v "a")) ++ [.sym .MINUS, .id (n "b"), .sym .EOF])) 4 (paren (printExpr (v "a")) ++ [.sym .MINUS, .id (n "b"), .sym .EOF])
    = .ok (v "a", [.sym .MINUS, .id (n "b"), .sym .EOF]) :=
  C16_parenthesised_any (v "a") (by simp [v, Expr.WF]) 4 _ rfl (fun _ => rfl)

/-- `(T) x` is a cast -/
example : parseExprTop (paren (printExpr (v "T")) ++ printExpr (v "x") ++ [.sym .SEMICOLON, .sym .EOF])
    = .ok (.cast [n "T"] (v "x"), [.sym .SEMICOLON, .sym .EOF]) :=
  C16_paren_id_then_operand_is_cast [n "T"] (by simp) (v "x") (by simp [v, Expr.WF]) (by simp [printExpr, v, printE, qidToks, operandStart])

/-- `C16_parser_total` has no hypothesis; an instance on the tokens of `real x = (a + 1) * 2; x < 3;` -/
private def prog : List Tok :=
  [.sym .REAL, .id (n "x"), .sym .EQ, .sym .LPAREN, .id (n "a"), .sym .PLUS, .int 1, .sym .RPAREN, .sym .STAR, .int 2, .sym .SEMICOLON,
   .id (n "x"), .sym .LT, .int 3, .sym .SEMICOLON, .sym .EOF]
example : parseUnit prog ≠ .error .fuel := C16_parser_total prog
/-- (here the parser succeeds: two statements) -/
example : (parseUnit prog).toOption.map (fun u => u.stmts.length) = some 2 := by decide

end Examples

end Oratio.Riddle
