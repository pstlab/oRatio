/-
Property C05 — reusable-resource usage never exceeds capacity.

`Sweep.rrPeaks` models the peak test of `reusable_resource::get_current_incs`, `Sweep.rrTimeline`
the timeline extraction with its per-segment usage.  Usage is piecewise constant between
pulses, so "no peak at any pulse" is "within capacity at EVERY instant".
-/
import OratioModel
import OratioProofs.Properties.C04

namespace Oratio
open Sweep

/-- the amounts of the atoms covering instant `t`, summed -/
def usageAt (as : List TAtom) (t : Time) : Time :=
  (as.filter (fun a => covers a t)).foldl (fun u a => tadd u a.amount) (0, 0)

/-- `h0`: a resource with NO use atom and a negative capacity is the one case in which the sweep (which has no
    pulse to look at) and the pointwise reading (usage 0 > capacity) differ: `as = []`, `cap = (-1, 0)` refutes the
    statement without `h0` (`Sweep.no_peak_iff_within_capacity_counterexample`). -/
theorem C05_no_peak_iff_within_capacity (as : List TAtom) (h : AtomsOk as) (cap : Time)
    (h0 : as ≠ [] ∨ tle ((0, 0) : Time) cap = true) :
    rrPeaks as cap = [] ↔ ∀ t : Time, tle (usageAt as t) cap = true := by
  constructor
  · intro hnil
    have hpulse : ∀ p ∈ pulsesOf as [], tle (usageSum as p) cap = true := fun p hp =>
      tle_of_not_tlt fun hc => List.ne_nil_of_mem (peak_reported h hp hc) hnil
    have hzero : tle ((0, 0) : Time) cap = true :=
      h0.elim (fun h0 => let ⟨p, hp, hz⟩ := exists_pulse_usage_zero h0; hz ▸ hpulse p hp) id
    intro t
    show tle (usageSum as t) cap = true
    rcases usageSum_eq_pulse_or_zero as t with ⟨p, hp, he⟩ | he
    · exact he ▸ hpulse p hp
    · exact he ▸ hzero
  · intro hall
    exact List.eq_nil_iff_forall_not_mem.2 fun p hp => not_tle_of_tlt (peak_exceeds h hp).2 (hall p)

/-- a reported peak is an instant at which the capacity is exceeded -/
theorem C05_reported_peak_exceeds (as : List TAtom) (h : AtomsOk as) (cap : Time) (p : Time) (hp : p ∈ rrPeaks as cap) :
    tlt cap (usageAt as p) = true :=
  (peak_exceeds h hp).2

/-- the usage shown for a timeline segment is the sum of the amounts of the atoms covering it
    (`hb`, `hoh` are not needed) -/
theorem C05_timeline_usage_is_sum (as : List TAtom) (h : AtomsOk as) (o hz : Time)
    (hb : ∀ a ∈ as, tle o a.start = true ∧ tle a.stop hz = true) (hoh : tle o hz = true) :
    ∀ s ∈ rrTimeline as o hz, s.usage = usageAt as s.lo ∧
      ∀ t : Time, tle s.lo t = true → tlt t s.hi = true → usageAt as t = s.usage := by
  rw [rrTimeline_eq]
  intro s hs
  obtain ⟨_, hA, hG, hN, hu⟩ := (pulses_spec h (usageOf as) [o, hz]).2 s hs
  have h1 : s.usage = usageAt as s.lo := by rw [hu]; exact usageOf_eq_usageSum h.1 hA hN
  refine ⟨h1, fun t ht1 ht2 => ?_⟩
  rw [h1]
  exact usageSum_congr (fun a ha => covers_eq_of_gap hG ht1 ht2 ha)

example : rrPeaks [⟨1, (0, 0), (3, 0), (2, 0)⟩, ⟨2, (2, 0), (4, 0), (2, 0)⟩] (3, 0) = [(2, 0)] := by decide +kernel

end Oratio
