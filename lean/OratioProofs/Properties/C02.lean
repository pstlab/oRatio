/-
Property C02 — a problem is declared unsolvable only if it has no solution: the logical skeleton.

`unsolvable_exception` / `inconsistency_exception` are thrown only on a root-level `false` from
`new_clause` / `propagate` / `next`.  The theorems say such a `false` is impossible for a problem
that has a solution:

* `C02_planted_network_has_model`: for ANY list of constraints (formulas over atoms, encoded as the
  evaluator does — see C01) and any assignment of the atoms making all of them true, the network
  produced by the encoders has a total model that agrees with the assignment on the atoms and makes
  every constraint literal true  (the encoders never lose a solution: they are equivalences over
  FRESH variables, C13's `Extends`);
* `C02_asserting_satisfiable_never_fails`: hence asserting the constraint literals one after the
  other (`new_clause({l})`) and propagating at root level answers `true` every time;
* `C02_false_answers_need_unsat` (= C07_false_only_if_unsat): in every reachable state of the full
  SAT-core model (learning, backjumping, `next`) a `false` answer at root level means the added
  clauses are unsatisfiable — learnt clauses are consequences, so they prune no model;
* theory explanations are valid consequences: C10_conflict_iff_infeasible (difference logic), C09
  (linear arithmetic).
-/
import OratioProofs.Properties.C01
import OratioProofs.Properties.C07

namespace Oratio
open Enc

namespace C02L

mutual
theorem eval_congr (v w : Lit → Bool) : ∀ (f : Form), (∀ l ∈ f.atoms, v l = w l) → f.eval v = f.eval w
  | .atom l, h => by simpa [Form.eval] using h l (by simp [Form.atoms])
  | .and fs, h => by simpa [Form.eval] using evalAll_congr v w fs (by simpa [Form.atoms] using h)
  | .or fs, h => by simpa [Form.eval] using evalAny_congr v w fs (by simpa [Form.atoms] using h)
  | .not f, h => by simp [Form.eval, eval_congr v w f (by simpa [Form.atoms] using h)]
  | .iff f g, h => by
    have h1 := eval_congr v w f (fun l hl => h l (by simp [Form.atoms, hl]))
    have h2 := eval_congr v w g (fun l hl => h l (by simp [Form.atoms, hl]))
    simp [Form.eval, h1, h2]
theorem evalAll_congr (v w : Lit → Bool) : ∀ (fs : List Form), (∀ l ∈ Form.atomsL fs, v l = w l) → Form.evalAll v fs = Form.evalAll w fs
  | [], _ => rfl
  | f :: fs, h => by
    have h1 := eval_congr v w f (fun l hl => h l (by simp [Form.atomsL, hl]))
    have h2 := evalAll_congr v w fs (fun l hl => h l (by simp [Form.atomsL, hl]))
    simp [Form.evalAll, h1, h2]
theorem evalAny_congr (v w : Lit → Bool) : ∀ (fs : List Form), (∀ l ∈ Form.atomsL fs, v l = w l) → Form.evalAny v fs = Form.evalAny w fs
  | [], _ => rfl
  | f :: fs, h => by
    have h1 := eval_congr v w f (fun l hl => h l (by simp [Form.atomsL, hl]))
    have h2 := evalAny_congr v w fs (fun l hl => h l (by simp [Form.atomsL, hl]))
    simp [Form.evalAny, h1, h2]
end

theorem atoms_sub : ∀ (fs : List Form) (f : Form), f ∈ fs → ∀ l ∈ f.atoms, l ∈ Form.atomsL fs
  | [], _, h, _, _ => by cases h
  | g :: gs, f, h, l, hl => by
    rcases List.mem_cons.mp h with rfl | h
    · simp [Form.atomsL, hl]
    · have := atoms_sub gs f h l hl
      simp [Form.atomsL, this]

theorem fresh_sat (n : Nat) (α : Asg) (h0 : α 0 = false) : Enc.Sat α (Enc.fresh n) := by
  refine ⟨h0, (EncL.models_iff α (Enc.fresh n)).2 ⟨fun c hc => (by cases hc), fun v b hv => ?_⟩⟩
  cases v with
  | zero =>
    have : b = false := by simpa [Enc.fresh] using hv.symm
    rw [this]; exact h0
  | succ k =>
    exfalso
    simp only [Enc.fresh, List.getD_eq_getElem?_getD, List.getElem?_cons_succ, List.getElem?_replicate] at hv
    split at hv <;> cases hv

theorem assert_step {s : Enc} {l : Lit} (h : s.Inv) (hl : l.var < s.nvars) {α : Asg} (hα : Enc.Sat α s)
    (ht : α.lit l = true) :
    (s.newClause [l]).1 = true ∧ (s.newClause [l]).2.Inv ∧ (s.newClause [l]).2.nvars = s.nvars ∧
    Enc.Sat α (s.newClause [l]).2 := by
  have hp := EncL.newClause_sat h (c := [l]) fun x hx => List.mem_singleton.1 hx ▸ hl
  have hcl : α.clause [l] = true := by simp [Asg.clause, ht]
  have hα' := hp.keep1 hα hcl
  exact ⟨(hp.ans1 hα').symm.trans hcl, hp.inv, hp.nvars, hα'⟩

end C02L

/-- the encoders lose no solution: a satisfying assignment of the atoms extends to a model of the
    whole network in which every constraint literal is true -/
theorem C02_planted_network_has_model (n : Nat) (fs : List Form) (hr : ∀ l ∈ Form.atomsL fs, l.var < n + 1)
    (α₀ : Asg) (h0 : α₀ 0 = false) (hsat : ∀ f ∈ fs, f.eval α₀.lit = true) :
    ∃ α, Enc.Sat α (Form.encodeL fs (Enc.fresh n)).2 ∧ (∀ v, v < n + 1 → α v = α₀ v) ∧
      ∀ l ∈ (Form.encodeL fs (Enc.fresh n)).1, α.lit l = true := by
  have hr' : ∀ l ∈ Form.atomsL fs, l.var < (Enc.fresh n).nvars := by rw [C01L.fresh_nvars]; exact hr
  obtain ⟨_, _, hext, _, hev⟩ := C01L.encodeL_total fs (Enc.fresh n) (C01L.fresh_inv n) hr'
  have hs0 : Enc.Sat α₀ (Enc.fresh n) := by
    exact C02L.fresh_sat n α₀ h0
  obtain ⟨α, hα, hag⟩ := hext α₀ hs0
  rw [C01L.fresh_nvars] at hag
  refine ⟨α, hα, hag, ?_⟩
  have hm := hev α hα
  intro l hl
  have hmem : α.lit l ∈ (Form.encodeL fs (Enc.fresh n)).1.map α.lit := List.mem_map.2 ⟨l, hl, rfl⟩
  rw [hm] at hmem
  obtain ⟨f, hf, hfe⟩ := List.mem_map.1 hmem
  rw [← hfe, C02L.eval_congr α.lit α₀.lit f (fun a ha =>
    EncL.lit_congr (hag a.var (hr a (C02L.atoms_sub fs f hf a ha))))]
  exact hsat f hf

/-- what `core` does with a list of top-level constraints: assert each literal, then propagate -/
def Enc.assertAll (s : Enc) : List Lit → Bool × Enc
  | [] => s.propagate
  | l :: ls => match s.newClause [l] with
    | (false, s') => (false, s')
    | (true, s') => Enc.assertAll s' ls

/-- a problem built around a known solution is never rejected by the root-level machinery -/
theorem C02_asserting_satisfiable_never_fails (n : Nat) (fs : List Form) (hr : ∀ l ∈ Form.atomsL fs, l.var < n + 1)
    (α₀ : Asg) (h0 : α₀ 0 = false) (hsat : ∀ f ∈ fs, f.eval α₀.lit = true) :
    (Enc.assertAll (Form.encodeL fs (Enc.fresh n)).2 (Form.encodeL fs (Enc.fresh n)).1).1 = true := by
  have key : ∀ (ls : List Lit) (s : Enc), s.Inv → InRange s ls → ∀ α : Asg, Enc.Sat α s →
      (∀ l ∈ ls, α.lit l = true) → (Enc.assertAll s ls).1 = true := by
    intro ls
    induction ls with
    | nil =>
      intro s h _ α hα _
      show (s.propagate).1 = true
      cases hb : (s.propagate).1 with
      | true => rfl
      | false => exact absurd hα ((C13_propagate_sem s h).2.2 hb α)
    | cons l ls ih =>
      intro s h hr α hα hl
      obtain ⟨j1, j2, j3, j4⟩ := C02L.assert_step h (hr l (by simp)) hα (hl l (by simp))
      have hr' : InRange (s.newClause [l]).2 ls := fun x hx => by
        rw [j3]; exact hr x (by simp [hx])
      have := ih (s.newClause [l]).2 j2 hr' α j4 (fun x hx => hl x (by simp [hx]))
      unfold Enc.assertAll
      split
      · next s' heq => rw [heq] at j1; cases j1
      · next s' heq => rw [heq] at this; exact this
  have hr' : ∀ l ∈ Form.atomsL fs, l.var < (Enc.fresh n).nvars := by rw [C01L.fresh_nvars]; exact hr
  obtain ⟨i1, i2, _, _, _⟩ := C01L.encodeL_total fs (Enc.fresh n) (C01L.fresh_inv n) hr'
  obtain ⟨α, hα, _, hl⟩ := C02_planted_network_has_model n fs hr α₀ h0 hsat
  exact key _ _ i1 i2 α hα hl

/-- non-vacuity of the converse direction: an unsatisfiable list IS rejected -/
example : (Enc.assertAll (Form.encodeL [.atom ⟨1, true⟩, .not (.atom ⟨1, true⟩)] (Enc.fresh 1)).2
    (Form.encodeL [.atom ⟨1, true⟩, .not (.atom ⟨1, true⟩)] (Enc.fresh 1)).1).1 = false := by decide

/-- the full SAT-core model (conflict analysis, learning, backjumping, simplification): `new_clause`,
    `propagate`, `assume`, `simplify_db` answer `false` only if the clauses ADDED so far are unsatisfiable -
    whatever was learnt in between -/
theorem C02_false_answers_need_unsat (fuel : Nat) (ops : List SatOp) (r r' : Run) (op : SatOp)
    (h : Run.steps fuel Run.init ops = some r) (hs : r.step fuel op = some (r', false))
    (hop : op = .propagate ∨ (∃ c, op = .clause c) ∨ (∃ p, op = .assume p) ∨ op = .simplifyDb) : Unsat r'.orig := by
  have hf := C07_false_only_if_unsat fuel ops r r' op h hs
  rcases hop with rfl | ⟨c, rfl⟩ | ⟨p, rfl⟩ | rfl <;> exact hf

/-- `next` answers `false` only at root level ("no further solution"), or when the added clauses together with the clause
    that excludes the current decisions (all that `next` adds above root level) are unsatisfiable -/
theorem C02_next_false (fuel : Nat) (ops : List SatOp) (r r' : Run)
    (h : Run.steps fuel Run.init ops = some r) (hs : r.step fuel .next = some (r', false)) :
    r.s.rootLevel = true ∨ Unsat r'.orig := by
  exact C07_false_only_if_unsat fuel ops r r' .next h hs

end Oratio
