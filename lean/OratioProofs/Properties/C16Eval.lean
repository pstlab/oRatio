/-
Property C16, evaluation part — arithmetic expressions are evaluated with the language's semantics.

Model: OratioModel/Core/Eval.lean (`evalA`: what `*_expression::evaluate` and `core::add / sub / mult / div / minus`
build).  For every expression of the arithmetic fragment, every environment of well-formed linear expressions and
every valuation: if evaluation succeeds, the linear expression it returns denotes the value the standard semantics
(`Expr.aval`: exact rational arithmetic, n-ary left-associated operators, division by a non-zero constant) gives to the
expression - in particular constants are folded exactly and `a - b - c`, `a / b / c` associate to the left.
The parameter `c : ConstOf` is the oracle "the network already decides this sub-expression" (`lb = ub`); it must be sound for the
valuation (a decided expression has that value), which `constFree` (no variable left) is for every valuation.
-/
import OratioModel
import OratioProofs.Properties.C15
import OratioProofs.Lemmas.Eval

namespace Oratio
open Riddle Eval

mutual
/-- standard semantics of the arithmetic fragment under a valuation of the identifiers (`none`: outside the fragment,
    unknown identifier, or division by zero) -/
def Expr.aval (ρ : Name → Option Rat) : Expr → Option Rat
  | .real r => some r.toRat
  | .int n => some n
  | .id [x] => ρ x
  | .un .minus e => (Expr.aval ρ e).map (- ·)
  | .un .plus e => Expr.aval ρ e
  | .nary .add es => (Expr.avalL ρ es).map (fun vs => vs.foldl (· + ·) 0)
  | .nary .sub es => (Expr.avalL ρ es).bind (fun vs => match vs with | [] => some 0 | v :: rest => some (rest.foldl (· - ·) v))
  | .nary .mul es => (Expr.avalL ρ es).bind (fun vs => match vs with | [] => none | v :: rest => some (rest.foldl (· * ·) v))
  | .nary .div es => (Expr.avalL ρ es).bind (fun vs => match vs with
      | v :: d :: rest => let k := rest.foldl (· * ·) d; if k = 0 then none else some (v / k)
      | _ => none)
  | _ => none
def Expr.avalL (ρ : Name → Option Rat) : List Expr → Option (List Rat)
  | [] => some []
  | e :: es => match Expr.aval ρ e, Expr.avalL ρ es with
    | some v, some vs => some (v :: vs)
    | _, _ => none
end

/-- the oracle is sound for the valuation: what it declares decided is a finite canonical constant with that value -/
def ConstSound (c : ConstOf) (σ : Nat → Rat) : Prop :=
  ∀ l k, c l = some k → k.WF ∧ k.den ≠ 0 ∧ Lin.eval l σ = k.toRat

theorem C16E_constFree_sound (σ : Nat → Rat) : ∀ l k, l.WF → constFree l = some k → (k.den ≠ 0 → k.WF ∧ Lin.eval l σ = k.toRat) := by
  intro l k hl h _
  obtain ⟨hk, e⟩ := constFree_spec σ l k hl h
  exact ⟨hk.1, e⟩

/-- every real literal occurring in the expression is a canonical finite rational: `Expr.litsOk`
    (OratioProofs/Lemmas/Eval.lean), spelled out on the arithmetic fragment -/
example (r : R) (e : Expr) (es : List Expr) (op : UOp) (nop : NOp) :
    ((Expr.real r).litsOk ↔ (r.WF ∧ r.den ≠ 0)) ∧ ((Expr.un op e).litsOk ↔ e.litsOk) ∧
    ((Expr.nary nop (e :: es)).litsOk ↔ (e.litsOk ∧ (Expr.nary nop es).litsOk)) ∧ (Expr.nary nop []).litsOk := by
  simp [Expr.litsOk, Expr.litsOkL]

theorem avalL_cons (ρ : Name → Option Rat) (e : Expr) (es : List Expr) :
    Expr.avalL ρ (e :: es) =
      (Expr.aval ρ e).bind fun v => (Expr.avalL ρ es).bind fun vs => some (v :: vs) := by
  rw [Expr.avalL]
  cases Expr.aval ρ e <;> cases Expr.avalL ρ es <;> rfl

mutual
/-- the invariant of the induction: when both the evaluator and the standard semantics succeed, the result is a
    well-formed (canonical, finite) linear expression that denotes the standard value -/
private theorem evalA_denotes (c : ConstOf) (env : Name → Option Lin) (σ : Nat → Rat)
    (henv : ∀ x l, env x = some l → l.WF) (hc : ConstSoundS c σ) :
    ∀ (e : Expr), e.litsOk → Agree (fun l v => l.WF ∧ Lin.evalS l σ = v) (evalA c env e)
      (Expr.aval (fun x => (env x).map (fun l => Lin.eval l σ)) e)
  | .real r, hlit => by
    rw [evalA, Expr.aval]
    exact .pure ⟨Lin.wf_nil hlit, evalS_const r σ⟩
  | .int n, _ => by
    rw [evalA, Expr.aval]
    exact .pure ⟨Lin.wf_nil (R.finWF_ofInt n), by rw [evalS_const, R.toRat_ofInt]⟩
  | .id [x], _ => by
    rw [evalA, Expr.aval]
    cases hx : env x with
    | none => exact .error _ _
    | some l => exact .pure ⟨henv x l hx, rfl⟩
  | .un .minus e, hlit => by
    rw [evalA, Expr.aval]
    exact (evalA_denotes c env σ henv hc e hlit).map fun l v ⟨w, e'⟩ =>
      have ⟨w2, _, _, e2⟩ := Lin.neg_spec l w
      ⟨w2, by rw [e2 σ, e']⟩
  | .un .plus e, hlit => by
    rw [evalA, Expr.aval]
    exact evalA_denotes c env σ henv hc e hlit
  | .nary .add es, hlit => by
    have ih : Agree (DenotesL σ) _ _ := fun ls vs => evalL_denotes c env σ henv hc es ls vs hlit
    rw [evalA, Expr.aval]
    exact ih.map fun ls vs ⟨w, e'⟩ => e' ▸ addAll_spec σ ls w
  | .nary .sub es, hlit => by
    have ih : Agree (DenotesL σ) _ _ := fun ls vs => evalL_denotes c env σ henv hc es ls vs hlit
    rw [evalA, Expr.aval]
    refine ih.map_bind fun ls vs ⟨w, e'⟩ => ?_
    subst e'
    cases ls with
    | nil => exact .pure ⟨wf_empty, evalS_empty σ⟩
    | cons l0 rest => exact .pure (subAll_spec σ l0 rest w)
  | .nary .mul es, hlit => by
    have ih : Agree (DenotesL σ) _ _ := fun ls vs => evalL_denotes c env σ henv hc es ls vs hlit
    rw [evalA, Expr.aval]
    refine ih.bind fun ls vs ⟨w, e'⟩ l v hm hr => ?_
    cases vs with
    | nil => cases hr
    | cons v0 rest => cases hr; exact mulAll_spec hc ls l w hm v0 rest e'
  | .nary .div es, hlit => by
    have ih : Agree (DenotesL σ) _ _ := fun ls vs => evalL_denotes c env σ henv hc es ls vs hlit
    rw [evalA, Expr.aval]
    refine ih.bind fun ls vs ⟨w, e'⟩ l v hm hr => ?_
    match vs, hr, e' with
    | [], hr, _ => cases hr
    | [_], hr, _ => cases hr
    | v0 :: d :: rest, hr, e' =>
      simp only at hr
      split at hr
      · cases hr
      · next hne => cases hr; exact divAll_spec hc ls l w hm v0 d rest e' hne
  | .bool _, _ | .str _, _ | .cast _ _, _ | .un .not _, _ | .ctor _ _, _ | .bin _ _ _, _
  | .call _ _ _, _ | .id [], _ | .id (_ :: _ :: _), _ | .nary .disj _, _ | .nary .conj _, _
  | .nary .xor _, _ => by
    simp only [evalA]
    exact .error _ _
private theorem evalL_denotes (c : ConstOf) (env : Name → Option Lin) (σ : Nat → Rat)
    (henv : ∀ x l, env x = some l → l.WF) (hc : ConstSoundS c σ) :
    ∀ (es : List Expr) (ls : List Lin) (vs : List Rat), Expr.litsOkL es → evalL c env es = .ok ls →
      Expr.avalL (fun x => (env x).map (fun l => Lin.eval l σ)) es = some vs →
      (∀ l ∈ ls, l.WF) ∧ ls.map (fun l => Lin.evalS l σ) = vs
  | [], ls, vs, _, h, hv => by
    rw [evalL] at h
    rw [Expr.avalL] at hv
    cases h; cases hv
    exact ⟨fun _ h => (nomatch h), rfl⟩
  | e :: es, ls, vs, hlit, h, hv => by
    have ih : Agree (DenotesL σ) _ _ := fun ls vs => evalL_denotes c env σ henv hc es ls vs hlit.2
    rw [evalL] at h
    rw [avalL_cons] at hv
    refine Agree.bind (Q := DenotesL σ) (evalA_denotes c env σ henv hc e hlit.1)
      (fun l0 v0 ⟨w0, e0⟩ => ih.bind fun ls0 vs0 ⟨ws, es'⟩ => ?_) ls vs h hv
    exact .pure ⟨List.forall_mem_cons.2 ⟨w0, ws⟩, by rw [List.map_cons, e0, es']⟩
end

/-- evaluation denotes the standard value -/
-- `hlit : e.litsOk`: every real literal occurring in `e` is a canonical finite rational (`r.WF ∧ r.den ≠ 0`).  This is a reachable-input hypothesis: the
-- lexer only produces canonical finite rationals (C16_real_literal in OratioProofs/Properties/C16.lean), and the
-- rational arithmetic of the model is exact on canonical finite operands only (C15).  Without it the statement is
-- false: for `e = .nary .add [.int 1, .real ⟨1, 0⟩]` (the literal is the non-finite `1/0`) `evalA` returns the
-- constant `⟨1, 0⟩` (`1 + ∞ = ∞`), whose `Lin.eval` is `mkRat 1 0 = 0`, while `Expr.aval` is `0 + 1 + 0 = 1`.
theorem C16E_eval_denotes (c : ConstOf) (env : Name → Option Lin) (σ : Nat → Rat)
    (henv : ∀ x l, env x = some l → l.WF ∧ ∀ t ∈ l.vars, t.2.den ≠ 0) (hk : ∀ x l, env x = some l → l.known.den ≠ 0)
    (hc : ConstSound c σ) (e : Expr) (l : Lin) (h : evalA c env e = .ok l)
    (hlit : e.litsOk) (v : Rat) (hv : Expr.aval (fun x => (env x).map (fun l => Lin.eval l σ)) e = some v) :
    Lin.eval l σ = v := by
  have _ := hk
  exact (evalA_denotes c env σ (fun x l hx => (henv x l hx).1) hc e hlit l v h hv).2

/-- the counterexample to the statement without `hlit` (a non-finite literal) -/
example : evalA constFree (fun _ => none) (.nary .add [.int 1, .real ⟨1, 0⟩]) = .ok (Lin.const ⟨1, 0⟩) ∧
    Lin.eval (Lin.const ⟨1, 0⟩) (fun _ => 0) = 0 ∧
    Expr.aval (fun _ => none) (.nary .add [.int 1, .real ⟨1, 0⟩]) = some 1 := by
  refine ⟨by decide, by decide +kernel, by decide +kernel⟩

/-- left association and exact constant folding, concretely -/
example : (evalA constFree (fun _ => none) (.nary .sub [.real ⟨10, 1⟩, .real ⟨3, 1⟩, .real ⟨2, 1⟩])).toOption.map (fun l => Lin.toStr l) = some "5" := by
  decide +kernel
example : (evalA constFree (fun _ => none) (.nary .div [.real ⟨12, 1⟩, .real ⟨3, 1⟩, .real ⟨2, 1⟩])).toOption.map (fun l => Lin.toStr l) = some "2" := by
  decide +kernel


/-! ## what is rejected (as in the C++, which throws: `x * y`, `3 / x`, `x / 0` are reported, not asserted) -/

/-- a quotient is accepted only when every divisor is a constant different from zero -/
theorem C16E_div_accepts_only_nonzero_constants (c : ConstOf) (ls : List Lin) (l : Lin) (h : divAll c ls = .ok l) :
    ∀ d ∈ ls.tail, ∃ k, c d = some k ∧ k.isZero = false := by
  have key : ∀ ds : List Lin, divCheck c ds = none → ∀ d ∈ ds, ∃ k, c d = some k ∧ k.isZero = false := by
    intro ds
    induction ds with
    | nil => intro _ d hd; simp at hd
    | cons x xs ih =>
      intro hch d hd
      unfold divCheck at hch
      cases hx : c x with
      | none => simp [hx] at hch
      | some k =>
        simp only [hx] at hch
        by_cases hz : k.isZero = true
        · simp [hz] at hch
        · simp only [hz] at hch
          rcases List.mem_cons.1 hd with rfl | hd'
          · exact ⟨k, hx, by simpa using hz⟩
          · exact ih (by simpa using hch) d hd'
  unfold divAll at h
  split at h
  · simp at h
  · rename_i hn
    exact key _ hn

/-- the first offending divisor decides the error: not a constant = non-linear, zero = division by zero -/
theorem C16E_div_rejects (c : ConstOf) (first : Lin) (ok : List Lin) (bad : Lin) (rest : List Lin)
    (hok : ∀ d ∈ ok, ∃ k, c d = some k ∧ k.isZero = false) :
    (c bad = none → divAll c (first :: (ok ++ bad :: rest)) = .error .nonLinear) ∧
    (∀ k, c bad = some k → k.isZero = true → divAll c (first :: (ok ++ bad :: rest)) = .error .divZero) := by
  have key : ∀ e, divCheck c (bad :: rest) = some e → divCheck c (ok ++ bad :: rest) = some e := by
    intro e he
    induction ok with
    | nil => simpa using he
    | cons x xs ih =>
      obtain ⟨k, hk, hz⟩ := hok x List.mem_cons_self
      simp only [List.cons_append, divCheck, hk, hz]
      exact ih (fun d hd => hok d (List.mem_cons_of_mem _ hd))
  constructor
  · intro hb
    have : divCheck c (bad :: rest) = some .nonLinear := by simp [divCheck, hb]
    simp [divAll, key _ this]
  · intro k hb hz
    have : divCheck c (bad :: rest) = some .divZero := by simp [divCheck, hb, hz]
    simp [divAll, key _ this]

/-- a product with two factors that are not constants is rejected as non-linear - also when it is the same
    expression twice (`x * x`) -/
example : evalA constFree (fun n => if n == strInts "x" then some (Lin.var 3 R.one) else none)
    (.nary .mul [.id [strInts "x"], .id [strInts "x"]]) = .error .nonLinear := by decide +kernel
example : evalA constFree (fun n => if n == strInts "x" then some (Lin.var 3 R.one) else none)
    (.nary .div [.id [strInts "x"], .real ⟨0, 1⟩]) = .error .divZero := by decide +kernel
example : evalA constFree (fun n => if n == strInts "x" then some (Lin.var 3 R.one) else none)
    (.nary .div [.real ⟨3, 1⟩, .id [strInts "x"]]) = .error .nonLinear := by decide +kernel

end Oratio
