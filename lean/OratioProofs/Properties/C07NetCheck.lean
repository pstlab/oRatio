/-
Property C07NC — `Net.check(lits)` (`sat_core::check` with the theories attached, OratioModel/Net/Net.lean) is
sound, and histories can continue after it: the network it returns satisfies the invariant `NetOK` of C07N
(Properties/C07Net.lean), hence `NetSound`: every stored clause, every logged clause (learnt clauses and theory
lemmas) and every trail literal is T-entailed by the added clauses `orig` (+ decisions); `dead` ⇒ T-unsat.

The obstacle (why `check` is not an operation of the histories of C07Net.lean): inside the loop of
`check` a literal may ALREADY BE ASSIGNED when it is assumed.  If it is true, `assume` opens a decision level and
puts nothing on the trail: the decision is not the first literal of its level, so the component `∀ m, DecOK m` of
`NetInv` fails until the level is popped.  If it is false, `assume` answers `false` with the level still open.

How it is proved (Lemmas/NetInv.lean, NetPropagate.lean, NetSearch.lean, NetCheckLoop.lean):
  * `NetCheck.NetInvB m` is `NetInv` with `DecOK m` for the ONE bound `m` (decisions of the first `m` levels only);
    `Net.propagate` keeps it for every `m` (`C07NC_propagate_bounded`; `DecOK` is only ever carried there),
    so do `learnFrom`, `popTo`, and opening a level ABOVE level `m` for any literal, assigned or not
    (`C07NC_open_level`).
  * `check` is run with `m := rl`, the decision level at its call.  The loop only continues while the level is
    `> rl`; every exit is `popTo rl` of a network satisfying `NetInvB rl`, and at a level `≤ rl` the bounded
    invariant IS the full one (`C07NC_bounded_full`).

Side conditions (`NetCheck.CheckGuard`, `C07NC_guard_def`; same recursion as the loop of `check`): each literal
names an existing SAT variable, and `ConflictsCurrent` - the side condition of `C07N_propagate_sound` - for the two
calls of `propagate` of each round.  Nothing is assumed about the values of the literals, nor about repetitions.
With no rows in the LRA tableau `ConflictsCurrent` is automatic (`C07N_noRows`); on a concrete run it is
established by evaluation (`C07N_conflictsCurrent_check`), as in the example at the end.
-/
import OratioModel
import OratioProofs.Properties.C07Net
import OratioProofs.Lemmas.NetCheckLoop
import OratioProofs.Lemmas.NetCheckEx

namespace Oratio
open Net

/-- the bounded invariant: `NetInv` with the decision component for the first `m` levels only -/
theorem C07NC_netInvB_def (m : Nat) (n : Net) (orig L : Cnf) (fr : List Frame) :
    NetCheck.NetInvB m n orig L fr ↔
      (n.sat.WfS ∧ n.sat.Ent (orig ++ L) orig ∧ n.sat.DecOK m) ∧ (∀ c ∈ L, TEntails n orig c) ∧
      ThInv n (orig ++ L) fr ∧ FramesLv n.sat fr ∧ fr.length = n.sat.decisionLevel ∧ NetReg n :=
  ⟨fun h => ⟨⟨h.sat.wf, h.sat.ent, h.sat.dec⟩, h.lemmas, h.th, h.flv, h.flen, h.reg⟩,
    fun ⟨⟨a, b, c⟩, d, e, f, g, r⟩ => ⟨⟨a, b, c⟩, d, e, f, g, r⟩⟩

/-- the full invariant gives the bounded one for every bound; the bounded one is the full one when no decision
    stands above level `m`; and the bounded one (any `m`, e.g. 0: no decision component at all) gives soundness -/
theorem C07NC_bounded_full (m : Nat) (n : Net) (orig L : Cnf) (fr : List Frame) :
    (NetInv n orig L fr → NetCheck.NetInvB m n orig L fr) ∧
    (NetCheck.NetInvB m n orig L fr → n.sat.decisionLevel ≤ m → NetInv n orig L fr) ∧
    (NetCheck.NetInvB m n orig L fr → NetSound n orig) :=
  ⟨NetCheck.NetInvB.ofInv, fun h hm => h.toInv hm, fun h => h.sound⟩

/-- the side conditions of `check(lits)`, spelled out.  `startOf n p` is the network on which `assume(p)` calls
    `propagate`: level opened, theories pushed, and `p` enqueued if it was unassigned (if `p` is already true the
    SAT core is only the opened level) -/
theorem C07NC_guard_def (fuel : Nat) (n : Net) (p : Lit) (ps : List Lit) :
    (NetCheck.CheckGuard fuel n [] ↔ True) ∧
    (NetCheck.CheckGuard fuel n (p :: ps) ↔
      p.var < n.sat.nvars ∧ (n.sat.value p ≠ some false → ConflictsCurrent (NetCheck.startOf n p) fuel) ∧
      ∀ n1, n.assume p fuel = some (true, n1) →
        ConflictsCurrent n1 fuel ∧
        ∀ n2, n1.propagate fuel = some (true, n2) → n.sat.decisionLevel < n2.sat.decisionLevel →
          NetCheck.CheckGuard fuel n2 ps) ∧
    (n.sat.value p = none → NetCheck.startOf n p = assumeStart n p) ∧
    (∀ v, n.sat.value p = some v → NetCheck.startOf n p =
      { n with sat := { n.sat with trailLim := n.sat.trail.length :: n.sat.trailLim, decisions := p :: n.sat.decisions },
               lra := n.lra.push, idl := n.idl.push, rdl := n.rdl.push }) := by
  refine ⟨by unfold NetCheck.CheckGuard; exact Iff.rfl, ?_, fun hv => by rw [startOf_eq, if_pos hv], fun v hv => ?_⟩
  · rw [NetCheck.CheckGuard]
    constructor
    · rintro ⟨h1, h2, h3⟩
      refine ⟨h1, h2, fun n1 ha => ?_⟩
      rw [ha] at h3
      simp only at h3
      refine ⟨h3.1, fun n2 hp => ?_⟩
      have h4 := h3.2
      rw [hp] at h4
      exact h4
    · rintro ⟨h1, h2, h3⟩
      refine ⟨h1, h2, ?_⟩
      split
      · rename_i n1 ha
        refine ⟨(h3 n1 ha).1, ?_⟩
        split
        · rename_i n2 hp
          exact (h3 n1 ha).2 n2 hp
        · trivial
      · trivial
  · rw [startOf_eq, if_neg (by rw [hv]; nofun)]; rfl

/-- **`Net.propagate` keeps the bounded invariant, for every bound** (the counterpart of `C07N_propagate_sound`) -/
theorem C07NC_propagate_bounded (m : Nat) (orig : Cnf) (fuel : Nat) (n : Net) (L : Cnf) (fr : List Frame)
    (h : NetCheck.NetInvB m n orig L fr) (hd : n.sat.dead = false) (hg : ConflictsCurrent n fuel)
    (b : Bool) (n' : Net) (he : propagate n fuel = some (b, n')) :
    (∃ L' fr', NetCheck.NetInvB m n' orig L' fr') ∧ NetSound n' orig ∧ n'.sat.queue = [] ∧ n'.sat.dead = !b ∧
    (∀ α, TModel n' α ↔ TModel n α) ∧ (b = false → n'.sat.trailLim = [] ∧ TUnsat n' orig ∧ TUnsat n orig) := by
  have r := propagate_invB fuel n L fr h hd hg b n' he
  obtain ⟨L', fr', hi⟩ := r.inv
  refine ⟨⟨L', fr', hi⟩, hi.sound, r.queue, r.dead, r.tm, fun hb => ?_⟩
  have hu : TUnsat n' orig := hi.sound.dead (by rw [r.dead, hb]; rfl)
  exact ⟨r.root hb, hu, fun α h0 hm => hu α h0 ((r.tm α).2 hm)⟩

/-- **opening a decision level above level `m` for ANY literal** - unassigned, already true or already false -
    keeps the invariant bounded by `m`; so does `assume(p)` as a whole (the T-models are unchanged) -/
theorem C07NC_open_level (m : Nat) (n : Net) (orig L : Cnf) (fr : List Frame) (h : NetCheck.NetInvB m n orig L fr)
    (hq : n.sat.queue = []) (hm : m ≤ n.sat.decisionLevel) (p : Lit) :
    NetCheck.NetInvB m (NetCheck.pushStart n p) orig L (⟨n.sat, n.lra, n.idl, n.rdl⟩ :: fr) ∧
    (∀ fuel b n', n.sat.dead = false → p.var < n.sat.nvars →
      (n.sat.value p ≠ some false → ConflictsCurrent (NetCheck.startOf n p) fuel) → n.assume p fuel = some (b, n') →
      (∃ L' fr', NetCheck.NetInvB m n' orig L' fr') ∧ n'.sat.queue = [] ∧ (b = true → n'.sat.dead = false) ∧
        ∀ α, TModel n' α ↔ TModel n α) :=
  ⟨h.pushStart hq hm p, fun fuel b n' hd hp hg he =>
    have ⟨a1, a2, a3, a4, _⟩ := NetCheck.assume_any h hq hd hm p hp fuel hg b n' he
    ⟨a1, a2, a3, a4⟩⟩

/-- `Net.popTo` keeps the bounded invariant -/
theorem C07NC_popTo_bounded (m : Nat) (n : Net) (orig L : Cnf) (fr : List Frame) (h : NetCheck.NetInvB m n orig L fr)
    (hq : n.sat.queue = []) (lvl : Nat) :
    ∃ fr', NetCheck.NetInvB m (popTo n lvl) orig L fr' ∧ (popTo n lvl).sat.decisionLevel = min lvl n.sat.decisionLevel := by
  obtain ⟨fr', h1, pf⟩ := h.popTo hq lvl
  exact ⟨fr', h1, pf.level⟩

/-- **`check(lits)` keeps the network invariant** (`NetInv`, for some ghost list of lemmas and ghost frames), from
    any network that satisfies it, is not dead and has an empty queue; the returned network has an empty queue, its
    decision level is at most the one at the call, and its T-models are those of the network at the call -/
theorem C07NC_check_inv (n : Net) (orig L : Cnf) (fr : List Frame) (h : NetInv n orig L fr) (hq : n.sat.queue = [])
    (hd : n.sat.dead = false) (ls : List Lit) (fuel : Nat) (hg : NetCheck.CheckGuard fuel n ls) (b : Bool) (n' : Net)
    (he : Net.check n ls fuel = some (b, n')) :
    (∃ L' fr', NetInv n' orig L' fr') ∧ NetSound n' orig ∧ n'.sat.queue = [] ∧
    n'.sat.decisionLevel ≤ n.sat.decisionLevel ∧ (∀ α, TModel n' α ↔ TModel n α) := by
  have r := NetCheck.go_ok (orig := orig) fuel n.sat.decisionLevel ls n
    ⟨⟨L, fr, NetCheck.NetInvB.ofInv h⟩, hq, hd, Nat.le_refl _⟩ hg b n' he
  obtain ⟨L', fr', hi⟩ := r.inv
  exact ⟨⟨L', fr', hi⟩, hi.sound, r.queue, r.level, r.tm⟩

/-- **`check(lits)` is sound, and histories can continue after it**: from a state `r` of a history (`NetOK r`, e.g.
    the result of `C07N_all_histories`) that is not dead and has an empty queue, under the side conditions
    `CheckGuard`, whatever `check` answers, the returned network with the SAME set of added clauses satisfies `NetOK`
    again - so `C07N_step_sound` / `C07N_all_histories` / this theorem apply to it - and is `NetSound` -/
theorem C07NC_check_sound (fuel : Nat) (r : NetRun) (ls : List Lit) (b : Bool) (n' : Net) (h : NetOK r)
    (hq : r.n.sat.queue = []) (hd : r.n.sat.dead = false) (hg : NetCheck.CheckGuard fuel r.n ls)
    (he : Net.check r.n ls fuel = some (b, n')) :
    NetOK ⟨n', r.orig⟩ ∧ NetSound n' r.orig ∧ n'.sat.queue = [] ∧ n'.sat.decisionLevel ≤ r.n.sat.decisionLevel ∧
    (∀ α, TModel n' α ↔ TModel r.n α) := by
  obtain ⟨⟨L, fr, hi⟩, _⟩ := h
  obtain ⟨k1, k2, k3, k4, k5⟩ := C07NC_check_inv r.n r.orig L fr hi hq hd ls fuel hg b n' he
  exact ⟨⟨k1, Or.inl k3⟩, k2, k3, k4, k5⟩

/-- a history, then `check`, then another history: the final network is sound -/
theorem C07NC_histories_around_check (fuel : Nat) (ops ops' : List NetOp) (ls : List Lit) (r r1 r2 : NetRun) (b : Bool)
    (n' : Net) (h : NetOK r) (hg : r.guards fuel ops) (hm : r.rooms fuel ops) (he : r.steps fuel ops = some r1)
    (hq : r1.n.sat.queue = []) (hd : r1.n.sat.dead = false) (hgc : NetCheck.CheckGuard fuel r1.n ls)
    (hc : Net.check r1.n ls fuel = some (b, n'))
    (hg' : NetRun.guards fuel ⟨n', r1.orig⟩ ops') (hm' : NetRun.rooms fuel ⟨n', r1.orig⟩ ops')
    (he' : NetRun.steps fuel ⟨n', r1.orig⟩ ops' = some r2) :
    NetOK r2 ∧ NetSound r2.n r2.orig ∧ ∀ d ∈ r.orig, d ∈ r2.orig := by
  obtain ⟨a1, _, a3⟩ := C07N_all_histories fuel ops r r1 h hg hm he
  obtain ⟨b1, _⟩ := C07NC_check_sound fuel r1 ls b n' a1 hq hd hgc hc
  obtain ⟨c1, c2, c3⟩ := C07N_all_histories fuel ops' ⟨n', r1.orig⟩ r2 b1 hg' hm' he'
  exact ⟨c1, c2, fun d hd' => c3 d (a3 d hd')⟩

/-! ## non-vacuity

From `Net.init`: the history `NetEx3.hist` of C07N (two LRA variables, the slack row `y2 = y0 + y1`, assertions
`b1 : y2 ≤ 3`, `b2 : y0 ≥ 2`, `b3 : y1 ≥ 2`, `b4 : y0 ≤ 2`, `b5 := b2 ∧ b4`; clause `[b1]`, `propagate`, `assume b2`,
`assume b3` - conflict of `lra.check`, `[¬b3, ¬b2]` learnt, backjump to level 1 where `b2` is the decision and `¬b3`
is propagated).  Then `check [b2, b4]` at level 1: `b2` IS ALREADY TRUE, so `assume b2` opens level 2 with an empty
trail segment (`DecOK` fails there); `b4` is assumed at level 3 and propagates `b5`; `check` answers `true` and pops
back to level 1.  The hypotheses of `C07NC_check_sound` hold (the guard by evaluation) and it gives `NetOK` and
`NetSound` of the result. -/
example : NetRun.steps 100 ⟨Net.init, []⟩ NetEx3.hist = some (NetEx3.st 10) ∧ NetOK (NetEx3.st 10) ∧
    (NetEx3.st 10).n.sat.queue = [] ∧ (NetEx3.st 10).n.sat.dead = false ∧ (NetEx3.st 10).n.sat.decisionLevel = 1 ∧
    (NetEx3.st 10).n.sat.value ⟨2, true⟩ = some true ∧ (NetEx3.st 10).n.sat.value ⟨4, true⟩ = none ∧
    NetCheck.CheckGuard 100 (NetEx3.st 10).n [⟨2, true⟩, ⟨4, true⟩] ∧
    Net.check (NetEx3.st 10).n [⟨2, true⟩, ⟨4, true⟩] 100 = some (true, NetCheckEx.final) ∧
    NetCheckEx.mid.sat.decisionLevel = 2 ∧ ¬ NetCheckEx.mid.sat.DecOK 2 ∧
    NetOK ⟨NetCheckEx.final, (NetEx3.st 10).orig⟩ ∧ NetSound NetCheckEx.final (NetEx3.st 10).orig ∧
    NetCheckEx.final.sat.decisionLevel = 1 := by
  obtain ⟨a, b, c⟩ := NetCheckEx.facts
  have h := C07NC_check_sound 100 (NetEx3.st 10) [⟨2, true⟩, ⟨4, true⟩] true NetCheckEx.final NetEx3.final_ok.1
    a.1 a.2.1 NetCheckEx.guard NetCheckEx.run
  exact ⟨NetEx3.run_all, NetEx3.final_ok.1, a.1, a.2.1, a.2.2.1, a.2.2.2.1, a.2.2.2.2, NetCheckEx.guard, NetCheckEx.run,
    b.1, b.2, h.1, h.2.1, c⟩

-- NOT PROVED:
-- * the mirror of C07's statement for the answer `false` of `check`: "if `b = false` and the returned network is not
--   dead then the added clauses together with the standing decisions and `ls` as units are T-unsatisfiable".  What IS
--   proved for `false`: if the returned network is dead then `TUnsat n' orig` (component `dead` of `NetSound`), and
--   the inner `propagate`s answer `false` at root level only, with `TUnsat` (`C07NC_propagate_bounded`).  Of the three
--   exits, "`p` already false" and "`propagate` answered `false`" are proved in Properties/C07NetCheckNeg.lean and
--   C07NetCheckNegB.lean; open is "the level did not grow" (a backjump below the level of the round): it needs the
--   learnt no-good read as a refutation of the units assumed so far.
-- * `ConflictsCurrent` as a theorem (as in C07N): it is a hypothesis (`CheckGuard`), automatic without tableau rows
--   (`C07N_noRows`; not restated for `CheckGuard` as a whole), established by evaluation on a concrete run.
-- * `check` is not a constructor of `NetOp`; `C07NC_histories_around_check`
--   states the composition history / `check` / history instead.

end Oratio
