/-
Property C11 (semantic version) — a linear-relation literal MEANS its relation.

Properties/C11.lean says what `newRel` (C++ `lra_theory::new_lt / new_leq / new_geq / new_gt`) returns: a constant,
or the control literal of an assertion `slack ≤ c` / `slack ≥ c`.  Here the answer is related to the rational
solutions `σ : Nat → Rat` of the tableau (`Lra.RowsHoldAt t σ`, Properties/C09Bridge.lean) and to the value
`Lin.eval e σ` of an expression (Lemmas/Lin.lean):

  1. a non-constant answer is the literal of a registered assertion that, in every solution of the new tableau,
     says exactly the requested relation; every solution of the old tableau extends to one of the new tableau;
  2. a constant answer TRUE / FALSE is right for every solution of the tableau within the bounds;
  3. the bound `propagateLit` asserts for a FALSE literal says exactly the negation of the relation;
  4. the literal of `newEq` is, in every model of the SAT clauses, the conjunction of the `≥` and `≤` literals,
     hence true exactly when the two sides are equal;
  5. a later request with the same printed key gets the same literal, and two requests answered by the same
     literal are equivalent.

Vocabulary (definitions in Lemmas/LraRelSemDefs.lean, Lemmas/LraRelSemFinal.lean; spelled out in the first section):
`IRBelow b y` / `IRAbove b y` compare a rational `y` with an `inf_rational` bound `b = q + k·ε` lexicographically;
`InBounds t σ`; `RelHolds r x y`; `AsrtSays a σ` is what the assertion `a` says; `NegSays a σ` what the bound
asserted for its negation says; `SemState s t` collects the invariants assumed of a state, all of which hold
initially and are kept by `new_var()`, `new_lt … new_gt` (section "invariants").

The proofs are in OratioProofs/Lemmas: LraRelMeaning, LraRelBounds, LraRelSemInv, LraRelSemFinal (printing: LraPrint).
-/
import OratioModel
import OratioProofs.Properties.C09Bridge
import OratioProofs.Properties.C11
import OratioProofs.Properties.C13
import OratioProofs.Lemmas.LraRelSemExample

namespace Oratio
open Lra

/-! ## vocabulary, spelled out -/

/-- a finite bound `b = q + k·ε`: `y ≤ b` is `y < q` when `k < 0` and `y ≤ q` otherwise; `b ≤ y` is `q < y` when
    `k > 0` and `q ≤ y` otherwise -/
theorem C11S_bound_reading (b : IR) (hb : b.rat.WF ∧ b.rat.den ≠ 0) (y : Rat) :
    (Lra.IRAbove b y ↔ (if b.inf.toRat < 0 then y < b.rat.toRat else y ≤ b.rat.toRat)) ∧
    (Lra.IRBelow b y ↔ (if 0 < b.inf.toRat then b.rat.toRat < y else b.rat.toRat ≤ y)) := by
  exact ⟨Lra.irAbove_reading hb y, Lra.irBelow_reading hb y⟩

/-- infinite bounds do not constrain -/
theorem C11S_bound_infinite (k : R) (y : Rat) : Lra.IRBelow ⟨R.ninf, k⟩ y ∧ Lra.IRAbove ⟨R.pinf, k⟩ y := by
  exact ⟨Or.inl rfl, Or.inl rfl⟩

/-- "σ within the bounds of t" -/
theorem C11S_inBounds_def (t : Lra) (σ : Nat → Rat) :
    Lra.InBounds t σ ↔ ∀ x, x < t.vals.length → Lra.IRBelow (t.lb x) (σ x) ∧ Lra.IRAbove (t.ub x) (σ x) := by
  exact Iff.rfl

/-- what an assertion says, and what the bound asserted for its negation says -/
theorem C11S_asrtSays_def (a : LAsrt) (σ : Nat → Rat) :
    (a.o = .leq → (Lra.AsrtSays a σ ↔ Lra.IRAbove a.v (σ a.x)) ∧
      (Lra.NegSays a σ ↔ Lra.IRBelow (IR.add a.v ⟨R.zero, R.one⟩) (σ a.x))) ∧
    (a.o = .geq → (Lra.AsrtSays a σ ↔ Lra.IRBelow a.v (σ a.x)) ∧
      (Lra.NegSays a σ ↔ Lra.IRAbove (IR.sub a.v ⟨R.zero, R.one⟩) (σ a.x))) := by
  constructor <;> intro h <;> simp only [Lra.AsrtSays, Lra.NegSays, h] <;> exact ⟨trivial, trivial⟩

/-- the invariants assumed of a state: the tableau invariant of C09 (bridge), the registry invariant of C11, the
    semantic invariant of the caches `exprs` / `s_asrts` (`Lra.SemInv`, Lemmas/LraRelSemDefs.lean) and canonical
    bounds (lower bounds finite or `-∞`, upper bounds finite or `+∞`, finite ε parts) -/
theorem C11S_semState_def (s : Sat) (t : Lra) :
    Lra.SemState s t ↔ Lra.TabWF t ∧ Lra.RelInv s t ∧ Lra.SemInv t ∧ Lra.BndWF t := by
  exact ⟨fun h => ⟨h.tab, h.rel, h.sem, h.bnd⟩, fun ⟨h1, h2, h3, h4⟩ => ⟨h1, h2, h3, h4⟩⟩

/-- the semantic invariant of the caches: a name in `exprs` that prints a canonical expression names a variable
    that has the value of that expression in every solution; a key in `s_asrts` that prints `x (≤|≥) c` is bound
    to the control literal of that very assertion in `v_asrts` -/
theorem C11S_semInv_def (t : Lra) :
    Lra.SemInv t ↔
      (∀ e ∈ t.exprs, ∀ l : Lin, l.WF → Lin.toStr l = e.1 → ∀ σ, Lra.RowsHoldAt t σ → σ e.2 = Lin.eval l σ) ∧
      (∀ e ∈ t.sAsrts, ∀ (up : Bool) (x : Nat) (c : IR), Lra.SimpleC c → Lra.relKey up x c = e.1 →
        t.asrtOf e.2.var = some ⟨if up then .leq else .geq, e.2, x, c⟩) := by
  exact ⟨fun h => ⟨h.exprs_sem, h.sAsrts_sem⟩, fun ⟨h1, h2⟩ => ⟨h1, h2⟩⟩

/-! ## the invariants hold initially and are kept -/

theorem C11S_invariant_init : Lra.SemState Sat.init Lra.init := by exact Lra.SemState.init

theorem C11S_invariant_new_var (s : Sat) (t : Lra) (h : Lra.SemState s t) : Lra.SemState s t.newVar.2 := by
  exact h.newVar

/-- `newRel` keeps the tableau, registry and cache invariants (no hypothesis on coefficients) … -/
theorem C11S_invariant_new_rel (s : Sat) (t : Lra) (r : LRel) (left right : Lin) (l : Lit) (s' : Sat) (t' : Lra)
    (b : Option Nat) (ht : Lra.TabWF t) (ri : Lra.RelInv s t) (si : Lra.SemInv t) (hl : left.WF) (hr : right.WF)
    (hlv : ∀ p ∈ left.vars, p.1 < t.vals.length) (hrv : ∀ p ∈ right.vars, p.1 < t.vals.length)
    (h : newRel s t r left right = some (l, s', t', b)) :
    Lra.TabWF t' ∧ Lra.RelInv s' t' ∧ Lra.SemInv t' ∧ t.vals.length ≤ t'.vals.length := by
  exact Lra.newRel_keeps ht ri si hl hr hlv hrv h

/-- … and canonical bounds, when the rewritten difference has no zero coefficient (see `C11S_no_zero_invariant`) -/
theorem C11S_invariant_new_rel_bounds (s : Sat) (t : Lra) (r : LRel) (left right : Lin) (l : Lit) (s' : Sat)
    (t' : Lra) (b : Option Nat) (hs : Lra.SemState s t) (hl : left.WF) (hr : right.WF)
    (hlv : ∀ p ∈ left.vars, p.1 < t.vals.length) (hrv : ∀ p ∈ right.vars, p.1 < t.vals.length)
    (hnz : Lra.NoZero (t.relExpr left right)) (h : newRel s t r left right = some (l, s', t', b)) :
    Lra.SemState s' t' := by
  exact hs.newRel hl hr hlv hrv hnz h

/-- writing a finite bound (what `assert_lower` / `assert_upper` do to `c_bounds`) keeps them -/
theorem C11S_invariant_set_bound (s : Sat) (t : Lra) (hs : Lra.SemState s t) (i : Nat) (b : LBound)
    (hb : Lra.FinIR_s b.value) : Lra.SemState s (t.setBound i b) := by
  exact hs.setBound i hb

/-- `check()` (any number of pivots) keeps the cache invariant: it keeps the caches and the solutions -/
theorem C11S_invariant_check (t t' : Lra) (si : Lra.SemInv t) (ht : Lra.TabWF t) (fuel : Nat) (c : Option (List Lit))
    (h : t.check fuel = some (c, t')) : Lra.SemInv t' := by
  obtain ⟨-, hsol⟩ := sameSol_check fuel t t' c ht h
  have hcore := (C09_core_iff t t').1 (C09_core_check fuel t t' c h)
  exact si.of_sols hcore.2.2.2.1 hcore.2.2.2.2 hcore.2.1 (fun σ hσ => (hsol σ).2 hσ)

/-- "no zero coefficient" is an invariant: the rewritten difference of two expressions without zero coefficients
    over rows without zero coefficients has none, and `newRel` keeps the rows free of them (`pivot` does too: `Lra.nz_pivot`, Lemmas/LraNoZero.lean) -/
theorem C11S_no_zero_invariant (s : Sat) (t : Lra) (r : LRel) (left right : Lin) (l : Lit) (s' : Sat) (t' : Lra)
    (b : Option Nat) (ht : Lra.TabWF t) (hrz : Lra.RowsNoZero t) (hl : left.WF) (hr : right.WF)
    (hnl : Lra.NoZero left) (hnr : Lra.NoZero right)
    (hlv : ∀ p ∈ left.vars, p.1 < t.vals.length) (hrv : ∀ p ∈ right.vars, p.1 < t.vals.length) :
    Lra.RowsNoZero Lra.init ∧ Lra.RowsNoZero t.newVar.2 ∧ Lra.NoZero (t.relExpr left right) ∧
    (newRel s t r left right = some (l, s', t', b) → Lra.RowsNoZero t') := by
  exact ⟨Lra.RowsNoZero.init, hrz.newVar, Lra.relE_nz ht hrz hl hr hnl hnr,
    fun h => hrz.newRel ht hl hr hnl hnr hlv hrv h⟩

/-! ## a non-constant answer means the relation -/

/-- `newRel` returns a non-constant literal `l`: an assertion `a = ⟨o, l, x, v⟩` is registered for `l`'s variable in
    the new theory, on an existing variable `x`, with `o` the direction of the request and `v` a constant
    `c`, `c + ε` or `c - ε`; and for EVERY solution `σ` of the new tableau the relation holds iff `σ x` satisfies the
    assertion.  This covers the slack variable being new, reused through the print-out of the rewritten
    difference, and being an existing variable named by `exprs`. -/
theorem C11S_rel_literal_meaning (s : Sat) (t : Lra) (r : LRel) (left right : Lin) (l : Lit) (s' : Sat) (t' : Lra)
    (b : Option Nat) (ht : Lra.TabWF t) (ri : Lra.RelInv s t) (si : Lra.SemInv t) (hl : left.WF) (hr : right.WF)
    (hlv : ∀ p ∈ left.vars, p.1 < t.vals.length) (hrv : ∀ p ∈ right.vars, p.1 < t.vals.length)
    (h : newRel s t r left right = some (l, s', t', b)) (hc : l ≠ Lit.trueLit ∧ l ≠ Lit.falseLit) :
    ∃ a : LAsrt, t'.asrtOf l.var = some a ∧ a.b = l ∧ a.o = (if r.upper then .leq else .geq) ∧
      a.x < t'.vals.length ∧ Lra.SimpleC a.v ∧
      ∀ σ, Lra.RowsHoldAt t' σ → (Lra.RelHolds r (Lin.eval left σ) (Lin.eval right σ) ↔ Lra.AsrtSays a σ) := by
  exact Lra.newRel_meaning ht ri si hl hr hlv hrv h hc

/-- conservativity (whatever the answer): the solutions of the new tableau are solutions of the old one, and every
    solution of the old tableau extends, changing no existing variable, to a solution of the new one -/
theorem C11S_conservative (s : Sat) (t : Lra) (r : LRel) (left right : Lin) (l : Lit) (s' : Sat) (t' : Lra)
    (b : Option Nat) (ht : Lra.TabWF t) (si : Lra.SemInv t) (hl : left.WF) (hr : right.WF)
    (hlv : ∀ p ∈ left.vars, p.1 < t.vals.length) (hrv : ∀ p ∈ right.vars, p.1 < t.vals.length)
    (h : newRel s t r left right = some (l, s', t', b)) :
    (∀ σ, Lra.RowsHoldAt t' σ → Lra.RowsHoldAt t σ) ∧
    (∀ σ, Lra.RowsHoldAt t σ → ∃ σ', Lra.RowsHoldAt t' σ' ∧ ∀ x, x < t.vals.length → σ' x = σ x) := by
  exact Lra.newRel_conservative ht si hl hr hlv hrv h

/-! ## a constant answer is sound -/

/-- TRUE: the relation holds for every solution of the tableau within the bounds; FALSE: for none.
    (Soundness of the interval evaluation `lbLin` / `ubLin`, infinities and ε parts included:
    `Lra.lbLin_ubLin_bounds` in Lemmas/LraBoundKinds.lean.) -/
-- The hypothesis `hnz` (the rewritten difference has no zero coefficient) is needed.  The model (as the C++)
-- multiplies an infinite bound by a zero coefficient and gets `+∞` (`rational::operator*` has no case for
-- `0·∞`; the C++ `assert`s it away in debug builds), so `0·x0 ≥ 1` with `x0` unbounded is answered TRUE: the
-- counterexample is proved below.  `hnz` follows from `left`, `right` and the rows having no zero coefficient, which
-- `newRel` maintains (`C11S_no_zero_invariant`).
theorem C11S_constant_sound (s : Sat) (t : Lra) (r : LRel) (left right : Lin) (l : Lit) (s' : Sat) (t' : Lra)
    (b : Option Nat) (hs : Lra.SemState s t) (hl : left.WF) (hr : right.WF)
    (hlv : ∀ p ∈ left.vars, p.1 < t.vals.length) (hrv : ∀ p ∈ right.vars, p.1 < t.vals.length)
    (hnz : Lra.NoZero (t.relExpr left right)) (h : newRel s t r left right = some (l, s', t', b)) :
    (l = Lit.trueLit → ∀ σ, Lra.RowsHoldAt t σ → Lra.InBounds t σ →
      Lra.RelHolds r (Lin.eval left σ) (Lin.eval right σ)) ∧
    (l = Lit.falseLit → ∀ σ, Lra.RowsHoldAt t σ → Lra.InBounds t σ →
      ¬ Lra.RelHolds r (Lin.eval left σ) (Lin.eval right σ)) := by
  exact Lra.newRel_constant_sound hs.tab hs.rel hs.sem hs.bnd hl hr hlv hrv hnz h

/-- the counterexample to the statement without `hnz`: in the state with two unbounded variables every other
    hypothesis holds, `0·x0 ≥ 1` is answered TRUE, and it holds for no valuation (all of which satisfy the empty
    tableau, and e.g. the zero valuation is within the bounds) -/
theorem C11S_constant_unsound_with_zero_coefficient :
    Lra.SemState Sat.init Lra.exT2 ∧ Lra.exZ0.WF ∧ Lra.exK1.WF ∧
    (∀ p ∈ Lra.exZ0.vars, p.1 < Lra.exT2.vals.length) ∧ (∀ p ∈ Lra.exK1.vars, p.1 < Lra.exT2.vals.length) ∧
    (∃ s' t' b, newRel Sat.init Lra.exT2 .geq Lra.exZ0 Lra.exK1 = some (Lit.trueLit, s', t', b)) ∧
    Lra.RowsHoldAt Lra.exT2 (fun _ => 0) ∧ Lra.InBounds Lra.exT2 (fun _ => 0) ∧
    ∀ σ, ¬ Lra.RelHolds .geq (Lin.eval Lra.exZ0 σ) (Lin.eval Lra.exK1 σ) := by
  exact ⟨Lra.exT2_state, Lra.exZ0_wf, Lra.exK1_wf, Lra.vars1_lt _ _ _ _ (by decide), Lra.vars0_lt _ _,
    ⟨_, _, _, Lra.ex6_some⟩, Lra.exT2_rows (fun _ => 0), Lra.exT2_inBounds (fun _ => 0), Lra.exZ0_never⟩

/-- for the assertion `a` behind a non-constant answer: `propagate(p)` with `a`'s control literal FALSE asserts
    the lower bound `v + ε` (for `x ≤ v`) / the upper bound `v - ε` (for `x ≥ v`), and in every solution of the
    tableau `σ x` satisfies that bound iff the relation does NOT hold -/
theorem C11S_negation (s : Sat) (t : Lra) (r : LRel) (left right : Lin) (l : Lit) (s' : Sat) (t' : Lra)
    (b : Option Nat) (ht : Lra.TabWF t) (ri : Lra.RelInv s t) (si : Lra.SemInv t) (hl : left.WF) (hr : right.WF)
    (hlv : ∀ p ∈ left.vars, p.1 < t.vals.length) (hrv : ∀ p ∈ right.vars, p.1 < t.vals.length)
    (h : newRel s t r left right = some (l, s', t', b)) (hc : l ≠ Lit.trueLit ∧ l ≠ Lit.falseLit) :
    ∃ a : LAsrt, t'.asrtOf l.var = some a ∧
      (∀ (s2 : Sat) (p : Lit), p.var = l.var → s2.value a.b = some false →
        propagateLit s2 t' p = (if a.o = .leq then assertLower s2 t' a.x (IR.add a.v ⟨R.zero, R.one⟩) p
          else assertUpper s2 t' a.x (IR.sub a.v ⟨R.zero, R.one⟩) p)) ∧
      ∀ σ, Lra.RowsHoldAt t' σ →
        (¬ Lra.RelHolds r (Lin.eval left σ) (Lin.eval right σ) ↔ Lra.NegSays a σ) := by
  obtain ⟨a, ha, -, -, -, hv, hm⟩ := Lra.newRel_meaning ht ri si hl hr hlv hrv h hc
  exact ⟨a, ha, fun s2 p hp hval => Lra.propagate_false s2 t' p a (hp ▸ ha) hval,
    fun σ hσ => (not_congr (hm σ hσ)).trans (Lra.negSays_iff hv σ).symm⟩

/-- `newEq` asks `≥` then `≤` and returns `new_conj` of the two literals `l1`, `l2`.  In every model `α` of the
    clauses of the SAT core returned, `l` is the conjunction of `l1` and `l2` (by C13, through the root-level view
    `Sat.toEnc`); so if `α` agrees with a solution `σ` of the tableau on the two inequalities, `l` is true exactly
    when the two sides are equal.  (What `l1`, `l2` mean is `C11S_rel_literal_meaning` / `C11S_constant_sound`.) -/
theorem C11S_eq_meaning (s : Sat) (t : Lra) (left right : Lin) (l : Lit) (s' : Sat) (t' : Lra) (bs : List Nat)
    (ht : Lra.TabWF t) (ri : Lra.RelInv s t) (si : Lra.SemInv t) (hE : s.toEnc.Inv) (hl : left.WF) (hr : right.WF)
    (hlv : ∀ p ∈ left.vars, p.1 < t.vals.length) (hrv : ∀ p ∈ right.vars, p.1 < t.vals.length)
    (h : newEq s t left right = some (l, s', t', bs)) :
    ∃ l1 s1 t1 b1 l2 s2 b2, newRel s t .geq left right = some (l1, s1, t1, b1) ∧
      newRel s1 t1 .leq left right = some (l2, s2, t', b2) ∧ (l, s') = s2.newConj [l1, l2] ∧
      (∀ α, Enc.Sat α s'.toEnc → α.lit l = (α.lit l1 && α.lit l2)) ∧
      -- no model of the clauses is lost
      s.toEnc.Extends s'.toEnc ∧
      ∀ α σ, Enc.Sat α s'.toEnc →
        (α.lit l1 = true ↔ Lin.eval left σ ≥ Lin.eval right σ) →
        (α.lit l2 = true ↔ Lin.eval left σ ≤ Lin.eval right σ) →
        (α.lit l = true ↔ Lin.eval left σ = Lin.eval right σ) := by
  obtain ⟨l1, s1, t1, b1, l2, s2, b2, h1, h2, h3, -, h5, h6⟩ := Lra.newEq_conj ht ri si hE hl hr hlv hrv h
  refine ⟨l1, s1, t1, b1, l2, s2, b2, h1, h2, h3, h5, h6, ?_⟩
  intro α σ hα a1 a2
  rw [h5 α hα, Bool.and_eq_true, a1, a2]
  exact ⟨fun ⟨x, y⟩ => le_antisymm y x, fun e => ⟨ge_of_eq e, le_of_eq e⟩⟩

/-- a later request whose rewritten difference prints the same, in the same direction, with a constant that prints
    the same (i.e. the same key `"x<slack> <= c"`), gets the SAME literal - unless the bounds decide it -/
theorem C11S_sharing_same_literal (s : Sat) (t : Lra) (r : LRel) (left right : Lin) (l : Lit) (s1 : Sat) (t1 : Lra)
    (b1 : Option Nat) (r' : LRel) (left' right' : Lin) (l' : Lit) (s2 : Sat) (t2 : Lra) (b2 : Option Nat)
    (h1 : newRel s t r left right = some (l, s1, t1, b1)) (hc : l ≠ Lit.trueLit ∧ l ≠ Lit.falseLit)
    (h2 : newRel s1 t1 r' left' right' = some (l', s2, t2, b2)) (hc' : l' ≠ Lit.trueLit ∧ l' ≠ Lit.falseLit)
    (hkey : Lin.toStr (t.relExpr left right) = Lin.toStr (t1.relExpr left' right')) (hup : r.upper = r'.upper)
    (hcst : irToStr (t.relConst r left right) = irToStr (t1.relConst r' left' right')) : l' = l := by
  obtain ⟨slack, hn, hreg⟩ := newRel_registered h1 hc
  rw [show Lin.toStr (relE t left right) = _ from hkey] at hn
  have hk : ∀ x, relKey (relUp r') x (relC t1 r' left' right') = relKey (relUp r) x (relC t r left right) := by
    intro x; unfold relKey
    rw [show relUp r = relUp r' from hup, show irToStr (relC t r left right) = irToStr (relC t1 r' left' right') from hcst]
  obtain ⟨slack', u, -, hv, -, hf⟩ := (newRel_outcome h2).of_nonconst hc'
  obtain ⟨rfl, rfl⟩ := newVarLin_found hn hv
  rw [hk, hreg] at hf
  rcases hf with ⟨hf, -⟩ | ⟨hf, -⟩
  · exact (Option.some.inj hf).symm
  · cases hf

/-- two requests answered by the same non-constant literal are equivalent in every solution of the tableau -/
theorem C11S_sharing_equivalent (s : Sat) (t : Lra) (r : LRel) (left right : Lin) (l : Lit) (s1 : Sat) (t1 : Lra)
    (b1 : Option Nat) (r' : LRel) (left' right' : Lin) (s2 : Sat) (t2 : Lra) (b2 : Option Nat)
    (ht : Lra.TabWF t) (ri : Lra.RelInv s t) (si : Lra.SemInv t) (hl : left.WF) (hr : right.WF)
    (hlv : ∀ p ∈ left.vars, p.1 < t.vals.length) (hrv : ∀ p ∈ right.vars, p.1 < t.vals.length)
    (h1 : newRel s t r left right = some (l, s1, t1, b1)) (hc : l ≠ Lit.trueLit ∧ l ≠ Lit.falseLit)
    (hl' : left'.WF) (hr' : right'.WF)
    (hlv' : ∀ p ∈ left'.vars, p.1 < t1.vals.length) (hrv' : ∀ p ∈ right'.vars, p.1 < t1.vals.length)
    (h2 : newRel s1 t1 r' left' right' = some (l, s2, t2, b2)) :
    ∀ σ, Lra.RowsHoldAt t2 σ → (Lra.RelHolds r (Lin.eval left σ) (Lin.eval right σ) ↔
      Lra.RelHolds r' (Lin.eval left' σ) (Lin.eval right' σ)) := by
  obtain ⟨a, ha, -, -, -, -, hm⟩ := newRel_meaning ht ri si hl hr hlv hrv h1 hc
  obtain ⟨ht1, ri1, si1, -⟩ := newRel_keeps ht ri si hl hr hlv hrv h1
  obtain ⟨a', ha', -, -, -, -, hm'⟩ := newRel_meaning ht1 ri1 si1 hl' hr' hlv' hrv' h2 hc
  have haa : a' = a := by
    have := newRel_asrtOf_stable h2 ha
    rw [ha'] at this
    exact Option.some.inj this
  subst haa
  intro σ hσ
  have hσ1 := (newRel_conservative ht1 si1 hl' hr' hlv' hrv' h2).1 σ hσ
  exact (hm σ hσ1).trans (hm' σ hσ).symm

/-! ## printing is injective (what makes the string-keyed caches sound) -/

theorem C11S_print_injective :
    (∀ a b : Lin, a.WF → b.WF → Lin.toStr a = Lin.toStr b → a = b) ∧
    (∀ (up up' : Bool) (x x' : Nat) (c c' : IR), Lra.SimpleC c → Lra.SimpleC c' →
      Lra.relKey up x c = Lra.relKey up' x' c' → up = up' ∧ x = x' ∧ c = c') ∧
    (∀ v : Nat, Lin.toStr ⟨[(v, R.one)], R.zero⟩ = "x" ++ toString v) := by
  exact ⟨@Lin.toStr_inj, @Lra.relKey_inj, Lin.toStr_var_one⟩

/-! ## non-vacuity (the states are built by running the model: Lemmas/LraRelSemExample.lean)

`exT2`: two variables `x0`, `x1`.  `ex1`: `x0 + 2·x1 ≤ 3` there (new slack `x2`, new literal `b1`).  `ex2`: then
`x0 + 2·x1 + 1 ≤ 4` (same key, same literal).  `ex3`: then `2·x0 + 4·x1 < 6` (slack `x3`, literal `b2`, constant
`6 - ε`).  `exTB`: the state after `ex1` with the upper bound `x2 ≤ 3` written.  `exSigA = (1, 1, 3, 6)`,
`exSigB = (2, 1, 4, 8)` are solutions of all these tableaux. -/

/-- 1 (new slack variable): all hypotheses hold for `ex1`; the assertion is `x2 ≤ 3`, and the conclusion reads
    `σ0 + 2·σ1 ≤ 3 ↔ σ2 ≤ 3` on the solutions of `x2 = x0 + 2·x1`, of which one satisfies it and one does not -/
example : ∃ a : LAsrt, (lraOf ex1).asrtOf 1 = some a ∧ a.o = .leq ∧ a.x = 2 ∧ a.v = ⟨⟨3, 1⟩, ⟨0, 1⟩⟩ ∧
    (∀ σ, Lra.RowsHoldAt (lraOf ex1) σ → (σ 0 + 2 * σ 1 ≤ 3 ↔ σ 2 ≤ 3)) ∧
    Lra.RowsHoldAt (lraOf ex1) exSigA ∧ exSigA 2 ≤ 3 ∧ Lra.RowsHoldAt (lraOf ex1) exSigB ∧ ¬ exSigB 2 ≤ 3 := by
  obtain ⟨a, ha, -, -, -, -, hm⟩ := C11S_rel_literal_meaning Sat.init exT2 .leq exL1 exK3 _ _ _ _
    exT2_state.tab exT2_state.rel exT2_state.sem exL1_wf exK3_wf
    (vars2_lt _ _ _ _ _ _ (by decide) (by decide)) (vars0_lt _ _) ex1_some (by decide)
  obtain ⟨ho, hx, hv⟩ := asrt_view ha ex1_asrt
  refine ⟨a, ha, ho, hx, hv, fun σ hσ => ?_, (ex1_rows _).2 (by norm_num [exSigA]), by norm_num [exSigA],
    (ex1_rows _).2 (by norm_num [exSigB]), by norm_num [exSigB]⟩
  have h := hm σ hσ
  rw [((C11S_asrtSays_def a σ).1 ho).1, hx, hv, above3, show Lin.eval exL1 σ = _ from exL1_eval σ,
    show Lin.eval exK3 σ = _ from exK3_eval σ] at h
  exact h

/-- 1 (strict relation) and 3: for `ex3` the assertion is `x3 ≤ 6 - ε`, it reads `2·σ0 + 4·σ1 < 6 ↔ σ3 < 6`, and the
    bound asserted for the FALSE literal, `x3 ≥ 6`, reads `¬ 2·σ0 + 4·σ1 < 6 ↔ 6 ≤ σ3` -/
example : ∃ a : LAsrt, (lraOf ex3).asrtOf 2 = some a ∧ a.o = .leq ∧ a.x = 3 ∧ a.v = ⟨⟨6, 1⟩, ⟨-1, 1⟩⟩ ∧
    (∀ σ, Lra.RowsHoldAt (lraOf ex3) σ → (2 * σ 0 + 4 * σ 1 < 6 ↔ σ 3 < 6)) ∧
    (∀ σ, Lra.RowsHoldAt (lraOf ex3) σ → (¬ 2 * σ 0 + 4 * σ 1 < 6 ↔ 6 ≤ σ 3)) ∧
    Lra.RowsHoldAt (lraOf ex3) exSigA ∧ ¬ exSigA 3 < 6 ∧ Lra.RowsHoldAt (lraOf ex3) (fun _ => 0) := by
  have hlv := vars2_lt 0 1 (⟨2, 1⟩ : R) ⟨4, 1⟩ ⟨0, 1⟩ (lraOf ex2).vals.length (by rw [ex2_len]; decide)
    (by rw [ex2_len]; decide)
  obtain ⟨a', ha', -, hn⟩ := C11S_negation (satOf ex2) (lraOf ex2) .lt exL3 exK6 _ _ _ _
    ex2_state.tab ex2_state.rel ex2_state.sem exL3_wf exK6_wf hlv (vars0_lt _ _) ex3_some (by decide)
  obtain ⟨a, ha, -, -, -, -, hm⟩ := C11S_rel_literal_meaning (satOf ex2) (lraOf ex2) .lt exL3 exK6 _ _ _ _
    ex2_state.tab ex2_state.rel ex2_state.sem exL3_wf exK6_wf hlv (vars0_lt _ _) ex3_some (by decide)
  obtain rfl : a' = a := Option.some.inj (ha'.symm.trans ha)
  obtain ⟨ho, hx, hv⟩ := asrt_view ha ex3_asrt
  have fin6 : R.FinWF (⟨6, 1⟩ : R) := ⟨by decide, by decide⟩
  have e1 : ∀ σ : Nat → Rat, Lin.eval exL3 σ = 2 * σ 0 + 4 * σ 1 := fun σ => by
    norm_num [Lin.eval, exL3, R.toRat]
  have e2 : ∀ σ : Nat → Rat, Lin.eval exK6 σ = 6 := fun σ => by norm_num [Lin.eval, exK6, R.toRat]
  refine ⟨a', ha, ho, hx, hv, fun σ hσ => ?_, fun σ hσ => ?_, (ex3_rows _).2 (by norm_num [exSigA]),
    by norm_num [exSigA], (ex3_rows (fun _ => 0)).2 (by norm_num)⟩
  · have h := hm σ hσ
    rw [((C11S_asrtSays_def a' σ).1 ho).1, hx, hv, e1, e2,
      Lra.irAbove_reading (b := ⟨⟨6, 1⟩, ⟨-1, 1⟩⟩) fin6] at h
    rw [show Lra.RelHolds .lt (2 * σ 0 + 4 * σ 1) 6 = (2 * σ 0 + 4 * σ 1 < 6) from rfl] at h
    rw [h]
    norm_num [R.toRat]
  · have h := hn σ hσ
    have hadd : IR.add (⟨⟨6, 1⟩, ⟨-1, 1⟩⟩ : IR) ⟨R.zero, R.one⟩ = ⟨⟨6, 1⟩, ⟨0, 1⟩⟩ := by decide
    rw [((C11S_asrtSays_def a' σ).1 ho).2, hx, hv, e1, e2, hadd,
      Lra.irBelow_reading (b := ⟨⟨6, 1⟩, ⟨0, 1⟩⟩) fin6] at h
    rw [show Lra.RelHolds .lt (2 * σ 0 + 4 * σ 1) 6 = (2 * σ 0 + 4 * σ 1 < 6) from rfl] at h
    rw [h]
    norm_num [R.toRat]

/-- 1 (the rewritten difference is an existing variable): `x0 ≤ 3` creates no slack variable and no row; the
    assertion is on `x0` itself -/
example : ∃ a : LAsrt, (lraOf ex8).asrtOf 1 = some a ∧ a.o = .leq ∧ a.x = 0 ∧ a.v = ⟨⟨3, 1⟩, ⟨0, 1⟩⟩ ∧
    (lraOf ex8).tableau = [] ∧ (lraOf ex8).vals.length = 2 ∧
    (∀ σ, Lra.RowsHoldAt (lraOf ex8) σ → (Lra.RelHolds .leq (Lin.eval exX0 σ) (Lin.eval exK3 σ) ↔ σ 0 ≤ 3)) := by
  obtain ⟨a, ha, -, -, -, -, hm⟩ := C11S_rel_literal_meaning Sat.init exT2 .leq exX0 exK3 _ _ _ _
    exT2_state.tab exT2_state.rel exT2_state.sem exX0_wf exK3_wf
    (vars1_lt _ _ _ _ (by decide)) (vars0_lt _ _) ex8_some (by decide)
  obtain ⟨ho, hx, hv⟩ := asrt_view ha ex8_asrt
  refine ⟨a, ha, ho, hx, hv, ex8_tableau, ex8_len, fun σ hσ => ?_⟩
  rw [hm σ hσ, ((C11S_asrtSays_def a σ).1 ho).1, hx, hv, above3]

/-- 1 (a basic variable in the request): after `ex1`, `x2 - x0 ≥ 0` is rewritten to `2·x1 ≥ 0`; the assertion is
    `x3 ≥ 0` on the new slack `x3 = 2·x1`, and it reads `σ2 - σ0 ≥ 0 ↔ σ3 ≥ 0` -/
example : ∃ a : LAsrt, (lraOf ex9).asrtOf 2 = some a ∧ a.o = .geq ∧ a.x = 3 ∧ a.v = ⟨⟨0, 1⟩, ⟨0, 1⟩⟩ ∧
    (∀ σ, Lra.RowsHoldAt (lraOf ex9) σ → (σ 2 - σ 0 ≥ 0 ↔ σ 3 ≥ 0)) ∧
    Lra.RowsHoldAt (lraOf ex9) exSigC := by
  have hlen := ex1_len
  obtain ⟨a, ha, -, -, -, -, hm⟩ := C11S_rel_literal_meaning (satOf ex1) (lraOf ex1) .geq exS2m0 exK0 _ _ _ _
    ex1_state.tab ex1_state.rel ex1_state.sem exS2m0_wf exK0_wf
    (vars2_lt _ _ _ _ _ _ (by rw [hlen]; decide) (by rw [hlen]; decide)) (vars0_lt _ _) ex9_some (by decide)
  obtain ⟨ho, hx, hv⟩ := asrt_view ha ex9_asrt
  refine ⟨a, ha, ho, hx, hv, fun σ hσ => ?_, (ex9_rows exSigC).2 (by norm_num [exSigC])⟩
  have h := hm σ hσ
  have e1 : Lin.eval exS2m0 σ = σ 2 - σ 0 := by norm_num [Lin.eval, exS2m0, R.toRat]; ring
  have e2 : Lin.eval exK0 σ = 0 := by norm_num [Lin.eval, exK0, R.toRat]
  rw [e1, e2, ((C11S_asrtSays_def a σ).2 ho).1, hx, hv,
    Lra.irBelow_reading (b := ⟨⟨0, 1⟩, ⟨0, 1⟩⟩) ⟨by decide, by decide⟩] at h
  rw [show Lra.RelHolds .geq (σ 2 - σ 0) 0 = (σ 2 - σ 0 ≥ 0) from rfl] at h
  rw [h]
  norm_num [R.toRat]

/-- 2 (decided by the bounds of the reused slack variable): in `exTB` (`x2 = x0 + 2·x1`, `x2 ≤ 3`) the request
    `x0 + 2·x1 ≤ 5` is answered TRUE and `x0 + 2·x1 > 5` FALSE; all hypotheses hold, `exSigA` is a solution within the
    bounds, so the conclusions say `1 + 2·1 ≤ 5` and `¬ 1 + 2·1 > 5` -/
example : Lra.RowsHoldAt exTB exSigA ∧ Lra.InBounds exTB exSigA ∧
    Lra.RelHolds .leq (Lin.eval exL1 exSigA) (Lin.eval exK5 exSigA) ∧
    ¬ Lra.RelHolds .gt (Lin.eval exL1 exSigA) (Lin.eval exK5 exSigA) := by
  have hlv := vars2_lt 0 1 (⟨1, 1⟩ : R) ⟨2, 1⟩ ⟨0, 1⟩ exTB.vals.length (by rw [exTB_len]; decide) (by rw [exTB_len]; decide)
  have hr : Lra.RowsHoldAt exTB exSigA := (exTB_rows _).2 (by norm_num [exSigA])
  have hb : Lra.InBounds exTB exSigA := (exTB_inBounds _).2 (by norm_num [exSigA])
  have h1 := (C11S_constant_sound (satOf ex1) exTB .leq exL1 exK5 _ _ _ _ exTB_state exL1_wf exK5_wf hlv
    (vars0_lt _ _) exTB_nz ex4_some).1 rfl
  have h2 := (C11S_constant_sound (satOf ex1) exTB .gt exL1 exK5 _ _ _ _ exTB_state exL1_wf exK5_wf hlv
    (vars0_lt _ _) exTB_nz ex4f_some).2 rfl
  exact ⟨hr, hb, h1 _ hr hb, h2 _ hr hb⟩

/-- 2 (decided by the rewritten difference): `x0 + 1 ≤ x0 + 2` is answered TRUE, `x0 + 2 ≤ x0 + 1` FALSE, and the
    conclusions hold of every valuation -/
example : ∀ σ : Nat → Rat, Lra.RelHolds .leq (Lin.eval exX0p1 σ) (Lin.eval exX0p2 σ) ∧
    ¬ Lra.RelHolds .leq (Lin.eval exX0p2 σ) (Lin.eval exX0p1 σ) := by
  intro σ
  have h1 := (C11S_constant_sound Sat.init exT2 .leq exX0p1 exX0p2 _ _ _ _ exT2_state exX0p1_wf exX0p2_wf
    (vars1_lt _ _ _ _ (by decide)) (vars1_lt _ _ _ _ (by decide))
    ex5_nz ex5_some).1 rfl
  have h2 := (C11S_constant_sound Sat.init exT2 .leq exX0p2 exX0p1 _ _ _ _ exT2_state exX0p2_wf exX0p1_wf
    (vars1_lt _ _ _ _ (by decide)) (vars1_lt _ _ _ _ (by decide))
    ex5f_nz ex5f_some).2 rfl
  exact ⟨h1 σ (exT2_rows σ) (exT2_inBounds σ), h2 σ (exT2_rows σ) (exT2_inBounds σ)⟩

/-- the invariants of section "invariants" hold along the whole run (so the hypotheses above are those of reachable
    states), rows without zero coefficients included -/
example : Lra.SemState Sat.init exT2 ∧ Lra.SemState (satOf ex1) (lraOf ex1) ∧ Lra.SemState (satOf ex2) (lraOf ex2) ∧
    Lra.SemState (satOf ex1) exTB ∧ Lra.RowsNoZero (lraOf ex1) :=
  ⟨exT2_state, ex1_state, ex2_state, exTB_state,
    (C11S_no_zero_invariant Sat.init exT2 .leq exL1 exK3 _ _ _ _ exT2_state.tab
      (fun _ he => absurd he List.not_mem_nil) exL1_wf exK3_wf
      (by show ∀ p ∈ exL1.vars, p.2.num ≠ 0; decide) (fun _ hp => absurd hp List.not_mem_nil)
      (vars2_lt _ _ _ _ _ _ (by decide) (by decide)) (vars0_lt _ _)).2.2.2 ex1_some⟩

/-- 5: `x0 + 2·x1 + 1 ≤ 4` after `x0 + 2·x1 ≤ 3`: the keys coincide, so (first theorem) the literal is the same, and
    (second theorem) the two relations are equivalent on the solutions of the tableau -/
example : litOf ex2 = litOf ex1 ∧
    ∀ σ, Lra.RowsHoldAt (lraOf ex2) σ → (σ 0 + 2 * σ 1 ≤ 3 ↔ σ 0 + 2 * σ 1 + 1 ≤ 4) := by
  have hlv := vars2_lt 0 1 (⟨1, 1⟩ : R) ⟨2, 1⟩ ⟨1, 1⟩ (lraOf ex1).vals.length (by rw [ex1_len]; decide)
    (by rw [ex1_len]; decide)
  have h1 : (⟨1, true⟩ : Lit) = ⟨1, true⟩ :=
    C11S_sharing_same_literal Sat.init exT2 .leq exL1 exK3 ⟨1, true⟩ _ _ _ .leq exL2 exK4 ⟨1, true⟩ _ _ _
      ex1_some (by decide) ex2_some (by decide) ex2_key.1 rfl ex2_key.2
  have h2 := C11S_sharing_equivalent Sat.init exT2 .leq exL1 exK3 ⟨1, true⟩ _ _ _ .leq exL2 exK4 _ _ _
    exT2_state.tab exT2_state.rel exT2_state.sem exL1_wf exK3_wf
    (vars2_lt _ _ _ _ _ _ (by decide) (by decide)) (vars0_lt _ _) ex1_some (by decide)
    exL2_wf exK4_wf hlv (vars0_lt _ _) ex2_some
  refine ⟨ex123_facts.2.1.1.2.1.trans ex123_facts.1.1.2.1.symm, fun σ hσ => ?_⟩
  have h := h2 σ hσ
  have e3 : Lin.eval exL2 σ = σ 0 + 2 * σ 1 + 1 := by norm_num [Lin.eval, exL2, R.toRat]
  have e4 : Lin.eval exK4 σ = 4 := by norm_num [Lin.eval, exK4, R.toRat]
  rw [show Lin.eval exL1 σ = _ from exL1_eval σ, show Lin.eval exK3 σ = _ from exK3_eval σ, e3, e4] at h
  exact h

/-- 4: `x0 = x1` from the state with two variables: all hypotheses hold, the literal is `b3`, every model of the
    initial SAT core extends to a model of the clauses, and the conclusion reads `α(b3) ↔ σ0 = σ1` -/
example : ∃ s' t' bs, newEq Sat.init exT2 exX0 exX1 = some (⟨3, true⟩, s', t', bs) ∧ Sat.init.toEnc.Inv ∧
    Sat.init.toEnc.Extends s'.toEnc ∧
    ∃ l1 l2, ∀ (α : Asg) (σ : Nat → Rat), Enc.Sat α s'.toEnc → (α.lit l1 = true ↔ σ 0 ≥ σ 1) → (α.lit l2 = true ↔ σ 0 ≤ σ 1) →
      (α.lit ⟨3, true⟩ = true ↔ σ 0 = σ 1) := by
  obtain ⟨s', t', bs, h7⟩ := ex7_some
  have hE : Sat.init.toEnc.Inv := C13_init_inv
  obtain ⟨l1, s1, t1, b1, l2, s2, b2, -, -, -, -, hext, hm⟩ := C11S_eq_meaning Sat.init exT2 exX0 exX1 _ s' t' bs
    exT2_state.tab exT2_state.rel exT2_state.sem hE exX0_wf exX1_wf
    (vars1_lt _ _ _ _ (by decide)) (vars1_lt _ _ _ _ (by decide)) h7
  refine ⟨s', t', bs, h7, hE, hext, l1, l2, ?_⟩
  intro α σ hα a1 a2
  have e1 : Lin.eval exX0 σ = σ 0 := by norm_num [Lin.eval, exX0, R.toRat]
  have e2 : Lin.eval exX1 σ = σ 1 := by norm_num [Lin.eval, exX1, R.toRat]
  have := hm α σ hα (by rw [e1, e2]; exact a1) (by rw [e1, e2]; exact a2)
  rw [e1, e2] at this
  exact this

end Oratio
