/-
Property C16 (lexical part) — tokens are recognised as the language defines them.

`Riddle.nextTok` / `Riddle.lex` model `riddle::lexer::next()` on the bytes of the input (`unsigned char` values).
`Gen.symbolTable` is re-extracted on every run from the `symbol` enum of riddle_lexer.h (each
enumerator with the spelling documented in its comment).  The parser part of C16 is in
C16Parser.lean, the evaluation part in C16Eval.lean.
-/
import OratioModel
import Gen.Symbols
import OratioProofs.Lemmas.Lexer
import OratioProofs.Properties.C15

namespace Oratio
open Riddle

/-- the model token an enumerator name stands for -/
def symOfName : String → Option Sym
  | "BOOL" => some .BOOL | "INT" => some .INT | "REAL" => some .REAL | "TP" => some .TP | "STRING" => some .STRING
  | "TYPEDEF" => some .TYPEDEF | "ENUM" => some .ENUM | "CLASS" => some .CLASS | "GOAL" => some .GOAL
  | "FACT" => some .FACT | "PREDICATE" => some .PREDICATE | "NEW" => some .NEW | "OR" => some .OR
  | "THIS" => some .THIS | "VOID" => some .VOID | "RETURN" => some .RETURN | "DOT" => some .DOT
  | "COMMA" => some .COMMA | "COLON" => some .COLON | "SEMICOLON" => some .SEMICOLON | "LPAREN" => some .LPAREN
  | "RPAREN" => some .RPAREN | "LBRACKET" => some .LBRACKET | "RBRACKET" => some .RBRACKET | "LBRACE" => some .LBRACE
  | "RBRACE" => some .RBRACE | "PLUS" => some .PLUS | "MINUS" => some .MINUS | "STAR" => some .STAR
  | "SLASH" => some .SLASH | "AMP" => some .AMP | "BAR" => some .BAR | "EQ" => some .EQ | "GT" => some .GT
  | "LT" => some .LT | "BANG" => some .BANG | "EQEQ" => some .EQEQ | "LTEQ" => some .LTEQ | "GTEQ" => some .GTEQ
  | "BANGEQ" => some .BANGEQ | "IMPLICATION" => some .IMPLICATION | "CARET" => some .CARET | "EOF" => some .EOF
  | _ => none

/-- Every keyword and operator of the `symbol` enum is recognised under the spelling its
    comment documents, whether followed by a blank or by the end of input.  (`this` is the one
    documented exception: the lexer reads it as the identifier `this`, which the evaluator
    resolves in the environment; the enumerator `THIS_ID` is never produced.) -/
theorem C16_keyword_table :
    ∀ e ∈ Gen.symbolTable, e.1 ≠ "THIS" →
      ∃ s, symOfName e.1 = some s ∧
        lex (strInts e.2 ++ [ch ' ']) = .ok [.sym s, .sym .EOF] ∧
        lex (strInts e.2) = .ok [.sym s, .sym .EOF] := by
  intro e he h
  exact rows_of_all Gen.symbolTable ["THIS"] symOfName (by decide +kernel) e he (by simpa using h)

/-- the two boolean literals -/
theorem C16_bool_literals :
    lex (strInts "true") = .ok [.bool true, .sym .EOF] ∧ lex (strInts "false") = .ok [.bool false, .sym .EOF] := by
  constructor <;> decide +kernel

/-- Maximal munch: a run of identifier characters starting with a letter or `_`, followed by a
    character that cannot continue an identifier (or by the end of input), is ONE token: the
    keyword / boolean literal with exactly that spelling, otherwise an identifier.  In
    particular a keyword followed by an identifier character is an identifier. -/
theorem C16_ident_vs_keyword (w : List Int) (rest : Stream) (n : Nat)
    (hw : w ≠ []) (h0 : isIdStart (w.headD 0) = true) (hall : ∀ c ∈ w, isIdPart c = true)
    (hr : isIdPart (cur rest) = false) :
    nextTok (n + 1) (w ++ rest) = .ok (wordTok w, rest) := by
  cases w with
  | nil => exact absurd rfl hw
  | cons c w' =>
    have h0' : isIdStart c = true := by simpa using h0
    rw [List.cons_append, nextTok_idStart c _ n h0', ← List.cons_append, takeRun_append isIdPart _ _ hall hr]

/-- `wordTok` is the keyword table: an identifier unless the word is one of the 17 reserved spellings -/
theorem C16_wordTok_spec (w : List Int) :
    (∀ k ∈ keywords, strInts k.1 ≠ w) → wordTok w = .id w := by
  intro h
  unfold wordTok
  have : keywords.find? (fun k => strInts k.1 == w) = none := by
    rw [List.find?_eq_none]
    intro k hk
    simpa using h k hk
  rw [this]

/-- `[0-9]+` denotes that integer (when it fits the integer type) -/
theorem C16_int_literal (ds : List Int) (rest : Stream) (n : Nat)
    (hd : ds ≠ []) (hall : ∀ c ∈ ds, isDigit c = true)
    (hr : isDigit (cur rest) = false) (hdot : cur rest ≠ ch '.') (hfit : digitsVal ds ≤ longMax) :
    nextTok (n + 1) (ds ++ rest) = .ok (.int (digitsVal ds), rest) := by
  cases ds with
  | nil => exact absurd rfl hd
  | cons c ds' =>
    rw [List.cons_append, nextTok_digit c _ n (hall c (by simp)), ← List.cons_append]
    exact lexNumber_int _ _ hall hr hdot hfit

/-- the value of a digit string is the decimal number it spells -/
theorem C16_digitsVal_snoc (ds : List Int) (d : Int) : digitsVal (ds ++ [d]) = digitsVal ds * 10 + (d - ch '0') := by
  simp [digitsVal, List.foldl_append]

/-- `[0-9]+ '.' [0-9]*` denotes exactly the decimal it spells, in canonical form -/
theorem C16_real_literal (i d : List Int) (rest : Stream) (n : Nat)
    (hi : i ≠ []) (halli : ∀ c ∈ i, isDigit c = true) (halld : ∀ c ∈ d, isDigit c = true)
    (hr : isDigit (cur rest) = false) (hdot : cur rest ≠ ch '.') (hlen : d.length ≤ 18)
    (hfit : digitsVal (i ++ d) ≤ longMax) :
    ∃ r, nextTok (n + 1) (i ++ [ch '.'] ++ d ++ rest) = .ok (.real r, rest) ∧ r.WF ∧
      r.toE = ERat.fin ((digitsVal (i ++ d) : Rat) / ((10 : Rat) ^ d.length)) := by
  refine ⟨R.mk2 (digitsVal (i ++ d)) (10 ^ d.length), ?_, ?_⟩
  · rw [← lexNumber_real i d rest halli halld hr hdot hlen hfit]
    cases i with
    | nil => exact absurd rfl hi
    | cons c i' => exact nextTok_digit c _ n (halli c (by simp))
  have hne : (10 : Int) ^ d.length ≠ 0 := by positivity
  have h := C15_mk2_canonical (digitsVal (i ++ d)) (10 ^ d.length) (fun h => hne h.2)
  refine ⟨h.1, ?_⟩
  rw [h.2, if_neg hne]
  push_cast
  rfl

/-- white space before a token never changes it -/
theorem C16_whitespace (ws : List Int) (s : Stream) (n : Nat)
    (hws : ∀ c ∈ ws, isSpace c = true) (hs : isSpace (cur s) = false) (hne : s ≠ []) (hc : cur s ≠ -1) :
    nextTok (n + 2) (ws ++ s) = nextTok (n + 1) s ∨ ws = [] := by
  cases ws with
  | nil => exact Or.inr rfl
  | cons c ws' =>
    left
    rw [List.cons_append, nextTok_space c _ (n + 1) (hws c (by simp)),
      dropWhile_space_append ws' s (fun c h => hws c (by simp [h])) hs]
    simp only [beq_iff_eq, hc, if_false]

/-- a `// …` comment up to the end of the line is skipped -/
theorem C16_line_comment (body : List Int) (s : Stream) (n : Nat)
    (hb : ∀ c ∈ body, c ≠ ch '\r' ∧ c ≠ ch '\n' ∧ c ≠ -1) :
    nextTok (n + 2) ([ch '/', ch '/'] ++ body ++ (ch '\n' :: s)) = nextTok (n + 1) (ch '\n' :: s) := by
  have e : [ch '/', ch '/'] ++ body ++ (ch '\n' :: s) = ch '/' :: (ch '/' :: (body ++ (ch '\n' :: s))) := by simp
  rw [e, nextTok_slash]
  have hc : cur (ch '/' :: (body ++ (ch '\n' :: s))) = ch '/' := rfl
  simp only [hc, beq_self_eq_true, if_true, List.drop_one, List.tail_cons, skipLine_body body s hb]

/-- a block comment ends at the first `*/`, also when more `*` precede the `/` (`**/`) -/
theorem C16_block_comment (body : List Int) (k : Nat) (s : Stream) (n : Nat)
    (hb : ∀ c ∈ body, c ≠ ch '*' ∧ c ≠ -1) :
    nextTok (n + 2) ([ch '/', ch '*'] ++ body ++ List.replicate (k + 1) (ch '*') ++ (ch '/' :: s)) = nextTok (n + 1) s := by
  have e : [ch '/', ch '*'] ++ body ++ List.replicate (k + 1) (ch '*') ++ (ch '/' :: s)
      = ch '/' :: (ch '*' :: (body ++ (List.replicate (k + 1) (ch '*') ++ (ch '/' :: s)))) := by simp
  rw [e, nextTok_slash]
  have hc : cur (ch '*' :: (body ++ (List.replicate (k + 1) (ch '*') ++ (ch '/' :: s)))) = ch '*' := rfl
  have h2 : (ch '*' == ch '/') = false := by decide
  simp only [hc, h2, beq_self_eq_true, if_true, List.drop_one, List.tail_cons, skipBlock_body body _ hb,
    skipBlock_stars]
  simp

/-! ## non-vacuity -/
example : lex (strInts "typedefx=3.50;//c\n/* a **/ void") =
    .ok [.id (strInts "typedefx"), .sym .EQ, .real ⟨7, 2⟩, .sym .SEMICOLON, .sym .VOID, .sym .EOF] := by
  decide +kernel

end Oratio
