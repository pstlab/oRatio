/-
Property C10X — difference logic: the EXPLANATIONS are valid (integer instance `idlOps` first,
`C10X_*`; real-valued instance `rdlOps` in the second half, `C10XR_*`).

C10 proves that the distance matrix is exact and that a conflict is reported iff the enforced
edges plus the new one are infeasible.  This file proves that what the theory *tells the SAT
core* is sound: the conflict clause returned by `propagate(lit)` and the clauses recorded for
constraints the matrix has decided (`scanUpdates` / `record`) are theory lemmas — logical
consequences of the meaning of the constraint literals — and every literal but the propagated one
is false under the current assignment.

The invariant behind it is `Dl.PathInv s t` (defined in `Lemmas/DlPathDefs.lean`, restated in
`C10X_pathinv_meaning` below):

* `dc`    every entry `(k, j) ↦ b` of `dist_constr` is a constraint whose literal is assigned, in the
          polarity in which it denotes the edge `k → j` (true literal: `src → dst`, weight `dist`;
          false literal: the reversed strict edge `dst → src`, weight `-dist - 1`), and the weight
          bounds the matrix entry `d k j`;
* `tree`  for `i ≠ j` with `d i j` finite, `k = preds i j` is a time point with `d i k` finite,
          `(k, j)` is such a key, and `d i k + w(k, j) ≤ d i j`
          (`≤` is the direction the explanation needs and the one that is stable when `d i k` or
          `w(k, j)` later decrease; together with `Exact` it is an equality, `C10X_pred_tight`);
* `chain` the walk `j, preds i j, preds i (preds i j), …` reaches `i` in fewer than `nVars` steps.

Backtracking: as in the C++, `set_pred` logs the old predecessor of a pair and the responsible
constraint of a pair once per layer (`old_preds`, `old_constrs`); C08 (`Undo.pop_of_Lg`) proves that
`pop` returns *exactly* the state at the matching `push`, so `PathInv` is restored
(`C10X_pop_pathinv`) for every SAT state that still has the values it had at the `push`.

Both instances are read off one development over the laws `L : DLaws O G` (`DlG.PathInv L`,
Lemmas/DlPathInv, DlPathWalk, DlPathOps) through `Dl.pathInv_iff` and `DlR.pathInvR_iff`.
-/
import OratioProofs.Properties.C10
import OratioProofs.Properties.C10Rdl
import OratioProofs.Lemmas.DlPathMain

namespace Oratio

/-- what `PathInv` says (definitional unfolding, for the reader) -/
theorem C10X_pathinv_meaning (s : Sat) (t : Dl Int) :
    Dl.PathInv s t ↔
      ((∀ k j bb, Dl.lookupPair t.distConstr (k, j) = some bb →
          k < t.nVars ∧ j < t.nVars ∧ k ≠ j ∧
          ∃ w, Dl.Just s t k j bb w ∧ Dl.d idlOps t k j ≠ idlInf ∧ Dl.d idlOps t k j ≤ w) ∧
       (∀ i j, i < t.nVars → j < t.nVars → i ≠ j → Dl.d idlOps t i j ≠ idlInf →
          Dl.p t i j < t.nVars ∧ Dl.p t i j ≠ j ∧ Dl.d idlOps t i (Dl.p t i j) ≠ idlInf ∧
          ∃ bb w, Dl.Just s t (Dl.p t i j) j bb w ∧ Dl.d idlOps t i (Dl.p t i j) + w ≤ Dl.d idlOps t i j) ∧
       (∀ i j, i < t.nVars → j < t.nVars → Dl.d idlOps t i j ≠ idlInf → ∃ n, n < t.nVars ∧ Dl.ChainN t i n j)) :=
  ⟨fun h => ⟨h.dc, h.tree, h.chain⟩, fun h => ⟨h.1, h.2.1, h.2.2⟩⟩

/-- a justified entry: the constraint exists, its literal is assigned, and in that polarity it is
    the edge `k → j` of weight `w` -/
theorem C10X_just_meaning (s : Sat) (t : Dl Int) (k j bb : Nat) (w : Int) :
    Dl.Just s t k j bb w ↔
      (Dl.lookupPair t.distConstr (k, j) = some bb ∧
       ∃ c, t.constrOf bb = some c ∧
         ((s.value ⟨bb, true⟩ = some true ∧ c.src = k ∧ c.dst = j ∧ w = c.dist) ∨
          (s.value ⟨bb, true⟩ = some false ∧ c.dst = k ∧ c.src = j ∧ w = -c.dist - 1))) := Iff.rfl

/-- the walk of the model, given the fuel the model gives it, really ends at the root: the chain
    is shorter than `nVars` and every node on it is a time point (this is `chain` + `tree`) -/
theorem C10X_walk_terminates (s : Sat) (t : Dl Int) (h : Dl.PathInv s t) (i j : Nat) (hi : i < t.nVars) (hj : j < t.nVars)
    (hf : Dl.d idlOps t i j ≠ idlInf) : ∃ n, n < t.nVars ∧ Dl.ChainN t i n j := h.chain i j hi hj hf

/-- with exactness the predecessor edge is tight: `d i j = d i (preds i j) + w` -/
theorem C10X_pred_tight (K : Int) (E : List IEdge) (s : Sat) (t : Dl Int) (h : t.Exact K E) (hP : Dl.PathInv s t)
    (i j : Nat) (hi : i < t.nVars) (hj : j < t.nVars) (hij : i ≠ j) (hf : Dl.d idlOps t i j ≠ idlInf) :
    ∃ bb w, Dl.Just s t (Dl.p t i j) j bb w ∧ Dl.d idlOps t i j = Dl.d idlOps t i (Dl.p t i j) + w := by
  obtain ⟨t1, _, t3, bb, w, t4, t5⟩ := hP.tree i j hi hj hij hf
  obtain ⟨_, _, _, w1, q1, q2, q3⟩ := hP.dc _ _ bb t4.1
  have hw := (DlG.Just.unique (L := Dl.idlLaws₀) t4 q1).2
  obtain ⟨c, hc, hle⟩ := h.closed i j (Dl.p t i j) hi hj t1 _ _ (Dl.distOpt_of_fin t3) (Dl.distOpt_of_fin q2)
  have hd := (Dl.distOpt_some.mp hc).1
  exact ⟨bb, w, t4, by omega⟩

theorem C10X_init_pathinv (s : Sat) : Dl.PathInv s (Dl.init idlOps 16 : Dl Int) := Dl.pathInv_iff₀.mpr (.init s 16)

theorem C10X_newVar_pathinv (K : Int) (E : List IEdge) (s : Sat) (t : Dl Int) (h : t.Exact K E) (hP : Dl.PathInv s t) :
    Dl.PathInv s (Dl.newVar idlOps t).2 := Dl.pathInv_iff₀.mpr ((Dl.pathInv_iff₀.mp hP).newVar h.size_ok.2.1 h.fresh)

/-- creating a constraint (a fresh SAT variable, or a constant literal) changes neither the matrix
    nor the invariant -/
theorem C10X_newDistance_pathinv (K : Int) (E : List IEdge) (s : Sat) (t : Dl Int) (h : t.Exact K E) (hP : Dl.PathInv s t)
    (f g : Nat) (w : Int) :
    Dl.PathInv (Dl.newDistance idlOps s t f g w).2.1 (Dl.newDistance idlOps s t f g w).2.2 ∧
    (Dl.newDistance idlOps s t f g w).2.2.Exact K E := by
  obtain ⟨a1, a2, a3⟩ := DlG.newDistance_same idlOps s t f g w
  exact ⟨Dl.pathInv_iff₀.mpr ((Dl.pathInv_iff₀.mp hP).newDistance f g w), (h.toM.congr_state a1 a2 a3).ofM⟩

/-- the SAT core assigning more variables keeps the invariant -/
theorem C10X_assign_pathinv (s s' : Sat) (t : Dl Int) (hP : Dl.PathInv s t) (hs : Dl.SatLe s s') : Dl.PathInv s' t :=
  Dl.pathInv_iff₀.mpr ((Dl.pathInv_iff₀.mp hP).assign hs)

/-- `propagate(lit)` without conflict keeps `PathInv` together with `Exact`; the SAT state it
    returns only has more values -/
theorem C10X_propagate_pathinv (K : Int) (E : List IEdge) (s s' : Sat) (t t' : Dl Int) (h : t.Exact K E) (hP : Dl.PathInv s t)
    (c : DConstr Int) (hc : t.constrOf c.b = some c) (b : Bool) (hv : s.value ⟨c.b, true⟩ = some b)
    (hr : c.src < t.nVars ∧ c.dst < t.nVars ∧ c.src ≠ c.dst ∧ -K ≤ c.dist ∧ c.dist + 1 ≤ K)
    (hp : Dl.propagateLit idlOps s t ⟨c.b, b⟩ = .inr (s', t')) :
    Dl.PathInv s' t' ∧
    t'.Exact K ((if b then (c.src, c.dst, c.dist) else (c.dst, c.src, -c.dist - 1)) :: E) ∧
    Dl.SatLe s s' ∧ t'.varDists = t.varDists := by
  have r := h.toM.propagate_path hP hc hv hr hp
  exact ⟨r.1, C10_propagate_exact K E s s' t t' h c hc b hv hr hp, r.2.1, DlG.propagateLit_varDists idlOps s s' t t' _ hp⟩

theorem C10X_push_pathinv (s : Sat) (t : Dl Int) (hP : Dl.PathInv s t) : Dl.PathInv s t.push :=
  Dl.pathInv_iff₀.mpr (Dl.pathInv_iff₀.mp hP).push

/-- `pop` restores the invariant: `B` is the state at the matching `push` (`Undo.Lg idlOps B cur` is
    the C08 relation "`cur` was reached from `B.push` by `propagate` calls", preserved by
    `Undo.Lg_push`, `Undo.Lg_propagateLit`), `sB` the SAT state then, `s'` the SAT state after
    backtracking — which keeps the values `sB` had -/
theorem C10X_pop_pathinv (B cur : Dl Int) (hL : Undo.Lg idlOps B cur) (sB s' : Sat) (hP : Dl.PathInv sB B)
    (hs : Dl.SatLe sB s') : cur.pop = B ∧ Dl.PathInv s' cur.pop :=
  ⟨Undo.pop_of_Lg idlOps hL, Dl.pathInv_iff₀.mpr ((Dl.pathInv_iff₀.mp hP).pop hL hs)⟩

/-- the hypotheses of `C10X_pop_pathinv` are those of an actual backtracking step: push, propagate
    a literal, pop (`Undo.SortedK` = `dist_constr` is a `std::map`, keys increasing; C08) -/
theorem C10X_push_propagate_pop (s s1 s' : Sat) (t t1 : Dl Int) (hP : Dl.PathInv s t) (hsort : Undo.SortedK t.distConstr)
    (pl : Lit) (hp : Dl.propagateLit idlOps s t.push pl = .inr (s1, t1)) (hs : Dl.SatLe s s') :
    t1.pop = t ∧ Dl.PathInv s' t1.pop :=
  C10X_pop_pathinv t t1 (Undo.Lg_propagateLit idlOps (Undo.Lg_push idlOps t hsort) s pl hp) s s' hP hs

/-! ## the explanations are theory lemmas -/

/-- When `propagate(lit)` (for the true literal `⟨c.b, b⟩`) returns a conflict clause `cl`:
    every literal of `cl` is false in the current assignment, and `cl` is true under EVERY total
    assignment `α` of the SAT variables that agrees, on the constraint literals, with some
    valuation `σ` of the time points (`Dl.Agrees`: true ⇒ `σ dst - σ src ≤ dist`, false ⇒ the
    reversed strict edge `σ src - σ dst ≤ -dist - 1`). -/
theorem C10X_conflict_clause_valid (K : Int) (E : List IEdge) (s : Sat) (t : Dl Int) (h : t.Exact K E) (hP : Dl.PathInv s t)
    (c : DConstr Int) (hc : t.constrOf c.b = some c) (b : Bool) (hv : s.value ⟨c.b, true⟩ = some b)
    (hr : c.src < t.nVars ∧ c.dst < t.nVars ∧ c.src ≠ c.dst ∧ -K ≤ c.dist ∧ c.dist + 1 ≤ K)
    (cl : List Lit) (hcl : Dl.propagateLit idlOps s t ⟨c.b, b⟩ = .inl cl) :
    (∀ l ∈ cl, s.value l = some false) ∧
    ∀ (σ : Nat → Int) (α : Asg),
      (∀ c' ∈ t.varDists, (α c'.b = true → σ c'.dst - σ c'.src ≤ c'.dist) ∧
                           (α c'.b = false → σ c'.src - σ c'.dst ≤ -c'.dist - 1)) →
      α.clause cl = true :=
  DlG.PathInv.conflict_valid (L := Dl.lawsFor t.nVars K h.toM.range) hc hv ⟨hr.1, hr.2.1, hr.2.2.1, hr.2.2.2.1, by omega⟩
    h.toM.toG.block (Dl.pathInv_iff.mp hP) hcl

/-- The clauses recorded while `propagate(lit)` updates the matrix (one for every undecided
    constraint the new distances decide): the SAT log grows by clauses that are theory lemmas and
    whose literals other than the first (the implied constraint literal) are false.
    `ConstrsOk` = every constraint is between distinct time points, within the range `±K`. -/
theorem C10X_recorded_clause_valid (K : Int) (E : List IEdge) (s s' : Sat) (t t' : Dl Int) (h : t.Exact K E) (hP : Dl.PathInv s t)
    (hok : ∀ c' ∈ t.varDists, c'.src < t.nVars ∧ c'.dst < t.nVars ∧ c'.src ≠ c'.dst ∧ -K ≤ c'.dist ∧ c'.dist + 1 ≤ K)
    (c : DConstr Int) (hc : t.constrOf c.b = some c) (b : Bool) (hv : s.value ⟨c.b, true⟩ = some b)
    (hp : Dl.propagateLit idlOps s t ⟨c.b, b⟩ = .inr (s', t')) :
    ∃ new, s'.log = s.log ++ new ∧ ∀ cl ∈ new,
      (∀ (σ : Nat → Int) (α : Asg),
        (∀ c' ∈ t.varDists, (α c'.b = true → σ c'.dst - σ c'.src ≤ c'.dist) ∧
                             (α c'.b = false → σ c'.src - σ c'.dst ≤ -c'.dist - 1)) →
        α.clause cl = true) ∧
      ∀ l ∈ cl.tail, s'.value l = some false :=
  (h.toM.propagate_path hP hc hv (hok c (Dl.constrOf_spec hc).1) hp).2.2 hok

/-! ## non-vacuity: four time points (origin + 3), a negative cycle through a negated literal

  b1 :  x3 - x1 ≤ 5   (asserted)          edge 1 → 3, weight  5
  b2 :  x3 - x2 ≤ 2   (asserted FALSE)    edge 3 → 2, weight -3   (x2 - x3 ≤ -2 - 1)
  b3 :  x1 - x2 ≤ -3  (asserted)          edge 2 → 1, weight -3   — closes a cycle of weight -1

All three literals are assigned before the theory sees them (so the scan does not decide `b3`
first); `propagate(b3)` then returns the conflict clause `[b2, ¬b1, ¬b3]`.  -/
namespace C10XExample

deriving instance DecidableEq for DConstr

def getR (x : List Lit ⊕ (Sat × Dl Int)) : Sat × Dl Int :=
  match x with | .inr p => p | .inl _ => (Sat.init, Dl.init idlOps 16)
def getL (x : List Lit ⊕ (Sat × Dl Int)) : List Lit :=
  match x with | .inl cl => cl | .inr _ => []

theorem inr_of (x : List Lit ⊕ (Sat × Dl Int)) (h : x.isRight = true) : x = .inr ((getR x).1, (getR x).2) := by
  cases x with
  | inl _ => cases h
  | inr p => rfl

theorem inl_of (x : List Lit ⊕ (Sat × Dl Int)) (l : List Lit) (h : getL x = l) (hne : l ≠ []) : x = .inl l := by
  cases x with
  | inl cl => exact congrArg Sum.inl h
  | inr p => exact absurd h.symm hne

def t1 : Dl Int := (Dl.newVar idlOps (Dl.init idlOps 16)).2
def t2 : Dl Int := (Dl.newVar idlOps t1).2
def t3 : Dl Int := (Dl.newVar idlOps t2).2
def r1 := Dl.newDistance idlOps Sat.init t3 1 3 5
def r2 := Dl.newDistance idlOps r1.2.1 r1.2.2 2 3 2
def r3 := Dl.newDistance idlOps r2.2.1 r2.2.2 2 1 (-3)
/-- the SAT core assigns `b1`, `¬b2`, `b3` -/
def sA : Sat := (((r3.2.1.enqueue ⟨1, true⟩ none).2.enqueue ⟨2, false⟩ none).2.enqueue ⟨3, true⟩ none).2
def pA := getR (Dl.propagateLit idlOps sA r3.2.2 ⟨1, true⟩)
def pB := getR (Dl.propagateLit idlOps pA.1 pA.2 ⟨2, false⟩)

def c1 : DConstr Int := ⟨1, 1, 3, 5⟩
def c2 : DConstr Int := ⟨2, 2, 3, 2⟩
def c3 : DConstr Int := ⟨3, 2, 1, -3⟩

/-- the network is built: origin + three time points, then the three constraints -/
theorem r3_inv : r3.2.2.Exact 10 [] ∧ Dl.PathInv r3.2.1 r3.2.2 := by
  have e0 : (Dl.init idlOps 16 : Dl Int).Exact 10 [] := C10_init_exact 10 (by decide)
  have p0 : Dl.PathInv Sat.init (Dl.init idlOps 16 : Dl Int) := C10X_init_pathinv _
  have e1 : t1.Exact 10 [] := (C10_newVar_exact 10 [] _ e0 (by decide)).1
  have p1 : Dl.PathInv Sat.init t1 := C10X_newVar_pathinv 10 [] _ _ e0 p0
  have e2 : t2.Exact 10 [] := (C10_newVar_exact 10 [] _ e1 (by decide)).1
  have p2 : Dl.PathInv Sat.init t2 := C10X_newVar_pathinv 10 [] _ _ e1 p1
  have e3 : t3.Exact 10 [] := (C10_newVar_exact 10 [] _ e2 (by decide)).1
  have p3 : Dl.PathInv Sat.init t3 := C10X_newVar_pathinv 10 [] _ _ e2 p2
  have q1 := C10X_newDistance_pathinv 10 [] Sat.init t3 e3 p3 1 3 5
  have q2 := C10X_newDistance_pathinv 10 [] r1.2.1 r1.2.2 q1.2 q1.1 2 3 2
  exact (C10X_newDistance_pathinv 10 [] r2.2.1 r2.2.2 q2.2 q2.1 2 1 (-3)).symm

/-- what the example takes from running the model, evaluated in one go: the three calls of
    `propagate(lit)` share the states they run on -/
theorem run :
    ((Dl.propagateLit idlOps sA r3.2.2 ⟨c1.b, true⟩).isRight = true ∧ r3.2.2.constrOf c1.b = some c1 ∧
      sA.value ⟨c1.b, true⟩ = some true ∧
      (c1.src < r3.2.2.nVars ∧ c1.dst < r3.2.2.nVars ∧ c1.src ≠ c1.dst ∧ -10 ≤ c1.dist ∧ c1.dist + 1 ≤ 10)) ∧
    ((Dl.propagateLit idlOps pA.1 pA.2 ⟨c2.b, false⟩).isRight = true ∧ pA.2.constrOf c2.b = some c2 ∧
      pA.1.value ⟨c2.b, true⟩ = some false ∧
      (c2.src < pA.2.nVars ∧ c2.dst < pA.2.nVars ∧ c2.src ≠ c2.dst ∧ -10 ≤ c2.dist ∧ c2.dist + 1 ≤ 10)) ∧
    (getL (Dl.propagateLit idlOps pB.1 pB.2 ⟨c3.b, true⟩) = [⟨2, true⟩, ⟨1, false⟩, ⟨3, false⟩] ∧
      pB.2.constrOf c3.b = some c3 ∧ pB.1.value ⟨c3.b, true⟩ = some true ∧
      (c3.src < pB.2.nVars ∧ c3.dst < pB.2.nVars ∧ c3.src ≠ c3.dst ∧ -10 ≤ c3.dist ∧ c3.dist + 1 ≤ 10)) := by
  decide

theorem conflict_example :
    ∃ (s : Sat) (t : Dl Int) (E : List IEdge),
      t.Exact 10 E ∧ Dl.PathInv s t ∧ t.constrOf c3.b = some c3 ∧ s.value ⟨c3.b, true⟩ = some true ∧
      Dl.propagateLit idlOps s t ⟨c3.b, true⟩ = .inl [⟨2, true⟩, ⟨1, false⟩, ⟨3, false⟩] ∧
      (∀ l ∈ [(⟨2, true⟩ : Lit), ⟨1, false⟩, ⟨3, false⟩], s.value l = some false) ∧
      (∀ (σ : Nat → Int) (α : Asg),
        (∀ c' ∈ t.varDists, (α c'.b = true → σ c'.dst - σ c'.src ≤ c'.dist) ∧
                             (α c'.b = false → σ c'.src - σ c'.dst ≤ -c'.dist - 1)) →
        α.clause [⟨2, true⟩, ⟨1, false⟩, ⟨3, false⟩] = true) := by
  have q3 := r3_inv
  -- the SAT core assigns the three literals
  have hle : Dl.SatLe r3.2.1 sA :=
    Dl.SatLe.trans (Dl.SatLe.trans (Dl.enqueue_le _ _ _) (Dl.enqueue_le _ _ _)) (Dl.enqueue_le _ _ _)
  have pA0 : Dl.PathInv sA r3.2.2 := C10X_assign_pathinv _ _ _ q3.2 hle
  -- propagate(b1), propagate(¬b2)
  obtain ⟨⟨rA, hc1, hv1, hr1⟩, ⟨rB, hc2, hv2, hr2⟩, rC, hc3, hv3, hr3⟩ := run
  have hA : Dl.propagateLit idlOps sA r3.2.2 ⟨c1.b, true⟩ = .inr (pA.1, pA.2) := inr_of _ rA
  have sA' := C10X_propagate_pathinv 10 [] sA pA.1 r3.2.2 pA.2 q3.1 pA0 c1 hc1 true hv1 hr1 hA
  have hB : Dl.propagateLit idlOps pA.1 pA.2 ⟨c2.b, false⟩ = .inr (pB.1, pB.2) := inr_of _ rB
  have sB' := C10X_propagate_pathinv 10 _ pA.1 pB.1 pA.2 pB.2 sA'.2.1 sA'.1 c2 hc2 false hv2 hr2 hB
  -- propagate(b3): the conflict
  have hC : Dl.propagateLit idlOps pB.1 pB.2 ⟨c3.b, true⟩ = .inl [⟨2, true⟩, ⟨1, false⟩, ⟨3, false⟩] :=
    inl_of _ _ rC (List.cons_ne_nil _ _)
  have v := C10X_conflict_clause_valid 10 _ pB.1 pB.2 sB'.2.1 sB'.1 c3 hc3 true hv3 hr3 _ hC
  exact ⟨pB.1, pB.2, _, sB'.2.1, sB'.1, hc3, hv3, hC, v.1, v.2⟩

/-- the same network when the theory sees `b1`, `b2` (both asserted) before `b3 : x1 - x3 ≤ -6` is
    assigned: the scan decides `b3` and records the lemma `[¬b3, ¬b2, ¬b1]` -/
def u1 := Dl.newDistance idlOps Sat.init t3 1 2 3
def u2 := Dl.newDistance idlOps u1.2.1 u1.2.2 2 3 2
def u3 := Dl.newDistance idlOps u2.2.1 u2.2.2 3 1 (-6)
def sU : Sat := ((u3.2.1.enqueue ⟨1, true⟩ none).2.enqueue ⟨2, true⟩ none).2
def pU := getR (Dl.propagateLit idlOps sU u3.2.2 ⟨1, true⟩)
def pV := getR (Dl.propagateLit idlOps pU.1 pU.2 ⟨2, true⟩)

example : pV.1.log = pU.1.log ++ [[⟨3, false⟩, ⟨2, false⟩, ⟨1, false⟩]] ∧ pV.1.value ⟨3, true⟩ = some false := by decide

end C10XExample


/-! # the real-valued instance (`rdlOps`, ε-rationals)

Same invariant and same theorems over the DENOTED matrix `DlR.dn t i j : WithTop QV`
(`⊤` = +∞, `QV = Lex (ℚ × ℚ)`): `DlR.PathInvR`, `DlR.JustR` (a false literal denotes the reversed
strict edge of weight `-dist - ε`), `DlR.AgreesR`.

Differences with the integer instance:
  * "an entry that is not improved keeps its predecessor" is FALSE for RDL.
    `finiteGuard` is constantly true for RDL, so the algorithm also rewrites entries that are and
    stay infinite, with a junk predecessor (see `preds[0][1] = 2` in the example network).  The
    invariant only speaks about finite entries, and the closed form of `_preds`
    (last clause of `DlG.propagateEdge_spec`, where `spur` holds for RDL) is conditional on finiteness.
  * (as `C10R_propagate_exact`) for a NEGATED literal the ε parts of the weight and of the
    entry the code inspects must be integers (`hint`), otherwise the code may close a negative
    cycle unnoticed (counterexample `exHalf` in C10Rdl.lean) and there is no shortest-path tree
    to speak of.  The validity of the conflict clause itself (`C10XR_conflict_clause_valid`)
    needs no such hypothesis. -/

theorem C10XR_pathinv_meaning (s : Sat) (t : Dl IR) :
    DlR.PathInvR s t ↔
      ((∀ k j bb, Dl.lookupPair t.distConstr (k, j) = some bb →
          k < t.nVars ∧ j < t.nVars ∧ k ≠ j ∧
          ∃ w : QV, DlR.JustR s t k j bb w ∧ DlR.dn t k j ≤ (w : WithTop QV)) ∧
       (∀ i j, i < t.nVars → j < t.nVars → i ≠ j → DlR.dn t i j ≠ ⊤ →
          Dl.p t i j < t.nVars ∧ Dl.p t i j ≠ j ∧ DlR.dn t i (Dl.p t i j) ≠ ⊤ ∧
          ∃ (bb : Nat) (w : QV), DlR.JustR s t (Dl.p t i j) j bb w ∧
            DlR.dn t i (Dl.p t i j) + (w : WithTop QV) ≤ DlR.dn t i j) ∧
       (∀ i j, i < t.nVars → j < t.nVars → DlR.dn t i j ≠ ⊤ → ∃ n, n < t.nVars ∧ Dl.ChainN t i n j)) :=
  ⟨fun h => ⟨h.dc, h.tree, h.chain⟩, fun h => ⟨h.1, h.2.1, h.2.2⟩⟩

/-- the denoted entry is the `rdist?` of C10Rdl.lean -/
theorem C10XR_dn_meaning (t : Dl IR) (i j : Nat) :
    (t.rdist? i j = none ↔ DlR.dn t i j = ⊤) ∧ (∀ x : QV, t.rdist? i j = some x ↔ DlR.dn t i j = (x : WithTop QV)) :=
  ⟨DlR.distOpt_none, fun _ => DlR.distOpt_some⟩

theorem C10XR_init_pathinv (s : Sat) : DlR.PathInvR s (Dl.init rdlOps 16 : Dl IR) := DlR.pathInvR_iff.mpr (.init s 16)

theorem C10XR_newVar_pathinv (E : List QEdge) (s : Sat) (t : Dl IR) (h : t.ExactR E) (hP : DlR.PathInvR s t) :
    DlR.PathInvR s (Dl.newVar rdlOps t).2 := DlR.pathInvR_iff.mpr ((DlR.pathInvR_iff.mp hP).newVar h.size_ok.2.1 h.fresh)

theorem C10XR_newDistance_pathinv (E : List QEdge) (s : Sat) (t : Dl IR) (h : t.ExactR E) (hP : DlR.PathInvR s t)
    (f g : Nat) (w : IR) :
    DlR.PathInvR (Dl.newDistance rdlOps s t f g w).2.1 (Dl.newDistance rdlOps s t f g w).2.2 ∧
    (Dl.newDistance rdlOps s t f g w).2.2.ExactR E := by
  obtain ⟨a1, a2, a3⟩ := DlG.newDistance_same rdlOps s t f g w
  exact ⟨DlR.pathInvR_iff.mpr ((DlR.pathInvR_iff.mp hP).newDistance f g w), Dl.ExactR.ofM (h.toM.congr_state a1 a2 a3)⟩

theorem C10XR_assign_pathinv (s s' : Sat) (t : Dl IR) (hP : DlR.PathInvR s t) (hs : Dl.SatLe s s') : DlR.PathInvR s' t :=
  DlR.pathInvR_iff.mpr ((DlR.pathInvR_iff.mp hP).assign hs)

theorem C10XR_propagate_pathinv (E : List QEdge) (s s' : Sat) (t t' : Dl IR) (h : t.ExactR E) (hP : DlR.PathInvR s t)
    (c : DConstr IR) (hc : t.constrOf c.b = some c) (b : Bool) (hv : s.value ⟨c.b, true⟩ = some b)
    (hr : c.src < t.nVars ∧ c.dst < t.nVars ∧ c.src ≠ c.dst ∧ IR.Fin c.dist)
    (hint : b = false → c.dist.inf.den = 1 ∧ (Dl.d rdlOps t c.src c.dst).inf.den = 1 ∧
      (Dl.d rdlOps t c.dst c.src).inf.den = 1)
    (hp : Dl.propagateLit rdlOps s t ⟨c.b, b⟩ = .inr (s', t')) :
    DlR.PathInvR s' t' ∧
    t'.ExactR ((if b then (c.src, c.dst, c.dist) else (c.dst, c.src, rdlOps.negStrict c.dist)) :: E) ∧
    Dl.SatLe s s' ∧ t'.varDists = t.varDists := by
  have r := h.toM.propagate_path hP hc hv hr (fun hb => ⟨(hint hb).1, (hint hb).2.1⟩) hp
  exact ⟨r.1, C10R_propagate_exact E s s' t t' h c hc b hv hr hint hp, r.2.1, DlG.propagateLit_varDists rdlOps s s' t t' _ hp⟩

theorem C10XR_push_pathinv (s : Sat) (t : Dl IR) (hP : DlR.PathInvR s t) : DlR.PathInvR s t.push :=
  DlR.pathInvR_iff.mpr (DlR.pathInvR_iff.mp hP).push

theorem C10XR_pop_pathinv (B cur : Dl IR) (hL : Undo.Lg rdlOps B cur) (sB s' : Sat) (hP : DlR.PathInvR sB B)
    (hs : Dl.SatLe sB s') : cur.pop = B ∧ DlR.PathInvR s' cur.pop :=
  ⟨Undo.pop_of_Lg rdlOps hL, DlR.pathInvR_iff.mpr ((DlR.pathInvR_iff.mp hP).pop hL hs)⟩

/-- the conflict clause is a theory lemma over the ε-rationals, and all its literals are false -/
theorem C10XR_conflict_clause_valid (E : List QEdge) (s : Sat) (t : Dl IR) (h : t.ExactR E) (hP : DlR.PathInvR s t)
    (c : DConstr IR) (hc : t.constrOf c.b = some c) (b : Bool) (hv : s.value ⟨c.b, true⟩ = some b)
    (hr : c.src < t.nVars ∧ c.dst < t.nVars ∧ c.src ≠ c.dst ∧ IR.Fin c.dist)
    (cl : List Lit) (hcl : Dl.propagateLit rdlOps s t ⟨c.b, b⟩ = .inl cl) :
    (∀ l ∈ cl, s.value l = some false) ∧
    ∀ (σ : Nat → QV) (α : Asg),
      (∀ c' ∈ t.varDists, (α c'.b = true → σ c'.dst - σ c'.src ≤ IR.val c'.dist) ∧
                           (α c'.b = false → σ c'.src - σ c'.dst ≤ -IR.val c'.dist - QV.eps)) →
      α.clause cl = true :=
  (DlR.pathInvR_iff.mp hP).conflict_valid hc hv hr h.toM.toG.block hcl

theorem C10XR_recorded_clause_valid (E : List QEdge) (s s' : Sat) (t t' : Dl IR) (h : t.ExactR E) (hP : DlR.PathInvR s t)
    (hok : ∀ c' ∈ t.varDists, c'.src < t.nVars ∧ c'.dst < t.nVars ∧ c'.src ≠ c'.dst ∧ IR.Fin c'.dist)
    (c : DConstr IR) (hc : t.constrOf c.b = some c) (b : Bool) (hv : s.value ⟨c.b, true⟩ = some b)
    (hint : b = false → c.dist.inf.den = 1 ∧ (Dl.d rdlOps t c.src c.dst).inf.den = 1)
    (hp : Dl.propagateLit rdlOps s t ⟨c.b, b⟩ = .inr (s', t')) :
    ∃ new, s'.log = s.log ++ new ∧ ∀ cl ∈ new,
      (∀ (σ : Nat → QV) (α : Asg),
        (∀ c' ∈ t.varDists, (α c'.b = true → σ c'.dst - σ c'.src ≤ IR.val c'.dist) ∧
                             (α c'.b = false → σ c'.src - σ c'.dst ≤ -IR.val c'.dist - QV.eps)) →
        α.clause cl = true) ∧
      ∀ l ∈ cl.tail, s'.value l = some false :=
  (h.toM.propagate_path hP hc hv (hok c (Dl.constrOf_spec hc).1) hint hp).2.2 hok

/-! ## non-vacuity (real instance): the same cycle with a strict bound

  b1 :  x3 - x1 ≤ 5 - ε  (i.e. `< 5`, asserted)   edge 1 → 3, weight  5 - ε
  b2 :  x3 - x2 ≤ 2      (asserted FALSE)          edge 3 → 2, weight -2 - ε
  b3 :  x1 - x2 ≤ -3     (asserted)                edge 2 → 1, weight -3     — cycle of weight -2ε -/
namespace C10XRExample
open C10XExample

def getR (x : List Lit ⊕ (Sat × Dl IR)) : Sat × Dl IR :=
  match x with | .inr p => p | .inl _ => (Sat.init, Dl.init rdlOps 16)
def getL (x : List Lit ⊕ (Sat × Dl IR)) : List Lit :=
  match x with | .inl cl => cl | .inr _ => []

theorem inr_of (x : List Lit ⊕ (Sat × Dl IR)) (h : x.isRight = true) : x = .inr ((getR x).1, (getR x).2) := by
  cases x with
  | inl _ => cases h
  | inr p => rfl

theorem inl_of (x : List Lit ⊕ (Sat × Dl IR)) (l : List Lit) (h : getL x = l) (hne : l ≠ []) : x = .inl l := by
  cases x with
  | inl cl => exact congrArg Sum.inl h
  | inr p => exact absurd h.symm hne

def w1 : IR := ⟨⟨5, 1⟩, ⟨-1, 1⟩⟩
def w2 : IR := ⟨⟨2, 1⟩, ⟨0, 1⟩⟩
def w3 : IR := ⟨⟨-3, 1⟩, ⟨0, 1⟩⟩
def t1 : Dl IR := (Dl.newVar rdlOps (Dl.init rdlOps 16)).2
def t2 : Dl IR := (Dl.newVar rdlOps t1).2
def t3 : Dl IR := (Dl.newVar rdlOps t2).2
def r1 := Dl.newDistance rdlOps Sat.init t3 1 3 w1
def r2 := Dl.newDistance rdlOps r1.2.1 r1.2.2 2 3 w2
def r3 := Dl.newDistance rdlOps r2.2.1 r2.2.2 2 1 w3
def sA : Sat := (((r3.2.1.enqueue ⟨1, true⟩ none).2.enqueue ⟨2, false⟩ none).2.enqueue ⟨3, true⟩ none).2
def pA := getR (Dl.propagateLit rdlOps sA r3.2.2 ⟨1, true⟩)
def pB := getR (Dl.propagateLit rdlOps pA.1 pA.2 ⟨2, false⟩)

def c1 : DConstr IR := ⟨1, 1, 3, w1⟩
def c2 : DConstr IR := ⟨2, 2, 3, w2⟩
def c3 : DConstr IR := ⟨3, 2, 1, w3⟩

theorem fin1 : IR.Fin w1 := ⟨⟨by decide, by decide⟩, ⟨by decide, by decide⟩⟩
theorem fin2 : IR.Fin w2 := ⟨⟨by decide, by decide⟩, ⟨by decide, by decide⟩⟩
theorem fin3 : IR.Fin w3 := ⟨⟨by decide, by decide⟩, ⟨by decide, by decide⟩⟩

/-- what the example takes from running the model, evaluated in one go -/
theorem run :
    ((Dl.propagateLit rdlOps sA r3.2.2 ⟨c1.b, true⟩).isRight = true ∧ r3.2.2.constrOf c1.b = some c1 ∧
      sA.value ⟨c1.b, true⟩ = some true ∧ c1.src < r3.2.2.nVars ∧ c1.dst < r3.2.2.nVars ∧ c1.src ≠ c1.dst) ∧
    ((Dl.propagateLit rdlOps pA.1 pA.2 ⟨c2.b, false⟩).isRight = true ∧ pA.2.constrOf c2.b = some c2 ∧
      pA.1.value ⟨c2.b, true⟩ = some false ∧ (c2.src < pA.2.nVars ∧ c2.dst < pA.2.nVars ∧ c2.src ≠ c2.dst) ∧
      c2.dist.inf.den = 1 ∧ (Dl.d rdlOps pA.2 c2.src c2.dst).inf.den = 1 ∧ (Dl.d rdlOps pA.2 c2.dst c2.src).inf.den = 1) ∧
    (getL (Dl.propagateLit rdlOps pB.1 pB.2 ⟨c3.b, true⟩) = [⟨2, true⟩, ⟨1, false⟩, ⟨3, false⟩] ∧
      pB.2.constrOf c3.b = some c3 ∧ pB.1.value ⟨c3.b, true⟩ = some true ∧
      c3.src < pB.2.nVars ∧ c3.dst < pB.2.nVars ∧ c3.src ≠ c3.dst) := by
  decide

theorem conflict_example :
    ∃ (s : Sat) (t : Dl IR) (E : List QEdge),
      t.ExactR E ∧ DlR.PathInvR s t ∧ t.constrOf c3.b = some c3 ∧ s.value ⟨c3.b, true⟩ = some true ∧
      Dl.propagateLit rdlOps s t ⟨c3.b, true⟩ = .inl [⟨2, true⟩, ⟨1, false⟩, ⟨3, false⟩] ∧
      (∀ l ∈ [(⟨2, true⟩ : Lit), ⟨1, false⟩, ⟨3, false⟩], s.value l = some false) ∧
      (∀ (σ : Nat → QV) (α : Asg),
        (∀ c' ∈ t.varDists, (α c'.b = true → σ c'.dst - σ c'.src ≤ IR.val c'.dist) ∧
                             (α c'.b = false → σ c'.src - σ c'.dst ≤ -IR.val c'.dist - QV.eps)) →
        α.clause [⟨2, true⟩, ⟨1, false⟩, ⟨3, false⟩] = true) := by
  have e0 : (Dl.init rdlOps 16 : Dl IR).ExactR [] := C10R_init_exact
  have p0 : DlR.PathInvR Sat.init (Dl.init rdlOps 16 : Dl IR) := C10XR_init_pathinv _
  have e1 : t1.ExactR [] := (C10R_newVar_exact [] _ e0).1
  have p1 : DlR.PathInvR Sat.init t1 := C10XR_newVar_pathinv [] _ _ e0 p0
  have e2 : t2.ExactR [] := (C10R_newVar_exact [] _ e1).1
  have p2 : DlR.PathInvR Sat.init t2 := C10XR_newVar_pathinv [] _ _ e1 p1
  have e3 : t3.ExactR [] := (C10R_newVar_exact [] _ e2).1
  have p3 : DlR.PathInvR Sat.init t3 := C10XR_newVar_pathinv [] _ _ e2 p2
  have q1 := C10XR_newDistance_pathinv [] Sat.init t3 e3 p3 1 3 w1
  have q2 := C10XR_newDistance_pathinv [] r1.2.1 r1.2.2 q1.2 q1.1 2 3 w2
  have q3 := C10XR_newDistance_pathinv [] r2.2.1 r2.2.2 q2.2 q2.1 2 1 w3
  have hle : Dl.SatLe r3.2.1 sA :=
    Dl.SatLe.trans (Dl.SatLe.trans (Dl.enqueue_le _ _ _) (Dl.enqueue_le _ _ _)) (Dl.enqueue_le _ _ _)
  have pA0 : DlR.PathInvR sA r3.2.2 := C10XR_assign_pathinv _ _ _ q3.1 hle
  obtain ⟨⟨rA, hc1, hv1, a1, a2, a3⟩, ⟨rB, hc2, hv2, ⟨b1, b2, b3⟩, hint⟩, rC, hc3, hv3, d1, d2, d3⟩ := run
  have hA : Dl.propagateLit rdlOps sA r3.2.2 ⟨c1.b, true⟩ = .inr (pA.1, pA.2) := inr_of _ rA
  have sA' := C10XR_propagate_pathinv [] sA pA.1 r3.2.2 pA.2 q3.2 pA0 c1 hc1 true hv1 ⟨a1, a2, a3, fin1⟩
    (fun hb => by cases hb) hA
  have hB : Dl.propagateLit rdlOps pA.1 pA.2 ⟨c2.b, false⟩ = .inr (pB.1, pB.2) := inr_of _ rB
  have sB' := C10XR_propagate_pathinv _ pA.1 pB.1 pA.2 pB.2 sA'.2.1 sA'.1 c2 hc2 false hv2 ⟨b1, b2, b3, fin2⟩
    (fun _ => hint) hB
  have hC : Dl.propagateLit rdlOps pB.1 pB.2 ⟨c3.b, true⟩ = .inl [⟨2, true⟩, ⟨1, false⟩, ⟨3, false⟩] :=
    inl_of _ _ rC (List.cons_ne_nil _ _)
  have v := C10XR_conflict_clause_valid _ pB.1 pB.2 sB'.2.1 sB'.1 c3 hc3 true hv3 ⟨d1, d2, d3, fin3⟩ _ hC
  exact ⟨pB.1, pB.2, _, sB'.2.1, sB'.1, hc3, hv3, hC, v.1, v.2⟩

/-- junk predecessors of infinite entries (why the invariant is restricted to finite ones):
    in the final network `d 0 1 = +∞` but `preds 0 1 = 2` was written by a spurious test -/
example : (Dl.d rdlOps pB.2 0 1).rat.den = 0 ∧ Dl.p pB.2 0 1 = 2 ∧ Dl.p (Dl.init rdlOps 16 : Dl IR) 0 1 = 0 := by decide

end C10XRExample

end Oratio

