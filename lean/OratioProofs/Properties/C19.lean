/-
Property C19 — the executor dispatches the plan in time order.

Model: OratioModel/Exec/Executor.lean.  The planner is an arbitrary oracle: every theorem quantifies over the
executor state and over whatever plan is handed to `resume` / `buildTimelines`, so it holds for every sequence of
adapted plans, delays and requests.
-/
import OratioModel
import OratioProofs.Lemmas.Executor

namespace Oratio
open Exec Sweep

theorem startedBy_eq : startedBy = startsOf := rfl
theorem endedBy_eq : endedBy = endsOf := rfl
theorem delayedStartBy_eq : delayedStartBy = dStartsOf := rfl
theorem delayedEndBy_eq : delayedEndBy = dEndsOf := rfl

/-! counterexamples: `OrigOk`, the simpler reading of `TimelinesOk` (see ExecutorDefs.lean), is neither established
    by `buildTimelines` nor maintained by the loop, and does not give "at most once" -/

def OrigOk (x : Exec) : Prop :=
  (∀ e ∈ x.sAtms, ∀ i ∈ e.2, i ∉ x.started) ∧ (∀ e ∈ x.eAtms, ∀ i ∈ e.2, i ∉ x.ended) ∧
  (x.sAtms.map (·.1)).Nodup ∧ (x.eAtms.map (·.1)).Nodup
instance (x : Exec) : Decidable (OrigOk x) := by unfold OrigOk; infer_instance

/-- `buildTimelines` gives a start pulse to an impulse that is started but not ended -/
theorem C19_cex_build : ¬ OrigOk (buildTimelines { now := 0, upt := 1, started := [0] } [⟨0, true, (0, 0), (0, 0)⟩]) := by
  decide
/-- the loop does not maintain `OrigOk` -/
theorem C19_cex_not_maintained :
    let x : Exec := { now := 0, upt := 1, sAtms := [((0, 0), [7])], pulses := [(0, 0)] }
    OrigOk x ∧ ¬ OrigOk (manage 2 x).1 := by
  decide
/-- a pulse occurring twice is dispatched twice -/
theorem C19_cex_repeated_pulse :
    let x : Exec := { now := 0, upt := 1, sAtms := [((0, 0), [7])], pulses := [(0, 0), (0, 0)] }
    OrigOk x ∧ startedBy (manage 3 x).2.1 = [7, 7] := by
  decide
/-- an id occurring twice in the plan is dispatched twice -/
theorem C19_cex_repeated_id :
    let x : Exec := buildTimelines { now := 3, upt := 1 } [⟨0, false, (0, 0), (1, 0)⟩, ⟨0, false, (2, 0), (3, 0)⟩]
    OrigOk x ∧ startedBy (manage 9 x).2.1 = [0, 0] ∧ endedBy (manage 9 x).2.1 = [0, 0] := by
  decide

/-- Both hypotheses are needed (`C19_cex_build` / `C19_cex_repeated_id`).
    * `hid`: the atoms of the plan have distinct ids;
    * `himp`: an impulse of the plan that is started is ended.  The loop starts and ends an impulse in the same
      iteration, so this holds in every state the executor reaches as long as the planner does not change the
      kind of an atom: `C19_kinds_build` / `C19_kinds_manage` / `C19_kinds_himp` below. -/
theorem C19_build_timelines_ok (x : Exec) (plan : List XAtom) (hid : (plan.map (·.id)).Nodup)
    (himp : ∀ a ∈ plan, a.impulse = true → a.id ∈ x.started → a.id ∈ x.ended) :
    TimelinesOk (buildTimelines x plan) := by
  have b := BInv.build x plan
  refine (timelinesOk_iff _).2 ⟨⟨?_, b.sLane.keys, b.sLane.nodup, b.sLane.uniq hid⟩, ⟨?_, b.eLane.keys, b.eLane.nodup, b.eLane.uniq hid⟩,
    b.sorted.imp ne_of_tlt⟩
  · intro p _ i hi
    obtain ⟨a, ha, rfl, -, hne, hs⟩ := (b.sLane.mem p i).1 hi
    rw [b.hst]
    exact hs.elim (fun hs hst => hne (himp a ha hs hst)) id
  · intro p _ i hi
    obtain ⟨a, -, rfl, -, hne⟩ := (b.eLane.mem p i).1 hi
    rwa [b.hen]

/-- the pulses built by `buildTimelines` are strictly sorted (for any plan), in both forms used below -/
theorem C19_build_sorted (x : Exec) (plan : List XAtom) :
    (buildTimelines x plan).pulses.Pairwise (fun a b => tlt a b = true) ∧
    (∀ i, i + 1 < (buildTimelines x plan).pulses.length →
      tlt (buildTimelines x plan).pulses[i]! (buildTimelines x plan).pulses[i + 1]! = true) :=
  ⟨(BInv.build x plan).sorted, (sorted_iff_chain _).1 (BInv.build x plan).sorted⟩

/-- … and the loop keeps them so -/
theorem C19_manage_sorted (fuel : Nat) (x : Exec)
    (hs : ∀ i, i + 1 < x.pulses.length → tlt x.pulses[i]! x.pulses[i + 1]! = true) :
    ∀ i, i + 1 < (manage fuel x).1.pulses.length →
      tlt (manage fuel x).1.pulses[i]! (manage fuel x).1.pulses[i + 1]! = true :=
  (sorted_iff_chain _).1 ((manage_run fuel x).sorted ((sorted_iff_chain _).2 hs))

theorem C19_kinds_build (imp : Nat → Bool) (x : Exec) (plan : List XAtom) (hk : ∀ a ∈ plan, a.impulse = imp a.id)
    (h : ∀ i, imp i = true → i ∈ x.started → i ∈ x.ended) : KindsOk imp (buildTimelines x plan) := by
  have b := BInv.build x plan
  refine ⟨by rw [b.hst, b.hen]; exact h, ?_⟩
  intro i hi p hm
  obtain ⟨a, ha, rfl, rfl, hne, -⟩ := (b.sLane.mem p i).1 hm
  exact (b.eLane.mem _ _).2 ⟨a, ha, rfl, if_pos ((hk a ha).trans hi), hne⟩

theorem C19_kinds_manage (imp : Nat → Bool) (fuel : Nat) (x : Exec) (h : KindsOk imp x) :
    KindsOk imp (manage fuel x).1 :=
  (manage_run fuel x).kindsOk imp h

theorem C19_kinds_himp (imp : Nat → Bool) (x : Exec) (plan : List XAtom) (hk : ∀ a ∈ plan, a.impulse = imp a.id)
    (h : KindsOk imp x) : ∀ a ∈ plan, a.impulse = true → a.id ∈ x.started → a.id ∈ x.ended :=
  fun a ha hi => h.1 a.id ((hk a ha).symm.trans hi)

/-- time: a tick that runs to its end (whether or not it was interrupted by replanning) advances the clock by
    exactly one tick unit, and an interrupted one does not move it -/
theorem C19_time_advances_by_one_unit (fuel : Nat) (x : Exec) :
    ((manage fuel x).2.2 = .done → (manage fuel x).1.now = x.now + x.upt) ∧
    ((manage fuel x).2.2 = .needPlan → (manage fuel x).1.now = x.now) :=
  (manage_run fuel x).now

/-- at most once: whatever the loop starts was not started before, is recorded, and is started once in this run.
    With `OrigOk` in place of `TimelinesOk` the last conjunct fails (`C19_cex_not_maintained`) and so does `Nodup`
    (`C19_cex_repeated_pulse`, `C19_cex_repeated_id`). -/
theorem C19_started_at_most_once (fuel : Nat) (x : Exec) (h : TimelinesOk x) :
    (∀ i ∈ startedBy (manage fuel x).2.1, i ∉ x.started ∧ i ∈ (manage fuel x).1.started) ∧
    (startedBy (manage fuel x).2.1).Nodup ∧
    (∀ i ∈ x.started, i ∈ (manage fuel x).1.started) ∧ TimelinesOk (manage fuel x).1 :=
  let ⟨a, b, c⟩ := ((manage_run fuel x).once h).1
  ⟨a, b, c, (manage_run fuel x).timelinesOk h⟩

/-- (`C19_cex_repeated_id` refutes `Nodup` under `OrigOk`) -/
theorem C19_ended_at_most_once (fuel : Nat) (x : Exec) (h : TimelinesOk x) :
    (∀ i ∈ endedBy (manage fuel x).2.1, i ∉ x.ended ∧ i ∈ (manage fuel x).1.ended) ∧
    (endedBy (manage fuel x).2.1).Nodup ∧
    (∀ i ∈ x.ended, i ∈ (manage fuel x).1.ended) :=
  ((manage_run fuel x).once h).2

/-- never early: an atom is started (ended) only at a pulse of the current timelines that is not after the clock -/
theorem C19_not_before_planned_time (fuel : Nat) (x : Exec) :
    (∀ i ∈ startedBy (manage fuel x).2.1, ∃ e ∈ x.sAtms, i ∈ e.2 ∧ tle e.1 (x.now, 0) = true) ∧
    (∀ i ∈ endedBy (manage fuel x).2.1, ∃ e ∈ x.eAtms, i ∈ e.2 ∧ tle e.1 (x.now, 0) = true) :=
  (manage_run fuel x).not_early

/-- a delay that is honoured stops the loop: the atom is not started (ended) by that run of the loop after the
    delay, the run ends waiting for the adapted plan, and the request is consumed -/
theorem C19_delayed_not_dispatched (x : Exec) (p : Time) :
    let r := iteration x p
    (r.2.2 = true → startedBy r.2.1 = [] ∧ endedBy r.2.1 = [] ∧
      (∀ i ∈ delayedStartBy r.2.1, ∀ q, (i, q) ∉ r.1.dontStart) ∧ (∀ i ∈ delayedEndBy r.2.1, ∀ q, (i, q) ∉ r.1.dontEnd)) ∧
    (r.2.2 = false → delayedStartBy r.2.1 = [] ∧ delayedEndBy r.2.1 = [] ∧
      (∀ i ∈ atPulse x.sAtms p, ∀ q, (i, q) ∉ r.1.dontStart)) := by
  rw [iteration_eq]
  split
  · refine ⟨fun _ => ⟨(events_wait x p).1, (events_wait x p).2.1, ?_, ?_⟩, fun h => nomatch h⟩
    · rw [delayedStartBy_eq, (events_wait x p).2.2.1]
      exact fun i hi => not_mem_filter_not_contains hi
    · rw [delayedEndBy_eq, (events_wait x p).2.2.2]
      exact fun i hi => not_mem_filter_not_contains hi
  · rename_i hc
    refine ⟨(fun h => nomatch h), fun _ => ⟨(events_go x p).2.2.1, (events_go x p).2.2.2, ?_⟩⟩
    intro i hi q hm
    -- a request for an atom of the pulse would have made the iteration wait
    have hS : delayedS x p = [] := by
      have : (delayedS x p).isEmpty = true ∧ (delayedE x p).isEmpty = true := by simpa using hc
      simpa using this.1
    have h2 : i ∈ delayedS x p :=
      List.mem_filter.2 ⟨hi, List.any_eq_true.2 ⟨(i, q), (List.mem_filter.1 hm).1, by simp⟩⟩
    simp [hS] at h2

set_option linter.unusedVariables false in
/-- completeness of a finished tick: no pulse at or before the old clock is left, i.e. every atom of the current
    timelines whose time had been reached has been dispatched
    (`hs` holds in every reachable state: `C19_build_sorted`, `C19_manage_sorted`; `hf` is not needed: a run that
    exhausts its fuel does not end with `.done`) -/
theorem C19_finished_tick_leaves_nothing_due (fuel : Nat) (x : Exec) (hf : x.pulses.length < fuel)
    (hs : ∀ i, i + 1 < x.pulses.length → tlt x.pulses[i]! x.pulses[i + 1]! = true)
    (hd : (manage fuel x).2.2 = .done) :
    ∀ p ∈ (manage fuel x).1.pulses, tlt (x.now, 0) p = true :=
  (manage_run fuel x).nothing_due ((sorted_iff_chain _).2 hs) hd

set_option linter.unusedVariables false in
/-- start before end: with well-formed atoms (start ≤ end) an interval that has not been started is never ended
    first, for the timelines built from any plan (`hid` is not needed) -/
theorem C19_end_only_after_start (x : Exec) (plan : List XAtom) (fuel : Nat)
    (hwf : ∀ a ∈ plan, tle a.start a.stop = true) (hid : (plan.map (·.id)).Nodup)
    (hse : ∀ i ∈ x.ended, i ∈ x.started) :
    ∀ i ∈ (manage fuel (buildTimelines x plan)).1.ended, i ∈ (manage fuel (buildTimelines x plan)).1.started :=
  ((manage_run fuel _).endAfterStart (EInv.build x plan hwf hse)).sub

/-- the same over the ticks that follow without replanning: the invariant behind it is kept by every run of the loop -/
theorem C19_end_only_after_start_next (x : Exec) (plan : List XAtom) (fuel fuel' : Nat)
    (hwf : ∀ a ∈ plan, tle a.start a.stop = true) (hse : ∀ i ∈ x.ended, i ∈ x.started) :
    let y := (manage fuel (buildTimelines x plan)).1
    ∀ i ∈ (manage fuel' { y with tickNo := y.tickNo + 1 }).1.ended,
      i ∈ (manage fuel' { y with tickNo := y.tickNo + 1 }).1.started := by
  intro y
  have h := (manage_run fuel _).endAfterStart (EInv.build x plan hwf hse)
  exact ((manage_run fuel' { y with tickNo := y.tickNo + 1 }).endAfterStart ⟨h.sorted, h.sub, h.cover⟩).sub

/-- `tick` / `resume` keep `TimelinesOk` -/
theorem C19_tick_ok (x : Exec) (h : TimelinesOk x) : TimelinesOk (tick x).1 :=
  (C19_started_at_most_once _ { x with tickNo := x.tickNo + 1 } h).2.2.2

theorem C19_resume_ok (x : Exec) (plan : List XAtom) (hid : (plan.map (·.id)).Nodup)
    (himp : ∀ a ∈ plan, a.impulse = true → a.id ∈ x.started → a.id ∈ x.ended) : TimelinesOk (resume x plan).1 :=
  (C19_started_at_most_once _ _ (C19_build_timelines_ok x plan hid himp)).2.2.2

/-- non-vacuity: two ticks of a concrete plan -/
example : ((tick (buildTimelines { now := 0, upt := 1 } [⟨0, false, (0, 0), (2, 0)⟩, ⟨1, true, (1, 0), (1, 0)⟩])).2.1 =
    [.starting [0], .start [0], .tick 1]) := by
  have h : (tick (buildTimelines { now := 0, upt := 1 } [⟨0, false, (0, 0), (2, 0)⟩, ⟨1, true, (1, 0), (1, 0)⟩])).2.1 =
      [.starting [0], .start [0], .tick (0 + 1)] := rfl  -- by evaluation; `0 + 1` is left as the model computes it
  rw [h, Rat.zero_add]

end Oratio
