/-
Property C11 — a linear-relation literal means exactly its relation: what `newRel` of the LRA model returns.

For every pair of expressions and every state with the registry facts of `Lra.RelInv` (`C11_hypotheses_of_invariant`):
the answer is a constant only when the interval evaluation of the (rewritten) difference - or the bounds of its
slack variable - decides the relation; otherwise it is the literal of
the assertion `slack ≤ c` / `slack ≥ c` on the slack variable of the rewritten difference, with `c` the negated
known term (± ε for the strict relations); an existing assertion with the same printed key is reused, a new one is
registered under that key and watches the slack; the SAT core only gains the one control variable; no bound and no
value of an existing variable changes.  Interval evaluation is sound (C09A_row_*_bound_valid give the semantic side).
-/
import OratioModel
import OratioProofs.Lemmas.LraNewRel

namespace Oratio
open Lra

/-- the rewritten difference and the constant of `newRel` -/
def Lra.relExpr (t : Lra) (left right : Lin) : Lin := { substBasic t (Lin.sub left right) with known := R.zero }
def Lra.relConst (t : Lra) (r : LRel) (left right : Lin) : IR :=
  let k := (substBasic t (Lin.sub left right)).known
  match r with
  | .lt => ⟨R.neg k, R.ofInt (-1)⟩
  | .leq => IR.neg (IR.ofR k)
  | .geq => IR.neg (IR.ofR k)
  | .gt => ⟨R.neg k, R.ofInt 1⟩
def LRel.upper (r : LRel) : Bool := r = .lt ∨ r = .leq

/-- a constant answer is justified by bounds: of the rewritten expression, or of its slack variable -/
theorem C11_constant_only_if_decided (s : Sat) (t : Lra) (r : LRel) (left right : Lin) (l : Lit) (s' : Sat) (t' : Lra) (b : Option Nat)
    (h : newRel s t r left right = some (l, s', t', b)) (hc : l = Lit.trueLit ∨ l = Lit.falseLit)
    -- The two hypotheses below are needed.  Without them the statement is false in unreachable states: when the SAT
    -- core has no variable at all the fresh control literal `⟨s.nvars, true⟩` IS `Lit.falseLit` (and `b = some 0`),
    -- and a literal cached in `s_asrts` can be anything, also a constant, with no bound deciding the relation.
    -- Both hold in every reachable state: `Sat.init` has variable 0 and `newRel` keeps them
    -- (`Lra.newRel_sAsrts_nonconst`; they are the first two fields of the invariant `Lra.RelInv`, `Lra.RelInv.newRel`).
    (hs : 0 < s.nvars) (hA : ∀ e ∈ t.sAsrts, e.2 ≠ Lit.trueLit ∧ e.2 ≠ Lit.falseLit) :
    let e := t.relExpr left right
    let c := t.relConst r left right
    b = none ∧ s' = s ∧
    ((r.upper = true ∧ l = Lit.trueLit ∧ (IR.le (t.ubLin e) c = true ∨ ∃ x, IR.le (t'.ub x) c = true)) ∨
     (r.upper = true ∧ l = Lit.falseLit ∧ (IR.gt (t.lbLin e) c = true ∨ ∃ x, IR.gt (t'.lb x) c = true)) ∨
     (r.upper = false ∧ l = Lit.trueLit ∧ (IR.ge (t.lbLin e) c = true ∨ ∃ x, IR.ge (t'.lb x) c = true)) ∨
     (r.upper = false ∧ l = Lit.falseLit ∧ (IR.lt (t.ubLin e) c = true ∨ ∃ x, IR.lt (t'.ub x) c = true))) := by
  intro e c
  obtain ⟨hb, hs', hd⟩ := RelOutcome.of_const (e := e) (c := c) (up := r.upper) (newRel_outcome h) hc hs hA
  refine ⟨hb, hs', ?_⟩
  -- the bounds that decided: of the expression in `t`, or of the slack variable in `t'`
  obtain ⟨lo, hi, h0, wlo, whi⟩ : ∃ lo hi, relSat r.upper c lo hi = some l ∧
      (∀ p : IR → Bool, p lo = true → p (t.lbLin e) = true ∨ ∃ x, p (t'.lb x) = true) ∧
      (∀ p : IR → Bool, p hi = true → p (t.ubLin e) = true ∨ ∃ x, p (t'.ub x) = true) := by
    rcases hd with ⟨h0, -⟩ | ⟨slack, -, -, h1⟩
    · exact ⟨_, _, h0, fun _ h => Or.inl h, fun _ h => Or.inl h⟩
    · exact ⟨_, _, h1, fun _ h => Or.inr ⟨slack, h⟩, fun _ h => Or.inr ⟨slack, h⟩⟩
  rcases relSat_some h0 with ⟨hu, hl, hx⟩ | ⟨hu, hl, hx⟩ | ⟨hu, hl, hx⟩ | ⟨hu, hl, hx⟩
  · exact Or.inl ⟨hu, hl, whi (IR.le · c) hx⟩
  · exact Or.inr (Or.inl ⟨hu, hl, wlo (IR.gt · c) hx⟩)
  · exact Or.inr (Or.inr (Or.inl ⟨hu, hl, wlo (IR.ge · c) hx⟩))
  · exact Or.inr (Or.inr (Or.inr ⟨hu, hl, whi (IR.lt · c) hx⟩))

/-- a non-constant answer is the control literal of the assertion `slack (≤|≥) c` registered under its printed key,
    where `slack` is the variable `newVarLin` gives for the rewritten expression -/
theorem C11_literal_controls_the_assertion (s : Sat) (t : Lra) (r : LRel) (left right : Lin) (l : Lit) (s' : Sat) (t' : Lra) (b : Option Nat)
    (h : newRel s t r left right = some (l, s', t', b)) (hc : l ≠ Lit.trueLit ∧ l ≠ Lit.falseLit)
    -- The three hypotheses below are needed.  Without them the last two conjuncts fail in unreachable states: an entry
    -- of `v_asrts` already keyed by the not-yet-created SAT variable `s.nvars` shadows the new assertion in
    -- `asrtOf`; and `exprs` can name a variable that has no entry in `a_watches` (then `a_watches[slack]` is not
    -- written).  All hold in every reachable state: `v_asrts` only gets keys from `Sat.newVar`, `a_watches` has one
    -- entry per variable and `exprs` names existing variables (`Lra.newRel_vAsrts_lt`; fields `vAsrts_lt`,
    -- `aWatches_len`, `exprs_lt` of the invariant `Lra.RelInv`, kept by `newRel`: `Lra.RelInv.newRel`).
    (hV : ∀ e ∈ t.vAsrts, e.1 < s.nvars) (hW : t.vals.length ≤ t.aWatches.length)
    (hE : ∀ e ∈ t.exprs, e.2 < t.aWatches.length) :
    ∃ slack t1, newVarLin s t (t.relExpr left right) = some (slack, t1) ∧
      let key := "x" ++ toString slack ++ (if r.upper then " <= " else " >= ") ++ irToStr (t.relConst r left right)
      findKey t'.sAsrts key = some l ∧
      ((b = none ∧ findKey t1.sAsrts key = some l ∧ s' = s ∧ t' = t1) ∨
       (b = some l.var ∧ findKey t1.sAsrts key = none ∧ l = ⟨s.nvars, true⟩ ∧ s' = (s.newVar).2 ∧
        t'.asrtOf l.var = some ⟨if r.upper then .leq else .geq, l, slack, t.relConst r left right⟩ ∧
        l.var ∈ t'.aWatches.getD slack [])) := by
  obtain ⟨slack, t1, -, hv, -, ⟨hf, hs', rfl, hb⟩ | ⟨hf, rfl, hs', rfl, hb⟩⟩ :=
    RelOutcome.of_nonconst (e := t.relExpr left right) (c := t.relConst r left right) (up := r.upper)
      (newRel_outcome h) hc
  · exact ⟨slack, t', hv, hf, Or.inl ⟨hb, hf, hs', rfl⟩⟩
  · refine ⟨slack, t1, hv, findKey_emplaceKey_self hf, Or.inr ⟨hb, hf, rfl, hs', ?_, ?_⟩⟩
    · exact find_append_new (fun e he => hV e ((newVarLin_spec hv).2.1 ▸ he))
    · show s.nvars ∈ (t1.aWatches.set slack (t1.aWatches.getD slack [] ++ [s.nvars])).getD slack []
      rw [getD_set_self _ _ _ _ (newVarLin_slack_lt hv hW hE)]
      exact List.mem_append_right _ (List.mem_singleton.2 rfl)

/-- requesting a relation changes no bound and no value of a variable that existed, and no row of the tableau that
    existed (it can only add a slack variable with its row) -/
theorem C11_request_changes_nothing (s : Sat) (t : Lra) (r : LRel) (left right : Lin) (l : Lit) (s' : Sat) (t' : Lra) (b : Option Nat)
    (h : newRel s t r left right = some (l, s', t', b))
    -- The hypothesis below is needed.  The two bounds of a new slack variable `x = vals.length` are written at the
    -- indices `2x`, `2x+1` of `c_bounds`; if `c_bounds` had more than two entries per variable (unreachable) these
    -- would be bounds that existed, and the first conjunct fails.  Reachable states have `bounds.length =
    -- 2 * vals.length` (field `bounds_len` of the invariant `Lra.RelInv`, kept by `newRel`: `Lra.RelInv.newRel`).
    (hB : t.bounds.length ≤ 2 * t.vals.length) :
    (∀ i, i < t.bounds.length → t'.bnd i = t.bnd i) ∧ (∀ v, v < t.vals.length → t'.value v = t.value v) ∧
    (∀ e ∈ t.tableau, e ∈ t'.tableau) ∧ t.vals.length ≤ t'.vals.length ∧ t'.layers = t.layers := by
  exact (newRel_outcome h).induct
    (P := fun _ t1 => (∀ i, i < t.bounds.length → t1.bnd i = t.bnd i) ∧ (∀ v, v < t.vals.length → t1.value v = t.value v) ∧
      (∀ e ∈ t.tableau, e ∈ t1.tableau) ∧ t.vals.length ≤ t1.vals.length ∧ t1.layers = t.layers)
    ⟨fun _ _ => rfl, fun _ _ => rfl, fun _ he => he, Nat.le_refl _, rfl⟩
    (fun _ _ hv => ⟨newVarLin_bnd hv hB, newVarLin_value hv, (newVarLin_spec hv).2.2.2.1, newVarLin_vals_length hv,
      (newVarLin_spec hv).2.2.1⟩)
    (fun _ _ _ h1 => h1)

/-- asserting the literal asserts the bound: `propagate(p)` on a true control literal of `x ≤ v` calls
    `assert_upper(x, v)`, on a false one `assert_lower(x, v + ε)`, and symmetrically for `x ≥ v` -/
theorem C11_propagate_is_the_bound (s : Sat) (t : Lra) (p : Lit) (a : LAsrt) (ha : t.asrtOf p.var = some a) :
    (s.value a.b = some true → a.o = .leq → propagateLit s t p = assertUpper s t a.x a.v p) ∧
    (s.value a.b = some true → a.o = .geq → propagateLit s t p = assertLower s t a.x a.v p) ∧
    (s.value a.b = some false → a.o = .leq → propagateLit s t p = assertLower s t a.x (IR.add a.v ⟨R.zero, R.one⟩) p) ∧
    (s.value a.b = some false → a.o = .geq → propagateLit s t p = assertUpper s t a.x (IR.sub a.v ⟨R.zero, R.one⟩) p) := by
  unfold propagateLit
  rw [ha]
  refine ⟨?_, ?_, ?_, ?_⟩ <;> intro h1 h2 <;> simp [h1, h2]

/-- `new_eq` is the conjunction of `≥` and `≤` -/
theorem C11_eq_is_conjunction (s : Sat) (t : Lra) (left right : Lin) (l : Lit) (s' : Sat) (t' : Lra) (bs : List Nat)
    (h : newEq s t left right = some (l, s', t', bs)) :
    ∃ l1 s1 t1 b1 l2 s2 b2, newRel s t .geq left right = some (l1, s1, t1, b1) ∧ newRel s1 t1 .leq left right = some (l2, s2, t', b2) ∧
      (l, s') = s2.newConj [l1, l2] := by
  obtain ⟨l1, s1, t1, b1, l2, s2, b2, h1, h2, hl, -⟩ := newEq_nf h
  exact ⟨l1, s1, t1, b1, l2, s2, b2, h1, h2, hl⟩

/-- The extra hypotheses of the three statements above all follow from the invariant `Lra.RelInv`,
    which holds initially and is kept by `newRel` (and by `newEq`: `Lra.RelInv.newEq`, `Lra.RelInv.mono`). -/
theorem C11_hypotheses_of_invariant (s : Sat) (t : Lra) (inv : RelInv s t) :
    0 < s.nvars ∧ (∀ e ∈ t.sAsrts, e.2 ≠ Lit.trueLit ∧ e.2 ≠ Lit.falseLit) ∧ (∀ e ∈ t.vAsrts, e.1 < s.nvars) ∧
    t.vals.length ≤ t.aWatches.length ∧ (∀ e ∈ t.exprs, e.2 < t.aWatches.length) ∧
    t.bounds.length ≤ 2 * t.vals.length :=
  ⟨inv.nvars_pos, inv.sAsrts_nonconst, inv.vAsrts_lt, Nat.le_of_eq inv.aWatches_len.symm,
    fun e he => inv.aWatches_len ▸ inv.exprs_lt e he, Nat.le_of_eq inv.bounds_len⟩

theorem C11_invariant_init : RelInv Sat.init Lra.init := RelInv.init

theorem C11_invariant_newRel (s : Sat) (t : Lra) (r : LRel) (left right : Lin) (l : Lit) (s' : Sat) (t' : Lra)
    (b : Option Nat) (inv : RelInv s t) (h : newRel s t r left right = some (l, s', t', b)) : RelInv s' t' :=
  inv.newRel h

end Oratio
