/-
Property C04 — atoms on the same state variable never overlap in time.

`Sweep.svPeaks` models the detection loop of `state_variable::get_current_incs` (the planner
reports a solution only when it finds nothing for every instance), `Sweep.svTimeline` the
timeline extraction.  For every finite set of atoms with `start ≤ end` (zero-length atoms and
equal endpoints included) the sweep finds nothing exactly when no two atoms have intersecting
`[start, end)`, it reports every overlapping pair, and the extracted timeline then shows at
most one atom in every segment.
-/
import OratioModel
import OratioProofs.Lemmas.Sweep
import OratioProofs.Lemmas.SweepInv
import OratioProofs.Lemmas.SweepUsage

namespace Oratio
open Sweep

/-- every overlapping pair is reported (at the later of the two starts) -/
theorem C04_reports_every_overlapping_pair (as : List TAtom) (h : AtomsOk as) (a b : TAtom)
    (ha : a ∈ as) (hb : b ∈ as) (hab : a.id ≠ b.id) (ho : overlaps a b = true) :
    (a.id, b.id) ∈ svPeaks as ∨ (b.id, a.id) ∈ svPeaks as := by
  obtain ⟨t, ht, hca, hcb⟩ := covers_of_overlaps ho
  have htp : t ∈ pulsesOf as [] :=
    mem_pulsesOf.2 (.inl (ht.elim (fun e => ⟨a, ha, .inl e⟩) (fun e => ⟨b, hb, .inl e⟩)))
  obtain ⟨s, hs, -, hA, -⟩ := states_of_pulse h htp
  exact (pairsOf_eq s.2 ▸ ListAux.mem_pairs_of_ne ((hA.mem_iff h.1 ha).2 hca) ((hA.mem_iff h.1 hb).2 hcb) hab).imp
    (fun h => mem_svPeaks.2 ⟨s, hs, h⟩) (fun h => mem_svPeaks.2 ⟨s, hs, h⟩)

/-- every pair the sweep reports really overlaps -/
theorem C04_reported_pairs_overlap (as : List TAtom) (h : AtomsOk as) (i j : Nat) (hp : (i, j) ∈ svPeaks as) :
    ∃ a ∈ as, ∃ b ∈ as, a.id = i ∧ b.id = j ∧ i ≠ j ∧ overlaps a b = true := by
  obtain ⟨s, hs, hx⟩ := mem_svPeaks.1 hp
  obtain ⟨hA, hN⟩ := (pulses_spec h (fun _ => (0, 0)) []).1 s hs
  obtain ⟨hi, hj, hij⟩ := ListAux.of_mem_pairs (pairsOf_eq s.2 ▸ hx)
  obtain ⟨a, ha, hai, hca⟩ := (hA i).1 hi
  obtain ⟨b, hb, hbj, hcb⟩ := (hA j).1 hj
  exact ⟨a, ha, b, hb, hai, hbj, hij hN, overlaps_of_covers hca hcb⟩

theorem C04_sweep_empty_iff_no_overlap (as : List TAtom) (h : AtomsOk as) :
    svPeaks as = [] ↔ ∀ a ∈ as, ∀ b ∈ as, a.id ≠ b.id → overlaps a b = false := by
  constructor
  · intro hnil a ha b hb hab
    refine Bool.eq_false_iff.2 fun ho => ?_
    have := C04_reports_every_overlapping_pair as h a b ha hb hab ho
    rw [hnil] at this
    exact this.elim List.not_mem_nil List.not_mem_nil
  · intro hno
    rw [List.eq_nil_iff_forall_not_mem]
    rintro ⟨i, j⟩ hp
    obtain ⟨a, ha, b, hb, rfl, rfl, hij, ho⟩ := C04_reported_pairs_overlap as h i j hp
    rw [hno a ha b hb hij] at ho
    cases ho

/-- the ordering choices the planner offers separate the two atoms -/
theorem C04_order_resolvers_separate (a b : TAtom) (ha : tle a.start a.stop = true) (hb : tle b.start b.stop = true)
    (h : tle a.stop b.start = true ∨ tle b.stop a.start = true) : overlaps a b = false :=
  Bool.eq_false_iff.2 fun ho =>
    have ⟨⟨_, h2⟩, h3, _⟩ := overlaps_iff.1 ho
    h.elim (not_tle_of_tlt h3) (not_tle_of_tlt h2)

/-- every segment of the extracted timeline is non-empty and shows exactly the atoms that span it; hence
    without overlaps no segment shows two atoms (`hb`, `hoh` are not needed) -/
theorem C04_timeline_segments (as : List TAtom) (h : AtomsOk as) (o hz : Time)
    (hb : ∀ a ∈ as, tle o a.start = true ∧ tle a.stop hz = true) (hoh : tle o hz = true) :
    (∀ s ∈ svTimeline as o hz, tlt s.lo s.hi = true ∧
       ∀ a ∈ as, (a.id ∈ s.atoms ↔ (tle a.start s.lo = true ∧ tle s.hi a.stop = true ∧ tlt a.start a.stop = true))) ∧
    ((∀ a ∈ as, ∀ b ∈ as, a.id ≠ b.id → overlaps a b = false) → ∀ s ∈ svTimeline as o hz, s.atoms.length ≤ 1) := by
  have key := (pulses_spec h (fun _ => (0, 0)) [o, hz]).2
  rw [svTimeline_eq]
  constructor
  · intro s hs
    obtain ⟨hlt, hA, hG, _⟩ := key s hs
    refine ⟨hlt, fun a ha => ?_⟩
    rw [hA.mem_iff h.1 ha, covers_lo_iff hG hlt ha]
  · intro hno s hs
    obtain ⟨_, hA, _, hN, _⟩ := key s hs
    apply length_le_one_of_nodup hN
    intro i hi j hj
    obtain ⟨a, ha, hai, hca⟩ := (hA i).1 hi
    obtain ⟨b, hb, hbj, hcb⟩ := (hA j).1 hj
    by_contra hij
    have := hno a ha b hb (by rw [hai, hbj]; exact hij)
    rw [overlaps_of_covers hca hcb] at this; cases this

example : svPeaks [⟨1, (0, 0), (2, 0), (0, 0)⟩, ⟨2, (2, 0), (2, 0), (0, 0)⟩, ⟨3, (1, 0), (3, 0), (0, 0)⟩] = [(1, 3)] := by decide +kernel

end Oratio
