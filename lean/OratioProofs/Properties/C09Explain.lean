/-
Property C09X — linear arithmetic: the EXPLANATIONS are theory lemmas.

C09 / C09Bridge prove that the simplex of `lra_theory` keeps the solutions of the tableau and say
what `check`, `assert_lower / assert_upper` and the propagation loops return.  This file proves
that what the theory *tells the SAT core* is sound: the conflict clause of `check()`, the conflict
clauses of `assert_lower / assert_upper` (immediate two-literal conflict, unate propagation over
the assertions, bound propagation through the rows) and every clause they hand to `record` are
true under EVERY boolean assignment `α` that agrees with some ε-rational solution of the tableau.

Semantics (definitions in `Lemmas/LraExplDefs.lean`, restated by the `C09X_*_def` theorems below):
a valuation is a pair `σr σi : Nat → Rat`, the value of `x` being `Lra.nu σr σi x = σr x + σi x·ε`
in `QV = Lex (ℚ × ℚ)`; a bound `b : IR` is finite (`IR.Fin`, denoting `IR.val b`) or infinite.

Invariants (named predicates, each shown to be established by `lra_theory()` and kept by the
operations): `Lra.TabWF` (C09Bridge), `Lra.BoundsOK`, `Lra.BoundsLen`, `Lra.ValsOK`, `Lra.AsrtOK`,
`Lra.AWatchOK` (bundled with `TabWF` as `Lra.ExplInv`), and for `propagate` the registry facts
`AsrtKey` / `AsrtVars`.

Remarks on the shape of the statements:
  * `NonbasicInBounds` is NOT needed for the Farkas step.  `check` finds the row
    blocked by testing `value ≥ ub` / `value ≤ lb` on every variable of the row, and that is all
    the argument uses (`σ x ≤ ub x ≤ value x`); the values only have to solve the rows (`ValsOK`).
    So nothing about `pop` not restoring values has to be checked.
  * `BoundsJust` ranges over the EXISTING variables (`2x+1 < c_bounds.size()`): a missing
    entry reads as the bound `0` with reason TRUE, which is not a bound.  Accordingly the bound
    assertions need `xi` to exist: `C09X_assert_needs_existing_var` is the counterexample.
  * `new_var(lin)` does NOT keep `BoundsOK` in general: a zero coefficient times an
    infinite bound is `+∞` in `lb(lin)` (`C09X_new_var_lin_zero_coeff`).  It does when the rewritten
    expression has no zero coefficient (`C09X_new_var_lin_keeps_inv`).
  * the values passed to `assert_lower / assert_upper` must be finite and canonical (`IR.Fin val`):
    `IR.val` only denotes such values, so this is part of the meaning of the caller's obligation;
    `propagate` only passes such values (`AsrtOK`).
-/
import OratioProofs.Properties.C09
import OratioProofs.Properties.C09Bridge
import OratioProofs.Lemmas.LraExplExample
import OratioProofs.Lemmas.LraExplFarkas
import OratioProofs.Lemmas.LraGoodAssert
import OratioProofs.Lemmas.LraGoodNew
import OratioProofs.Lemmas.LraNewRel

namespace Oratio
open Lra

/-! ## the vocabulary, spelled out -/

/-- `σ` solves the tableau: `RowsHoldAt` for the rational parts, and the infinitesimal parts satisfy
    every row without its known term -/
theorem C09X_solves_def (t : Lra) (σr σi : Nat → Rat) :
    Lra.Solves t σr σi ↔
      Lra.RowsHoldAt t σr ∧ ∀ e ∈ t.tableau, σi e.1 = Lin.eval { e.2 with known := R.zero } σi := Iff.rfl

/-- comparison of a value with a bound: `-∞ ≤ v ≤ +∞`; finite bounds lexicographically -/
theorem C09X_ble_def (b : IR) (v : QV) :
    (Lra.BLe b v ↔ if b.rat.den = 0 then b.rat.num < 0 else IR.val b ≤ v) ∧
    (Lra.VLe v b ↔ if b.rat.den = 0 then 0 < b.rat.num else v ≤ IR.val b) := ⟨Iff.rfl, Iff.rfl⟩

/-- every bound whose reason is true under `α` holds of `σ` -/
theorem C09X_boundsJust_def (α : Asg) (σr σi : Nat → Rat) (t : Lra) :
    Lra.BoundsJust α σr σi t ↔
      ∀ x, ubIdx x < t.bounds.length →
        (α.lit (t.lbReason x) = true → Lra.BLe (t.lb x) (Lra.nu σr σi x)) ∧
        (α.lit (t.ubReason x) = true → Lra.VLe (Lra.nu σr σi x) (t.ub x)) := Iff.rfl

/-- the invariants on bounds and values (the tableau invariant is `Lra.TabWF`, C09Bridge) -/
theorem C09X_invariants_def (t : Lra) :
    (Lra.BoundsOK t ↔ ∀ x, (IR.Fin (t.lb x) ∨ (t.lb x).rat = R.ninf) ∧ (IR.Fin (t.ub x) ∨ (t.ub x).rat = R.pinf)) ∧
    (Lra.BoundsLen t ↔ t.bounds.length = 2 * t.vals.length) ∧
    (Lra.ValsOK t ↔ (∀ x, IR.Fin (t.value x)) ∧ Lra.Solves t t.ratAssign t.infAssign) :=
  ⟨Iff.rfl, Iff.rfl, Iff.rfl⟩

/-! ## 1. the conflict clause of `check()` -/

/-- `check()` keeps the invariants it needs (the bounds are untouched; `pivot_and_update` keeps the
    current assignment a finite solution of the tableau) -/
theorem C09X_check_keeps_inv (t t' : Lra) (fuel : Nat) (c : Option (List Lit)) (ht : Lra.TabWF t)
    (hb : Lra.BoundsOK t) (hl : Lra.BoundsLen t) (hv : Lra.ValsOK t) (h : t.check fuel = some (c, t')) :
    Lra.TabWF t' ∧ Lra.BoundsOK t' ∧ Lra.BoundsLen t' ∧ Lra.ValsOK t' ∧ t'.bounds = t.bounds ∧
    ∀ σr σi, Lra.Solves t σr σi ↔ Lra.Solves t' σr σi := by
  have hss := Lra.sameSol_check fuel t t' c ht h
  have hcore := (C09_core_iff t t').1 (C09_core_check fuel t t' c h)
  refine ⟨hss.1, Lra.boundsOK_congr hcore.1 hb, ?_, Lra.valsOK_check fuel t t' c ht hb hv h, hcore.1,
    fun σr σi => hss.solves σr σi⟩
  unfold Lra.BoundsLen
  rw [hcore.1, (Lra.check_writes h).kept.nvars]
  exact hl

/-- **The Farkas step.**  When `check()` returns a conflict clause `cl`, `cl` is true under every
    boolean assignment `α` for which some solution `σ` of the tableau satisfies all the bounds whose
    reasons `α` makes true.  (No hypothesis relates values and bounds: the values only have to
    solve the rows.) -/
theorem C09X_check_conflict_valid (t t' : Lra) (fuel : Nat) (cl : List Lit) (ht : Lra.TabWF t)
    (hb : Lra.BoundsOK t) (hl : Lra.BoundsLen t) (hv : Lra.ValsOK t)
    (h : t.check fuel = some (some cl, t'))
    (α : Asg) (σr σi : Nat → Rat) (hs : Lra.Solves t σr σi) (hj : Lra.BoundsJust α σr σi t) :
    α.clause cl = true := by
  exact Lra.check_conflict_valid ht hb hl hv h α σr σi hs hj

/-! ## 2. `assert_lower`, `assert_upper` -/

/-- the meaning of the assertion literals: a true literal is the assertion, a false one its
    ε-shifted negation (what `propagate` asserts for it) -/
theorem C09X_asrtAgrees_def (α : Asg) (σr σi : Nat → Rat) (t : Lra) :
    Lra.AsrtAgrees α σr σi t ↔
      ∀ e ∈ t.vAsrts,
        match e.2.o with
        | .leq => (α.lit e.2.b = true → Lra.nu σr σi e.2.x ≤ IR.val e.2.v) ∧
                  (α.lit e.2.b = false → IR.val e.2.v + QV.eps ≤ Lra.nu σr σi e.2.x)
        | .geq => (α.lit e.2.b = true → IR.val e.2.v ≤ Lra.nu σr σi e.2.x) ∧
                  (α.lit e.2.b = false → Lra.nu σr σi e.2.x ≤ IR.val e.2.v - QV.eps) := Iff.rfl

/-- `Lra.ExplInv`: the tableau invariant of C09Bridge, well-formed bounds (two per variable), finite
    assertion values, and `a_watches[x]` only holds assertions on `x` -/
theorem C09X_explInv_def (t : Lra) :
    Lra.ExplInv t ↔
      Lra.TabWF t ∧ Lra.BoundsOK t ∧ Lra.BoundsLen t ∧ (∀ e ∈ t.vAsrts, IR.Fin e.2.v) ∧
      (∀ x, ∀ b ∈ t.aWatches.getD x [], ∀ a, t.asrtOf b = some a → a.x = x) :=
  ⟨fun h => ⟨h.tab, h.bok, h.blen, h.aok, h.awatch⟩, fun ⟨h1, h2, h3, h4, h5⟩ => ⟨h1, h2, h3, h4, h5⟩⟩

/-- **`assert_lower`: conflict, recorded clauses, new state.**  `val` finite, `xi` an existing
    variable; `α`, `σ` with `σ` a solution of the tableau, the bounds justified, the assertion
    literals meaning what they say, and THE CALLER'S OBLIGATION: if `p` is true under `α` then
    `val ≤ σ(xi)`.  Then (a) a returned conflict clause is true under `α` — whether it is the
    immediate two-literal conflict, comes from unate propagation or from bound propagation through
    a row; (b) the SAT log only grows, by clauses true under `α`; (c) the bounds of the resulting
    state are justified (and `σ`, `α` still fit the resulting state, which keeps the invariant). -/
theorem C09X_assert_lower_valid (s : Sat) (t : Lra) (xi : Nat) (val : IR) (p : Lit) (inv : Lra.ExplInv t)
    (hval : IR.Fin val) (hxi : xi < t.vals.length) (α : Asg) (σr σi : Nat → Rat)
    (hs : Lra.Solves t σr σi) (hj : Lra.BoundsJust α σr σi t) (ha : Lra.AsrtAgrees α σr σi t)
    (hob : α.lit p = true → IR.val val ≤ Lra.nu σr σi xi) :
    let out := assertLower s t xi val p
    (∀ c, out.cnfl = some c → α.clause c = true) ∧
    (∃ new, out.sat.log = s.log ++ new ∧ ∀ c ∈ new, α.clause c = true) ∧
    Lra.BoundsJust α σr σi out.th ∧ Lra.Solves out.th σr σi ∧ Lra.AsrtAgrees α σr σi out.th ∧
    Lra.ExplInv out.th := by
  obtain ⟨h1, h2, h3, h4, h5⟩ := Lra.assertLower_valid inv s p hval (inv.blen.ubIdx_lt hxi) hs hj ha hob
  exact ⟨h1.1, h1.2, h2, h3, h4, h5⟩

/-- **`assert_upper`**: the mirror image; the caller's obligation is `σ(xi) ≤ val` when `p` is true.
    Holds for the model as written, including the `row::propagate_ub` test of `lb(v)` instead of
    `lb(c_v)` (an infinite term then makes the computed bound `+∞`, which decides no assertion). -/
theorem C09X_assert_upper_valid (s : Sat) (t : Lra) (xi : Nat) (val : IR) (p : Lit) (inv : Lra.ExplInv t)
    (hval : IR.Fin val) (hxi : xi < t.vals.length) (α : Asg) (σr σi : Nat → Rat)
    (hs : Lra.Solves t σr σi) (hj : Lra.BoundsJust α σr σi t) (ha : Lra.AsrtAgrees α σr σi t)
    (hob : α.lit p = true → Lra.nu σr σi xi ≤ IR.val val) :
    let out := assertUpper s t xi val p
    (∀ c, out.cnfl = some c → α.clause c = true) ∧
    (∃ new, out.sat.log = s.log ++ new ∧ ∀ c ∈ new, α.clause c = true) ∧
    Lra.BoundsJust α σr σi out.th ∧ Lra.Solves out.th σr σi ∧ Lra.AsrtAgrees α σr σi out.th ∧
    Lra.ExplInv out.th := by
  obtain ⟨h1, h2, h3, h4, h5⟩ := Lra.assertUpper_valid inv s p hval (inv.blen.ubIdx_lt hxi) hs hj ha hob
  exact ⟨h1.1, h1.2, h2, h3, h4, h5⟩

/-- (a) alone, for both: a conflict clause of a bound assertion is true under `α` -/
theorem C09X_assert_conflict_valid (s : Sat) (t : Lra) (xi : Nat) (val : IR) (p : Lit) (inv : Lra.ExplInv t)
    (hval : IR.Fin val) (hxi : xi < t.vals.length) (α : Asg) (σr σi : Nat → Rat)
    (hs : Lra.Solves t σr σi) (hj : Lra.BoundsJust α σr σi t) (ha : Lra.AsrtAgrees α σr σi t) :
    ((α.lit p = true → IR.val val ≤ Lra.nu σr σi xi) →
      ∀ c, (assertLower s t xi val p).cnfl = some c → α.clause c = true) ∧
    ((α.lit p = true → Lra.nu σr σi xi ≤ IR.val val) →
      ∀ c, (assertUpper s t xi val p).cnfl = some c → α.clause c = true) := by
  exact ⟨fun hob => (C09X_assert_lower_valid s t xi val p inv hval hxi α σr σi hs hj ha hob).1,
    fun hob => (C09X_assert_upper_valid s t xi val p inv hval hxi α σr σi hs hj ha hob).1⟩

/-- (b) alone, for both: every clause handed to `record` is true under `α` -/
theorem C09X_assert_records_valid (s : Sat) (t : Lra) (xi : Nat) (val : IR) (p : Lit) (inv : Lra.ExplInv t)
    (hval : IR.Fin val) (hxi : xi < t.vals.length) (α : Asg) (σr σi : Nat → Rat)
    (hs : Lra.Solves t σr σi) (hj : Lra.BoundsJust α σr σi t) (ha : Lra.AsrtAgrees α σr σi t) :
    ((α.lit p = true → IR.val val ≤ Lra.nu σr σi xi) →
      ∃ new, (assertLower s t xi val p).sat.log = s.log ++ new ∧ ∀ c ∈ new, α.clause c = true) ∧
    ((α.lit p = true → Lra.nu σr σi xi ≤ IR.val val) →
      ∃ new, (assertUpper s t xi val p).sat.log = s.log ++ new ∧ ∀ c ∈ new, α.clause c = true) := by
  exact ⟨fun hob => (C09X_assert_lower_valid s t xi val p inv hval hxi α σr σi hs hj ha hob).2.1,
    fun hob => (C09X_assert_upper_valid s t xi val p inv hval hxi α σr σi hs hj ha hob).2.1⟩

/-- the bound assertions keep the invariants, semantic hypotheses or not (`update` keeps the current
    assignment a finite solution of the tableau) -/
theorem C09X_assert_keeps_inv (s : Sat) (t : Lra) (xi : Nat) (val : IR) (p : Lit) (inv : Lra.ExplInv t)
    (hv : Lra.ValsOK t) (hval : IR.Fin val) (hxi : xi < t.vals.length) :
    Lra.ExplInv (assertLower s t xi val p).th ∧ Lra.ValsOK (assertLower s t xi val p).th ∧
    Lra.ExplInv (assertUpper s t xi val p).th ∧ Lra.ValsOK (assertUpper s t xi val p).th := by
  rw [Lra.assertLower_eq, Lra.assertUpper_eq]
  exact ⟨Lra.explInv_assertS .lo inv s xi hval p, Lra.valsOK_assertS .lo inv.tab hv s hxi hval p,
    Lra.explInv_assertS .hi inv s xi hval p, Lra.valsOK_assertS .hi inv.tab hv s hxi hval p⟩

/-! ## 3. `propagate(lit)` -/

/-- **`propagate(p)`** for a literal `p` that is true in the SAT core and under `α`: the registry maps
    the variable of `p` to an assertion controlled by its positive literal (`AsrtKey`, what
    `new_lt … new_gt` build) on an existing variable (`AsrtVars`); the caller's obligation of the
    bound assertion is then discharged by `AsrtAgrees`, so the conflict clause and the recorded
    clauses are true under `α` and the resulting bounds are justified. -/
theorem C09X_propagate_valid (s : Sat) (t : Lra) (p : Lit) (inv : Lra.ExplInv t)
    (hkey : ∀ e ∈ t.vAsrts, e.2.b = ⟨e.1, true⟩) (hvars : ∀ e ∈ t.vAsrts, e.2.x < t.vals.length)
    (hsp : s.value p = some true) (α : Asg) (σr σi : Nat → Rat)
    (hs : Lra.Solves t σr σi) (hj : Lra.BoundsJust α σr σi t) (ha : Lra.AsrtAgrees α σr σi t)
    (hαp : α.lit p = true) :
    let out := propagateLit s t p
    (∀ c, out.cnfl = some c → α.clause c = true) ∧
    (∃ new, out.sat.log = s.log ++ new ∧ ∀ c ∈ new, α.clause c = true) ∧
    Lra.BoundsJust α σr σi out.th ∧ Lra.Solves out.th σr σi ∧ Lra.AsrtAgrees α σr σi out.th ∧
    Lra.ExplInv out.th := by
  obtain ⟨h1, h2, h3, h4, h5⟩ := Lra.propagateLit_valid inv hkey hvars s p hsp hs hj ha
  exact ⟨h1.1, h1.2, h2, h3, h4, h5⟩

/-- `propagate` keeps the invariants and the registry -/
theorem C09X_propagate_keeps_inv (s : Sat) (t : Lra) (p : Lit) (inv : Lra.ExplInv t) (hv : Lra.ValsOK t)
    (hvars : ∀ e ∈ t.vAsrts, e.2.x < t.vals.length) :
    Lra.ExplInv (propagateLit s t p).th ∧ Lra.ValsOK (propagateLit s t p).th ∧
    (propagateLit s t p).th.vAsrts = t.vAsrts ∧ (propagateLit s t p).th.vals.length = t.vals.length := by
  exact ⟨Lra.explInv_propagateLit inv s p, Lra.valsOK_propagateLit inv.tab hv inv.aok hvars s p,
    (Lra.propagateLit_writes s t p).kept.vAsrts, (Lra.propagateLit_writes s t p).kept.nvars⟩

/-- **The literal-level fact.**  If the reason of every bound is true in the SAT core
    (`ReasonsTrue s t`) and so is the literal being asserted, then the SAT core only gains values,
    every literal of a returned conflict clause is false in it, and `ReasonsTrue` holds of the
    resulting pair of states.  For `assert_lower`, `assert_upper` and `propagate`, on ANY theory
    state. -/
theorem C09X_conflict_lits_false (s : Sat) (t : Lra) (xi : Nat) (val : IR) (p : Lit)
    (hr : ∀ x, s.value (t.lbReason x) = some true ∧ s.value (t.ubReason x) = some true)
    (hp : s.value p = some true) :
    (∀ out, out = assertLower s t xi val p ∨ out = assertUpper s t xi val p ∨ out = propagateLit s t p →
      Dl.SatLe s out.sat ∧ (∀ c, out.cnfl = some c → ∀ l ∈ c, out.sat.value l = some false) ∧
      Lra.ReasonsTrue out.sat out.th) := by
  intro out ho
  rw [Lra.assertLower_eq, Lra.assertUpper_eq] at ho
  rcases ho with rfl | rfl | rfl
  · obtain ⟨h1, h2⟩ := Lra.assertS_F .lo hr xi val hp
    exact ⟨h1.1, h1.2, h2⟩
  · obtain ⟨h1, h2⟩ := Lra.assertS_F .hi hr xi val hp
    exact ⟨h1.1, h1.2, h2⟩
  · obtain ⟨h1, h2⟩ := Lra.propagateLit_F hr hp
    exact ⟨h1.1, h1.2, h2⟩

/-! ## 4. backtracking -/

/-- `pop` after `push` and any sequence of saved bound overwrites restores the bounds
    (`C09_pop_restores_bounds`), hence `BoundsJust` for the same `α`, `σ` -/
theorem C09X_pop_boundsjust (t : Lra) (ws : List (Nat × LBound)) (hw : ∀ w ∈ ws, w.1 < t.bounds.length)
    (α : Asg) (σr σi : Nat → Rat) (hj : Lra.BoundsJust α σr σi t) :
    Lra.BoundsJust α σr σi (((t.push).overwrite ws).pop) := by
  exact Lra.boundsJust_congr (C09_pop_restores_bounds t ws hw).1 hj

/-- the same along an actual run: `C09PopInv B cur` ("`cur` was reached from `B.push` by saved
    overwrites", Lemmas/LraUndoLog.lean) holds after `push` and is kept by `assert_lower`, `assert_upper`,
    `propagate` (on existing variables) and `check` -/
theorem C09X_popinv_kept (B t : Lra) (s : Sat) (xi : Nat) (val : IR) (p : Lit) :
    Lra.C09PopInv B B.push ∧
    (Lra.C09PopInv B t → ubIdx xi < B.bounds.length →
      Lra.C09PopInv B (assertLower s t xi val p).th ∧ Lra.C09PopInv B (assertUpper s t xi val p).th) ∧
    (Lra.C09PopInv B t → (∀ e ∈ t.vAsrts, ubIdx e.2.x < B.bounds.length) →
      Lra.C09PopInv B (propagateLit s t p).th) ∧
    (∀ fuel c t', Lra.C09PopInv B t → t.check fuel = some (c, t') → Lra.C09PopInv B t') := by
  rw [Lra.assertLower_eq, Lra.assertUpper_eq]
  exact ⟨Lra.C09_popInv_push B,
    fun h hx => ⟨Lra.popInv_assertS .lo h s hx val p, Lra.popInv_assertS .hi h s hx val p⟩,
    fun h hr => Lra.popInv_propagateLit h hr s p,
    fun fuel c t' h hc => Lra.popInv_check h hc⟩

/-- and then `pop` gives back the bounds of `B`: `BoundsJust` for the same `α`, `σ`; `ReasonsTrue` for
    every SAT state that kept the values it had at the `push`; the invariants (the values are NOT
    restored, and need not be: they still solve the tableau, which is all `ValsOK` asks) -/
theorem C09X_pop_restores (B cur : Lra) (h : Lra.C09PopInv B cur) :
    cur.pop.bounds = B.bounds ∧
    (∀ (α : Asg) (σr σi : Nat → Rat), Lra.BoundsJust α σr σi B → Lra.BoundsJust α σr σi cur.pop) ∧
    (∀ sB s', Lra.ReasonsTrue sB B → Dl.SatLe sB s' → Lra.ReasonsTrue s' cur.pop) ∧
    (Lra.BoundsOK B → Lra.ExplInv cur → Lra.ExplInv cur.pop) ∧ (Lra.ValsOK cur → Lra.ValsOK cur.pop) := by
  exact Lra.pop_restores h

/-! ## the invariants are established and kept -/

theorem C09X_init_inv : Lra.ExplInv Lra.init ∧ Lra.ValsOK Lra.init := Lra.init_inv

theorem C09X_new_var_keeps_inv (t : Lra) (inv : Lra.ExplInv t) (hv : Lra.ValsOK t) :
    Lra.ExplInv t.newVar.2 ∧ Lra.ValsOK t.newVar.2 := ⟨Lra.explInv_newVar inv, Lra.valsOK_newVar hv⟩

theorem C09X_push_keeps_inv (t : Lra) (inv : Lra.ExplInv t) (hv : Lra.ValsOK t) :
    Lra.ExplInv t.push ∧ Lra.ValsOK t.push := ⟨Lra.explInv_push inv, Lra.valsOK_push hv⟩

theorem C09X_check_keeps_explinv (t t' : Lra) (fuel : Nat) (c : Option (List Lit)) (inv : Lra.ExplInv t)
    (h : t.check fuel = some (c, t')) : Lra.ExplInv t' := Lra.explInv_check inv h

/-- `new_var(lin)` on a canonical expression over existing variables keeps `ValsOK`: the value given
    to the new slack variable (`value(lin)`) is exact -/
theorem C09X_new_var_lin_keeps_valsok (s : Sat) (t : Lra) (ht : Lra.TabWF t) (hv : Lra.ValsOK t) (l : Lin)
    (hl : l.WF) (hlv : ∀ p ∈ l.vars, p.1 < t.vals.length) (slack : Nat) (t1 : Lra)
    (h : Lra.newVarLin s t l = some (slack, t1)) : Lra.ValsOK t1 := by
  rcases (newVarLin_nf h).2.found_or_created with ⟨-, ex, rfl, -⟩ | ⟨-, rfl⟩
  · exact valsOK_congr rfl rfl hv
  · exact (valsOK_iff _).2 (((valsOK_iff _).1 hv).withSlack ht (substBasic_holds ht.rows hl).1
      (substBasic_vars_lt ht hl hlv) _)

/-- counterexample to "`new_var(lin)` keeps `BoundsOK`": `new_var(0·x0)` on the state with the single
    unbounded variable `x0` (all invariants hold, the expression is canonical) gives the slack
    variable `x1` the LOWER bound `+∞`, because `lb(lin)` multiplies `ub(x0) = +∞` by `0` -/
theorem C09X_new_var_lin_zero_coeff :
    Lra.ExplInv Lra.init.newVar.2 ∧ (⟨[(0, ⟨0, 1⟩)], ⟨0, 1⟩⟩ : Lin).WF ∧
    (Lra.newVarLin Sat.init Lra.init.newVar.2 ⟨[(0, ⟨0, 1⟩)], ⟨0, 1⟩⟩).map (fun r => r.2.lb 1) =
      some ⟨R.pinf, R.zero⟩ ∧ ¬ Lra.LbOk ⟨R.pinf, R.zero⟩ := by
  refine ⟨Lra.explInv_newVar C09X_init_inv.1, ?_, by decide +kernel, by decide⟩
  refine ⟨trivial, ?_, by decide, by decide⟩
  intro t ht; simp at ht; subst ht; decide

-- The hypothesis `hnz` (the rewritten expression has no zero coefficient) is needed, see
-- `C09X_new_var_lin_zero_coeff`.
/-- `new_var(lin)` keeps the invariants when the rewritten expression has no zero coefficient -/
theorem C09X_new_var_lin_keeps_inv (s : Sat) (t : Lra) (inv : Lra.ExplInv t) (l : Lin) (hl : l.WF)
    (hlv : ∀ p ∈ l.vars, p.1 < t.vals.length) (hnz : ∀ p ∈ (Lra.substBasic t l).vars, p.2.num ≠ 0)
    (slack : Nat) (t1 : Lra) (h : Lra.newVarLin s t l = some (slack, t1)) : Lra.ExplInv t1 := by
  have htab := tabWF_newVarLin inv.tab hl hlv h
  rcases (newVarLin_nf h).2.found_or_created with ⟨_, ex, rfl, _⟩ | ⟨_, rfl⟩
  · exact inv.congr htab inv.bok inv.blen rfl (fun _ => rfl)
  · have hb := withSlack_bounds inv.blen (substBasic_vars_lt inv.tab hl hlv) (slackExprs t l)
    obtain ⟨b1, b2⟩ := lbLin_ubLin_sok inv.bok (substBasic_holds inv.tab.rows hl).1 hnz
    refine inv.congr htab (boundsOK_extend inv.blen hb b1 b2 inv.bok) ?_ (withSlack_vAsrts ..)
      (fun x => by rw [withSlack_aWatches, ListAux.getD_append_default])
    have := inv.blen; unfold BoundsLen at this ⊢
    rw [withSlack_bounds_length, withSlack_vals_length, this]; omega

/-- counterexample to the bound-assertion theorems without "`xi` exists": on the empty theory
    `assert_lower(x0, 1, p)` reads the missing upper bound of `x0` as `0` with reason TRUE and returns
    `[¬p, ¬TRUE]`, which is false under `α = {p}` although every hypothesis on `α`, `σ` holds (there is
    no bound to justify, no row, no assertion; `σ x0 = 1` meets the caller's obligation) -/
theorem C09X_assert_needs_existing_var :
    (assertLower Sat.init Lra.init 0 (IR.ofR R.one) ⟨1, true⟩).cnfl = some [⟨1, false⟩, ⟨0, true⟩] ∧
    Asg.clause (fun v => v == 1) [⟨1, false⟩, ⟨0, true⟩] = false ∧
    Lra.Solves Lra.init (fun _ => 1) (fun _ => 0) ∧ Lra.BoundsJust (fun v => v == 1) (fun _ => 1) (fun _ => 0) Lra.init ∧
    Lra.AsrtAgrees (fun v => v == 1) (fun _ => 1) (fun _ => 0) Lra.init ∧
    IR.val (IR.ofR R.one) ≤ Lra.nu (fun _ => 1) (fun _ => 0) 0 := by
  refine ⟨by decide, by decide, ⟨fun e he => (by cases he), fun e he => (by cases he)⟩, ?_, fun e he => (by cases he), ?_⟩
  · intro x hx
    exact absurd hx (by simp [Lra.init])
  · rw [(IR.fin_ofR R.finWF_one).2, R.toRat_one]
    exact le_refl _

/-! ## 5. real solutions embed -/

/-- `α` agrees with the REAL valuation `ρ` in the ordinary sense: a true literal means the constraint
    holds at `ρ`, a false one that it does not (the ε part of the bound being a strictness flag) -/
theorem C09X_realAgrees_def (α : Asg) (ρ : Nat → Rat) (t : Lra) :
    Lra.RealAgrees α ρ t ↔
      ∀ e ∈ t.vAsrts,
        match e.2.o with
        | .leq => (α.lit e.2.b = true → (toLex (ρ e.2.x, 0) : QV) ≤ IR.val e.2.v) ∧
                  (α.lit e.2.b = false → ¬ (toLex (ρ e.2.x, 0) : QV) ≤ IR.val e.2.v)
        | .geq => (α.lit e.2.b = true → IR.val e.2.v ≤ (toLex (ρ e.2.x, 0) : QV)) ∧
                  (α.lit e.2.b = false → ¬ IR.val e.2.v ≤ (toLex (ρ e.2.x, 0) : QV)) := Iff.rfl

/-- the reading on the shapes `new_leq / new_lt / new_geq / new_gt` build (`r`, `r - ε`, `r`, `r + ε`):
    `x ≤ r`, `x < r`, `x ≥ r`, `x > r` -/
theorem C09X_real_shapes (q r : ℚ) :
    ((toLex (q, 0) : QV) ≤ toLex (r, 0) ↔ q ≤ r) ∧ ((toLex (q, 0) : QV) ≤ toLex (r, -1) ↔ q < r) ∧
    ((toLex (r, 0) : QV) ≤ toLex (q, 0) ↔ r ≤ q) ∧ ((toLex (r, 1) : QV) ≤ toLex (q, 0) ↔ r < q) := by
  have h0 : ∀ a b : ℚ, (toLex (a, 0) : QV) ≤ toLex (b, 0) ↔ a ≤ b := fun a b => by
    rw [QV.le_iff]
    exact ⟨fun h => h.elim le_of_lt fun h => le_of_eq h.1, fun h => (lt_or_eq_of_le h).imp id fun e => ⟨e, le_refl _⟩⟩
  refine ⟨h0 q r, ?_, h0 r q, ?_⟩
  · rw [QV.le_iff]
    exact ⟨fun h => h.elim id fun h => absurd h.2 (by norm_num), Or.inl⟩
  · rw [QV.le_iff]
    exact ⟨fun h => h.elim id fun h => absurd h.2 (by norm_num), Or.inl⟩

/-- **Real solutions embed.**  If `ρ` satisfies the rows and `α` agrees with `ρ` in the ordinary sense,
    and the ε part of every assertion value is an integer (it is `0`, `-1` or `+1` for the assertions
    `new_lt … new_gt` build), then `σ := (ρ, 0)` solves the tableau and satisfies `AsrtAgrees` in the
    ε-shifted sense. -/
theorem C09X_real_solutions (t : Lra) (α : Asg) (ρ : Nat → Rat) (hrows : Lra.RowsHoldAt t ρ)
    (hint : ∀ e ∈ t.vAsrts, ∃ k : ℤ, e.2.v.inf.toRat = (k : ℚ)) (hag : Lra.RealAgrees α ρ t) :
    Lra.Solves t ρ (fun _ => 0) ∧ Lra.AsrtAgrees α ρ (fun _ => 0) t := by
  refine ⟨Lra.real_solves hrows, fun e he => ?_⟩
  obtain ⟨k, hk⟩ := hint e he
  have hr := hag e he
  -- over `(ρ, 0)`, not `≤ v` is `≥ v + ε` (and dually) because the ε part of `v` is an integer
  rw [show Lra.nu ρ (fun _ => 0) e.2.x = toLex (ρ e.2.x, 0) from rfl]
  cases ho : e.2.o
  · simp only [ho] at hr ⊢
    refine ⟨hr.1, fun hf => ?_⟩
    have h1 := hr.2 hf
    rw [DlR.QV.int_step _ _ (-k) (by show (0 : ℚ) - e.2.v.inf.toRat = _; rw [hk]; push_cast; ring)] at h1
    exact not_lt.1 h1
  · simp only [ho] at hr ⊢
    refine ⟨hr.1, fun hf => ?_⟩
    have h1 := hr.2 hf
    rw [DlR.QV.int_step _ _ k (by show e.2.v.inf.toRat - (0 : ℚ) = _; rw [hk]; ring)] at h1
    exact le_sub_iff_add_le.2 (not_lt.1 h1)

/-- hence a conflict clause of `check` is true under every `α` whose true bound reasons hold of a real
    solution, and the conflict / recorded clauses of `propagate` under every `α` that moreover agrees
    with it on the assertion literals -/
theorem C09X_real_check_conflict (t t' : Lra) (fuel : Nat) (cl : List Lit) (ht : Lra.TabWF t)
    (hb : Lra.BoundsOK t) (hl : Lra.BoundsLen t) (hv : Lra.ValsOK t) (h : t.check fuel = some (some cl, t'))
    (α : Asg) (ρ : Nat → Rat) (hrows : Lra.RowsHoldAt t ρ) (hj : Lra.BoundsJust α ρ (fun _ => 0) t) :
    α.clause cl = true := by
  exact Lra.check_conflict_valid ht hb hl hv h α ρ _ (Lra.real_solves hrows) hj

theorem C09X_real_propagate (s : Sat) (t : Lra) (p : Lit) (inv : Lra.ExplInv t)
    (hkey : ∀ e ∈ t.vAsrts, e.2.b = ⟨e.1, true⟩) (hvars : ∀ e ∈ t.vAsrts, e.2.x < t.vals.length)
    (hsp : s.value p = some true) (α : Asg) (ρ : Nat → Rat) (hrows : Lra.RowsHoldAt t ρ)
    (hint : ∀ e ∈ t.vAsrts, ∃ k : ℤ, e.2.v.inf.toRat = (k : ℚ)) (hag : Lra.RealAgrees α ρ t)
    (hj : Lra.BoundsJust α ρ (fun _ => 0) t) (hαp : α.lit p = true) :
    (∀ c, (propagateLit s t p).cnfl = some c → α.clause c = true) ∧
    (∃ new, (propagateLit s t p).sat.log = s.log ++ new ∧ ∀ c ∈ new, α.clause c = true) ∧
    Lra.BoundsJust α ρ (fun _ => 0) (propagateLit s t p).th := by
  obtain ⟨hs, ha⟩ := C09X_real_solutions t α ρ hrows hint hag
  obtain ⟨h1, h2, h3, _⟩ := C09X_propagate_valid s t p inv hkey hvars hsp α ρ _ hs hj ha hαp
  exact ⟨h1, h2, h3⟩

/-! ## non-vacuity

`exBase` is `x2 = x0 + x1`, `x3 = x0 - x1` (what `new_var()` twice and `new_var(lin)` twice build);
`exC` is reached from it by the model's `assert_upper(x0, 0, p1)`, `assert_lower(x2, 1, p2)`,
`assert_lower(x3, 0, p3)`.  -/

/-- `check` on the 2-row tableau: it pivots (`x1` enters for `x2`), then finds the row
    `x3 = 2·x0 - x2` blocked and returns `[¬p1, ¬p2, ¬p3]`, computed by the model.  All hypotheses of
    `C09X_check_conflict_valid` hold; so the clause is a theory lemma; and the semantic hypotheses
    are satisfiable: `exSig` (`x0 = x1 = 1`, `x2 = 2`, `x3 = 0`) solves the tableau and satisfies
    the bounds whose reasons `exAlpha` (`p1` false, `p2`, `p3` true) makes true. -/
example : Lra.TabWF exC ∧ Lra.BoundsOK exC ∧ Lra.BoundsLen exC ∧ Lra.ValsOK exC ∧
    (∃ t', exC.check 5 = some (some [⟨1, false⟩, ⟨2, false⟩, ⟨3, false⟩], t') ∧ t'.tableau.map (·.1) = [1, 3]) ∧
    (∀ (α : Asg) (σr σi : Nat → Rat), Lra.Solves exC σr σi → Lra.BoundsJust α σr σi exC →
      α.clause [⟨1, false⟩, ⟨2, false⟩, ⟨3, false⟩] = true) ∧
    Lra.Solves exC exSig (fun _ => 0) ∧ Lra.BoundsJust exAlpha exSig (fun _ => 0) exC ∧
    exAlpha.lit ⟨1, true⟩ = false ∧ exAlpha.lit ⟨2, true⟩ = true ∧ exAlpha.lit ⟨3, true⟩ = true :=
  ⟨exC_inv.tab, exC_inv.bok, exC_inv.blen, exC_valsOK, ⟨_, exC_check, exC_check_pivots⟩,
    fun α σr σi hs hj =>
      C09X_check_conflict_valid exC _ 5 _ exC_inv.tab exC_inv.bok exC_inv.blen exC_valsOK exC_check α σr σi hs hj,
    exC_solves, exC_just, by decide, by decide, by decide⟩

/-- row propagation, recorded clause: `exR0` is `x2 = x0 + x1` with the assertion `b1 : x2 ≤ 4`
    (what `new_leq` builds); after `assert_lower(x0, 3, p2)` the model's `assert_lower(x1, 2, p3)`
    derives `x2 ≥ 5` through the row and records `[¬b1, ¬p2, ¬p3]`.  The hypotheses of
    `C09X_assert_lower_valid` hold for the state `exO1.th`, with `exAlpha2` (`b1`, `p2` true, `p3` false)
    and `exSig2` (`x0 = 3`, `x1 = 0`, `x2 = 3`), so the recorded clause is true under it. -/
example : Lra.ExplInv exO1.th ∧
    (assertLower exO1.sat exO1.th 1 (IR.ofR ⟨2, 1⟩) ⟨3, true⟩).cnfl = none ∧
    (assertLower exO1.sat exO1.th 1 (IR.ofR ⟨2, 1⟩) ⟨3, true⟩).sat.log =
      exO1.sat.log ++ [[⟨1, false⟩, ⟨2, false⟩, ⟨3, false⟩]] ∧
    Lra.Solves exO1.th exSig2 (fun _ => 0) ∧ Lra.BoundsJust exAlpha2 exSig2 (fun _ => 0) exO1.th ∧
    Lra.AsrtAgrees exAlpha2 exSig2 (fun _ => 0) exO1.th ∧
    (∃ new, (assertLower exO1.sat exO1.th 1 (IR.ofR ⟨2, 1⟩) ⟨3, true⟩).sat.log = exO1.sat.log ++ new ∧
      ∀ c ∈ new, exAlpha2.clause c = true) :=
  ⟨exO1_inv, exO2_log.1, exO2_log.2, exO1_hyps.1, exO1_hyps.2.1, exO1_hyps.2.2.1,
    (C09X_assert_lower_valid exO1.sat exO1.th 1 _ ⟨3, true⟩ exO1_inv (IR.fin_ofR (by decide)).1 (by decide)
      exAlpha2 exSig2 _ exO1_hyps.1 exO1_hyps.2.1 exO1_hyps.2.2.1 exO1_hyps.2.2.2).2.1⟩

/-- row propagation, conflict: the same with `b1` already true in the SAT core: the model returns the
    conflict `[¬b1, ¬p2, ¬p3]`, which `C09X_assert_lower_valid` makes a theory lemma -/
example : Lra.ExplInv exO1'.th ∧
    (assertLower exO1'.sat exO1'.th 1 (IR.ofR ⟨2, 1⟩) ⟨3, true⟩).cnfl = some [⟨1, false⟩, ⟨2, false⟩, ⟨3, false⟩] ∧
    (∀ (α : Asg) (σr σi : Nat → Rat), Lra.Solves exO1'.th σr σi → Lra.BoundsJust α σr σi exO1'.th →
      Lra.AsrtAgrees α σr σi exO1'.th → (α.lit ⟨3, true⟩ = true → IR.val (IR.ofR ⟨2, 1⟩) ≤ Lra.nu σr σi 1) →
      α.clause [⟨1, false⟩, ⟨2, false⟩, ⟨3, false⟩] = true) :=
  ⟨exO1'_inv, exO2'_cnfl, fun α σr σi hs hj ha hob =>
    (C09X_assert_lower_valid exO1'.sat exO1'.th 1 _ ⟨3, true⟩ exO1'_inv (IR.fin_ofR (by decide)).1 (by decide)
      α σr σi hs hj ha hob).1 _ exO2'_cnfl⟩

/-- `propagate`: with `x2 ≥ 5` (reason `p2`) in place and `b1`, `p2` true in the SAT core, the model's
    `propagate(b1)` returns `[¬b1, ¬p2]`: a theory lemma (`C09X_propagate_valid`) all of whose
    literals are false in the SAT core (`C09X_conflict_lits_false`) -/
example : Lra.ExplInv exQ0 ∧ Lra.ReasonsTrue exQs exQ0 ∧ exQs.value ⟨1, true⟩ = some true ∧
    (propagateLit exQs exQ0 ⟨1, true⟩).cnfl = some [⟨1, false⟩, ⟨2, false⟩] ∧
    (∀ l ∈ [(⟨1, false⟩ : Lit), ⟨2, false⟩], (propagateLit exQs exQ0 ⟨1, true⟩).sat.value l = some false) ∧
    (∀ (α : Asg) (σr σi : Nat → Rat), Lra.Solves exQ0 σr σi → Lra.BoundsJust α σr σi exQ0 →
      Lra.AsrtAgrees α σr σi exQ0 → α.lit ⟨1, true⟩ = true → α.clause [⟨1, false⟩, ⟨2, false⟩] = true) :=
  ⟨exQ0_inv, exQ_reasons, by decide, exQ_cnfl,
    ((C09X_conflict_lits_false exQs exQ0 0 (IR.ofR R.zero) ⟨1, true⟩ exQ_reasons (by decide)) _
      (Or.inr (Or.inr rfl))).2.1 _ exQ_cnfl,
    fun α σr σi hs hj ha hp =>
      (C09X_propagate_valid exQs exQ0 ⟨1, true⟩ exQ0_inv exQ0_key exQ0_vars (by decide) α σr σi hs hj ha hp).1 _
        exQ_cnfl⟩

/-- backtracking: `push`, the three bound assertions of the `check` example, `pop`: the bounds of
    `exBase` are back, so a valuation justified there is justified again -/
example : Lra.C09PopInv exBase
      (assertLower Sat.init (assertLower Sat.init (assertUpper Sat.init exBase.push 0 (IR.ofR R.zero) ⟨1, true⟩).th
        2 (IR.ofR R.one) ⟨2, true⟩).th 3 (IR.ofR R.zero) ⟨3, true⟩).th ∧
    (assertLower Sat.init (assertLower Sat.init (assertUpper Sat.init exBase.push 0 (IR.ofR R.zero) ⟨1, true⟩).th
        2 (IR.ofR R.one) ⟨2, true⟩).th 3 (IR.ofR R.zero) ⟨3, true⟩).th.pop.bounds = exBase.bounds :=
  have h0 := (C09X_popinv_kept exBase exBase.push Sat.init 0 (IR.ofR R.zero) ⟨1, true⟩).1
  have h1 := ((C09X_popinv_kept exBase exBase.push Sat.init 0 (IR.ofR R.zero) ⟨1, true⟩).2.1 h0 (by decide)).2
  have h2 := ((C09X_popinv_kept exBase _ Sat.init 2 (IR.ofR R.one) ⟨2, true⟩).2.1 h1 (by decide)).1
  have h3 := ((C09X_popinv_kept exBase _ Sat.init 3 (IR.ofR R.zero) ⟨3, true⟩).2.1 h2 (by decide)).1
  ⟨h3, (C09X_pop_restores exBase _ h3).1⟩

/-- real solutions: on `exR0` (`b1 : x2 ≤ 4`, ε part `0`) the real point `x0 = 3, x1 = 0, x2 = 3` with
    `b1` true agrees in the ordinary sense, and embeds -/
example : Lra.RowsHoldAt exR0 exSig2 ∧ Lra.RealAgrees exAlpha2 exSig2 exR0 ∧
    Lra.AsrtAgrees exAlpha2 exSig2 (fun _ => 0) exR0 := by
  have h1 : Lra.RowsHoldAt exR0 exSig2 := by
    unfold Lra.RowsHoldAt
    decide +kernel
  have h2 : Lra.RealAgrees exAlpha2 exSig2 exR0 := by
    intro e he
    simp only [exR0, List.mem_cons, List.not_mem_nil, or_false] at he
    subst he
    simp only
    refine ⟨fun _ => ?_, fun h => absurd h (by decide)⟩
    rw [(IR.fin_ofR (k := ⟨4, 1⟩) (by decide)).2]
    show (toLex (3, 0) : QV) ≤ toLex ((⟨4, 1⟩ : R).toRat, 0)
    rw [QV.le_iff]; left; norm_num [R.toRat]
  refine ⟨h1, h2, (C09X_real_solutions exR0 exAlpha2 exSig2 h1 ?_ h2).2⟩
  intro e he
  simp only [exR0, List.mem_cons, List.not_mem_nil, or_false] at he
  subst he
  exact ⟨0, by norm_num [IR.ofR, R.toRat, R.zero]⟩

/-- the base states are what the model's constructors build: `new_var()` twice, then
    `new_var(x0 + x1)`, `new_var(x0 - x1)` (the fields the theorems read) -/
def c09xBuilt : Option (Nat × Lra) :=
  (newVarLin Sat.init (Lra.init.newVar.2).newVar.2 ⟨[(0, ⟨1, 1⟩), (1, ⟨1, 1⟩)], ⟨0, 1⟩⟩).bind
    (fun r => newVarLin Sat.init r.2 ⟨[(0, ⟨1, 1⟩), (1, ⟨-1, 1⟩)], ⟨0, 1⟩⟩)

example : c09xBuilt.map (fun r => (r.2.bounds, r.2.vals)) = some (exBase.bounds, exBase.vals) ∧
    c09xBuilt.map (fun r => (r.2.tableau, r.2.tWatches)) = some (exBase.tableau, exBase.tWatches) ∧
    c09xBuilt.map (fun r => (r.2.aWatches, r.2.vAsrts)) = some (exBase.aWatches, exBase.vAsrts) := by
  refine ⟨by decide +kernel, by decide +kernel, by decide +kernel⟩

/-- … and `new_leq(x0 + x1, 4)` after `new_var()` twice -/
def c09xBuiltRel : Option (Lit × Sat × Lra × Option Nat) :=
  newRel Sat.init (Lra.init.newVar.2).newVar.2 .leq ⟨[(0, ⟨1, 1⟩), (1, ⟨1, 1⟩)], ⟨0, 1⟩⟩ ⟨[], ⟨4, 1⟩⟩

example : c09xBuiltRel.map (fun r => (r.1, r.2.2.1.bounds, r.2.2.1.vals)) = some (⟨1, true⟩, exR0.bounds, exR0.vals) ∧
    c09xBuiltRel.map (fun r => (r.2.2.1.tableau, r.2.2.1.tWatches)) = some (exR0.tableau, exR0.tWatches) ∧
    c09xBuiltRel.map (fun r => (r.2.2.1.aWatches, r.2.2.1.vAsrts)) = some (exR0.aWatches, exR0.vAsrts) := by
  refine ⟨by decide +kernel, by decide +kernel, by decide +kernel⟩

/-
Not stated in this file:
  * that `new_lt / new_leq / new_geq / new_gt` (`Lra.newRel`) keep the registry invariants.  `AsrtOK` and
    `AsrtVars` are the field `asrts` of `Lra.GoodState`, which `Lra.newRel_good` keeps (Lemmas/LraGoodMain.lean);
    `AsrtKey` and `AWatchOK` are two of the fields of `Lra.Reg` (the registries against the SAT core), whose cells
    for `new_var`, `new_var(lin)` and the registration of an assertion are in Lemmas/LraNewRel.lean (`Lra.Reg.relReg`);
    the network composes them for the requests made there (Lemmas/NetConsLra.lean).  The four hold on the state
    `new_leq(x0 + x1, 4)` builds (`exR0`: `exR0_inv`, `exR0_key`, `exR0_vars`, Lemmas/LraExplExample.lean).
  * `new_var(lin)` keeps `BoundsJust`: it does only for the assignments `α` under which the reasons of
    all the bounds of the variables of the expression are true (the new bounds get the reason TRUE).
  * `NonbasicInBounds` (defined in Lemmas/LraExplDefs.lean) is not used by any theorem and its
    preservation is not proved.
-/

end Oratio
