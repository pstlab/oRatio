/-
Property C15 — rational, infinitesimal and linear-expression arithmetic is exact.

Statements, each a short consequence of the lemmas in OratioProofs/Lemmas.  `R`, `IR`, `Lin` are the
models of `smt::rational`, `smt::inf_rational`, `smt::lin`, one function per C++ overload.
`R.WF` is canonical form, `R.toE` the extended rational a canonical value denotes, `ERat.add`
/ `ERat.mul` are partial exactly where mathematics leaves the operation undefined, and the
`…Defined` hypotheses are exactly the operand combinations the C++ does not reject by `assert`.
-/
import OratioModel
import OratioProofs.Lemmas.Rational
import OratioProofs.Lemmas.InfRational
import OratioProofs.Lemmas.Lin

namespace Oratio
open R

/-- `rational(n, d)` is canonical and denotes `n/d` (`±∞` for `d = 0`), for every input
    except the invalid `0/0`: negative and non-reduced inputs included. -/
theorem C15_mk2_canonical (n d : Int) (h : ¬ (n = 0 ∧ d = 0)) :
    (mk2 n d).WF ∧
    (mk2 n d).toE = (if d = 0 then (if n > 0 then ERat.pinf else ERat.ninf) else ERat.fin ((n : Rat) / (d : Rat))) := by
  by_cases hd : d = 0
  · obtain ⟨k, hk, hkpos, hn, hdd, hwf⟩ := normalize_spec n d h
    have hden : (normalize ⟨n, d⟩).den = 0 :=
      (Int.mul_eq_zero.1 (hdd.symm.trans hd)).resolve_left hk
    have hkp : 0 < k := hkpos hd.ge
    rw [if_pos hd]; unfold mk2
    -- `n = k * (±1)` with `0 < k`
    rcases wf_inf hwf hden with e | e <;> rw [e] at hn ⊢
    · exact ⟨pinf_wf, (if_pos (by rw [hn]; show 0 < k * 1; omega)).symm⟩
    · exact ⟨ninf_wf, (if_neg (by rw [hn]; show ¬ 0 < k * (-1); omega)).symm⟩
  · obtain ⟨h1, h2⟩ := mk2_fin n d hd
    exact ⟨h1.1, by rw [if_neg hd, h1.toE, h2]⟩

/-- a canonical value is determined by what it denotes (so "canonical" means unique) -/
theorem C15_canonical_unique (a b : R) (ha : a.WF) (hb : b.WF) (h : a.toE = b.toE) : a = b :=
  R.WF_unique ha hb h

/-! ## rational: comparisons form the total order of the denoted values, infinities included -/

theorem C15_le_iff (a b : R) (ha : a.WF) (hb : b.WF) : R.le a b = ERat.le a.toE b.toE := R.le_spec ha hb
theorem C15_lt_iff (a b : R) (ha : a.WF) (hb : b.WF) : R.lt a b = ERat.lt a.toE b.toE := R.lt_spec ha hb
theorem C15_ge_iff (a b : R) (ha : a.WF) (hb : b.WF) : R.ge a b = ERat.le b.toE a.toE := by
  rw [ge_eq_le, le_spec hb ha]
theorem C15_gt_iff (a b : R) (ha : a.WF) (hb : b.WF) : R.gt a b = ERat.lt b.toE a.toE := by
  rw [gt_eq_lt, lt_spec hb ha]
theorem C15_eq_iff (a b : R) (ha : a.WF) (hb : b.WF) : R.eq a b = decide (a.toE = b.toE) := R.eq_spec ha hb
theorem C15_ne_iff (a b : R) (ha : a.WF) (hb : b.WF) : R.ne a b = !decide (a.toE = b.toE) := by
  rw [ne_eq_not_eq, eq_spec ha hb]

/-- the mixed rational/integer comparisons agree with comparing against `rational(i)` -/
theorem C15_cmpI_iff (a : R) (i : Int) (ha : a.WF) :
    R.leI a i = ERat.le a.toE (ofInt i).toE ∧ R.ltI a i = ERat.lt a.toE (ofInt i).toE ∧
    R.geI a i = ERat.le (ofInt i).toE a.toE ∧ R.gtI a i = ERat.lt (ofInt i).toE a.toE ∧
    R.eqI a i = decide (a.toE = (ofInt i).toE) ∧ R.neI a i = !decide (a.toE = (ofInt i).toE) := by
  have hi := wf_ofInt i
  exact ⟨by rw [leI_eq, le_spec ha hi], by rw [ltI_eq, lt_spec ha hi],
    by rw [geI_eq, C15_ge_iff a _ ha hi], by rw [gtI_eq, C15_gt_iff a _ ha hi],
    by rw [eqI_eq, eq_spec ha hi], by rw [neI_eq, C15_ne_iff a _ ha hi]⟩

/-- `ERat.le` is a total order (reflexive, transitive, antisymmetric, total) -/
theorem C15_order_total (x y z : ERat) :
    ERat.le x x = true ∧ (ERat.le x y = true → ERat.le y z = true → ERat.le x z = true) ∧
    (ERat.le x y = true → ERat.le y x = true → x = y) ∧ (ERat.le x y = true ∨ ERat.le y x = true) := by
  simp only [ERat.le_iff]
  exact ⟨le_rfl, le_trans, fun h h' => ERat.toExtQ_injective (le_antisymm h h'), le_total _ _⟩

/-! ## rational: arithmetic is exact and canonical -/

theorem C15_neg_exact (a : R) (ha : a.WF) : (neg a).WF ∧ (neg a).toE = ERat.neg a.toE := R.neg_spec ha

theorem C15_add_exact (a b : R) (ha : a.WF) (hb : b.WF) (hd : addDefined a b) :
    (add a b).WF ∧ ERat.add a.toE b.toE = some (add a b).toE := R.add_spec ha hb hd

theorem C15_sub_exact (a b : R) (ha : a.WF) (hb : b.WF) (hd : addDefined a (neg b)) :
    (sub a b).WF ∧ ERat.add a.toE (ERat.neg b.toE) = some (sub a b).toE := by
  rw [← (neg_spec hb).2]
  exact add_spec ha (neg_spec hb).1 hd

theorem C15_mul_exact (a b : R) (ha : a.WF) (hb : b.WF) (hd : mulDefined a b) :
    (mul a b).WF ∧ ERat.mul a.toE b.toE = some (mul a b).toE := R.mul_spec ha hb hd

/-- division is multiplication by the reciprocal, with the code's convention `1/0 = +∞`,
    `1/±∞ = 0` (`ERat.inv`) -/
theorem C15_div_exact (a b : R) (ha : a.WF) (hb : b.WF) (hd : divDefined a b) :
    (div a b).WF ∧ ERat.mul a.toE (ERat.inv b.toE) = some (div a b).toE := by
  rw [← (recip_spec hb).2]
  exact mul_spec ha (recip_spec hb).1 hd

/-- on finite operands with a non-zero divisor this is the ordinary quotient -/
theorem C15_div_finite (a b : R) (ha : a.WF) (hb : b.WF) (fa : a.den ≠ 0) (fb : b.den ≠ 0) (nz : b.num ≠ 0) :
    (div a b).WF ∧ (div a b).toE = ERat.fin (a.toRat / b.toRat) := by
  obtain ⟨h1, h2⟩ := div_fin ⟨ha, fa⟩ ⟨hb, fb⟩ nz
  exact ⟨h1.1, by rw [h1.toE, h2]⟩

/-- every other operator form computes the same canonical value as the binary one:
    compound assignment, mixed rational/integer, integer on the left -/
theorem C15_forms_agree (a b : R) (i : Int) (ha : a.WF) (hb : b.WF) :
    (addDefined a b → addAssign a b = add a b) ∧
    (addDefined a (neg b) → subAssign a b = sub a b) ∧
    (mulDefined a b → mulAssign a b = mul a b) ∧
    (divDefined a b → divAssign a b = div a b) ∧
    addI a i = add a (ofInt i) ∧ subI a i = sub a (ofInt i) ∧
    (mulDefined a (ofInt i) → mulI a i = mul a (ofInt i)) ∧
    (divDefined a (ofInt i) → divI a i = div a (ofInt i)) ∧
    addAssignI a i = add a (ofInt i) ∧ subAssignI a i = sub a (ofInt i) ∧
    (mulDefined a (ofInt i) → mulAssignI a i = mul a (ofInt i)) ∧
    (divDefined a (ofInt i) → divAssignI a i = div a (ofInt i)) ∧
    iAdd i b = add (ofInt i) b ∧ iSub i b = sub (ofInt i) b ∧ iMul i b = mul (ofInt i) b ∧ iDiv i b = div (ofInt i) b := by
  have _ := hb
  have hsubI : subI a i = sub a (ofInt i) := addI_eq_add ha (-i)
  refine ⟨fun _ => addAssign_eq_add a b, fun _ => subAssign_eq_sub a b,
    fun _ => mulAssign_eq_mul a b, fun _ => divAssign_eq_div a b,
    addI_eq_add ha i, hsubI, fun _ => mulI_eq_mul ha i, fun _ => rfl,
    ?_, ?_, fun _ => ?_, fun _ => mulAssign_eq_mul a _, rfl, rfl, rfl, rfl⟩
  · rw [addAssignI_eq_addI ha, addI_eq_add ha]
  · exact (addAssignI_eq_addI ha (-i)).trans hsubI
  · rw [mulAssignI_eq_mulI, mulI_eq_mul ha]

/-! ## inf_rational: lexicographic order, component-wise arithmetic -/

/-- lexicographic comparison of (rational part, infinitesimal part) -/
def lexLe (a b : ERat × ERat) : Bool := ERat.lt a.1 b.1 || (decide (a.1 = b.1) && ERat.le a.2 b.2)
def lexLt (a b : ERat × ERat) : Bool := ERat.lt a.1 b.1 || (decide (a.1 = b.1) && ERat.lt a.2 b.2)

theorem C15_inf_lex_order (a b : IR) (ha : a.WF) (hb : b.WF) :
    IR.le a b = lexLe (a.rat.toE, a.inf.toE) (b.rat.toE, b.inf.toE) ∧
    IR.lt a b = lexLt (a.rat.toE, a.inf.toE) (b.rat.toE, b.inf.toE) ∧
    IR.ge a b = lexLe (b.rat.toE, b.inf.toE) (a.rat.toE, a.inf.toE) ∧
    IR.gt a b = lexLt (b.rat.toE, b.inf.toE) (a.rat.toE, a.inf.toE) ∧
    IR.eq a b = decide ((a.rat.toE, a.inf.toE) = (b.rat.toE, b.inf.toE)) ∧
    IR.ne a b = !decide ((a.rat.toE, a.inf.toE) = (b.rat.toE, b.inf.toE)) := by
  obtain ⟨ha1, ha2⟩ := ha
  obtain ⟨hb1, hb2⟩ := hb
  have heq : IR.eq a b = decide ((a.rat.toE, a.inf.toE) = (b.rat.toE, b.inf.toE)) := by
    unfold IR.eq
    rw [eq_spec ha1 hb1, eq_spec ha2 hb2, Bool.eq_iff_iff]
    simp [Prod.ext_iff]
  refine ⟨?_, ?_, ?_, ?_, heq, ?_⟩
  · unfold IR.le; rw [lt_spec ha1 hb1, eq_spec ha1 hb1, le_spec ha2 hb2]; rfl
  · unfold IR.lt; rw [lt_spec ha1 hb1, eq_spec ha1 hb1, lt_spec ha2 hb2]; rfl
  · rw [IR.ge_swap]; unfold IR.le; rw [lt_spec hb1 ha1, eq_spec hb1 ha1, le_spec hb2 ha2]; rfl
  · rw [IR.gt_swap]; unfold IR.lt; rw [lt_spec hb1 ha1, eq_spec hb1 ha1, lt_spec hb2 ha2]; rfl
  · rw [← heq]; unfold IR.ne IR.eq
    rw [ne_eq_not_eq, ne_eq_not_eq, Bool.not_and]

/-- comparison with a rational or an integer is comparison with `(r, 0)` -/
theorem C15_inf_cmp_scalar (a : IR) (r : R) (i : Int) (ha : a.WF) (hr : r.WF) :
    IR.leR a r = IR.le a (IR.ofR r) ∧ IR.ltR a r = IR.lt a (IR.ofR r) ∧ IR.geR a r = IR.ge a (IR.ofR r) ∧
    IR.gtR a r = IR.gt a (IR.ofR r) ∧ IR.eqR a r = IR.eq a (IR.ofR r) ∧ IR.neR a r = IR.ne a (IR.ofR r) ∧
    IR.leI a i = IR.le a (IR.ofInt i) ∧ IR.ltI a i = IR.lt a (IR.ofInt i) ∧ IR.geI a i = IR.ge a (IR.ofInt i) ∧
    IR.gtI a i = IR.gt a (IR.ofInt i) ∧ IR.eqI a i = IR.eq a (IR.ofInt i) ∧ IR.neI a i = IR.ne a (IR.ofInt i) := by
  have _hr := hr
  exact IR.cmp_scalar a r i ha

/-- `+`, `-`, unary minus act on both components; a scalar acts on the rational part only
    for `+`/`-` and on both for `*`//`; in particular `s - (r + i·ε) = (s - r) - i·ε`. -/
theorem C15_inf_arith_componentwise (a b : IR) (r : R) :
    IR.add a b = ⟨R.add a.rat b.rat, R.add a.inf b.inf⟩ ∧ IR.sub a b = ⟨R.sub a.rat b.rat, R.sub a.inf b.inf⟩ ∧
    IR.neg a = ⟨R.neg a.rat, R.neg a.inf⟩ ∧
    IR.addR a r = ⟨R.add a.rat r, a.inf⟩ ∧ IR.subR a r = ⟨R.sub a.rat r, a.inf⟩ ∧
    IR.mulR a r = ⟨R.mul a.rat r, R.mul a.inf r⟩ ∧ IR.divR a r = ⟨R.div a.rat r, R.div a.inf r⟩ ∧
    IR.rAdd r a = ⟨R.add r a.rat, a.inf⟩ ∧ IR.rSub r a = ⟨R.sub r a.rat, R.neg a.inf⟩ ∧
    IR.rMul r a = ⟨R.mul r a.rat, R.mul r a.inf⟩ :=
  ⟨rfl, rfl, rfl, rfl, rfl, rfl, rfl, rfl, rfl, rfl⟩

/-! ## lin: operators act coefficient-wise on every variable and on the known term -/

theorem C15_lin_eval_coeff (l : Lin) (hl : l.WF) (σ τ : Nat → Rat) (h : ∀ v, (l.coeff v).toRat ≠ 0 → σ v = τ v) :
    Lin.eval l σ = Lin.eval l τ := Lin.eval_coeff_spec l hl σ τ h

theorem C15_lin_add (l r : Lin) (hl : l.WF) (hr : r.WF) :
    (Lin.add l r).WF ∧ (∀ v, ((Lin.add l r).coeff v).toRat = (l.coeff v).toRat + (r.coeff v).toRat) ∧
    (Lin.add l r).known.toRat = l.known.toRat + r.known.toRat ∧
    (∀ σ, Lin.eval (Lin.add l r) σ = Lin.eval l σ + Lin.eval r σ) ∧ Lin.addAssign l r = Lin.add l r := Lin.add_spec l r hl hr

theorem C15_lin_sub (l r : Lin) (hl : l.WF) (hr : r.WF) :
    (Lin.sub l r).WF ∧ (∀ v, ((Lin.sub l r).coeff v).toRat = (l.coeff v).toRat - (r.coeff v).toRat) ∧
    (Lin.sub l r).known.toRat = l.known.toRat - r.known.toRat ∧
    (∀ σ, Lin.eval (Lin.sub l r) σ = Lin.eval l σ - Lin.eval r σ) ∧ Lin.subAssign l r = Lin.sub l r := Lin.sub_spec l r hl hr

theorem C15_lin_neg (l : Lin) (hl : l.WF) :
    (Lin.neg l).WF ∧ (∀ v, ((Lin.neg l).coeff v).toRat = - (l.coeff v).toRat) ∧
    (Lin.neg l).known.toRat = - l.known.toRat ∧ (∀ σ, Lin.eval (Lin.neg l) σ = - Lin.eval l σ) := Lin.neg_spec l hl

theorem C15_lin_scalar_add (l : Lin) (c : R) (hl : l.WF) (hc : c.WF) (fc : c.den ≠ 0) :
    (Lin.addR l c).WF ∧ (∀ σ, Lin.eval (Lin.addR l c) σ = Lin.eval l σ + c.toRat) ∧
    (∀ v, (Lin.addR l c).coeff v = l.coeff v) ∧
    Lin.rAdd c l = Lin.addR l c ∧ Lin.addAssignR l c = Lin.addR l c ∧
    (Lin.subR l c).WF ∧ (∀ σ, Lin.eval (Lin.subR l c) σ = Lin.eval l σ - c.toRat) ∧
    (∀ v, (Lin.subR l c).coeff v = l.coeff v) ∧ Lin.subAssignR l c = Lin.subR l c ∧
    (Lin.rSub c l).WF ∧ (∀ σ, Lin.eval (Lin.rSub c l) σ = c.toRat - Lin.eval l σ) := by
  obtain ⟨hs, hw, hk⟩ := (Lin.wf_iff l).1 hl
  have hcf : R.FinWF c := ⟨hc, fc⟩
  obtain ⟨n1, -, n3, n4⟩ := Lin.neg_spec l hl
  obtain ⟨ns, nw, nk⟩ := (Lin.wf_iff _).1 n1
  refine ⟨(Lin.wf_iff _).2 ⟨hs, hw, R.finWF_addAssign hk hcf⟩, fun σ => ?_, fun _ => rfl, rfl, rfl,
    (Lin.wf_iff _).2 ⟨hs, hw, R.finWF_subAssign hk hcf⟩, fun σ => ?_, fun _ => rfl, rfl,
    (Lin.wf_iff _).2 ⟨ns, nw, R.finWF_addAssign nk hcf⟩, fun σ => ?_⟩
  · show Lin.sumS σ l.vars + (R.addAssign l.known c).toRat = Lin.sumS σ l.vars + l.known.toRat + c.toRat
    rw [R.toRat_addAssign hk hcf, add_assoc]
  · show Lin.sumS σ l.vars + (R.subAssign l.known c).toRat = Lin.sumS σ l.vars + l.known.toRat - c.toRat
    rw [R.toRat_subAssign hk hcf, add_sub_assoc]
  · show Lin.sumS σ (Lin.neg l).vars + (R.addAssign (Lin.neg l).known c).toRat = c.toRat - Lin.evalS l σ
    rw [R.toRat_addAssign nk hcf, ← add_assoc, ← Lin.evalS_eq, n4]
    ring

theorem C15_lin_scalar_mul (l : Lin) (c : R) (hl : l.WF) (hc : c.WF) (fc : c.den ≠ 0) :
    (Lin.mulR l c).WF ∧ (∀ v, ((Lin.mulR l c).coeff v).toRat = (l.coeff v).toRat * c.toRat) ∧
    (Lin.mulR l c).known.toRat = l.known.toRat * c.toRat ∧
    (∀ σ, Lin.eval (Lin.mulR l c) σ = Lin.eval l σ * c.toRat) ∧ Lin.rMul c l = Lin.mulR l c ∧
    (Lin.mulAssignR l c).WF ∧ (∀ v, ((Lin.mulAssignR l c).coeff v).toRat = (l.coeff v).toRat * c.toRat) ∧
    (Lin.mulAssignR l c).known.toRat = l.known.toRat * c.toRat ∧
    (∀ σ, Lin.eval (Lin.mulAssignR l c) σ = Lin.eval l σ * c.toRat) := by
  obtain ⟨m1, m2, m3, m4⟩ := Lin.mulR_spec l c hl ⟨hc, fc⟩
  exact ⟨m1, m2, m3, m4, rfl, Lin.mulAssignR_spec l c hl ⟨hc, fc⟩⟩

theorem C15_lin_scalar_div (l : Lin) (c : R) (hl : l.WF) (hc : c.WF) (fc : c.den ≠ 0) (nz : c.num ≠ 0) :
    (Lin.divR l c).WF ∧ (∀ v, ((Lin.divR l c).coeff v).toRat = (l.coeff v).toRat / c.toRat) ∧
    (Lin.divR l c).known.toRat = l.known.toRat / c.toRat ∧
    (∀ σ, Lin.eval (Lin.divR l c) σ = Lin.eval l σ / c.toRat) ∧ Lin.divAssignR l c = Lin.divR l c := Lin.scalar_div_spec l c hl hc fc nz

/-- `rational / inf_rational` and `I / inf_rational` are the first-order quotient
    `a / (r + i·ε) = a/r − (a·i/r²)·ε`: multiplied back by the divisor the ε⁰ coefficient is `a` and the ε¹ coefficient is
    `0` (ε² is dropped, as everywhere in this representation).  Finite operands, `r ≠ 0` (for `r = 0` the library's
    rational division yields an infinity and the infinitesimal part is `0·∞`, which the C++ asserts against). -/
theorem C15_inf_scalar_quotient (a : R) (b : IR) (ha : a.WF) (fa : a.den ≠ 0) (hb : b.WF) (fr : b.rat.den ≠ 0)
    (fi : b.inf.den ≠ 0) (nz : b.rat.num ≠ 0) :
    (IR.rDiv a b).WF ∧ (IR.rDiv a b).rat.den ≠ 0 ∧ (IR.rDiv a b).inf.den ≠ 0 ∧
    (IR.rDiv a b).rat.toRat = a.toRat / b.rat.toRat ∧
    (IR.rDiv a b).inf.toRat = - (a.toRat * b.inf.toRat) / (b.rat.toRat * b.rat.toRat) ∧
    (IR.rDiv a b).rat.toRat * b.rat.toRat = a.toRat ∧
    (IR.rDiv a b).rat.toRat * b.inf.toRat + (IR.rDiv a b).inf.toRat * b.rat.toRat = 0 ∧
    (∀ i : Int, IR.iDiv i b = IR.rDiv (ofInt i) b) := by
  have hA : FinWF a := ⟨ha, fa⟩
  have hR : FinWF b.rat := ⟨hb.1, fr⟩
  have hI : FinWF b.inf := ⟨hb.2, fi⟩
  have rne : b.rat.toRat ≠ 0 := mt (toRat_eq_zero_iff hR).1 nz
  obtain ⟨q1, q2⟩ := div_fin hA hR nz
  obtain ⟨m1, m2⟩ := mul_fin hA hI
  obtain ⟨s1, s2⟩ := mul_fin hR hR
  have snz : (mul b.rat b.rat).num ≠ 0 :=
    mt (toRat_eq_zero_iff s1).2 (by rw [s2]; exact mul_ne_zero rne rne)
  obtain ⟨d1, d2⟩ := div_fin m1 s1 snz
  have n1 : FinWF (neg (div (mul a b.inf) (mul b.rat b.rat))) := finWF_neg d1
  have n2 := toRat_neg d1
  have e1 : (IR.rDiv a b).rat = div a b.rat := rfl
  have e2 : (IR.rDiv a b).inf = neg (div (mul a b.inf) (mul b.rat b.rat)) := rfl
  refine ⟨⟨by rw [e1]; exact q1.1, by rw [e2]; exact n1.1⟩, by rw [e1]; exact q1.2, by rw [e2]; exact n1.2, ?_, ?_, ?_, ?_, ?_⟩
  · rw [e1, q2]
  · rw [e2, n2, d2, m2, s2]; ring
  · rw [e1, q2]; field_simp
  · rw [e1, e2, q2, n2, d2, m2, s2]; field_simp; ring
  · intro i; rfl

/-! ## non-vacuity: the hypotheses are met by concrete non-trivial values -/

example : (mk2 6 (-4)).WF ∧ (mk2 6 (-4)) = ⟨-3, 2⟩ := by decide
example : (⟨1, 2⟩ : R).WF ∧ (⟨-5, 3⟩ : R).WF ∧ addDefined ⟨1, 2⟩ ⟨-5, 3⟩ ∧ add ⟨1, 2⟩ ⟨-5, 3⟩ = ⟨-7, 6⟩ := by decide
example : pinf.WF ∧ ninf.WF ∧ R.le pinf ninf = false ∧ R.ge ninf pinf = false ∧ mulDefined pinf ⟨-1, 2⟩ := by decide
example : (⟨[(1, ⟨1, 2⟩), (3, ⟨-2, 1⟩)], ⟨3, 1⟩⟩ : Lin).WF := by
  refine ⟨⟨by decide, trivial⟩, ?_, by decide, by decide⟩
  intro t ht; simp at ht; rcases ht with rfl | rfl <;> decide

example : IR.rDiv ⟨1, 1⟩ ⟨⟨2, 1⟩, ⟨3, 1⟩⟩ = ⟨⟨1, 2⟩, ⟨-3, 4⟩⟩ ∧ IR.iDiv 1 ⟨⟨1, 1⟩, ⟨0, 1⟩⟩ = ⟨⟨1, 1⟩, ⟨0, 1⟩⟩ := by decide

end Oratio
