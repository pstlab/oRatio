/-
Property C03 — every atom of a reported plan is justified and causal support is acyclic.

The theorems are about the clauses and position constraints the planner posts (OratioModel/Solver/Flaw.lean) and say
what they force in ANY total assignment / any integer positions satisfying them, for any number of resolvers, atoms
and links:
  * a flaw in the plan has an applied resolver (exactly one if exclusive), an applied resolver puts its flaw and its
    preconditions in the plan;
  * an atom flaw in the plan is solved by activation (then the atom is active) or by a unification (then the atom is
    not active, the target is active, activable and equal);
  * the position constraints (sub-flaw strictly below its cause's effect, unification target not above the unifying
    atom) together with "a unified atom is not active, its target is" leave no closed walk in the support relation.
That the real planner ends in such an assignment is checked on the final state of every generated program by
tools/solcheck.py:check_plan (flaw graph read through the guarded accessor).
-/
import OratioModel
import OratioProofs.Lemmas.Flaw

namespace Oratio
open Flaw FlawL

theorem C03_flaw_in_plan_has_resolver (α : Asg) (phi : Lit) (rhos : List Lit) (ex : Bool)
    (h : α.cnf (expandClauses phi rhos ex) = true) (hphi : α.lit phi = true) :
    (∃ r ∈ rhos, α.lit r = true) ∧
    (ex = true → ∀ i j (hi : i < rhos.length) (hj : j < rhos.length), α.lit rhos[i] = true → α.lit rhos[j] = true → i = j) := by
  have hne : rhos ≠ [] := by
    intro he
    subst he
    have := expand_none h
    rw [hphi] at this
    exact Bool.noConfusion this
  obtain ⟨hc, hpw⟩ := expand_some h hne
  simp only [Asg.clause_cons, Asg.lit_neg, hphi, Bool.not_true, Bool.false_or, Asg.clause_iff] at hc
  exact ⟨hc, fun hex i j hi hj => pairwise_amo α rhos (hpw hex) i j hi hj⟩

theorem C03_no_resolver_no_flaw (α : Asg) (phi : Lit) (ex : Bool)
    (h : α.cnf (expandClauses phi [] ex) = true) : α.lit phi = false :=
  expand_none h

theorem C03_applied_resolver_puts_flaw_in_plan (α : Asg) (phi : Lit) (rhos : List Lit) (ex : Bool)
    (h : α.cnf (expandClauses phi rhos ex) = true) (r : Lit) (hr : r ∈ rhos) (hrho : α.lit r = true) :
    α.lit phi = true := by
  rw [expandClauses, Asg.cnf_append, Bool.and_eq_true] at h
  exact imp_of_clause (cnf_mem h.1 (List.mem_map.mpr ⟨r, hr, rfl⟩)) hrho

theorem C03_applied_resolver_needs_preconditions (α : Asg) (rho phiPre : Lit)
    (h : α.cnf (causalClauses rho phiPre) = true) (hrho : α.lit rho = true) : α.lit phiPre = true :=
  imp_of_clause (cnf_mem h (List.mem_singleton.mpr rfl)) hrho

theorem C03_activation_makes_active (α : Asg) (rho sigma : Lit)
    (h : α.cnf (activateClauses rho sigma) = true) (hrho : α.lit rho = true) : α.lit sigma = true :=
  imp_of_clause (cnf_mem h (List.mem_singleton.mpr rfl)) hrho

theorem C03_unification_needs_equal_active_target (α : Asg) (rho sigmaA sigmaT eq actT phiT : Lit)
    (h : α.cnf (unifyClauses rho sigmaA sigmaT eq actT phiT) = true) (hrho : α.lit rho = true) :
    α.lit sigmaA = false ∧ α.lit sigmaT = true ∧ α.lit eq = true ∧ α.lit actT = true ∧ α.lit phiT = true := by
  -- the five clauses of `unifyClauses`, in order
  have h1 := imp_of_clause' (cnf_mem h (.head _)) hrho
  have h2 := imp_of_clause (cnf_mem h (.tail _ (.head _))) hrho
  have h3 := imp_of_clause (cnf_mem h (.tail _ (.tail _ (.head _)))) hrho
  have h4 := imp_of_clause (cnf_mem h (.tail _ (.tail _ (.tail _ (.head _))))) hrho
  have h5 := imp_of_clause (cnf_mem h (.tail _ (.tail _ (.tail _ (.tail _ (.head _)))))) hrho
  rw [Asg.lit_neg] at h2
  refine ⟨?_, h3, h4, h1, h5⟩
  cases hs : α.lit sigmaA with
  | false => rfl
  | true => rw [hs] at h2; exact Bool.noConfusion h2

/-- an atom flaw with one activation resolver and any number of unifications: if it is in the plan, the atom is
    active, or it is not active and unified with an active, activable, equal target -/
theorem C03_atom_in_plan_is_justified (α : Asg) (phi sigma act : Lit)
    (unis : List (Lit × Lit × Lit × Lit × Lit))   -- (rho, sigma of the target, eq, activate of the target, phi of the target)
    (h : α.cnf (expandClauses phi (unis.map (·.1) ++ [act]) false) = true)
    (ha : α.cnf (activateClauses act sigma) = true)
    (hu : ∀ u ∈ unis, α.cnf (unifyClauses u.1 sigma u.2.1 u.2.2.1 u.2.2.2.1 u.2.2.2.2) = true)
    (hphi : α.lit phi = true) :
    α.lit sigma = true ∨
    (α.lit sigma = false ∧ ∃ u ∈ unis, α.lit u.1 = true ∧ α.lit u.2.1 = true ∧ α.lit u.2.2.1 = true ∧ α.lit u.2.2.2.1 = true) := by
  obtain ⟨⟨r, hr, hrt⟩, _⟩ := C03_flaw_in_plan_has_resolver α phi _ false h hphi
  rcases List.mem_append.mp hr with hm | hm
  · obtain ⟨u, hu_mem, hu_eq⟩ := List.mem_map.mp hm
    have hu1 : α.lit u.1 = true := by rw [hu_eq]; exact hrt
    obtain ⟨h1, h2, h3, h4, _⟩ :=
      C03_unification_needs_equal_active_target α u.1 sigma u.2.1 u.2.2.1 u.2.2.2.1 u.2.2.2.2 (hu u hu_mem) hu1
    exact Or.inr ⟨h1, u, hu_mem, hu1, h2, h3, h4⟩
  · have : r = act := List.mem_singleton.mp hm
    subst this
    exact Or.inl (C03_activation_makes_active α r sigma ha hrt)

/-- positions forbid causal cycles: with integer positions obeying the posted constraints, and unified atoms
    inactive while their targets are active, the support relation has no closed walk -/
theorem C03_support_is_acyclic (pos : Nat → Int) (active : Nat → Bool) (es : List Edge) (a : Nat)
    (hpos : ∀ e ∈ es, match e with
      | .sub p c => pos c ≤ pos p - 1
      | .uni x t => pos t ≤ pos x)
    (huni : ∀ e ∈ es, match e with
      | .sub _ _ => True
      | .uni x t => active x = false ∧ active t = true)
    (hne : es ≠ []) : ¬ Walk a es a := by
  refine no_closed_walk pos active es a ?_ ?_ hne
  · intro e he
    have := hpos e he
    cases e <;> simpa [PosOK, cost, Edge.src, Edge.dst] using this
  · intro e he
    have := huni e he
    cases e <;> exact this

/-- non-vacuity: an acyclic support relation with positions -/
example : ∃ pos : Nat → Int, ∀ e ∈ [Edge.sub 0 1, Edge.sub 1 2, Edge.uni 2 3], match e with
    | .sub p c => pos c ≤ pos p - 1
    | .uni x t => pos t ≤ pos x := by
  refine ⟨fun n => -(n : Int), ?_⟩
  intro e he
  simp only [List.mem_cons, List.not_mem_nil, or_false] at he
  rcases he with rfl | rfl | rfl <;> simp <;> omega

end Oratio
