/-
Property C07NC_neg2 — the answer `false` of `Net.check(lits)`, continued (Properties/C07NetCheckNeg.lean): exits
E1 ("literal already false when assumed") and E2 ("an inner `propagate` answered `false`") IN EVERY ROUND, relative to
the decisions standing AT THE CALL and the literals `ls`.

`C07NC_neg2_false_unsat`: under the hypotheses of `C07NC_check_sound` and `NetCheck.NoLevelDrop` (exit E3 is not
taken: in every round in which `assume` and the `propagate` after it both answer `true` the decision level has grown),
`check … = some (false, n')` implies `TUnsat r.n (r.orig ++ unitsOf r.n.sat.decisions ++ unitsOf ls)`.
It rests on `C07NC_neg2_propagate_decisions`: under the bounded invariant the standing decisions after
`Net.propagate` are a suffix of those before it.

NOT COVERED: exit E3 (a backjump below the level of the round while `assume` / `propagate` answer `true`); it is
excluded by the hypothesis `NoLevelDrop`, which is a genuine restriction (it needs "the conflict analysed was
falsified by consequences of `orig` and the decisions at the start of the round" from inside `propagate`).
-/
import OratioModel
import OratioProofs.Properties.C07NetCheckNeg

namespace Oratio
open Net

/-- `Net.propagate` under the bounded invariant: the invariant is kept and the standing decisions of the result are
    a suffix of those at the start -/
theorem C07NC_neg2_propagate_decisions (m : Nat) (orig : Cnf) (fuel : Nat) (n : Net) (L : Cnf) (fr : List Frame)
    (h : NetCheck.NetInvB m n orig L fr) (hd : n.sat.dead = false) (hg : ConflictsCurrent n fuel)
    (b : Bool) (n' : Net) (he : propagate n fuel = some (b, n')) :
    (∃ L' fr', NetCheck.NetInvB m n' orig L' fr') ∧ n'.sat.decisions <:+ n.sat.decisions ∧ n'.sat.dead = !b := by
  have r := propagate_invB fuel n L fr h hd hg b n' he
  exact ⟨r.inv, r.decs, r.dead⟩

theorem C07NC_neg2_noLevelDrop_def (fuel : Nat) (n : Net) (p : Lit) (ps : List Lit) :
    (NetCheck.NoLevelDrop fuel n [] ↔ True) ∧
    (NetCheck.NoLevelDrop fuel n (p :: ps) ↔ ∀ n1, n.assume p fuel = some (true, n1) → ∀ n2,
      n1.propagate fuel = some (true, n2) → n.sat.decisionLevel < n2.sat.decisionLevel ∧ NetCheck.NoLevelDrop fuel n2 ps) :=
  ⟨by unfold NetCheck.NoLevelDrop; exact Iff.rfl, by rw [NetCheck.NoLevelDrop]⟩

/-- **`check` answers `false` only if the added clauses, the decisions standing at the call and the literals `ls` as
    units are T-unsatisfiable** - for every exit of the loop except "the decision level did not grow" (`NoLevelDrop`) -/
theorem C07NC_neg2_false_unsat (fuel : Nat) (r : NetRun) (ls : List Lit) (n' : Net) (h : NetOK r)
    (hq : r.n.sat.queue = []) (hd : r.n.sat.dead = false) (hg : NetCheck.CheckGuard fuel r.n ls)
    (hnd : NetCheck.NoLevelDrop fuel r.n ls) (he : Net.check r.n ls fuel = some (false, n')) :
    TUnsat r.n (r.orig ++ unitsOf r.n.sat.decisions ++ unitsOf ls) := by
  obtain ⟨⟨L, fr, hi⟩, _⟩ := h
  exact NetCheck.go_neg (orig := r.orig) fuel r.n.sat.decisionLevel r.n.sat.decisions ls [] r.n
    ⟨⟨L, fr, NetCheck.NetInvB.ofInv hi⟩, hq, hd, Nat.le_refl _⟩ hg hnd (fun d hd' => Or.inl hd') n' he

/-- non-vacuity of `C07NC_neg2_false_unsat`: on the network reached by `NetEx3.hist` from `Net.init` (level 1, `¬b3`
    propagated) `check [b3, b4]` answers false; `CheckGuard` and `NoLevelDrop` hold (the first `assume` answers
    false, `C07NC_neg_round_false`), and the theorem gives T-unsatisfiability with the decision and the assumptions -/
example : TUnsat (NetEx3.st 10).n ((NetEx3.st 10).orig ++ unitsOf (NetEx3.st 10).n.sat.decisions ++ unitsOf [⟨3, true⟩, ⟨4, true⟩]) := by
  obtain ⟨hok, _, _, _, _, hv, hd, _⟩ := NetEx3.final_ok
  obtain ⟨n', hc⟩ := (C07NC_neg_first_false 100 (NetEx3.st 10) ⟨3, true⟩ [⟨4, true⟩] hok hv).1
  have ha : ∀ n1, (NetEx3.st 10).n.assume ⟨3, true⟩ 100 ≠ some (true, n1) := by
    intro n1 h
    obtain ⟨L, fr, hinv⟩ := hok.1
    have := (C07NC_neg_round_false 0 (NetEx3.st 10).n (NetEx3.st 10).orig L fr
      ((C07NC_bounded_full 0 (NetEx3.st 10).n (NetEx3.st 10).orig L fr).1 hinv) ⟨3, true⟩ hv [⟨4, true⟩] 100).1
    rw [this] at h; cases h
  have hq : (NetEx3.st 10).n.sat.queue = [] := NetCheckEx.facts.1.1
  have hg : NetCheck.CheckGuard 100 (NetEx3.st 10).n [⟨3, true⟩, ⟨4, true⟩] :=
    ((C07NC_guard_def 100 (NetEx3.st 10).n ⟨3, true⟩ [⟨4, true⟩]).2.1).mpr
      ⟨getD_some_lt (Sat.value_eq_false.1 hv), fun h => absurd hv h, fun n1 h => absurd h (ha n1)⟩
  have hnd : NetCheck.NoLevelDrop 100 (NetEx3.st 10).n [⟨3, true⟩, ⟨4, true⟩] :=
    ((C07NC_neg2_noLevelDrop_def 100 (NetEx3.st 10).n ⟨3, true⟩ [⟨4, true⟩]).2).mpr (fun n1 h => absurd h (ha n1))
  exact C07NC_neg2_false_unsat 100 (NetEx3.st 10) _ n' hok hq hd hg hnd hc

end Oratio
