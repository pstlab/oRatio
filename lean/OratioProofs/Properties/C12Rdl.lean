/-
Property C12, real-valued instance — the relation literals and expression queries of
`rdl_theory` (difference logic over `inf_rational`) mean what they say.

`Dl.newRel`, `Dl.boundsLin`, `Dl.distanceLin`, `Dl.equatesLin` (OratioModel/Net/Dl.lean) are ONE
model for `idl_theory` and `rdl_theory`.  C12.lean proves that `newRel` posts exactly the
constraints of the normal form `relOut` (`C12_newRel_refines`, both instances) and the
semantic theorems for the integer instance.  This file states and proves the semantic theorems
`C12R_*` for the real instance `rdlOps : DOps IR`.

Vocabulary.  A weight / bound is an `inf_rational` `w = q + e·ε`, denoting the ε-rational
`IR.val w = (q, e) ∈ QV = Lex (ℚ × ℚ)` (C10Rdl.lean).  Time points take RATIONAL values
`σ : Nat → ℚ`; `edgeHoldsR σ src dst w` is the constraint `x_dst - x_src ≤ w` of C10Rdl at the
embedded valuation `v ↦ (σ v, 0)`, so that a strict constraint is encoded by `e = -1`
(`C12R_edge_reading`: `x_dst - x_src ≤ q - ε` is `σ dst - σ src < q`).  The expression queries
are stated for arbitrary ε-rational valuations `σ : Nat → QV` (the valuations of C10Rdl), of which
the rational ones are a special case (`C12R_bounds_lin_sound_rational`).

Differences with the integer statements (referred to by number below):
  1. No divisibility condition: the reals divide by the leading coefficient, `mkB` never fails,
     so a request is rejected only for its SHAPE (`C12R_invalid_iff`).
  2. A ZERO leading coefficient.  `lin::operator*` keeps zero coefficients in the map, so a
     one-variable difference `0·x + k` is possible.  The integer instance rejects it (`k / 0` is
     not an integer).  The real instance does not: `k / 0 = ±∞`, the request `0·x1 < 5` becomes
     the distance constraint `x1 - x0 ≤ +∞ - ε` with an INFINITE weight (it should be the constant
     TRUE), and `bounds(0·x1 + 5)` on an unbounded `x1` is `[+∞, +∞]` (`±∞ · 0` is evaluated as
     `+∞`; both places trip the `inf*0` assertion of `rational::operator*=` in a build with
     assertions).  The theorems need "the coefficient of a one-variable expression is not zero",
     which `C12R_sub_nonzero` shows is preserved by the subtraction `left - right`.
  3. Infinite bounds are `⟨±∞, e⟩` with an arbitrary ε part (see C10Rdl.lean), so the
     enclosure is stated with `IR.lbHolds` / `IR.ubHolds` (rational part `-∞` / `+∞` = no bound).
-/
import OratioProofs.Properties.C12
import OratioProofs.Properties.C15
import OratioProofs.Lemmas.DlRelRExample
import OratioProofs.Lemmas.LraNoZero

namespace Oratio
open Dl

/-! ## (ii) relation meaning -/

/-- how a weight is read under a rational valuation: `x_d - x_s ≤ q - ε` is the STRICT
    `σ d - σ s < q`, `x_d - x_s ≤ q` the non-strict one; in general `(σ d - σ s, 0) ≤ (q, e)`
    lexicographically -/
theorem C12R_edge_reading (σ : Nat → ℚ) (s d : Nat) (q : R) (w : IR) :
    (edgeHoldsR σ s d ⟨q, R.ofInt (-1)⟩ ↔ σ d - σ s < q.toRat) ∧
    (edgeHoldsR σ s d ⟨q, R.ofInt 0⟩ ↔ σ d - σ s ≤ q.toRat) ∧
    (edgeHoldsR σ s d w ↔ (σ d - σ s < w.rat.toRat ∨ (σ d - σ s = w.rat.toRat ∧ 0 ≤ w.inf.toRat))) := by
  exact ⟨DlRelR.edgeHoldsR_strict σ s d q, DlRelR.edgeHoldsR_weak σ s d q, DlRelR.edgeHoldsR_iff σ s d w⟩

/-- The relation between two linear expressions holds exactly when the distance constraints of
    its normal form hold — for every rational valuation with the origin at 0, for all five
    relations, either sign of the leading coefficient (division by a negative coefficient flips
    the relation), either variable order, one-variable forms (against the origin) and two-variable
    forms, strict relations through `-ε`.  Every weight produced is a finite `inf_rational` with an
    integer ε part (the hypotheses `IR.Fin` / `hint` of the C10R theorems).

    Difference 2: hypothesis `hnz` — a one-variable difference has a non-zero coefficient
    (counterexample `C12R_zero_coefficient_counterexample`; invariant `C12R_sub_nonzero`).  For a
    two-variable difference nothing is assumed: `c0 ≠ 0` follows from the `c1 / c0 = -1` test. -/
theorem C12R_relation_meaning (r : Rel) (left right : Lin) (hl : left.WF) (hr : right.WF)
    (hnz : ∀ x c, (Lin.sub left right).vars = [(x, c)] → c.num ≠ 0)
    (σ : Nat → ℚ) (h0 : σ 0 = 0) :
    match relOut rdlOps r left right with
    | .const b => (b = true ↔ relHolds r (Lin.eval left σ) (Lin.eval right σ))
    | .one src dst w => IR.Fin w ∧ w.inf.den = 1 ∧
        (edgeHoldsR σ src dst w ↔ relHolds r (Lin.eval left σ) (Lin.eval right σ))
    | .two s1 d1 w1 s2 d2 w2 => IR.Fin w1 ∧ IR.Fin w2 ∧ w1.inf.den = 1 ∧ w2.inf.den = 1 ∧
        ((edgeHoldsR σ s1 d1 w1 ∧ edgeHoldsR σ s2 d2 w2) ↔ relHolds r (Lin.eval left σ) (Lin.eval right σ))
    | .invalid => True := by
  have h := DlRel.relOut_means (DlRelR.rdl_reads σ) h0 r left right hl hr hnz
  have hw := DlRel.relOut_all (P := fun _ _ w => IR.Fin w ∧ w.inf.den = 1) r left right hl hr hnz
    (fun _ _ _ _ _ _ _ hk hm => DlRelR.rdl_weight hk hm)
  revert h hw
  cases relOut rdlOps r left right with
  | const b => exact fun h _ => h
  | one s d w => exact fun h hw => ⟨hw.1, hw.2, h⟩
  | two s1 d1 w1 s2 d2 w2 => exact fun h hw => ⟨hw.1.1, hw.2.1, hw.1.2, hw.2.2, h⟩
  | invalid => exact fun _ _ => trivial

/-- Difference 1: what the real instance rejects (the C++ throws `std::invalid_argument`, the
    model returns `none` by `C12_newRel_refines`): the difference has more than two variables, or
    two variables whose coefficients are not opposite.  Unlike IDL there is no condition on the
    constant, and a one-variable difference is never rejected. -/
theorem C12R_invalid_iff (r : Rel) (left right : Lin) (hl : left.WF) (hr : right.WF) :
    (∃ x, relOut rdlOps r left right = x ∧ (match x with | .invalid => True | _ => False)) ↔
      (let e := Lin.sub left right
       match e.vars with
       | [] => False
       | [_] => False
       | [(_, c0), (_, c1)] => R.ne (R.div c1 c0) (R.neg R.one) = true
       | _ => True) := by
  rw [exists_eq_left']
  refine Iff.trans (by cases relOut rdlOps r left right <;> simp)
    ((DlRel.relOut_invalid_iff DlRelR.rdl_mkB_none (fun _ => Iff.rfl) r left right hl hr).trans ?_)
  generalize Lin.sub left right = e
  rcases e with ⟨_ | ⟨⟨x, c⟩, _ | ⟨⟨y, d⟩, _ | _⟩⟩, known⟩ <;> simp

/-- the test `c1 / c0 ≠ -1` on the denoted rationals: it passes exactly when the two coefficients
    are opposite and non-zero, i.e. the expression is `c0·(x - y) + k` with `c0 ≠ 0` -/
theorem C12R_invalid_test_meaning (c0 c1 : R) (hc0 : R.FinWF c0) (hc1 : R.FinWF c1) :
    R.ne (R.div c1 c0) (R.neg R.one) = true ↔ ¬ (c0.toRat ≠ 0 ∧ c1.toRat = - c0.toRat) := by
  rw [DlRel.ne_iff, Ne, DlRel.div_eq_negOne_iff hc0 hc1, Ne, Ne, R.toRat_eq_zero_iff hc0]

/-- at the level of the constructor: `new_lt … new_gt` throw (the model returns `none`) exactly when
    the normal form is `invalid`, i.e. (by `C12R_invalid_iff`) for the shape only -/
theorem C12R_newRel_throws_iff (nc : Sat → List Lit → Lit × Sat) (s : Sat) (t : Dl IR)
    (r : Rel) (left right : Lin) :
    newRel rdlOps nc s t r left right = none ↔ (relOut rdlOps r left right).isInvalid := by
  rw [C12_newRel_refines]
  cases relOut rdlOps r left right with
  | two s1 d1 w1 s2 d2 w2 =>
    dsimp only
    split <;> simp [RelOut.isInvalid]
  | _ => simp [RelOut.isInvalid]

/-- End to end with C10Rdl: on an exact state, when `new_lt / new_leq / new_geq / new_gt` answers
    with a CONSTANT literal (the constant case, or the shortcut of `new_distance`), the answer is
    right for every rational valuation (origin at 0) that satisfies the enforced constraints: TRUE
    only if the relation holds in all of them, FALSE only if it holds in none.  (`new_eq` goes
    through `new_conj`, a parameter of the model, and is not covered.) -/
theorem C12R_newRel_constant_sound (E : List QEdge) (t : Dl IR) (h : t.ExactR E) (s : Sat) (hs : 0 < s.vals.length)
    (nc : Sat → List Lit → Lit × Sat) (r : Rel) (hne : r ≠ .eq) (left right : Lin) (hl : left.WF) (hr : right.WF)
    (hnz : ∀ x c, (Lin.sub left right).vars = [(x, c)] → c.num ≠ 0)
    (hv : ∀ v ∈ (Lin.sub left right).vars.map (·.1), v < t.nVars)
    (l : Lit) (s' : Sat) (t' : Dl IR) (hnew : newRel rdlOps nc s t r left right = some (l, s', t')) :
    (l = Lit.trueLit → ∀ σ : Nat → ℚ, σ 0 = 0 → (∀ e ∈ E, QEdge.holds (embQ σ) e) →
      relHolds r (Lin.eval left σ) (Lin.eval right σ)) ∧
    (l = Lit.falseLit → ∀ σ : Nat → ℚ, σ 0 = 0 → (∀ e ∈ E, QEdge.holds (embQ σ) e) →
      ¬ relHolds r (Lin.eval left σ) (Lin.eval right σ)) := by
  have hv' := DlRelR.exact_cons_zero h hv
  have hm := fun σ h0 => DlRel.relOut_means (DlRelR.rdl_reads σ) h0 r left right hl hr hnz
  have ha := DlRel.relOut_all (P := fun a b w => a < t.nVars ∧ b < t.nVars ∧ IR.Fin w) r left right hl hr hnz
    (fun a ha b hb _ _ _ hk hmk => ⟨hv' a ha, hv' b hb, (DlRelR.rdl_weight hk hmk).1⟩)
  have href := C12_newRel_refines rdlOps nc s t r left right
  rw [hnew] at href
  have hne' : Lit.trueLit ≠ Lit.falseLit := by decide
  cases hro : relOut rdlOps r left right with
  | const b =>
    rw [hro] at href hm
    obtain rfl : l = if b then Lit.trueLit else Lit.falseLit := congrArg Prod.fst (Option.some.inj href)
    cases b
    · exact ⟨fun hlt => absurd hlt.symm hne', fun _ σ h0 _ hrel => Bool.false_ne_true ((hm σ h0).2 hrel)⟩
    · exact ⟨fun _ σ h0 _ => (hm σ h0).1 rfl, fun hlf => absurd hlf hne'⟩
  | one src dst w =>
    rw [hro] at href hm ha
    obtain rfl : l = (newDistance rdlOps s t src dst w).1 := congrArg Prod.fst (Option.some.inj href)
    obtain ⟨ht, hf⟩ := C10R_new_distance_shortcut_valid E s t h src dst w ha.1 ha.2.1 ha.2.2 hs
    exact ⟨fun hlt σ h0 hσ => (hm σ h0).1 (ht hlt (embQ σ) hσ),
      fun hlf σ h0 hσ hrel => hf hlf (embQ σ) hσ ((hm σ h0).2 hrel)⟩
  | two s1 d1 w1 s2 d2 w2 => exact absurd (DlRel.relOut_two hro) hne
  | invalid =>
    rw [hro] at href
    cases href

/-- Difference 2, invariant: the subtraction `left - right` of two canonical expressions without
    zero coefficients has no zero coefficient (equal terms cancel and are ERASED from the map), so
    `hnz` of `C12R_relation_meaning` / `C12R_bounds_lin_sound` holds whenever the operands come
    from variables and non-zero scalings -/
theorem C12R_sub_nonzero (left right : Lin) (hl : left.WF) (hr : right.WF)
    (hnl : ∀ p ∈ left.vars, p.2.num ≠ 0) (hnr : ∀ p ∈ right.vars, p.2.num ≠ 0) :
    (∀ p ∈ (Lin.sub left right).vars, p.2.num ≠ 0) ∧
    (∀ x c, (Lin.sub left right).vars = [(x, c)] → c.num ≠ 0) := by
  have h := Lra.nz_sub hl hr hnl hnr
  exact ⟨h, fun x c e => h (x, c) (by rw [e]; exact List.mem_singleton.2 rfl)⟩

/-- Difference 2, counterexample to the statement without `hnz`: the request `0·x1 < 5` (true in
    every valuation) is not rejected and not answered by a constant: its normal form is the
    distance constraint `x1 - x0 ≤ +∞ - ε`, whose weight is not a finite `inf_rational`, and whose
    reading (`+∞` denotes 0 under `R.toRat`) fails at `x1 = 1` although the relation holds.  The
    integer instance rejects the same request.  Run on `exNet` (C10Rdl; `x1` unbounded), `new_lt`
    answers with a FRESH literal controlling that infinite-weight constraint instead of TRUE. -/
theorem C12R_zero_coefficient_counterexample :
    relOut rdlOps .lt ⟨[(1, R.zero)], R.zero⟩ ⟨[], R.ofInt 5⟩ = .one 0 1 ⟨R.pinf, R.ofInt (-1)⟩ ∧
    (⟨[(1, R.zero)], R.zero⟩ : Lin).WF ∧ (⟨[], R.ofInt 5⟩ : Lin).WF ∧
    ¬ IR.Fin ⟨R.pinf, R.ofInt (-1)⟩ ∧
    (∀ σ : Nat → ℚ, relHolds .lt (Lin.eval ⟨[(1, R.zero)], R.zero⟩ σ) (Lin.eval ⟨[], R.ofInt 5⟩ σ)) ∧
    (∀ σ : Nat → ℚ, σ 0 = 0 → σ 1 = 1 → ¬ edgeHoldsR σ 0 1 ⟨R.pinf, R.ofInt (-1)⟩) ∧
    (match relOut idlOps .lt ⟨[(1, R.zero)], R.zero⟩ ⟨[], R.ofInt 5⟩ with | .invalid => True | _ => False) ∧
    (newRel rdlOps (fun s _ => (Lit.trueLit, s)) Sat.init exNet .lt ⟨[(1, R.zero)], R.zero⟩ ⟨[], R.ofInt 5⟩).map
        (fun p => (p.1, p.2.2.varDists.map (fun c => (c.src, c.dst, c.dist)))) =
      some (⟨1, true⟩, [(0, 1, ⟨R.pinf, R.ofInt (-1)⟩)]) := by
  refine ⟨rfl, Lin.wf_one 1 R.finWF_zero R.finWF_zero, Lin.wf_nil (R.finWF_ofInt 5), fun h => h.1.2 rfl, ?_, ?_, ?_, by decide⟩
  · intro σ
    show ([R.zero.toRat * σ 1]).sum + R.zero.toRat < ([] : List ℚ).sum + (R.ofInt 5).toRat
    rw [R.toRat_zero, R.toRat_ofInt]
    norm_num
  · intro σ h0 h1
    rw [DlRelR.edgeHoldsR_iff, h0, h1]
    show ¬ ((1 : ℚ) - 0 < R.pinf.toRat ∨ ((1 : ℚ) - 0 = R.pinf.toRat ∧ 0 ≤ (R.ofInt (-1)).toRat))
    rw [show R.pinf.toRat = 0 by decide, R.toRat_ofInt]
    norm_num
  · rw [show relOut idlOps .lt ⟨[(1, R.zero)], R.zero⟩ ⟨[], R.ofInt 5⟩ = .invalid from rfl]
    trivial

/-! ## (iii) expression queries -/

/-- how a bound is read against a RATIONAL value `y`: `lo = q + e·ε` is below `y` iff `q < y`, or
    `q = y` and `e ≤ 0` (`-∞` below everything); symmetrically above — the vocabulary
    `Lra.IRBelow / IRAbove` of C11 -/
theorem C12R_bound_reading (b : IR) (y : ℚ) :
    (IR.lbHolds b (QV.ofQ y) ↔ Lra.IRBelow b y) ∧ (IR.ubHolds b (QV.ofQ y) ↔ Lra.IRAbove b y) := by
  unfold IR.lbHolds IR.ubHolds Lra.IRBelow Lra.IRAbove IR.val QV.ofQ
  rw [QV.le_iff, QV.le_iff]
  exact ⟨Iff.rfl, Iff.rfl⟩

/-- `bounds(l)` encloses the value of `l` under every ε-rational valuation (origin at 0) that
    respects the distance matrix — every finite entry `d i j` bounds `σ j - σ i`, infinite entries
    bound nothing — for constants, `c·x + k` and `c·(x − y) + k`, either sign of `c`; infinite
    results mean "no bound" (`IR.lbHolds` / `IR.ubHolds`).

    Difference 2: hypothesis `hnz` — the coefficient of a one-variable expression is not zero
    (counterexample `C12R_bounds_zero_coefficient_counterexample`).  `hg`: the entries involved are
    well-formed matrix entries (`ExactR.wf`; see `C12R_bounds_lin_sound_exact`). -/
theorem C12R_bounds_lin_sound (t : Dl IR) (l : Lin) (hl : l.WF)
    (hnz : ∀ x c, l.vars = [(x, c)] → c.num ≠ 0) (lo hi : IR)
    (hb : boundsLin rdlOps t l = some (lo, hi))
    (hg : t.GoodOn (0 :: l.vars.map (·.1)))
    (σ : Nat → QV) (h0 : σ 0 = 0) (hσ : t.RespectsOn σ (0 :: l.vars.map (·.1))) :
    IR.lbHolds lo (Lin.evalQV l σ) ∧ IR.ubHolds hi (Lin.evalQV l σ) := by
  exact (DlRelR.boundsLin_rdl_spec t l hl hnz lo hi hb hg).2 σ h0 hσ

/-- the same for a RATIONAL valuation of the time points: the rational value of the expression
    lies within the bounds, strictly where the bound carries a non-zero ε part of the right sign -/
theorem C12R_bounds_lin_sound_rational (t : Dl IR) (l : Lin) (hl : l.WF)
    (hnz : ∀ x c, l.vars = [(x, c)] → c.num ≠ 0) (lo hi : IR)
    (hb : boundsLin rdlOps t l = some (lo, hi))
    (hg : t.GoodOn (0 :: l.vars.map (·.1)))
    (σ : Nat → ℚ) (h0 : σ 0 = 0) (hσ : t.RespectsOn (embQ σ) (0 :: l.vars.map (·.1))) :
    Lin.evalQV l (embQ σ) = QV.ofQ (Lin.eval l σ) ∧
    Lra.IRBelow lo (Lin.eval l σ) ∧ Lra.IRAbove hi (Lin.eval l σ) := by
  have h := C12R_bounds_lin_sound t l hl hnz lo hi hb hg (embQ σ) (DlRelR.embQ_zero h0) hσ
  rw [DlRelR.evalQV_embQ] at h
  exact ⟨DlRelR.evalQV_embQ l σ, (C12R_bound_reading _ _).1.1 h.1, (C12R_bound_reading _ _).2.1 h.2⟩

/-- on an exact state (C10Rdl: `ExactR`) the hypotheses on the matrix are discharged: `bounds(l)`
    encloses the value of `l` under every valuation that satisfies the enforced constraints -/
theorem C12R_bounds_lin_sound_exact (E : List QEdge) (t : Dl IR) (h : t.ExactR E) (l : Lin) (hl : l.WF)
    (hnz : ∀ x c, l.vars = [(x, c)] → c.num ≠ 0) (hv : ∀ v ∈ l.vars.map (·.1), v < t.nVars) (lo hi : IR)
    (hb : boundsLin rdlOps t l = some (lo, hi))
    (σ : Nat → QV) (h0 : σ 0 = 0) (hσ : ∀ e ∈ E, QEdge.holds σ e) :
    IR.lbHolds lo (Lin.evalQV l σ) ∧ IR.ubHolds hi (Lin.evalQV l σ) := by
  have hv' := DlRelR.exact_cons_zero h hv
  exact C12R_bounds_lin_sound t l hl hnz lo hi hb (DlRelR.exact_goodOn h _ hv') σ h0
    (DlRelR.exact_respectsOn h _ hv' σ hσ)

/-- Exact image.  For `c ≠ 0` the interval returned for `c·x + k` is exactly the image of the
    variable's interval `[lb x, ub x]` under `v ↦ c·v + k` (`v` lies in the one iff `c·v + k` lies
    in the other; the map is a bijection of the ε-rationals), infinite ends included, for either
    sign of `c`; and the interval returned for `c·(x − y) + k` is the image of `distance(y, x)`.
    Difference 2: `c ≠ 0` (for `c = 0` an infinite end is mapped to `+∞` on both sides). -/
theorem C12R_bounds_lin_image (t : Dl IR) (x : Nat) (c k : R) (hc : R.FinWF c) (hcn : c.num ≠ 0) (hk : R.FinWF k) :
    (IR.Good (Dl.d rdlOps t 0 x) ∧ IR.Good (Dl.d rdlOps t x 0) →
      ∃ lo hi, boundsLin rdlOps t ⟨[(x, c)], k⟩ = some (lo, hi) ∧
        ∀ v : QV, (IR.lbHolds lo (QV.smul c.toRat v + QV.ofQ k.toRat) ∧ IR.ubHolds hi (QV.smul c.toRat v + QV.ofQ k.toRat)) ↔
          (IR.lbHolds (Dl.lb rdlOps t x) v ∧ IR.ubHolds (Dl.ub rdlOps t x) v)) ∧
    (∀ y c1, x < y → R.FinWF c1 → c1.toRat = - c.toRat →
      IR.Good (Dl.d rdlOps t y x) ∧ IR.Good (Dl.d rdlOps t x y) →
      ∃ lo hi, boundsLin rdlOps t ⟨[(x, c), (y, c1)], k⟩ = some (lo, hi) ∧
        ∀ v : QV, (IR.lbHolds lo (QV.smul c.toRat v + QV.ofQ k.toRat) ∧ IR.ubHolds hi (QV.smul c.toRat v + QV.ofQ k.toRat)) ↔
          (IR.lbHolds (Dl.distance rdlOps t y x).1 v ∧ IR.ubHolds (Dl.distance rdlOps t y x).2 v)) := by
  refine ⟨fun hg => ⟨_, _, DlRelR.boundsLin_rdl_diff t rfl,
    (DlRelR.scaled_spec (DlRelR.goodL_neg hg.2) hg.1 hc hcn hk).2.2⟩, ?_⟩
  intro y c1 hxy hc1 hopp hg
  have hne : ¬ R.ne (R.div c1 c) (R.neg R.one) = true := fun h' =>
    (C12R_invalid_test_meaning c c1 hc hc1).1 h' ⟨R.toRat_ne_zero hc hcn, hopp⟩
  exact ⟨_, _, DlRelR.boundsLin_rdl_diff t (by rw [DlRel.exprShape_two (Nat.ne_of_lt hxy), if_neg hne]),
    (DlRelR.scaled_spec (DlRelR.goodL_neg hg.2) hg.1 hc hcn hk).2.2⟩

/-- Tightness on an exact state: each FINITE end of `bounds(c·x + k)` is attained by a valuation
    (origin at 0) satisfying the enforced constraints — so, with soundness, the interval is the exact
    range of the expression.  `hreach` is the reachability hypothesis of `C10R_tight_witness` for the
    two rows used (`0` for the upper end of `x`, `x` for the lower one). -/
theorem C12R_bounds_lin_tight (E : List QEdge) (t : Dl IR) (h : t.ExactR E) (x : Nat) (hx : x < t.nVars)
    (c k : R) (hc : R.FinWF c) (hcn : c.num ≠ 0) (hk : R.FinWF k) (lo hi : IR)
    (hb : boundsLin rdlOps t ⟨[(x, c)], k⟩ = some (lo, hi))
    (hreach : ∀ i ∈ [0, x], ∀ k, k < t.nVars → t.rdist? i k ≠ none) :
    (hi.rat.den ≠ 0 → ∃ σ : Nat → QV, σ 0 = 0 ∧ (∀ e ∈ E, QEdge.holds σ e) ∧
      Lin.evalQV ⟨[(x, c)], k⟩ σ = IR.val hi) ∧
    (lo.rat.den ≠ 0 → ∃ σ : Nat → QV, σ 0 = 0 ∧ (∀ e ∈ E, QEdge.holds σ e) ∧
      Lin.evalQV ⟨[(x, c)], k⟩ σ = IR.val lo) := by
  -- a finite scaled end comes from a finite end, and the valuation attaining that one attains it
  have key : ∀ (d : Lra.Side) b, Lra.SOk d b →
      (IR.Fin b → ∃ σ : Nat → QV, σ 0 = 0 ∧ (∀ e ∈ E, QEdge.holds σ e) ∧ σ x = IR.val b) →
      (DlRelR.sA b c k).rat.den ≠ 0 → ∃ σ : Nat → QV, σ 0 = 0 ∧ (∀ e ∈ E, QEdge.holds σ e) ∧
        Lin.evalQV ⟨[(x, c)], k⟩ σ = IR.val (DlRelR.sA b c k) := by
    intro d b hb hatt hd
    have hf := DlRelR.fin_of_sA_fin hb hc hcn hk hd
    obtain ⟨σ, s0, s1, s2⟩ := hatt hf
    exact ⟨σ, s0, s1, by
      rw [DlRelR.evalQV_diff (Lin.wf_one x hc hk) rfl σ s0, s0, sub_zero, s2, (DlRelR.sA_fin hf hc hk).2]⟩
  have upper := key .hi _ (DlRelR.GoodS.sok (d := .hi) (h.wf 0 x h.size_ok.1 hx))
    fun hf => DlRelR.ub_attained E t h x hx hf (hreach 0 (by simp))
  have lower := key .lo _ (DlRelR.GoodS.sok (d := .lo) (DlRelR.goodL_neg (h.wf x 0 hx h.size_ok.1)))
    fun hf => DlRelR.lb_attained E t h x hx hf (hreach x (by simp))
  rw [DlRelR.boundsLin_rdl_diff t rfl] at hb
  injection hb with hb
  unfold DlRelR.scaled at hb
  split at hb <;> cases hb
  · exact ⟨upper, lower⟩
  · exact ⟨lower, upper⟩

/-- the returned pair is a well-formed lower bound (finite or `-∞`) and a well-formed upper bound
    (finite or `+∞`), each with a finite ε part -/
theorem C12R_bounds_lin_wf (t : Dl IR) (l : Lin) (hl : l.WF)
    (hnz : ∀ x c, l.vars = [(x, c)] → c.num ≠ 0) (lo hi : IR)
    (hb : boundsLin rdlOps t l = some (lo, hi))
    (hg : t.GoodOn (0 :: l.vars.map (·.1))) : IR.GoodL lo ∧ IR.Good hi := by
  exact (DlRelR.boundsLin_rdl_spec t l hl hnz lo hi hb hg).1

/-- Difference 2, counterexample: on `exNet` (C10Rdl; `x1` unbounded) `bounds(0·x1 + 5)` is
    `[+∞, +∞]`: a lower bound `+∞` that no value satisfies, for an expression whose value is 5.  On
    a network where `x1` is bounded (`exNet3`) the same query answers `[5, 5]`. -/
theorem C12R_bounds_zero_coefficient_counterexample :
    boundsLin rdlOps exNet ⟨[(1, R.zero)], R.ofInt 5⟩ = some (⟨R.pinf, R.zero⟩, ⟨R.pinf, R.zero⟩) ∧
    (∀ v : QV, ¬ IR.lbHolds ⟨R.pinf, R.zero⟩ v) ∧
    boundsLin rdlOps exNet3 ⟨[(1, R.zero)], R.ofInt 5⟩ = some (⟨R.ofInt 5, R.zero⟩, ⟨R.ofInt 5, R.zero⟩) := by
  refine ⟨by decide, ?_, by decide⟩
  rintro v (h | ⟨h, -⟩)
  · exact absurd h (by decide)
  · exact h rfl

/-! ## `distance` and `equates` -/

/-- `distance(from, to)` is `bounds(to − from)`; `equates(l0, l1)` on one-variable operands tests
    `lb <= 0 && ub >= 0` on `bounds(l0 − l1)` (corollary of the generic `C12_distance_equates_agree`) -/
theorem C12R_distance_equates (t : Dl IR) (a b : Lin) :
    distanceLin rdlOps t a b = boundsLin rdlOps t (Lin.sub b a) ∧
    (∀ x c k y d m, a = ⟨[(x, c)], k⟩ → b = ⟨[(y, d)], m⟩ →
      equatesLin rdlOps t a b = (boundsLin rdlOps t (Lin.sub a b)).map (fun p => rdlOps.leZero p.1 && rdlOps.geZero p.2)) := by
  exact C12_distance_equates_agree rdlOps t a b

/-- … and the two tests mean what they say: `equates` answers whether 0 lies within the bounds of
    the difference (and throws exactly when `bounds` does) -/
theorem C12R_equates_meaning (t : Dl IR) (x : Nat) (c k : R) (y : Nat) (d m : R)
    (ha : (⟨[(x, c)], k⟩ : Lin).WF) (hb : (⟨[(y, d)], m⟩ : Lin).WF)
    (hnz : ∀ z e, (Lin.sub ⟨[(x, c)], k⟩ ⟨[(y, d)], m⟩).vars = [(z, e)] → e.num ≠ 0)
    (hg : t.GoodOn (0 :: (Lin.sub ⟨[(x, c)], k⟩ ⟨[(y, d)], m⟩).vars.map (·.1))) :
    match boundsLin rdlOps t (Lin.sub ⟨[(x, c)], k⟩ ⟨[(y, d)], m⟩) with
    | none => equatesLin rdlOps t ⟨[(x, c)], k⟩ ⟨[(y, d)], m⟩ = none
    | some (lo, hi) => ∃ e, equatesLin rdlOps t ⟨[(x, c)], k⟩ ⟨[(y, d)], m⟩ = some e ∧
        (e = true ↔ (IR.lbHolds lo 0 ∧ IR.ubHolds hi 0)) := by
  have he : equatesLin rdlOps t ⟨[(x, c)], k⟩ ⟨[(y, d)], m⟩ =
      (boundsLin rdlOps t (Lin.sub ⟨[(x, c)], k⟩ ⟨[(y, d)], m⟩)).map
        (fun p => rdlOps.leZero p.1 && rdlOps.geZero p.2) := rfl
  obtain ⟨hwf, -⟩ := C15_lin_sub _ _ ha hb
  cases hbl : boundsLin rdlOps t (Lin.sub ⟨[(x, c)], k⟩ ⟨[(y, d)], m⟩) with
  | none => rw [he, hbl]; rfl
  | some p =>
    obtain ⟨lo, hi⟩ := p
    obtain ⟨g1, g2⟩ := C12R_bounds_lin_wf t _ hwf hnz lo hi hbl hg
    refine ⟨_, by rw [he, hbl]; rfl, ?_⟩
    show (rdlOps.leZero lo && rdlOps.geZero hi) = true ↔ _
    rw [Bool.and_eq_true, DlRelR.leZero_iff g1, DlRelR.geZero_iff g2]

/-- a negative answer of `equates` is sound: the two expressions differ under every rational
    valuation that respects the distance matrix -/
theorem C12R_equates_false_sound (t : Dl IR) (x : Nat) (c k : R) (y : Nat) (d m : R)
    (ha : (⟨[(x, c)], k⟩ : Lin).WF) (hb : (⟨[(y, d)], m⟩ : Lin).WF)
    (hnz : ∀ z e, (Lin.sub ⟨[(x, c)], k⟩ ⟨[(y, d)], m⟩).vars = [(z, e)] → e.num ≠ 0)
    (hg : t.GoodOn (0 :: (Lin.sub ⟨[(x, c)], k⟩ ⟨[(y, d)], m⟩).vars.map (·.1)))
    (hf : equatesLin rdlOps t ⟨[(x, c)], k⟩ ⟨[(y, d)], m⟩ = some false)
    (σ : Nat → ℚ) (h0 : σ 0 = 0)
    (hσ : t.RespectsOn (embQ σ) (0 :: (Lin.sub ⟨[(x, c)], k⟩ ⟨[(y, d)], m⟩).vars.map (·.1))) :
    Lin.eval ⟨[(x, c)], k⟩ σ ≠ Lin.eval ⟨[(y, d)], m⟩ σ := by
  intro heq
  have hm := C12R_equates_meaning t x c k y d m ha hb hnz hg
  obtain ⟨hwf, -, -, hev, -⟩ := C15_lin_sub _ _ ha hb
  cases hbl : boundsLin rdlOps t (Lin.sub ⟨[(x, c)], k⟩ ⟨[(y, d)], m⟩) with
  | none =>
    rw [hbl, hf] at hm
    cases hm
  | some p =>
    obtain ⟨lo, hi⟩ := p
    rw [hbl, hf] at hm
    obtain ⟨e, he1, he2⟩ := hm
    obtain rfl := Option.some.inj he1
    have hs := C12R_bounds_lin_sound t _ hwf hnz lo hi hbl hg (embQ σ) (DlRelR.embQ_zero h0) hσ
    rw [DlRelR.evalQV_embQ, hev, heq, sub_self] at hs
    exact Bool.false_ne_true (he2.2 hs)


/-! ## non-vacuity -/

/-- `-3·x1 + 3·x2 > 6` (negative leading coefficient, strict, two variables) is the single strict
    constraint `x1 - x2 ≤ -2 - ε`, i.e. `σ 1 - σ 2 < -2` -/
example (σ : Nat → ℚ) (h0 : σ 0 = 0) :
    relOut rdlOps .gt exL exR = .one 2 1 ⟨R.ofInt (-2), R.ofInt (-1)⟩ ∧
    (σ 1 - σ 2 < -2 ↔ relHolds .gt (Lin.eval exL σ) (Lin.eval exR σ)) ∧
    Lin.eval exL σ = -3 * σ 1 + 3 * σ 2 ∧ Lin.eval exR σ = 6 := by
  have h := C12R_relation_meaning .gt exL exR DlRelR.exL_wf DlRelR.exR_wf DlRelR.exLR_nz σ h0
  rw [show relOut rdlOps .gt exL exR = .one 2 1 ⟨R.ofInt (-2), R.ofInt (-1)⟩ from rfl] at h
  obtain ⟨-, -, h⟩ := h
  rw [(C12R_edge_reading σ 2 1 (R.ofInt (-2)) ⟨R.zero, R.zero⟩).1, R.toRat_ofInt] at h
  refine ⟨rfl, by simpa using h, ?_, ?_⟩
  · show ([(R.ofInt (-3)).toRat * σ 1, (R.ofInt 3).toRat * σ 2]).sum + R.zero.toRat = _
    rw [R.toRat_ofInt, R.toRat_ofInt, R.toRat_zero]
    simp
  · show ([] : List ℚ).sum + (R.ofInt 6).toRat = _
    rw [R.toRat_ofInt]
    simp

/-- `x1 ≥ 2` (one variable against the origin, positive coefficient, non-strict) is
    `x0 - x1 ≤ -2` -/
example (σ : Nat → ℚ) (h0 : σ 0 = 0) :
    relOut rdlOps .geq exX1 exTwo = .one 1 0 ⟨R.ofInt (-2), R.ofInt 0⟩ ∧
    (σ 0 - σ 1 ≤ -2 ↔ relHolds .geq (Lin.eval exX1 σ) (Lin.eval exTwo σ)) := by
  have hnz : ∀ x c, (Lin.sub exX1 exTwo).vars = [(x, c)] → c.num ≠ 0 := by
    intro x c h
    rw [show (Lin.sub exX1 exTwo).vars = [(1, R.one)] from rfl] at h
    simp at h
    rw [← h.2]; decide
  have h := C12R_relation_meaning .geq exX1 exTwo DlRelR.exX1_wf DlRelR.exTwo_wf hnz σ h0
  rw [show relOut rdlOps .geq exX1 exTwo = .one 1 0 ⟨R.ofInt (-2), R.ofInt 0⟩ from rfl] at h
  obtain ⟨-, -, h⟩ := h
  rw [(C12R_edge_reading σ 1 0 (R.ofInt (-2)) ⟨R.zero, R.zero⟩).2.1, R.toRat_ofInt] at h
  exact ⟨rfl, by simpa using h⟩

/-- `2·x1 = 2·x2 + 3` is the pair `x2 - x1 ≤ -3/2`, `x1 - x2 ≤ 3/2` -/
example (σ : Nat → ℚ) (h0 : σ 0 = 0) :
    relOut rdlOps .eq exA exB = .two 1 2 ⟨⟨-3, 2⟩, R.ofInt 0⟩ 2 1 ⟨⟨3, 2⟩, R.ofInt 0⟩ ∧
    ((σ 2 - σ 1 ≤ (⟨-3, 2⟩ : R).toRat ∧ σ 1 - σ 2 ≤ (⟨3, 2⟩ : R).toRat) ↔
      relHolds .eq (Lin.eval exA σ) (Lin.eval exB σ)) := by
  have hnz : ∀ x c, (Lin.sub exA exB).vars = [(x, c)] → c.num ≠ 0 := by
    intro x c h
    rw [show (Lin.sub exA exB).vars = [(1, ⟨2, 1⟩), (2, ⟨-2, 1⟩)] from rfl] at h
    simp at h
  have h := C12R_relation_meaning .eq exA exB DlRelR.exA_wf DlRelR.exB_wf hnz σ h0
  rw [show relOut rdlOps .eq exA exB = .two 1 2 ⟨⟨-3, 2⟩, R.ofInt 0⟩ 2 1 ⟨⟨3, 2⟩, R.ofInt 0⟩ from rfl] at h
  obtain ⟨-, -, -, -, h⟩ := h
  rw [(C12R_edge_reading σ 1 2 ⟨-3, 2⟩ ⟨R.zero, R.zero⟩).2.1,
      (C12R_edge_reading σ 2 1 ⟨3, 2⟩ ⟨R.zero, R.zero⟩).2.1] at h
  exact ⟨rfl, h⟩

/-- the requests run on the concrete network `exNet3` (`x1 ∈ [2, 7]`, `x2 - x1 < 3/2`):
    `-3·x1 + 3·x2 > 6` is answered FALSE, `x1 ≥ 2` TRUE, `x1 > 2` by a fresh literal controlling
    `x0 - x1 ≤ -2 - ε`; three variables with non-opposite coefficients are rejected -/
example :
    (newRel rdlOps (fun s _ => (Lit.trueLit, s)) Sat.init exNet3 .gt exL exR).map (·.1) = some Lit.falseLit ∧
    (newRel rdlOps (fun s _ => (Lit.trueLit, s)) Sat.init exNet3 .geq exX1 exTwo).map (·.1) = some Lit.trueLit ∧
    (newRel rdlOps (fun s _ => (Lit.trueLit, s)) Sat.init exNet3 .gt exX1 exTwo).map (fun p => (p.1, p.2.2.varDists.map (fun c => (c.src, c.dst, c.dist)))) =
      some (⟨1, true⟩, [(1, 0, ⟨R.ofInt (-2), R.ofInt (-1)⟩)]) ∧
    (newRel rdlOps (fun s _ => (Lit.trueLit, s)) Sat.init exNet3 .leq ⟨[(1, R.one), (2, R.one)], R.zero⟩ exTwo).isNone = true := by
  exact ⟨DlRelR.exNet3_gt, by decide, by decide, by decide⟩

/-- `C12R_newRel_constant_sound` on `exNet3`: `-3·x1 + 3·x2 > 6` is answered FALSE, and indeed no
    valuation satisfying `x1 ∈ [2, 7]`, `x2 - x1 < 3/2` satisfies it -/
example (σ : Nat → ℚ) (h0 : σ 0 = 0)
    (hσ : ∀ e ∈ [(0, 1, w01), (1, 0, w10), (1, 2, w12)], QEdge.holds (embQ σ) e) :
    ¬ relHolds .gt (Lin.eval exL σ) (Lin.eval exR σ) := by
  have hmap := DlRelR.exNet3_gt
  cases hnew : newRel rdlOps (fun s _ => (Lit.trueLit, s)) Sat.init exNet3 .gt exL exR with
  | none => rw [hnew] at hmap; cases hmap
  | some p =>
    obtain ⟨l, s', t'⟩ := p
    rw [hnew] at hmap
    have hl : l = Lit.falseLit := by injection hmap
    exact (C12R_newRel_constant_sound _ exNet3 DlRelR.exNet3_exact Sat.init (by decide) _ .gt (by decide) exL exR
      DlRelR.exL_wf DlRelR.exR_wf DlRelR.exLR_nz DlRelR.exLR_vars l s' t' hnew).2 hl σ h0 hσ

/-- what is rejected, on the example: `x1 + x2 ≤ 2` (coefficients not opposite) -/
example : (∃ x, relOut rdlOps .leq ⟨[(1, R.one), (2, R.one)], R.zero⟩ exTwo = x ∧ (match x with | .invalid => True | _ => False)) := by
  refine (C12R_invalid_iff .leq _ _ (Lin.wf_two (by decide) ⟨by decide, by decide⟩ ⟨by decide, by decide⟩ R.finWF_zero) DlRelR.exTwo_wf).2 ?_
  show R.ne (R.div R.one R.one) (R.neg R.one) = true
  decide

/-- `bounds(-2·x1 + 1)` on `exNet3` is `[-13, -3]` (negative coefficient: the ends are swapped) and
    encloses the value under every valuation satisfying the three enforced constraints — which are
    satisfiable (`x0 = 0, x1 = 3, x2 = 4`) -/
example (σ : Nat → QV) (h0 : σ 0 = 0)
    (hσ : ∀ e ∈ [(0, 1, w01), (1, 0, w10), (1, 2, w12)], QEdge.holds σ e) :
    boundsLin rdlOps exNet3 ⟨[(1, ⟨-2, 1⟩)], R.one⟩ = some (⟨R.ofInt (-13), R.zero⟩, ⟨R.ofInt (-3), R.zero⟩) ∧
    IR.lbHolds ⟨R.ofInt (-13), R.zero⟩ (Lin.evalQV ⟨[(1, ⟨-2, 1⟩)], R.one⟩ σ) ∧
    IR.ubHolds ⟨R.ofInt (-3), R.zero⟩ (Lin.evalQV ⟨[(1, ⟨-2, 1⟩)], R.one⟩ σ) := by
  exact ⟨DlRelR.exNet3_bounds, C12R_bounds_lin_sound_exact _ exNet3 DlRelR.exNet3_exact _ DlRelR.exM_wf
    DlRelR.exM_nz DlRelR.exM_vars _ _ DlRelR.exNet3_bounds σ h0 hσ⟩

example : exNet3.ExactR [(0, 1, w01), (1, 0, w10), (1, 2, w12)] ∧ embQ DlRelR.exSigma 0 = 0 ∧
    (∀ e ∈ [(0, 1, w01), (1, 0, w10), (1, 2, w12)], QEdge.holds (embQ DlRelR.exSigma) e) := by
  refine ⟨DlRelR.exNet3_exact, ?_, DlRelR.exSigma_holds⟩
  show (toLex (DlRelR.exSigma 0, 0) : QV) = 0
  rw [DlRelR.exSigma0]; rfl

/-- the same query read on the rational valuation `x0 = 0, x1 = 3, x2 = 4`: `-13 ≤ -2·3 + 1 ≤ -3` -/
example :
    Lra.IRBelow ⟨R.ofInt (-13), R.zero⟩ (Lin.eval ⟨[(1, ⟨-2, 1⟩)], R.one⟩ DlRelR.exSigma) ∧
    Lra.IRAbove ⟨R.ofInt (-3), R.zero⟩ (Lin.eval ⟨[(1, ⟨-2, 1⟩)], R.one⟩ DlRelR.exSigma) := by
  have hv := DlRelR.exact_cons_zero DlRelR.exNet3_exact DlRelR.exM_vars
  exact (C12R_bounds_lin_sound_rational exNet3 _ DlRelR.exM_wf DlRelR.exM_nz _ _ DlRelR.exNet3_bounds
    (DlRelR.exact_goodOn DlRelR.exNet3_exact _ hv) DlRelR.exSigma DlRelR.exSigma0
    (DlRelR.exact_respectsOn DlRelR.exNet3_exact _ hv _ DlRelR.exSigma_holds)).2

/-- two variables, negative coefficient, one infinite end and one strict end:
    `bounds(-3·x1 + 3·x2 + 1/2) = (-∞, 5 - 3ε]` on `exNet3` -/
example (σ : Nat → QV) (h0 : σ 0 = 0)
    (hσ : ∀ e ∈ [(0, 1, w01), (1, 0, w10), (1, 2, w12)], QEdge.holds σ e) :
    boundsLin rdlOps exNet3 ⟨[(1, ⟨-3, 1⟩), (2, ⟨3, 1⟩)], ⟨1, 2⟩⟩ = some (⟨R.ninf, R.zero⟩, ⟨R.ofInt 5, R.ofInt (-3)⟩) ∧
    IR.ubHolds ⟨R.ofInt 5, R.ofInt (-3)⟩ (Lin.evalQV ⟨[(1, ⟨-3, 1⟩), (2, ⟨3, 1⟩)], ⟨1, 2⟩⟩ σ) := by
  have hb : boundsLin rdlOps exNet3 ⟨[(1, ⟨-3, 1⟩), (2, ⟨3, 1⟩)], ⟨1, 2⟩⟩ = some (⟨R.ninf, R.zero⟩, ⟨R.ofInt 5, R.ofInt (-3)⟩) := by decide
  refine ⟨hb, (C12R_bounds_lin_sound_exact _ exNet3 DlRelR.exNet3_exact _
    (Lin.wf_two (by decide) ⟨by decide, by decide⟩ ⟨by decide, by decide⟩ ⟨by decide, by decide⟩) ?_ ?_ _ _ hb σ h0 hσ).2⟩
  · intro x c h
    simp at h
  · intro v hv
    simp at hv
    rcases hv with rfl | rfl <;> exact DlRelR.lt_nVars (by decide)

/-- tightness on `exNet3`: both ends `-13` and `-3` of `bounds(-2·x1 + 1)` are attained -/
example :
    (∃ σ : Nat → QV, σ 0 = 0 ∧ (∀ e ∈ [(0, 1, w01), (1, 0, w10), (1, 2, w12)], QEdge.holds σ e) ∧
      Lin.evalQV ⟨[(1, R.ofInt (-2))], R.one⟩ σ = IR.val ⟨R.ofInt (-3), R.zero⟩) ∧
    (∃ σ : Nat → QV, σ 0 = 0 ∧ (∀ e ∈ [(0, 1, w01), (1, 0, w10), (1, 2, w12)], QEdge.holds σ e) ∧
      Lin.evalQV ⟨[(1, R.ofInt (-2))], R.one⟩ σ = IR.val ⟨R.ofInt (-13), R.zero⟩) := by
  have hb := DlRelR.exNet3_bounds
  have h := C12R_bounds_lin_tight _ exNet3 DlRelR.exNet3_exact 1 (DlRelR.lt_nVars (by decide)) (R.ofInt (-2)) R.one (R.finWF_ofInt _)
    (by decide) (R.finWF_ofInt 1) _ _ hb (by
      intro i hi k hk
      rw [DlRelR.exNet3_nVars] at hk
      have hk' : k = 0 ∨ k = 1 ∨ k = 2 := by omega
      simp at hi
      rcases hi with rfl | rfl <;> rcases hk' with rfl | rfl | rfl <;>
        (rw [DlRelR.rdist_some (by decide)]; exact Option.some_ne_none _))
  exact ⟨h.1 (by decide), h.2 (by decide)⟩

/-- the image theorem on `exNet3`: `[-13, -3]` is exactly the image of `[lb x1, ub x1] = [2, 7]`
    under `v ↦ -2·v + 1` -/
example : Dl.lb rdlOps exNet3 1 = ⟨R.ofInt 2, R.zero⟩ ∧ Dl.ub rdlOps exNet3 1 = ⟨R.ofInt 7, R.zero⟩ ∧
    ∀ v : QV, (IR.lbHolds ⟨R.ofInt (-13), R.zero⟩ (QV.smul (R.ofInt (-2)).toRat v + QV.ofQ R.one.toRat) ∧
               IR.ubHolds ⟨R.ofInt (-3), R.zero⟩ (QV.smul (R.ofInt (-2)).toRat v + QV.ofQ R.one.toRat)) ↔
      (IR.lbHolds ⟨R.ofInt 2, R.zero⟩ v ∧ IR.ubHolds ⟨R.ofInt 7, R.zero⟩ v) := by
  have hb := DlRelR.exNet3_bounds
  have hl : Dl.lb rdlOps exNet3 1 = ⟨R.ofInt 2, R.zero⟩ := by decide
  have hu : Dl.ub rdlOps exNet3 1 = ⟨R.ofInt 7, R.zero⟩ := by decide
  obtain ⟨lo, hi, h1, h2⟩ := (C12R_bounds_lin_image exNet3 1 (R.ofInt (-2)) R.one (R.finWF_ofInt _) (by decide) (R.finWF_ofInt 1)).1
    ⟨DlRelR.exNet3_exact.wf 0 1 (DlRelR.lt_nVars (by decide)) (DlRelR.lt_nVars (by decide)),
      DlRelR.exNet3_exact.wf 1 0 (DlRelR.lt_nVars (by decide)) (DlRelR.lt_nVars (by decide))⟩
  rw [show boundsLin rdlOps exNet3 ⟨[(1, R.ofInt (-2))], R.one⟩ = _ from hb] at h1
  injection h1 with h1
  injection h1 with e1 e2
  subst e1 e2
  rw [hl, hu] at h2
  exact ⟨hl, hu, h2⟩

/-- `equates(x1 + 2, x2)` is false on `exNet3` (`x2 - x1 < 3/2`), `equates(x1 + 1, x2)` is true,
    `distance(x1, x2) = (-∞, 3/2 - ε]`; and the negative answer is sound -/
example (σ : Nat → ℚ) (h0 : σ 0 = 0)
    (hσ : ∀ e ∈ [(0, 1, w01), (1, 0, w10), (1, 2, w12)], QEdge.holds (embQ σ) e) :
    equatesLin rdlOps exNet3 ⟨[(1, R.one)], R.ofInt 2⟩ ⟨[(2, R.one)], R.zero⟩ = some false ∧
    equatesLin rdlOps exNet3 ⟨[(1, R.one)], R.ofInt 1⟩ ⟨[(2, R.one)], R.zero⟩ = some true ∧
    distanceLin rdlOps exNet3 ⟨[(1, R.one)], R.zero⟩ ⟨[(2, R.one)], R.zero⟩ = some (⟨R.ninf, R.zero⟩, ⟨⟨3, 2⟩, R.ofInt (-1)⟩) ∧
    Lin.eval ⟨[(1, R.one)], R.ofInt 2⟩ σ ≠ Lin.eval ⟨[(2, R.one)], R.zero⟩ σ := by
  have hf : equatesLin rdlOps exNet3 ⟨[(1, R.one)], R.ofInt 2⟩ ⟨[(2, R.one)], R.zero⟩ = some false := by decide
  have hvars : (Lin.sub ⟨[(1, R.one)], R.ofInt 2⟩ ⟨[(2, R.one)], R.zero⟩).vars = [(1, R.one), (2, R.neg R.one)] := rfl
  have hv : ∀ v ∈ (0 :: (Lin.sub ⟨[(1, R.one)], R.ofInt 2⟩ ⟨[(2, R.one)], R.zero⟩).vars.map (·.1)), v < exNet3.nVars := by
    intro v hv
    rw [hvars] at hv
    simp at hv
    rcases hv with rfl | rfl | rfl <;> exact DlRelR.lt_nVars (by decide)
  refine ⟨hf, by decide, by decide, ?_⟩
  exact C12R_equates_false_sound exNet3 1 R.one (R.ofInt 2) 2 R.one R.zero
    (Lin.wf_one 1 ⟨by decide, by decide⟩ (R.finWF_ofInt 2)) (Lin.wf_one 2 ⟨by decide, by decide⟩ R.finWF_zero)
    (by intro z e h; rw [hvars] at h; simp at h)
    (DlRelR.exact_goodOn DlRelR.exNet3_exact _ hv) hf σ h0
    (DlRelR.exact_respectsOn DlRelR.exNet3_exact _ hv _ hσ)

end Oratio
