/-
`Net.popTo` is, componentwise, `Sat.popTo` on the core with every theory popped `decisionLevel - lvl` times.
`Net.propagate`, the side condition `ConflictsCurrent` on the conflicts of `lra.check` and its checker `ccB` are one
recursion over `round`: what a pass of the loop comes to (stuck, done, a conflict to resolve, or go on).
-/
import OratioProofs.Lemmas.SatCorePop

set_option linter.unusedSimpArgs false

namespace Oratio
namespace Net
open Sat

theorem popTo_go_induct {P : Net → Prop} (lvl : Nat) (hpop : ∀ n, lvl < n.sat.decisionLevel → P n → P n.pop) :
    ∀ (k : Nat) (n : Net), P n → P (popTo.go lvl k n)
  | 0, _, h => h
  | k + 1, n, h => by
    unfold popTo.go
    split
    · exact popTo_go_induct lvl hpop k n.pop (hpop n ‹_› h)
    · exact h

theorem popTo_go_eq (lvl : Nat) : ∀ (k : Nat) (n : Net), n.sat.decisionLevel ≤ lvl + k → popTo.go lvl k n =
    { sat := Sat.popTo.go lvl k n.sat, lra := Nat.repeat Lra.pop (n.sat.decisionLevel - lvl) n.lra,
      idl := Nat.repeat Dl.pop (n.sat.decisionLevel - lvl) n.idl, rdl := Nat.repeat Dl.pop (n.sat.decisionLevel - lvl) n.rdl,
      bound := n.bound }
  | 0, n, h => by rw [Nat.sub_eq_zero_of_le (show n.sat.decisionLevel ≤ lvl from h)]; rfl
  | k + 1, n, h => by
    unfold Net.popTo.go Sat.popTo.go
    split
    · rw [popTo_go_eq lvl k n.pop (by show n.sat.pop.decisionLevel ≤ _; rw [Sat.pop_decisionLevel]; omega)]
      show Net.mk _ (Nat.repeat Lra.pop (n.sat.pop.decisionLevel - lvl) n.lra.pop)
        (Nat.repeat Dl.pop (n.sat.pop.decisionLevel - lvl) n.idl.pop) (Nat.repeat Dl.pop (n.sat.pop.decisionLevel - lvl) n.rdl.pop) _ = _
      rw [Sat.pop_decisionLevel, show n.sat.decisionLevel - lvl = (n.sat.decisionLevel - 1 - lvl) + 1 by omega]
      simp only [ListAux.repeat_succ']
      rfl
    · next hle => rw [Nat.sub_eq_zero_of_le (Nat.le_of_not_lt hle)]; rfl

theorem popTo_eq (n : Net) (lvl : Nat) : popTo n lvl =
    { sat := n.sat.popTo lvl, lra := Nat.repeat Lra.pop (n.sat.decisionLevel - lvl) n.lra,
      idl := Nat.repeat Dl.pop (n.sat.decisionLevel - lvl) n.idl, rdl := Nat.repeat Dl.pop (n.sat.decisionLevel - lvl) n.rdl,
      bound := n.bound } :=
  popTo_go_eq lvl _ n (Nat.le_add_left _ _)

theorem popTo_sat (n : Net) (lvl : Nat) : (popTo n lvl).sat = n.sat.popTo lvl := by rw [popTo_eq]

theorem popTo_pred {n : Net} (hne : n.sat.trailLim ≠ []) : popTo n (n.sat.decisionLevel - 1) = n.pop := by
  have hpos : 0 < n.sat.decisionLevel := List.length_pos_iff.2 hne
  rw [popTo_eq, Sat.popTo_pop _ _ (by omega), Sat.popTo_of_le _ _ (by rw [Sat.pop_decisionLevel]; exact Nat.le_refl _),
    show n.sat.decisionLevel - (n.sat.decisionLevel - 1) = 1 by omega]
  rfl

def HasCurrent (s : Sat) (c : Clause) : Prop := ∃ l ∈ c, l.neg ∈ s.trail ∧ s.lvl l = s.decisionLevel

/-- along the run of `propagate n fuel`, every conflict of `lra.check` found above root level cites a
    literal of the current decision level (same recursion as `Net.propagate`) -/
def ConflictsCurrent (n : Net) : Nat → Prop
  | 0 => True
  | fuel + 1 =>
    match n.sat.queue with
    | [] =>
      match n.lra.check fuel with
      | none => True
      | some (none, _) => True
      | some (some cnfl, t) =>
        if n.sat.rootLevel then True
        else HasCurrent n.sat cnfl ∧
          match learnFrom { n with lra := t } cnfl with
          | none => True
          | some n' => ConflictsCurrent n' fuel
    | p :: q =>
      match Sat.visitWatchers { n.sat with queue := q, watches := n.sat.watches.set p.idx [] } p (n.sat.watches.getD p.idx []) with
      | (s, some id) =>
        if s.rootLevel then True
        else match learnFrom { n with sat := s } (s.clauseOf id) with
          | none => True
          | some n' => ConflictsCurrent n' fuel
      | (s, none) =>
        match theoryPropagate { n with sat := s } p with
        | (none, n') => ConflictsCurrent n' fuel
        | (some cnfl, n') =>
          if n'.sat.rootLevel then True
          else
            match learnFrom { n' with sat := { n'.sat with queue := [] } } cnfl with
            | none => True
            | some n'' => ConflictsCurrent n'' fuel

theorem rootLevel_iff (s : Sat) : s.rootLevel = true ↔ s.trailLim = [] := by simp [rootLevel]

theorem dl_pos_of_not_root {s : Sat} (h : ¬ s.rootLevel = true) : 0 < s.decisionLevel := by
  simp only [rootLevel, List.isEmpty_iff] at h
  exact List.length_pos_iff.2 h

inductive Round where
  | stuck
  | done (n' : Net)
  /-- the conflict `c` is to be resolved in `n1`; `chk`: it was found by `lra.check` -/
  | conflict (chk : Bool) (n1 : Net) (c : Clause)
  | go (n1 : Net)

def round (n : Net) (fuel : Nat) : Round :=
  match n.sat.queue with
  | [] =>
    match n.lra.check fuel with
    | none => .stuck
    | some (none, t) => .done { n with lra := t }
    | some (some c, t) => .conflict true { n with lra := t } c
  | p :: q =>
    match Sat.visitWatchers { n.sat with queue := q, watches := n.sat.watches.set p.idx [] } p (n.sat.watches.getD p.idx []) with
    | (s, some id) => .conflict false { n with sat := s } (s.clauseOf id)
    | (s, none) =>
      match theoryPropagate { n with sat := s } p with
      | (none, n') => .go n'
      | (some c, n') => .conflict false { n' with sat := { n'.sat with queue := [] } } c

theorem propagate_succ (n : Net) (fuel : Nat) : propagate n (fuel + 1) =
    match round n fuel with
    | .stuck => none
    | .done n' => some (true, n')
    | .go n1 => propagate n1 fuel
    | .conflict _ n1 c =>
      if n1.sat.rootLevel then some (false, { n1 with sat := { n1.sat with dead := true } })
      else match learnFrom n1 c with
        | none => none
        | some n2 => propagate n2 fuel := by
  rw [propagate]
  unfold round
  cases n.sat.queue with
  | nil => rcases n.lra.check fuel with _ | ⟨_ | c, t⟩ <;> rfl
  | cons p q =>
    dsimp only
    rcases Sat.visitWatchers { n.sat with queue := q, watches := n.sat.watches.set p.idx [] } p
      (n.sat.watches.getD p.idx []) with ⟨s, _ | id⟩
    · dsimp only
      rcases theoryPropagate { n with sat := s } p with ⟨_ | c, n'⟩ <;> rfl
    · rfl

theorem conflictsCurrent_succ (n : Net) (fuel : Nat) : ConflictsCurrent n (fuel + 1) ↔
    match round n fuel with
    | .stuck => True
    | .done _ => True
    | .go n1 => ConflictsCurrent n1 fuel
    | .conflict chk n1 c => n1.sat.rootLevel = false →
        (chk = true → HasCurrent n1.sat c) ∧ ∀ n2, learnFrom n1 c = some n2 → ConflictsCurrent n2 fuel := by
  have key : ∀ (n1 : Net) (c : Clause), (match learnFrom n1 c with
      | none => True
      | some n' => ConflictsCurrent n' fuel) ↔ ∀ n2, learnFrom n1 c = some n2 → ConflictsCurrent n2 fuel := by
    intro n1 c
    cases learnFrom n1 c with
    | none => exact ⟨fun _ _ e => (nomatch e), fun _ => trivial⟩
    | some n2 => exact ⟨fun h _ e => Option.some.inj e ▸ h, fun h => h n2 rfl⟩
  rw [ConflictsCurrent]
  unfold round
  cases n.sat.queue with
  | nil =>
    rcases n.lra.check fuel with _ | ⟨_ | c, t⟩
    · exact Iff.rfl
    · exact Iff.rfl
    · dsimp only
      split <;> simp [key, *]
  | cons p q =>
    dsimp only
    rcases Sat.visitWatchers { n.sat with queue := q, watches := n.sat.watches.set p.idx [] } p
      (n.sat.watches.getD p.idx []) with ⟨s, _ | id⟩
    · dsimp only
      rcases theoryPropagate { n with sat := s } p with ⟨_ | c, n'⟩
      · exact Iff.rfl
      · dsimp only
        have e : ({ n'.sat with queue := [] } : Sat).rootLevel = n'.sat.rootLevel := rfl
        split <;> simp [key, e, *]
    · dsimp only
      split <;> simp [key, *]

instance (s : Sat) (c : Clause) : Decidable (HasCurrent s c) := by unfold HasCurrent; infer_instance

def ccB (n : Net) : Nat → Bool
  | 0 => true
  | fuel + 1 =>
    match n.sat.queue with
    | [] =>
      match n.lra.check fuel with
      | none => true
      | some (none, _) => true
      | some (some cnfl, t) =>
        if n.sat.rootLevel then true
        else decide (HasCurrent n.sat cnfl) &&
          match learnFrom { n with lra := t } cnfl with
          | none => true
          | some n' => ccB n' fuel
    | p :: q =>
      match Sat.visitWatchers { n.sat with queue := q, watches := n.sat.watches.set p.idx [] } p (n.sat.watches.getD p.idx []) with
      | (s, some id) =>
        if s.rootLevel then true
        else match learnFrom { n with sat := s } (s.clauseOf id) with
          | none => true
          | some n' => ccB n' fuel
      | (s, none) =>
        match theoryPropagate { n with sat := s } p with
        | (none, n') => ccB n' fuel
        | (some cnfl, n') =>
          if n'.sat.rootLevel then true
          else
            match learnFrom { n' with sat := { n'.sat with queue := [] } } cnfl with
            | none => true
            | some n'' => ccB n'' fuel

theorem ccB_succ (n : Net) (fuel : Nat) : ccB n (fuel + 1) =
    match round n fuel with
    | .stuck => true
    | .done _ => true
    | .go n1 => ccB n1 fuel
    | .conflict chk n1 c =>
      if n1.sat.rootLevel then true
      else (!chk || decide (HasCurrent n1.sat c)) &&
        match learnFrom n1 c with
        | none => true
        | some n2 => ccB n2 fuel := by
  rw [ccB]
  unfold round
  cases n.sat.queue with
  | nil => rcases n.lra.check fuel with _ | ⟨_ | c, t⟩ <;> rfl
  | cons p q =>
    dsimp only
    rcases Sat.visitWatchers { n.sat with queue := q, watches := n.sat.watches.set p.idx [] } p
      (n.sat.watches.getD p.idx []) with ⟨s, _ | id⟩
    · dsimp only
      rcases theoryPropagate { n with sat := s } p with ⟨_ | c, n'⟩ <;> rfl
    · rfl

theorem ccB_sound : ∀ (fuel : Nat) (n : Net), ccB n fuel = true → ConflictsCurrent n fuel
  | 0, n, _ => by unfold ConflictsCurrent; trivial
  | fuel + 1, n, h => by
    rw [ccB_succ] at h
    rw [conflictsCurrent_succ]
    cases hround : round n fuel with
    | stuck => trivial
    | done _ => trivial
    | go n1 => rw [hround] at h; exact ccB_sound fuel n1 h
    | conflict chk n1 c =>
      rw [hround] at h
      intro hroot
      dsimp only at h
      rw [hroot, if_neg (by decide), Bool.and_eq_true] at h
      refine ⟨fun hc => ?_, fun n2 hl => ?_⟩
      · rw [hc] at h; exact of_decide_eq_true h.1
      · rw [hl] at h; exact ccB_sound fuel n2 h.2

end Net
end Oratio
