/-
C07: the writes to the assignment side of the state - a literal is enqueued, a variable is created, the queue is cut, a clause
is logged, a decision level is opened, `dead` is set - against every component of the invariants, each cell once; the
bundle `InvC` of the pure SAT model and the weak well-formedness `WfS` of the network are columns of the same table.
-/
import OratioProofs.Lemmas.SatCoreBasic

set_option linter.unusedSimpArgs false

namespace Oratio
namespace Sat

/-- the state after an effective `enqueue` -/
def enq (s : Sat) (p : Lit) (c : Option Nat) : Sat :=
  { s with vals := s.vals.set p.var (some p.sign), level := s.level.set p.var s.decisionLevel,
           reason := s.reason.set p.var c, trail := p :: s.trail, queue := s.queue ++ [p] }

theorem enqueue_none {s : Sat} {p : Lit} (c : Option Nat) (h : s.value p = none) :
    s.enqueue p c = (true, s.enq p c) := by
  simp only [enqueue, h, enq]

theorem enqueue_some {s : Sat} {p : Lit} (c : Option Nat) {b : Bool} (h : s.value p = some b) :
    s.enqueue p c = (b, s) := by
  simp only [enqueue, h]

/-- `Q r b` is what is asked of a literal `r` of a reason clause other than its head, `b` being the trail below the head.
    `WfR` is this at `r.neg ∈ b`.  The readings that come later unfold to it as well: `WfRN` further down in this file (the network:
    `r = FALSE_lit` besides) and `ReasonsOK` of SatCoreAnalyze (conflict analysis: or of level 0 and refuted). -/
def ReasonG (Q : Lit → List Lit → Prop) (s : Sat) : Prop :=
  ∀ l b, (l :: b) <:+ s.trail → ∀ id, s.reason.getD l.var none = some id →
    ∃ rest, (id, l :: rest) ∈ s.cls ∧ ∀ r ∈ rest, Q r b

theorem ReasonG.mono {Q Q' : Lit → List Lit → Prop} {s : Sat} (h : s.ReasonG Q) (hQ : ∀ r b, Q r b → Q' r b) : s.ReasonG Q' :=
  fun l b hs id hr => (h l b hs id hr).imp fun _ h' => ⟨h'.1, fun r hr' => hQ r b (h'.2 r hr')⟩

theorem ReasonG.of_sub {Q : Lit → List Lit → Prop} {s t : Sat} (h : s.ReasonG Q) (hc : ∀ e ∈ s.cls, e ∈ t.cls)
    (ht : t.trail = s.trail) (hr : ∀ v, t.reason.getD v none = s.reason.getD v none) : t.ReasonG Q :=
  fun l b hs id hid => (h l b (ht ▸ hs) id (hr _ ▸ hid)).imp fun _ h' => ⟨hc _ h'.1, h'.2⟩

section
variable {s : Sat} {p : Lit} {c : Option Nat}

theorem enq_vals_ne {x : Lit} (hx : x.var ≠ p.var) :
    (s.enq p c).vals.getD x.var none = s.vals.getD x.var none := by
  simp only [enq]; exact ListAux.getD_set_ne _ _ _ _ _ (Ne.symm hx)

theorem enq_value_ne {x : Lit} (hx : x.var ≠ p.var) : (s.enq p c).value x = s.value x :=
  value_congr (enq_vals_ne hx)

theorem enq_lvl_ne {x : Lit} (hx : x.var ≠ p.var) : (s.enq p c).lvl x = s.lvl x := by
  simp only [enq, lvl]; exact ListAux.getD_set_ne _ _ _ _ _ (Ne.symm hx)

theorem enq_reason_ne {x : Lit} (hx : x.var ≠ p.var) :
    (s.enq p c).reason.getD x.var none = s.reason.getD x.var none := by
  simp only [enq]; exact ListAux.getD_set_ne _ _ _ _ _ (Ne.symm hx)

theorem enq_value_self (hlt : p.var < s.vals.length) : (s.enq p c).value p = some true := by
  rw [value_eq_true]; simp only [enq]; exact ListAux.getD_set_self _ _ _ _ hlt

theorem enq_lvl_self (h : s.WfA) (hlt : p.var < s.vals.length) : (s.enq p c).lvl p = s.decisionLevel := by
  simp only [enq, lvl]; exact ListAux.getD_set_self _ _ _ _ (by rw [h.lenLevel]; exact hlt)

theorem enq_reason_self (h : s.WfA) (hlt : p.var < s.vals.length) : (s.enq p c).reason.getD p.var none = c := by
  simp only [enq]; exact ListAux.getD_set_self _ _ _ _ (by rw [h.lenReason]; exact hlt)

theorem WfA.enq (h : s.WfA) (hp : s.value p = none) (hlt : p.var < s.vals.length)
    (hc : c = none → s.decisionLevel = 0 ∨ ∀ x ∈ s.trail, s.lvl x < s.decisionLevel) : (s.enq p c).WfA := by
  have hp0 := h.var_ne_zero_of_none hp
  have hne : ∀ l ∈ s.trail, l.var ≠ p.var := fun l hl => h.trail_var_ne hl hp
  refine ⟨?_, ?_, ?_, ?_, ?_, ?_, h.decLen, ?_, h.limSorted, ?_, ?_, ?_, ?_⟩
  · simp [Sat.enq, h.lenLevel]
  · simp [Sat.enq, h.lenReason]
  · have := @enq_vals_ne s p c ⟨0, true⟩ (by simpa using Ne.symm hp0)
    simpa using this.trans h.val0
  · intro l hl
    rcases List.mem_cons.1 hl with rfl | hl
    · exact ⟨value_eq_true.1 (enq_value_self hlt), hp0⟩
    · rw [enq_vals_ne (hne l hl)]; exact h.trailVal l hl
  · show ((p :: s.trail).map Lit.var).Nodup
    simp only [List.map_cons, List.nodup_cons]
    refine ⟨?_, h.trailNodup⟩
    intro hm
    obtain ⟨l, hl, e⟩ := List.mem_map.1 hm
    exact hne l hl e
  · intro v b hv
    by_cases e : v = p.var
    · subst e
      have := value_eq_true.1 (@enq_value_self s p c hlt)
      rw [this] at hv
      right; show _ ∈ p :: s.trail
      simp only [Option.some.injEq] at hv; subst hv
      exact List.mem_cons_self ..
    · have : (s.enq p c).vals.getD v none = s.vals.getD v none := by
        simp only [Sat.enq]; exact ListAux.getD_set_ne _ _ _ _ _ (Ne.symm e)
      rw [this] at hv
      rcases h.valTrail v b hv with h0 | ht
      · exact Or.inl h0
      · exact Or.inr (List.mem_cons_of_mem _ ht)
  · intro lim hl
    have := h.limLe lim hl
    show lim ≤ (p :: s.trail).length
    simp; omega
  · intro l b hs
    rcases List.suffix_cons_iff.1 hs with e | hs'
    · injection e with e1 e2; subst e1 e2
      rw [enq_lvl_self h hlt]
      show s.trailLim.length = (s.trailLim.filter _).length
      rw [List.filter_eq_self.2]
      intro lim hl; simpa using h.limLe lim hl
    · have hl : l ∈ s.trail := hs'.subset (List.mem_cons_self ..)
      rw [enq_lvl_ne (hne l hl)]
      exact h.levelOK l b hs'
  · intro q hq
    show q ∈ p :: s.trail ∧ _
    rcases List.mem_append.1 hq with hq | hq
    · have := h.queueOK q hq
      refine ⟨List.mem_cons_of_mem _ this.1, ?_⟩
      rw [enq_lvl_ne (hne q this.1)]; exact this.2
    · simp only [List.mem_singleton] at hq; subst hq
      exact ⟨List.mem_cons_self .., enq_lvl_self h hlt⟩
  · intro l b hs hr
    rcases List.suffix_cons_iff.1 hs with e | hs'
    · injection e with e1 e2; subst e1 e2
      rw [enq_reason_self h hlt] at hr
      rw [enq_lvl_self h hlt]
      rcases hc hr with h0 | hall
      · exact Or.inl h0
      · right; intro x hx
        rw [enq_lvl_ne (hne x hx)]; exact hall x hx
    · have hl : l ∈ s.trail := hs'.subset (List.mem_cons_self ..)
      rw [enq_reason_ne (hne l hl)] at hr
      rw [enq_lvl_ne (hne l hl)]
      rcases h.reasonNone l b hs' hr with h0 | hall
      · exact Or.inl h0
      · right; intro x hx
        have hxt : x ∈ s.trail := hs'.subset (List.mem_cons_of_mem _ hx)
        rw [enq_lvl_ne (hne x hxt)]; exact hall x hx
  · intro e he
    have := h.exprsRange e he
    simpa [Sat.enq] using this

theorem WfC.enq (h : s.WfC) : (s.enq p c).WfC := by
  refine ⟨h.clsId, h.clsIdNodup, h.clsLen, h.clsNodup, ?_, h.clsVar0⟩
  intro e he l hl
  have := h.clsRange e he l hl
  simpa [Sat.enq] using this

theorem WfW.enq (h : s.WfW) : (s.enq p c).WfW := by
  refine ⟨?_, h.sound, h.complete, h.nodup⟩
  simpa [Sat.enq] using h.lenWatches

theorem ReasonG.enq {Q : Lit → List Lit → Prop} (ha : s.WfA) (h : s.ReasonG Q) (hp : s.value p = none)
    (hlt : p.var < s.vals.length)
    (hc : ∀ id, c = some id → ∃ rest, (id, p :: rest) ∈ s.cls ∧ ∀ r ∈ rest, Q r s.trail) : (s.enq p c).ReasonG Q := by
  have hne : ∀ l ∈ s.trail, l.var ≠ p.var := fun l hl => ha.trail_var_ne hl hp
  intro l b hs id hr
  rcases List.suffix_cons_iff.1 hs with e | hs'
  · injection e with e1 e2; subst e1 e2
    rw [enq_reason_self ha hlt] at hr
    exact hc id hr
  · have hl : l ∈ s.trail := hs'.subset (List.mem_cons_self ..)
    rw [enq_reason_ne (hne l hl)] at hr
    exact h l b hs' id hr

theorem WfR.enq (ha : s.WfA) (h : s.WfR) (hp : s.value p = none) (hlt : p.var < s.vals.length)
    (hc : ∀ id, c = some id → ∃ rest, (id, p :: rest) ∈ s.cls ∧ ∀ r ∈ rest, r.neg ∈ s.trail) : (s.enq p c).WfR :=
  ReasonG.enq ha h hp hlt hc

theorem W2.enq {P P' : Nat → Lit → Prop} (h : s.W2 P) (hp : s.value p = none)
    (hlt : p.var < s.vals.length) (hP : ∀ id x, P id x → P' id x) (hPp : ∀ id, P' id p) :
    (s.enq p c).W2 P' := by
  have key : ∀ id (x y : Lit), ((s.enq p c).value x = some false →
      (s.value x = some false → P id x.neg ∨ (s.value y = some true ∧ s.lvl y ≤ s.lvl x)) →
      P' id x.neg ∨ ((s.enq p c).value y = some true ∧ (s.enq p c).lvl y ≤ (s.enq p c).lvl x)) := by
    intro id x y hx hold
    by_cases e : x.var = p.var
    · left
      rcases Lit.eq_or_neg e with rfl | rfl
      · rw [enq_value_self hlt] at hx; cases hx
      · simpa using hPp id
    · rw [enq_value_ne e] at hx
      rcases hold hx with hP1 | ⟨hy, hl⟩
      · exact Or.inl (hP id _ hP1)
      · right
        have ey : y.var ≠ p.var := by
          intro e'
          rw [value_eq_true, e'] at hy
          rw [value_eq_none, hy] at hp; cases hp
        rw [enq_value_ne ey, enq_lvl_ne ey, enq_lvl_ne e]
        exact ⟨hy, hl⟩
  intro id l0 l1 rest hm
  obtain ⟨h1, h2⟩ := h id l0 l1 rest hm
  exact ⟨fun hv => key id l0 l1 hv h1, fun hv => key id l1 l0 hv h2⟩

end

theorem Ent.enq {orig K : Cnf} {s : Sat} {p : Lit} {c : Option Nat} (ha : s.WfA) (h : s.Ent orig K)
    (hp : s.value p = none) (hlt : p.var < s.vals.length) (hent : Ents (orig ++ units s.decisions) [p]) :
    (s.enq p c).Ent orig K := by
  have hne : ∀ l ∈ s.trail, l.var ≠ p.var := fun l hl => ha.trail_var_ne hl hp
  refine ⟨h.clauses, ?_, h.log, h.dead, ?_⟩
  · intro l hl
    rcases List.mem_cons.1 hl with rfl | hl
    · rw [enq_lvl_self ha hlt]
      have : (s.enq l c).decsUpTo s.decisionLevel = s.decisions := @decsUpTo_all s ha
      rw [this]; exact hent
    · rw [enq_lvl_ne (hne l hl)]; exact h.trail l hl
  · intro hd α h0 hc hroot
    apply h.keeps hd α h0 hc
    intro l hl hl0
    exact hroot l (List.mem_cons_of_mem _ hl) (by rw [enq_lvl_ne (hne l hl)]; exact hl0)

theorem DecOK.enq {m : Nat} {s : Sat} {p : Lit} {c : Option Nat} (ha : s.WfA) (h : s.DecOK m)
    (hp : s.value p = none) : (s.enq p c).DecOK m := by
  intro a d b hd hb
  obtain ⟨h1, h2⟩ := h a d b hd hb
  exact ⟨List.mem_cons_of_mem _ h1, by rw [enq_lvl_ne (ha.trail_var_ne h1 hp)]; exact h2⟩

theorem Wf.enq {s : Sat} {p : Lit} {c : Option Nat} (h : s.Wf) (hp : s.value p = none) (hlt : p.var < s.vals.length)
    (hc0 : c = none → s.decisionLevel = 0 ∨ ∀ x ∈ s.trail, s.lvl x < s.decisionLevel)
    (hc : ∀ id, c = some id → ∃ rest, (id, p :: rest) ∈ s.cls ∧ ∀ r ∈ rest, r.neg ∈ s.trail) : (s.enq p c).Wf :=
  ⟨h.a.enq hp hlt hc0, h.c.enq, h.r.enq h.a hp hlt hc, h.w.enq⟩

theorem WfA.of_eq {s t : Sat} (h : s.WfA) (hv : t.vals = s.vals) (hl : t.level = s.level)
    (hr : t.reason = s.reason) (ht : t.trail = s.trail) (hlim : t.trailLim = s.trailLim)
    (hd : t.decisions = s.decisions) (hq : t.queue = s.queue) (he : t.exprs = s.exprs) : t.WfA := by
  cases s; cases t; simp only at hv hl hr ht hlim hd hq he; subst_vars
  obtain ⟨a1, a2, a3, a4, a5, a6, a7, a8, a9, a10, a11, a12, a13⟩ := h
  exact ⟨a1, a2, a3, a4, a5, a6, a7, a8, a9, a10, a11, a12, a13⟩

theorem WfC.of_eq {s t : Sat} (h : s.WfC) (hc : t.cls = s.cls) (hn : t.nextId = s.nextId)
    (hv : t.vals.length = s.vals.length) : t.WfC := by
  refine ⟨?_, ?_, ?_, ?_, ?_, ?_⟩
  · rw [hc, hn]; exact h.clsId
  · rw [hc]; exact h.clsIdNodup
  · rw [hc]; exact h.clsLen
  · rw [hc]; exact h.clsNodup
  · rw [hc, hv]; exact h.clsRange
  · rw [hc]; exact h.clsVar0

theorem WfW.of_eq {s t : Sat} (h : s.WfW) (hc : t.cls = s.cls) (hw : t.watches = s.watches)
    (hv : t.vals.length = s.vals.length) : t.WfW := by
  refine ⟨?_, ?_, ?_, ?_⟩
  · rw [hw, hv]; exact h.lenWatches
  · rw [hc, hw]; exact h.sound
  · rw [hc, hw]; exact h.complete
  · rw [hw]; exact h.nodup

theorem WfR.of_eq {s t : Sat} (h : s.WfR) (hc : t.cls = s.cls) (ht : t.trail = s.trail)
    (hr : t.reason = s.reason) : t.WfR := ReasonG.of_sub h (fun _ he => hc ▸ he) ht fun _ => by rw [hr]

theorem W2.of_eq {P : Nat → Lit → Prop} {s t : Sat} (h : s.W2 P) (hc : t.cls = s.cls) (hv : t.vals = s.vals)
    (hl : t.level = s.level) : t.W2 P := by
  unfold W2 value lvl; rw [hc, hv, hl]; exact h

theorem W2.mono {P P' : Nat → Lit → Prop} {s : Sat} (h : s.W2 P) (hP : ∀ id x, P id x → P' id x) : s.W2 P' := by
  intro id l0 l1 rest hm
  obtain ⟨h1, h2⟩ := h id l0 l1 rest hm
  exact ⟨fun hv => (h1 hv).imp (hP _ _) (fun x => x), fun hv => (h2 hv).imp (hP _ _) (fun x => x)⟩

theorem Ent.of_eq {orig K : Cnf} {s t : Sat} (h : s.Ent orig K) (hc : t.cls = s.cls) (ht : t.trail = s.trail)
    (hl : t.level = s.level) (hd : t.decisions = s.decisions) (hlog : t.log = s.log) (hdead : t.dead = s.dead) :
    t.Ent orig K := by
  cases s; cases t; simp only at hc ht hl hd hlog hdead; subst_vars
  obtain ⟨a1, a2, a3, a4, a5⟩ := h
  exact ⟨a1, a2, a3, a4, a5⟩

theorem Ent.setDead {orig K K' : Cnf} {s : Sat} (h : s.Ent orig K) (hu : Uns orig) :
    ({ s with dead := true } : Sat).Ent orig K' :=
  ⟨h.clauses, h.trail, h.log, fun _ => hu, fun hd => by cases hd⟩

theorem Wf.of_eq {s t : Sat} (h : s.Wf) (hv : t.vals = s.vals) (hl : t.level = s.level)
    (hr : t.reason = s.reason) (hc : t.cls = s.cls) (hn : t.nextId = s.nextId) (hw : t.watches = s.watches)
    (ht : t.trail = s.trail) (hlim : t.trailLim = s.trailLim)
    (hd : t.decisions = s.decisions) (hq : t.queue = s.queue) (he : t.exprs = s.exprs) : t.Wf :=
  ⟨h.a.of_eq hv hl hr ht hlim hd hq he, h.c.of_eq hc hn (by rw [hv]), h.r.of_eq hc ht hr,
    h.w.of_eq hc hw (by rw [hv])⟩

theorem newVar_value (s : Sat) (l : Lit) : s.newVar.2.value l = s.value l := by
  apply value_congr; simp only [newVar]; exact ListAux.getD_append_default _ _ _

theorem newVar_lvl (s : Sat) (l : Lit) : s.newVar.2.lvl l = s.lvl l := by
  simp only [newVar, lvl]; exact ListAux.getD_append_default _ _ _

theorem newVar_reason (s : Sat) (i : Nat) : s.newVar.2.reason.getD i none = s.reason.getD i none :=
  ListAux.getD_append_default _ _ _

theorem newVar_vals (s : Sat) (i : Nat) : s.newVar.2.vals.getD i none = s.vals.getD i none :=
  ListAux.getD_append_default _ _ _

theorem WfA.newVar {s : Sat} (h : s.WfA) : s.newVar.2.WfA := by
  refine ⟨?_, ?_, ?_, ?_, h.trailNodup, ?_, h.decLen, h.limLe, h.limSorted, ?_, ?_, ?_, ?_⟩
  · simp [Sat.newVar, h.lenLevel]
  · simp [Sat.newVar, h.lenReason]
  · rw [newVar_vals]; exact h.val0
  · intro l hl; rw [newVar_vals]; exact h.trailVal l hl
  · intro v b hb; rw [newVar_vals] at hb; exact h.valTrail v b hb
  · intro l b hs; rw [newVar_lvl]; exact h.levelOK l b hs
  · intro p hp; rw [newVar_lvl]; exact h.queueOK p hp
  · intro l b hs hn
    rw [newVar_reason] at hn
    simp only [newVar_lvl]
    exact h.reasonNone l b hs hn
  · intro e he
    have := h.exprsRange e he
    simp only [Sat.newVar, List.length_append]; show e.2.var < s.vals.length + 1; omega

theorem Wf.newVar {s : Sat} (h : s.Wf) : s.newVar.2.Wf := by
  have hw : ∀ i, s.newVar.2.watches.getD i [] = s.watches.getD i [] := fun i => ListAux.getD_append_replicate _ 2 _ _
  refine ⟨h.a.newVar, ⟨h.c.clsId, h.c.clsIdNodup, h.c.clsLen, h.c.clsNodup, ?_, h.c.clsVar0⟩, ?_, ⟨?_, ?_, ?_, ?_⟩⟩
  · intro e he l hl
    have := h.c.clsRange e he l hl
    simp only [Sat.newVar, List.length_append]; show l.var < s.vals.length + 1; omega
  · exact ReasonG.of_sub h.r (fun _ he => he) rfl (newVar_reason s)
  · simp only [Sat.newVar, List.length_append, h.w.lenWatches]; simp; omega
  · intro i id hm; rw [hw] at hm; exact h.w.sound i id hm
  · intro id a b r hm; rw [hw, hw]; exact h.w.complete id a b r hm
  · intro i; rw [hw]; exact h.w.nodup i

theorem Ent.newVar {orig K : Cnf} {s : Sat} (h : s.Ent orig K) : s.newVar.2.Ent orig K :=
  ⟨h.clauses, fun l hl => by rw [newVar_lvl]; exact h.trail l hl, h.log, h.dead, fun hd α h0 hc hr =>
    h.keeps hd α h0 hc fun l hl hl0 => hr l hl (by rw [newVar_lvl]; exact hl0)⟩

theorem DecOK.newVar {m : Nat} {s : Sat} (h : s.DecOK m) : s.newVar.2.DecOK m := fun a d b hd hb =>
  ⟨(h a d b hd hb).1, by rw [newVar_lvl]; exact (h a d b hd hb).2⟩

theorem W2.newVar {P : Nat → Lit → Prop} {s : Sat} (h : s.W2 P) : s.newVar.2.W2 P := by
  intro id a b r hm
  simp only [newVar_value, newVar_lvl]
  exact h id a b r hm

theorem WfA.remember {s : Sat} (ha : s.WfA) (k : Key) (l : Lit) (hl : l.var < s.vals.length) : (s.remember k l).WfA := by
  refine ⟨ha.lenLevel, ha.lenReason, ha.val0, ha.trailVal, ha.trailNodup, ha.valTrail, ha.decLen, ha.limLe,
    ha.limSorted, ha.levelOK, ha.queueOK, ha.reasonNone, fun e he => ?_⟩
  rcases List.mem_append.1 he with he | he
  · exact ha.exprsRange e he
  · simp only [List.mem_singleton] at he; subst he; exact hl

theorem WfA.queue_sub {s : Sat} (h : s.WfA) (q : List Lit) (hq : ∀ x ∈ q, x ∈ s.queue) :
    ({ s with queue := q } : Sat).WfA := by
  obtain ⟨a1, a2, a3, a4, a5, a6, a7, a8, a9, a10, a11, a12, a13⟩ := h
  exact ⟨a1, a2, a3, a4, a5, a6, a7, a8, a9, a10, (fun p hp => a11 p (hq p hp)), a12, a13⟩

def logged (t : Sat) (c : Clause) : Sat := { t with log := t.log ++ [c] }

theorem WfA.logged {t : Sat} (h : t.WfA) (c : Clause) : (t.logged c).WfA := h.of_eq rfl rfl rfl rfl rfl rfl rfl rfl

theorem Wf.logged {t : Sat} (h : t.Wf) (c : Clause) : (t.logged c).Wf := h.of_eq rfl rfl rfl rfl rfl rfl rfl rfl rfl rfl rfl

theorem Ent.logged {orig K : Cnf} {t : Sat} (h : t.Ent orig K) {c : Clause} (hc : Ents orig c) : (t.logged c).Ent orig K :=
  ⟨h.clauses, h.trail, fun d hd => (List.mem_append.1 hd).elim (h.log d) (fun e => List.mem_singleton.1 e ▸ hc),
    h.dead, h.keeps⟩

/-- the state after `trail_lim.push_back(trail.size()); decisions.push_back(p)` -/
def pushLevel (s : Sat) (p : Lit) : Sat :=
  { s with trailLim := s.trail.length :: s.trailLim, decisions := p :: s.decisions }

theorem decsUpTo_push (s : Sat) (p : Lit) (k : Nat) (hk : k ≤ s.decisions.length) :
    (s.pushLevel p).decsUpTo k = s.decsUpTo k := by
  simp only [decsUpTo, pushLevel, List.length_cons]
  rw [show s.decisions.length + 1 - k = (s.decisions.length - k) + 1 by omega, List.drop_succ_cons]

theorem WfA.pushLevel {s : Sat} (ha : s.WfA) (hq : s.queue = []) (p : Lit) : (s.pushLevel p).WfA := by
  refine ⟨ha.lenLevel, ha.lenReason, ha.val0, ha.trailVal, ha.trailNodup, ha.valTrail, ?_, ?_, ?_, ?_, ?_,
    ha.reasonNone, ha.exprsRange⟩
  · simp [Sat.pushLevel, ha.decLen]
  · intro lim hl
    rcases List.mem_cons.1 hl with rfl | hl
    · exact Nat.le_refl _
    · exact ha.limLe lim hl
  · show (s.trail.length :: s.trailLim).Pairwise (· ≥ ·)
    rw [List.pairwise_cons]
    exact ⟨fun x hx => ha.limLe x hx, ha.limSorted⟩
  · intro l b hs
    have hs : (l :: b) <:+ s.trail := hs
    have h1 := ha.levelOK l b hs
    show s.lvl l = ((s.trail.length :: s.trailLim).filter (· ≤ b.length)).length
    have : ¬ s.trail.length ≤ b.length := by
      have := hs.length_le; simp only [List.length_cons] at this; omega
    simp only [List.filter_cons, decide_eq_true_eq, this, if_false]
    exact h1
  · show ∀ q ∈ s.queue, _
    rw [hq]; intro q hq'; cases hq'

theorem Ent.pushLevel {orig K : Cnf} {s : Sat} (ha : s.WfA) (h : s.Ent orig K) (p : Lit) : (s.pushLevel p).Ent orig K := by
  refine ⟨h.clauses, ?_, h.log, h.dead, h.keeps⟩
  intro l hl
  have hle : s.lvl l ≤ s.decisions.length := by
    have := ha.lvl_le hl; rw [ha.decLen]; exact this
  show Ents (orig ++ units ((s.pushLevel p).decsUpTo (s.lvl l))) [l]
  rw [decsUpTo_push s p _ hle]
  exact h.trail l hl

theorem DecOK.pushLevel {m : Nat} {s : Sat} (h : s.DecOK m) (p : Lit) :
    (s.pushLevel p).DecOK (min m s.decisions.length) := by
  intro a d b hd hb
  cases a with
  | nil =>
    simp only [Sat.pushLevel, List.nil_append, List.cons.injEq] at hd
    rw [← hd.2] at hb; omega
  | cons x a' =>
    simp only [Sat.pushLevel, List.cons_append, List.cons.injEq] at hd
    exact h a' d b hd.2 (by omega)

theorem DecOK.mono {m m' : Nat} {s : Sat} (h : s.DecOK m) (hm : m' ≤ m) : s.DecOK m' :=
  fun a d b hd hb => h a d b hd (by omega)

theorem DecOK.of_len {m : Nat} {s : Sat} (h : s.DecOK m) (hm : s.decisions.length ≤ m) (m' : Nat) : s.DecOK m' := by
  intro a d b hd _
  apply h a d b hd
  have := congrArg List.length hd
  simp at this; omega

theorem DecOK.assume {m : Nat} {s : Sat} {p : Lit} (ha : s.WfA) (h : s.DecOK m) (hv : s.value p = none)
    (hlt : p.var < s.vals.length) : ((s.pushLevel p).enq p none).DecOK m := by
  intro a d b hd hb
  change p :: s.decisions = a ++ d :: b at hd
  cases a with
  | nil =>
    simp only [List.nil_append, List.cons.injEq] at hd
    obtain ⟨e1, e2⟩ := hd
    subst e1 e2
    refine ⟨List.mem_cons_self .., ?_⟩
    have hl : ((s.pushLevel p).enq p none).lvl p = (s.pushLevel p).decisionLevel := by
      simp only [enq, lvl]
      exact ListAux.getD_set_self _ _ _ _ (by rw [show (s.pushLevel p).level = s.level from rfl, ha.lenLevel]; exact hlt)
    rw [hl]
    simp [decisionLevel, Sat.pushLevel, ha.decLen]
  | cons x a' =>
    simp only [List.cons_append, List.cons.injEq] at hd
    obtain ⟨h1, h2⟩ := h a' d b hd.2 hb
    refine ⟨List.mem_cons_of_mem _ h1, ?_⟩
    rw [enq_lvl_ne (ha.trail_var_ne h1 hv)]
    exact h2

theorem Ent.keeps_add {orig K : Cnf} {s : Sat} (h : s.Ent orig K) (c : Clause)
    (hc : s.dead = false → ∀ α : Asg, α 0 = false → α.cnf (s.cls.map (·.2)) = true →
      (∀ l ∈ s.trail, s.lvl l = 0 → α.lit l = true) → α.clause c = true) : s.Ent orig (K ++ [c]) :=
  ⟨h.clauses, h.trail, h.log, h.dead, fun hd α h0 hcl hr => by
    rw [Asg.cnf_append, h.keeps hd α h0 hcl hr, Asg.cnf_cons, hc hd α h0 hcl hr]; rfl⟩

theorem Ent.keeps_weaken {orig K K' : Cnf} {s : Sat} (h : s.Ent orig K') (hs : ∀ d ∈ K, d ∈ K') : s.Ent orig K :=
  ⟨h.clauses, h.trail, h.log, h.dead, fun hd α h0 hcl hr =>
    Asg.cnf_of_sub hs (h.keeps hd α h0 hcl hr)⟩

theorem Ent.mono_orig {orig orig' K : Cnf} {s : Sat} (h : s.Ent orig K) (hs : ∀ d ∈ orig, d ∈ orig') :
    s.Ent orig' K :=
  ⟨fun e he => (h.clauses e he).mono hs,
    fun l hl => (h.trail l hl).mono (fun d hd => by
      rcases List.mem_append.1 hd with hd | hd
      · exact List.mem_append_left _ (hs d hd)
      · exact List.mem_append_right _ hd),
    fun c hc => (h.log c hc).mono hs, fun hd => Uns.mono (h.dead hd) hs, h.keeps⟩

/-- the invariants between the steps of the solver; `m`: so many decision levels are in place, `P id x`: clause `id` has
    still to propagate `x`, `K`: what is still implied (`orig` between API calls) -/
structure InvC (orig : Cnf) (m : Nat) (P : Nat → Lit → Prop) (s : Sat) (K : Cnf := orig) : Prop where
  wf : s.Wf
  ent : s.Ent orig K
  dec : s.DecOK m
  w2 : s.dead = false → s.W2 P

def PendOK (P : Nat → Lit → Prop) (s : Sat) : Prop := ∀ id x, P id x → x ∈ s.trail ∧ s.lvl x = s.decisionLevel

theorem InvC.keeps_weaken {orig K K' : Cnf} {m : Nat} {P : Nat → Lit → Prop} {s : Sat} (h : InvC orig m P s K')
    (hs : ∀ d ∈ K, d ∈ K') : InvC orig m P s K :=
  ⟨h.wf, h.ent.keeps_weaken hs, h.dec, h.w2⟩

theorem InvC.setDead {orig K K' : Cnf} {m : Nat} {P P' : Nat → Lit → Prop} {s : Sat} (h : InvC orig m P s K)
    (hu : Uns orig) : InvC orig m P' { s with dead := true } K' :=
  ⟨h.wf.of_eq rfl rfl rfl rfl rfl rfl rfl rfl rfl rfl rfl, h.ent.setDead hu, h.dec, fun hd => by cases hd⟩

theorem InvC.mono_orig {orig orig' K : Cnf} {m : Nat} {P : Nat → Lit → Prop} {s : Sat} (h : InvC orig m P s K)
    (hs : ∀ d ∈ orig, d ∈ orig') : InvC orig' m P s K :=
  ⟨h.wf, h.ent.mono_orig hs, h.dec, h.w2⟩

theorem InvC.mono_pend {orig K : Cnf} {m : Nat} {P P' : Nat → Lit → Prop} {s : Sat} (h : InvC orig m P s K)
    (hP : ∀ id x, P id x → P' id x) : InvC orig m P' s K :=
  ⟨h.wf, h.ent, h.dec, fun hd => (h.w2 hd).mono hP⟩

theorem InvC.pushLevel {orig : Cnf} {m : Nat} {P : Nat → Lit → Prop} {s : Sat} (h : InvC orig m P s)
    (hq : s.queue = []) (p : Lit) : InvC orig (min m s.decisions.length) P (s.pushLevel p) :=
  ⟨⟨h.wf.a.pushLevel hq p, h.wf.c.of_eq rfl rfl rfl, h.wf.r.of_eq rfl rfl rfl, h.wf.w.of_eq rfl rfl rfl⟩,
    h.ent.pushLevel h.wf.a p, h.dec.pushLevel p, fun hd => (h.w2 hd).of_eq rfl rfl rfl⟩

theorem InvC.newVar {orig K : Cnf} {m : Nat} {s : Sat} (h : InvC orig m (fun _ x => x ∈ s.queue) s K) :
    InvC orig m (fun _ x => x ∈ s.newVar.2.queue) s.newVar.2 K :=
  ⟨h.wf.newVar, h.ent.newVar, h.dec.newVar, fun hd => (h.w2 hd).newVar⟩

theorem InvC.remember {orig K : Cnf} {m : Nat} {P : Nat → Lit → Prop} {s : Sat} (h : InvC orig m P s K) (k : Key)
    (l : Lit) (hl : l.var < s.vals.length) : InvC orig m P (s.remember k l) K :=
  ⟨⟨h.wf.a.remember k l hl, h.wf.c.of_eq rfl rfl rfl, h.wf.r.of_eq rfl rfl rfl, h.wf.w.of_eq rfl rfl rfl⟩,
    h.ent.of_eq rfl rfl rfl rfl rfl rfl, h.dec, fun hd => (h.w2 hd).of_eq rfl rfl rfl⟩

/-! ### the weak well-formedness of the network

`Sat.Wf` (C07) is not an invariant of the network (`C07N_lra_not_pure`): theory lemmas handed to `record` may contain
FALSE_lit and repeated literals.  `Sat.WfS` keeps `WfA` and weakens the clause, reason and watch invariants to what
SOUNDNESS needs: in a reason clause a literal other than the head may be FALSE_lit (`WfRN`); a clause in the watch list
of `p` contains `¬p`, anywhere.  Nothing is required about repeated literals, the positions of the watched literals or
the completeness of the watch lists (those are what C07's BCP-completeness theorems need).
-/

def WfRN (s : Sat) : Prop :=
  ∀ l b, (l :: b) <:+ s.trail → ∀ id, s.reason.getD l.var none = some id →
    ∃ rest, (id, l :: rest) ∈ s.cls ∧ ∀ r ∈ rest, r.neg ∈ b ∨ r = Lit.falseLit

structure WfS (s : Sat) : Prop where
  a : s.WfA
  lvl0 : s.level.getD 0 0 = 0
  idlt : ∀ e ∈ s.cls, e.1 < s.nextId
  ids : (s.cls.map (·.1)).Nodup
  rng : ∀ e ∈ s.cls, ∀ l ∈ e.2, l.var < s.vals.length
  r : s.WfRN
  w : ∀ i id, id ∈ s.watches.getD i [] → ∃ c, (id, c) ∈ s.cls ∧ ∃ l ∈ c, l.neg.idx = i

theorem Wf.toS {s : Sat} (h : s.Wf) (h0 : s.level.getD 0 0 = 0) : s.WfS := by
  refine ⟨h.a, h0, h.c.clsId, h.c.clsIdNodup, h.c.clsRange, ?_, ?_⟩
  · intro l b hs id hr
    obtain ⟨rest, hm, hb⟩ := h.r l b hs id hr
    exact ⟨rest, hm, fun r hr' => Or.inl (hb r hr')⟩
  · intro i id hid
    obtain ⟨l0, l1, rest, hm, hor⟩ := h.w.sound i id hid
    rcases hor with e | e
    · exact ⟨_, hm, l0, by simp, e⟩
    · exact ⟨_, hm, l1, by simp, e⟩

theorem WfS.of_eq {s t : Sat} (h : s.WfS) (hv : t.vals = s.vals) (hl : t.level = s.level)
    (hr : t.reason = s.reason) (ht : t.trail = s.trail) (hlim : t.trailLim = s.trailLim)
    (hd : t.decisions = s.decisions) (hq : t.queue = s.queue) (he : t.exprs = s.exprs)
    (hc : t.cls = s.cls) (hn : t.nextId = s.nextId) (hw : t.watches = s.watches) : t.WfS := by
  exact ⟨h.a.of_eq hv hl hr ht hlim hd hq he, by rw [hl]; exact h.lvl0, by rw [hc, hn]; exact h.idlt, by rw [hc]; exact h.ids,
    by rw [hc, hv]; exact h.rng, ReasonG.of_sub h.r (fun _ he => hc ▸ he) ht fun _ => by rw [hr], by rw [hw, hc]; exact h.w⟩

theorem WfS.queue_sub {s : Sat} (h : s.WfS) (q : List Lit) (hq : ∀ x ∈ q, x ∈ s.queue) :
    ({ s with queue := q } : Sat).WfS :=
  ⟨h.a.queue_sub q hq, h.lvl0, h.idlt, h.ids, h.rng, h.r, h.w⟩

theorem WfS.setWatches {s : Sat} (h : s.WfS) (ws : List (List Nat))
    (hws : ∀ i id, id ∈ ws.getD i [] → id ∈ s.watches.getD i []) : ({ s with watches := ws } : Sat).WfS :=
  ⟨h.a.of_eq rfl rfl rfl rfl rfl rfl rfl rfl, h.lvl0, h.idlt, h.ids, h.rng, h.r, fun i id hid => h.w i id (hws i id hid)⟩

theorem WfS.enq {s : Sat} {p : Lit} {c : Option Nat} (h : s.WfS) (hp : s.value p = none) (hlt : p.var < s.vals.length)
    (hc0 : c = none → s.decisionLevel = 0 ∨ ∀ x ∈ s.trail, s.lvl x < s.decisionLevel)
    (hc : ∀ id, c = some id → ∃ rest, (id, p :: rest) ∈ s.cls ∧ ∀ r ∈ rest, r.neg ∈ s.trail ∨ r = Lit.falseLit) :
    (s.enq p c).WfS := by
  refine ⟨h.a.enq hp hlt hc0, ?_, h.idlt, h.ids, ?_, ReasonG.enq h.a h.r hp hlt hc, h.w⟩
  · have hp0 := h.a.var_ne_zero_of_none hp
    simp only [Sat.enq]
    rw [ListAux.getD_set_ne _ _ _ _ _ hp0]; exact h.lvl0
  · intro e he l hl
    have := h.rng e he l hl
    simpa [Sat.enq] using this

theorem WfS.setWatchesQ {s : Sat} (h : s.WfS) (ws : List (List Nat)) (q : List Lit) (hq : ∀ x ∈ q, x ∈ s.queue)
    (hws : ∀ i id, id ∈ ws.getD i [] → ∃ c, (id, c) ∈ s.cls ∧ ∃ l ∈ c, l.neg.idx = i) :
    ({ s with watches := ws, queue := q } : Sat).WfS :=
  ⟨(h.a.queue_sub q hq).of_eq rfl rfl rfl rfl rfl rfl rfl rfl, h.lvl0, h.idlt, h.ids, h.rng, h.r, hws⟩

theorem WfS.newVar {s : Sat} (h : s.WfS) : s.newVar.2.WfS := by
  refine ⟨h.a.newVar, ?_, h.idlt, h.ids, ?_, ?_, ?_⟩
  · show s.newVar.2.level.getD 0 0 = 0
    simp only [Sat.newVar]; rw [ListAux.getD_append_default]; exact h.lvl0
  · intro e he l hl
    have := h.rng e he l hl
    simp only [Sat.newVar, List.length_append]; show l.var < s.vals.length + 1; omega
  · exact ReasonG.of_sub h.r (fun _ he => he) rfl (newVar_reason s)
  · intro i id hm; rw [show s.newVar.2.watches.getD i [] = s.watches.getD i [] from ListAux.getD_append_replicate _ 2 _ _] at hm
    exact h.w i id hm

theorem WfS.pushLevel {s : Sat} (h : s.WfS) (hq : s.queue = []) (p : Lit) : (s.pushLevel p).WfS :=
  ⟨h.a.pushLevel hq p, h.lvl0, h.idlt, h.ids, h.rng, h.r, h.w⟩

theorem WfS.zero_lt {s : Sat} (h : s.WfS) : 0 < s.vals.length := getD_some_lt h.a.val0

end Sat
end Oratio
