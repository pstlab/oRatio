/-
C07: vocabulary of the inductive invariant of the concrete CDCL model `Sat`
(OratioModel/Sat/Core.lean), and what every operation keeps whatever the state (`Clean`, `IdsOK`, `ClsKept`,
`Dl.SatLe`: the projections of `Sat.Ext`, SatCoreStep.lean).  Definitions only.
-/
import OratioModel

namespace Oratio

/-! ### semantics (same bodies as `Entails`, `Unsat` of Properties/C07.lean and `unitsOf` of SatCoreBasic.lean) -/

def Ents (F : Cnf) (c : Clause) : Prop := ∀ α : Asg, α 0 = false → α.cnf F = true → α.clause c = true
def Uns (F : Cnf) : Prop := ∀ α : Asg, α 0 = false → α.cnf F = false
def units (ls : List Lit) : Cnf := ls.map (fun l => [l])

namespace Sat

/-- level of (the variable of) a literal -/
def lvl (s : Sat) (l : Lit) : Nat := s.level.getD l.var 0

/-- the decisions of levels `≤ k` (`decisions` is most-recent-first) -/
def decsUpTo (s : Sat) (k : Nat) : List Lit := s.decisions.drop (s.decisions.length - k)

/-- values, trail, levels, queue -/
structure WfA (s : Sat) : Prop where
  lenLevel : s.level.length = s.vals.length
  lenReason : s.reason.length = s.vals.length
  val0 : s.vals.getD 0 none = some false
  trailVal : ∀ l ∈ s.trail, s.vals.getD l.var none = some l.sign ∧ l.var ≠ 0
  trailNodup : (s.trail.map Lit.var).Nodup
  valTrail : ∀ v b, s.vals.getD v none = some b → v = 0 ∨ (⟨v, b⟩ : Lit) ∈ s.trail
  decLen : s.decisions.length = s.trailLim.length
  limLe : ∀ lim ∈ s.trailLim, lim ≤ s.trail.length
  limSorted : s.trailLim.Pairwise (· ≥ ·)
  levelOK : ∀ l b, (l :: b) <:+ s.trail → s.lvl l = (s.trailLim.filter (· ≤ b.length)).length
  queueOK : ∀ p ∈ s.queue, p ∈ s.trail ∧ s.lvl p = s.decisionLevel
  reasonNone : ∀ l b, (l :: b) <:+ s.trail → s.reason.getD l.var none = none →
      s.lvl l = 0 ∨ ∀ x ∈ b, s.lvl x < s.lvl l
  exprsRange : ∀ e ∈ s.exprs, e.2.var < s.vals.length

/-- stored clauses -/
structure WfC (s : Sat) : Prop where
  clsId : ∀ e ∈ s.cls, e.1 < s.nextId
  clsIdNodup : (s.cls.map (·.1)).Nodup
  clsLen : ∀ e ∈ s.cls, 2 ≤ e.2.length
  clsNodup : ∀ e ∈ s.cls, (e.2.map Lit.var).Nodup
  clsRange : ∀ e ∈ s.cls, ∀ l ∈ e.2, l.var < s.vals.length
  clsVar0 : ∀ e ∈ s.cls, ∀ l ∈ e.2, l.var ≠ 0

/-- reasons: the reason clause of a trail literal has that literal as head and all its other
    literals are false and were assigned earlier -/
def WfR (s : Sat) : Prop :=
  ∀ l b, (l :: b) <:+ s.trail → ∀ id, s.reason.getD l.var none = some id →
    ∃ rest, (id, l :: rest) ∈ s.cls ∧ ∀ r ∈ rest, r.neg ∈ b

/-- watch lists: a clause is watched exactly by the negations of its first two literals -/
structure WfW (s : Sat) : Prop where
  lenWatches : s.watches.length = 2 * s.vals.length
  sound : ∀ i id, id ∈ s.watches.getD i [] →
    ∃ l0 l1 rest, (id, l0 :: l1 :: rest) ∈ s.cls ∧ (l0.neg.idx = i ∨ l1.neg.idx = i)
  complete : ∀ id l0 l1 rest, (id, l0 :: l1 :: rest) ∈ s.cls →
    id ∈ s.watches.getD l0.neg.idx [] ∧ id ∈ s.watches.getD l1.neg.idx []
  nodup : ∀ i, (s.watches.getD i []).Nodup

/-- the semantic watch invariant, relative to a set `P id x` of literals `x` whose propagation
    is still pending for clause `id` -/
def W2 (P : Nat → Lit → Prop) (s : Sat) : Prop :=
  ∀ id l0 l1 rest, (id, l0 :: l1 :: rest) ∈ s.cls →
    (s.value l0 = some false → P id l0.neg ∨ (s.value l1 = some true ∧ s.lvl l1 ≤ s.lvl l0)) ∧
    (s.value l1 = some false → P id l1.neg ∨ (s.value l0 = some true ∧ s.lvl l0 ≤ s.lvl l1))

/-- semantic part.  `orig`: the formula the stored information is entailed by; `K`: the formula the stored
    information still implies (equal to `orig` between API calls) -/
structure Ent (orig : Cnf) (s : Sat) (K : Cnf := orig) : Prop where
  clauses : ∀ e ∈ s.cls, Ents orig e.2
  trail : ∀ l ∈ s.trail, Ents (orig ++ units (s.decsUpTo (s.lvl l))) [l]
  log : ∀ c ∈ s.log, Ents orig c
  dead : s.dead = true → Uns orig
  keeps : s.dead = false → ∀ α : Asg, α 0 = false → α.cnf (s.cls.map (·.2)) = true →
            (∀ l ∈ s.trail, s.lvl l = 0 → α.lit l = true) → α.cnf K = true

/-- the standing decisions of the first `m` levels are the first literals of their levels -/
def DecOK (m : Nat) (s : Sat) : Prop :=
  ∀ a d b, s.decisions = a ++ d :: b → b.length < m → d ∈ s.trail ∧ s.lvl d = b.length + 1

/-- the structural invariant -/
structure Wf (s : Sat) : Prop where
  a : WfA s
  c : WfC s
  r : WfR s
  w : WfW s

/-- the state with the not yet visited watchers `rest` of `p` put back -/
def putBack (s : Sat) (p : Lit) (rest : List Nat) : Sat :=
  { s with watches := s.watches.set p.idx (s.watches.getD p.idx [] ++ rest) }

/-- `pop_one()` iterated -/
def popN : Nat → Sat → Sat
  | 0, s => s
  | n + 1, s => popN n s.popOne

/-- an unassigned variable has level 0 and no reason (what `new_var()` creates and `pop_one()`
    re-establishes; `enqueue` writes level and reason of the variable it assigns only), and there is
    one level and one reason per variable.  `pop()` resets level and reason of the variables it
    unassigns to these values, so this is what makes `pop` give back the `level` / `reason` vectors
    literally. -/
def Clean (s : Sat) : Prop :=
  s.level.length = s.vals.length ∧ s.reason.length = s.vals.length ∧
  ∀ v, s.vals.getD v none = none → s.level.getD v 0 = 0 ∧ s.reason.getD v none = none

/-- clause ids are distinct and below `nextId` (the analogue of distinct C++ objects) -/
def IdsOK (s : Sat) : Prop := (∀ e ∈ s.cls, e.1 < s.nextId) ∧ (s.cls.map (·.1)).Nodup

/-- the clause database only grows: every clause (identified by its id) is still there, with the
    same literals, possibly in another order (`clause::propagate` swaps the watched literals) -/
def ClsKept (s s' : Sat) : Prop := ∀ e ∈ s.cls, ∃ c', (e.1, c') ∈ s'.cls ∧ c'.Perm e.2

end Sat

namespace Dl

/-- every value of `s` is kept by `s'` -/
def SatLe (s s' : Sat) : Prop := ∀ v b, s.vals.getD v none = some b → s'.vals.getD v none = some b

end Dl
end Oratio
