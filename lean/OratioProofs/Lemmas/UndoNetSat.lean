/-
C08N, SAT side: a step of propagation inside a decision level only ASSIGNS unassigned variables on top of the
trail and grows / permutes the clause database (`Sat.Step`, Lemmas/SatCoreStep.lean), so `pop()` gives back
values, levels, reasons, trail, level marks and decisions literally.  No invariant of C07 is needed: only
`Sat.Clean` for the `level` / `reason` vectors and `Sat.IdsOK` for the statement about clauses.
-/
import OratioProofs.Lemmas.UndoNetDefs
import OratioProofs.Lemmas.NetSatVisit
import OratioProofs.Lemmas.SatCoreOps


namespace Oratio
namespace Sat

theorem step_enqueue (s : Sat) (p : Lit) (c : Option Nat) : Step s (s.enqueue p c).2 := (ext_enqueue s p c).toStep

theorem step_record (s : Sat) (lits : List Lit) : Step s (s.record lits) := (ext_record s lits).toStep

theorem step_clausePropagate (s : Sat) (id : Nat) (p : Lit) : Step s (s.clausePropagate id p).2 :=
  (ext_clausePropagate s id p).toStep

theorem step_visitWatchers (p : Lit) (ws : List Nat) (s : Sat) : Step s (s.visitWatchers p ws).1 :=
  (ext_visitWatchers p ws s).toStep

/-- what the theories do to the SAT core: calls of `record` -/
inductive RecTo : Sat → Sat → Prop
  | refl (s : Sat) : RecTo s s
  | step {s s1 : Sat} (c : Clause) : RecTo s s1 → RecTo s (s1.record c)

theorem RecTo.toStep {s s' : Sat} (h : RecTo s s') : Step s s' := by
  induction h with
  | refl => exact Step.refl _
  | step c _ ih => exact ih.trans (step_record _ c)

theorem popN_restore {B c : Sat} {add : List Lit} (hv : c.vals.length = B.vals.length)
    (hl : c.level.length = B.level.length) (hr : c.reason.length = B.reason.length) (ht : c.trail = add ++ B.trail)
    (hf : ∀ l ∈ add, B.vals.getD l.var none = none ∧ B.level.getD l.var 0 = 0 ∧ B.reason.getD l.var none = none)
    (hk : ∀ v, (∀ l ∈ add, l.var ≠ v) → c.vals.getD v none = B.vals.getD v none ∧
      c.level.getD v 0 = B.level.getD v 0 ∧ c.reason.getD v none = B.reason.getD v none) :
    (c.popN add.length).vals = B.vals ∧ (c.popN add.length).level = B.level ∧
    (c.popN add.length).reason = B.reason ∧ (c.popN add.length).trail = B.trail := by
  -- a variable of `add` reads as reset, which is what `B` has there; any other reads as in `c`, hence as in `B`
  have key : ∀ v, (if v ∈ add.map (·.var) then none else c.vals.getD v none) = B.vals.getD v none ∧
      (if v ∈ add.map (·.var) then 0 else c.level.getD v 0) = B.level.getD v 0 ∧
      (if v ∈ add.map (·.var) then none else c.reason.getD v none) = B.reason.getD v none := fun v => by
    split
    · next h => obtain ⟨l, hl, rfl⟩ := List.mem_map.1 h; exact ⟨(hf l hl).1.symm, (hf l hl).2.1.symm, (hf l hl).2.2.symm⟩
    · next h => exact hk v fun l hl e => h (List.mem_map.2 ⟨l, hl, e⟩)
  rw [popN_eq, ht, List.take_left' rfl, List.drop_left' rfl]
  exact ⟨ListAux.ext_getD none ((ListAux.length_resetAt ..).trans hv) fun v => (ListAux.getD_resetAt ..).trans (key v).1,
    ListAux.ext_getD 0 ((ListAux.length_resetAt ..).trans hl) fun v => (ListAux.getD_resetAt ..).trans (key v).2.1,
    ListAux.ext_getD none ((ListAux.length_resetAt ..).trans hr) fun v => (ListAux.getD_resetAt ..).trans (key v).2.2, rfl⟩

/-- `hz` is what `Clean B` provides -/
theorem pop_of_grow {B c : Sat} (p : Lit) (h : Grow (B.pushLevel p) c)
    (hz : ∀ l ∈ c.trail, B.vals.getD l.var none = none → B.level.getD l.var 0 = 0 ∧ B.reason.getD l.var none = none) :
    SameAssignment B c.pop := by
  obtain ⟨add, ht, hf, hk⟩ := h.added
  have hlim : c.trailLim = B.trail.length :: B.trailLim := h.trailLim
  have hlen : c.trail.length - B.trail.length = add.length := by
    rw [ht]; show (add ++ B.trail).length - B.trail.length = add.length
    rw [List.length_append]; omega
  have r := popN_restore h.lenV h.lenL h.lenR ht
    (fun l hl => ⟨hf l hl, hz l (ht ▸ List.mem_append_left _ hl) (hf l hl)⟩) hk
  rw [pop_eq hlim, hlen]
  refine ⟨r.1, r.2.1, r.2.2.1, r.2.2.2, rfl, ?_, (popN_spec add.length c).exprs.trans h.exprs⟩
  show c.decisions.drop 1 = B.decisions
  rw [h.decisions]; rfl

theorem clean_init : Clean Sat.init :=
  ⟨rfl, rfl, fun v _ => by cases v <;> exact ⟨rfl, rfl⟩⟩

theorem clean_newVar {s : Sat} (h : Clean s) : Clean s.newVar.2 := by
  refine ⟨by simp [newVar, h.1], by simp [newVar, h.2.1], fun v hv => ?_⟩
  simp only [newVar, ListAux.getD_append_default] at hv ⊢
  exact h.2.2 v hv

theorem clean_popN {s : Sat} (h : Clean s) (k : Nat) : Clean (s.popN k) := by
  rw [popN_eq]
  refine ⟨by simp only [ListAux.length_resetAt]; exact h.1, by simp only [ListAux.length_resetAt]; exact h.2.1, fun v hv => ?_⟩
  simp only [ListAux.getD_resetAt] at hv ⊢
  split
  · exact ⟨rfl, rfl⟩
  · next hn => rw [if_neg hn] at hv; exact h.2.2 v hv

theorem clean_pop {s : Sat} (h : Clean s) : Clean s.pop := by
  cases hl : s.trailLim with
  | nil => rw [pop_root hl]; exact h
  | cons lim lims =>
    rw [pop_eq hl]
    exact clean_of_same (clean_popN h _) rfl rfl rfl

def cleanB (s : Sat) : Bool :=
  s.level.length == s.vals.length && s.reason.length == s.vals.length &&
  (List.range s.vals.length).all (fun v =>
    s.vals.getD v none != none || (s.level.getD v 0 == 0 && s.reason.getD v none == none))

theorem clean_of_cleanB {s : Sat} (h : cleanB s = true) : Clean s := by
  simp only [cleanB, Bool.and_eq_true, beq_iff_eq, List.all_eq_true, List.mem_range, Bool.or_eq_true, bne_iff_ne, ne_eq] at h
  obtain ⟨⟨h1, h2⟩, h3⟩ := h
  refine ⟨h1, h2, fun v hv => ?_⟩
  by_cases hlt : v < s.vals.length
  · rcases h3 v hlt with h | h
    · exact absurd hv h
    · exact h
  · constructor
    · rw [List.getD_eq_getElem?_getD, List.getElem?_eq_none (by omega)]; rfl
    · rw [List.getD_eq_getElem?_getD, List.getElem?_eq_none (by omega)]; rfl

theorem idsOK_of_dec {s : Sat} (h : (s.cls.all (fun e => decide (e.1 < s.nextId)) && decide (s.cls.map (·.1)).Nodup) = true) :
    IdsOK s := by
  simp only [Bool.and_eq_true, List.all_eq_true, decide_eq_true_eq] at h
  exact ⟨h.1, h.2⟩

end Sat
end Oratio
