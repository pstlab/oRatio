/-
Lemmas for property C12, real-valued instance: valuations and the distance matrix.  A
valuation that respects the matrix lies within `distance(a, b)`; on an exact state (C10Rdl) every
valuation satisfying the enforced constraints does, and the finite ends are attained; rational
valuations; the zero tests of `equates`.
-/
import OratioProofs.Lemmas.DlRelRBounds

namespace Oratio
namespace DlRelR
open Dl DlRel R

theorem rdist_none {t : Dl IR} {i j : Nat} (h : (Dl.d rdlOps t i j).rat.den = 0) : t.rdist? i j = none := by
  unfold Dl.rdist?; dsimp only; rw [if_pos h]

theorem rdist_some {t : Dl IR} {i j : Nat} (h : (Dl.d rdlOps t i j).rat.den ≠ 0) :
    t.rdist? i j = some (IR.val (Dl.d rdlOps t i j)) := by
  unfold Dl.rdist?; dsimp only; rw [if_neg h]

theorem pair_in_distance (t : Dl IR) (σ : Nat → QV) (a b : Nat)
    (hg : IR.Good (Dl.d rdlOps t a b)) (hg' : IR.Good (Dl.d rdlOps t b a))
    (h1 : ∀ x, t.rdist? a b = some x → σ b - σ a ≤ x) (h2 : ∀ x, t.rdist? b a = some x → σ a - σ b ≤ x) :
    IR.lbHolds (distance rdlOps t a b).1 (σ b - σ a) ∧ IR.ubHolds (distance rdlOps t a b).2 (σ b - σ a) := by
  constructor
  · show IR.lbHolds (rdlOps.neg (Dl.d rdlOps t b a)) _
    rcases hg'.rat_cases with hf | hp
    · obtain ⟨n1, n2⟩ := IR.fin_neg ⟨hf, hg'.2.2⟩
      rw [lbHolds_fin n1, n2, neg_le, neg_sub]
      exact h2 _ (rdist_some hf.2)
    · left
      show R.neg (Dl.d rdlOps t b a).rat = ninf
      rw [hp]; rfl
  · show IR.ubHolds (Dl.d rdlOps t a b) _
    rcases hg.rat_cases with hf | hp
    · rw [ubHolds_fin ⟨hf, hg.2.2⟩]
      exact h1 _ (rdist_some hf.2)
    · exact Or.inl hp

theorem boundsLin_rdl_spec (t : Dl IR) (l : Lin) (hl : l.WF)
    (hnz : ∀ x c, l.vars = [(x, c)] → c.num ≠ 0) (lo hi : IR)
    (hb : boundsLin rdlOps t l = some (lo, hi)) (hg : t.GoodOn (0 :: l.vars.map (·.1))) :
    (IR.GoodL lo ∧ IR.Good hi) ∧ ∀ σ : Nat → QV, σ 0 = 0 → t.RespectsOn σ (0 :: l.vars.map (·.1)) →
      IR.lbHolds lo (Lin.evalQV l σ) ∧ IR.ubHolds hi (Lin.evalQV l σ) := by
  rw [boundsLin_rdl] at hb
  cases hs : exprShape l with
  | const k =>
    obtain rfl := exprShape_const hs
    simp only [hs] at hb
    cases hb
    have hf : IR.Fin ⟨k, R.zero⟩ := ⟨((Lin.wf_iff _).1 hl).2.2, finWF_zero⟩
    refine ⟨⟨goodS_of_sok (d := .lo) (.inl hf) hf.2, hf.good⟩, fun σ _ _ => ?_⟩
    have hv : IR.val ⟨k, R.zero⟩ = Lin.evalQV ⟨[], k⟩ σ := by
      show (toLex (k.toRat, R.zero.toRat) : QV) = 0 + toLex (k.toRat, 0)
      rw [toRat_zero, zero_add]
    rw [lbHolds_fin hf, ubHolds_fin hf, hv]
    exact ⟨le_refl _, le_refl _⟩
  | diff a b c k =>
    obtain ⟨hc, hk, -⟩ := exprShape_diff hl hs
    obtain ⟨ha, hb'⟩ := exprShape_diff_mem hl hs
    simp only [hs, Option.some.injEq, distance] at hb
    have hp := scaled_spec (goodL_neg (hg a ha b hb')) (hg b hb' a ha) hc (exprShape_diff_nz hl hs hnz) hk
    rw [hb] at hp
    refine ⟨⟨hp.1, hp.2.1⟩, fun σ h0 hσ => ?_⟩
    rw [evalQV_diff hl hs σ h0]
    exact (hp.2.2 _).2 (pair_in_distance t σ b a (hg b hb' a ha) (hg a ha b hb') (hσ b hb' a ha) (hσ a ha b hb'))
  | other =>
    simp only [hs] at hb
    cases hb

theorem sum_embQ (σ : Nat → ℚ) : ∀ m : List (Nat × R),
    (m.map (fun t => QV.smul t.2.toRat (embQ σ t.1))).sum = toLex ((m.map (fun t => t.2.toRat * σ t.1)).sum, 0)
  | [] => rfl
  | a :: m => by
    rw [List.map_cons, List.sum_cons, List.map_cons, List.sum_cons, sum_embQ σ m]
    show QV.smul a.2.toRat (toLex (σ a.1, 0)) + _ = _
    rw [smul_embed]
    show (toLex (a.2.toRat * σ a.1 + _, (0 : ℚ) + 0) : QV) = _
    rw [add_zero]
    rfl

theorem evalQV_embQ (l : Lin) (σ : Nat → ℚ) : Lin.evalQV l (embQ σ) = QV.ofQ (Lin.eval l σ) := by
  unfold Lin.evalQV Lin.eval
  rw [sum_embQ]
  show (toLex (_ + l.known.toRat, (0 : ℚ) + 0) : QV) = _
  rw [add_zero]
  rfl

theorem embQ_zero {σ : Nat → ℚ} (h0 : σ 0 = 0) : embQ σ 0 = 0 := by
  show (toLex (σ 0, 0) : QV) = 0
  rw [h0]; rfl

theorem exact_goodOn {E : List QEdge} {t : Dl IR} (h : t.ExactR E) (vs : List Nat) (hv : ∀ v ∈ vs, v < t.nVars) :
    t.GoodOn vs := fun i hi j hj => h.wf i j (hv i hi) (hv j hj)

theorem exact_respectsOn {E : List QEdge} {t : Dl IR} (h : t.ExactR E) (vs : List Nat) (hv : ∀ v ∈ vs, v < t.nVars)
    (σ : Nat → QV) (hσ : ∀ e ∈ E, QEdge.holds σ e) : t.RespectsOn σ vs :=
  fun i hi j hj x hx => h.implied i j (hv i hi) (hv j hj) x hx σ hσ

theorem exact_cons_zero {E : List QEdge} {t : Dl IR} (h : t.ExactR E) {vs : List Nat} (hv : ∀ v ∈ vs, v < t.nVars) :
    ∀ v ∈ 0 :: vs, v < t.nVars := by
  intro v hm
  rcases List.mem_cons.1 hm with rfl | hm
  · exact h.size_ok.1
  · exact hv v hm

theorem holds_shift (σ : Nat → QV) (a : QV) (e : QEdge) :
    QEdge.holds (fun v => σ v - a) e ↔ QEdge.holds σ e := by
  unfold QEdge.holds
  rw [sub_sub_sub_cancel_right]

theorem ub_attained (E : List QEdge) (t : Dl IR) (h : t.ExactR E) (x : Nat) (hx : x < t.nVars)
    (hf : IR.Fin (Dl.ub rdlOps t x)) (hreach : ∀ k, k < t.nVars → t.rdist? 0 k ≠ none) :
    ∃ σ : Nat → QV, σ 0 = 0 ∧ (∀ e ∈ E, QEdge.holds σ e) ∧ σ x = IR.val (Dl.ub rdlOps t x) := by
  obtain ⟨σ, hσ, hv⟩ := C10R_tight_witness E t h 0 x h.size_ok.1 hx _ (rdist_some hf.1.2) hreach
  exact ⟨fun v => σ v - σ 0, sub_self _, fun e he => (holds_shift σ (σ 0) e).2 (hσ e he), hv⟩

theorem lb_attained (E : List QEdge) (t : Dl IR) (h : t.ExactR E) (x : Nat) (hx : x < t.nVars)
    (hf : IR.Fin (Dl.lb rdlOps t x)) (hreach : ∀ k, k < t.nVars → t.rdist? x k ≠ none) :
    ∃ σ : Nat → QV, σ 0 = 0 ∧ (∀ e ∈ E, QEdge.holds σ e) ∧ σ x = IR.val (Dl.lb rdlOps t x) := by
  have g := h.wf x 0 hx h.size_ok.1
  have hf' : IR.Fin (Dl.d rdlOps t x 0) := by
    rcases g.rat_cases with h1 | h1
    · exact ⟨h1, g.2.2⟩
    · exfalso
      apply hf.1.2
      show (R.neg (Dl.d rdlOps t x 0).rat).den = 0
      rw [h1]; rfl
  obtain ⟨σ, hσ, hv⟩ := C10R_tight_witness E t h x 0 hx h.size_ok.1 _ (rdist_some hf'.1.2) hreach
  refine ⟨fun v => σ v - σ 0, sub_self _, fun e he => (holds_shift σ (σ 0) e).2 (hσ e he), ?_⟩
  show σ x - σ 0 = IR.val (rdlOps.neg (Dl.d rdlOps t x 0))
  rw [(IR.fin_neg hf').2, ← hv, neg_sub]

theorem fin_of_sA_fin {d : Lra.Side} {b : IR} {c k : R} (hb : Lra.SOk d b)
    (hc : FinWF c) (hcn : c.num ≠ 0) (hk : FinWF k) (hd : (sA b c k).rat.den ≠ 0) : IR.Fin b := by
  refine hb.elim id fun he => absurd ?_ hd
  have hi : d.inf = pinf ∨ d.inf = ninf := by cases d <;> [exact .inr rfl; exact .inl rfl]
  obtain ⟨h1, h2⟩ := sA_rat_inf he hi hc hk
  rcases Int.lt_or_gt_of_ne hcn with h | h
  · rw [h2 h]; rcases hi with e | e <;> rw [e] <;> rfl
  · rw [h1 h]; exact d.inf_den

theorem fin_ofInt0 : IR.Fin (IR.ofInt 0) := ⟨finWF_ofInt 0, finWF_zero⟩

theorem val_ofInt0 : IR.val (IR.ofInt 0) = 0 := by
  show (toLex ((R.ofInt 0).toRat, R.zero.toRat) : QV) = 0
  rw [toRat_ofInt, toRat_zero]
  rfl

theorem leZero_iff {lo : IR} (h : IR.GoodL lo) : rdlOps.leZero lo = true ↔ IR.lbHolds lo 0 := by
  show IR.leI lo 0 = true ↔ _
  have hw : lo.WF := ⟨h.1, h.2.2.1⟩
  rw [(IR.cmp_scalar lo R.zero 0 hw).2.2.2.2.2.2.1]
  rcases GoodS.sok (d := .lo) h with hf | hn
  · rw [IR.le_val hf fin_ofInt0, val_ofInt0, lbHolds_fin hf]
  · constructor
    · intro _; exact Or.inl hn
    · intro _
      unfold IR.le
      rw [hn]
      rfl

theorem geZero_iff {hi : IR} (h : IR.Good hi) : rdlOps.geZero hi = true ↔ IR.ubHolds hi 0 := by
  show IR.geI hi 0 = true ↔ _
  have hw : hi.WF := ⟨h.1, h.2.2.1⟩
  rw [(IR.cmp_scalar hi R.zero 0 hw).2.2.2.2.2.2.2.2.1, IR.ge_swap]
  rcases GoodS.sok (d := .hi) h with hf | hn
  · rw [IR.le_val fin_ofInt0 hf, val_ofInt0, ubHolds_fin hf]
  · constructor
    · intro _; exact Or.inl hn
    · intro _
      unfold IR.le
      rw [hn]
      rfl

end DlRelR
end Oratio
