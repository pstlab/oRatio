/-
`inf_rational` bounds and row sums `Σ cᵢ·ν(xᵢ)` read as ε-rationals (`QV`, pairs ordered lexicographically).
-/
import OratioModel
import OratioProofs.Lemmas.LraAlgebra
import OratioProofs.Lemmas.LraExplDefs

namespace Oratio
open C09A in
theorem QV.smul_mk (c a b : ℚ) : c • (toLex (a, b) : QV) = toLex (c * a, c * b) := rfl

-- trap: the instance used is `PosSMulMono ℚ C09A.Val`, for which alone C09Algebra is imported; it applies because
-- `C09A.Val` and `QV` are both `Lex (ℚ × ℚ)`
theorem QV.smul_le_of_nonneg {c : ℚ} (hc : 0 ≤ c) {a b : QV} (h : a ≤ b) : c • a ≤ c • b :=
  smul_le_smul_of_nonneg_left h hc

namespace IR

section
open R

theorem fin_rMul {c : R} {b : IR} (hc : FinWF c) (hb : Fin b) :
    Fin (IR.rMul c b) ∧ val (IR.rMul c b) = c.toRat • val b := by
  obtain ⟨a1, a2⟩ := mul_fin hc hb.1
  obtain ⟨b1, b2⟩ := mul_fin hc hb.2
  refine ⟨⟨a1, b1⟩, ?_⟩
  show (toLex ((R.mul c b.rat).toRat, (R.mul c b.inf).toRat) : QV) = _
  rw [a2, b2]; rfl

theorem fin_divR {x : IR} {c : R} (hx : Fin x) (hc : FinWF c) (nz : c.num ≠ 0) :
    Fin (IR.divR x c) ∧ val (IR.divR x c) = (c.toRat)⁻¹ • val x := by
  obtain ⟨a1, a2⟩ := div_fin hx.1 hc nz
  obtain ⟨b1, b2⟩ := div_fin hx.2 hc nz
  refine ⟨⟨a1, b1⟩, ?_⟩
  show (toLex ((R.div x.rat c).toRat, (R.div x.inf c).toRat) : QV) = _
  rw [a2, b2, div_eq_inv_mul, div_eq_inv_mul]; rfl

theorem le_false_val {x y : IR} (hx : Fin x) (hy : Fin y) : IR.le x y = false ↔ val y < val x := by
  rw [← not_le, ← le_val hx hy]; simp

theorem le_fin_pinf' {x y : IR} (hx : Fin x) (hy : y.rat = pinf) : IR.le x y = true :=
  le_of_rat_lt (hy ▸ hx.1.lt_pinf)

theorem eq_ninf_fin {b : R} (hb : FinWF b) : R.eq ninf b = false := eq_false_of_ne hb.ne_ninf.symm

theorem le_ninf_fin' {x y : IR} (hx : x.rat = ninf) (hy : Fin y) : IR.le x y = true :=
  le_of_rat_lt (hx ▸ hy.1.ninf_lt)

end

end IR

namespace Lra
open IR Lin

theorem LbOk.of_fin {b : IR} (h : IR.Fin b) : LbOk b := Or.inl h
theorem UbOk.of_fin {b : IR} (h : IR.Fin b) : UbOk b := Or.inl h

theorem fin_not_ninf {b : IR} (h : IR.Fin b) : b.rat ≠ R.ninf := h.1.ne_ninf

theorem BLe.fin {b : IR} {v : QV} (hb : IR.Fin b) : BLe b v ↔ IR.val b ≤ v := by
  unfold BLe; rw [if_neg hb.1.2]

theorem VLe.fin {b : IR} {v : QV} (hb : IR.Fin b) : VLe v b ↔ v ≤ IR.val b := by
  unfold VLe; rw [if_neg hb.1.2]

theorem BLe.ninf {b : IR} {v : QV} (hb : b.rat = R.ninf) : BLe b v := by
  unfold BLe; rw [hb, if_pos (show R.ninf.den = 0 from rfl)]; decide

theorem VLe.pinf {b : IR} {v : QV} (hb : b.rat = R.pinf) : VLe v b := by
  unfold VLe; rw [hb, if_pos (show R.pinf.den = 0 from rfl)]; decide

theorem zero_toRat {c : R} (hc : R.FinWF c) (h1 : c.isPositive = false) (h2 : c.isNegative = false) :
    c.toRat = 0 :=
  le_antisymm (not_lt.1 fun h => by rw [hc.isPositive_iff.2 h] at h1; cases h1)
    (not_lt.1 fun h => by rw [hc.isNegative_iff.2 h] at h2; cases h2)

def sumQ (ν : Nat → QV) (m : List (Nat × R)) : QV := (m.map (fun t => t.2.toRat • ν t.1)).sum

def evalQ (l : Lin) (ν : Nat → QV) : QV := sumQ ν l.vars + toLex (l.known.toRat, 0)

@[simp] theorem sumQ_nil (ν : Nat → QV) : sumQ ν [] = 0 := rfl
@[simp] theorem sumQ_cons (ν : Nat → QV) (k : Nat) (c : R) (m : List (Nat × R)) :
    sumQ ν ((k, c) :: m) = c.toRat • ν k + sumQ ν m := by
  simp [sumQ]

theorem sumQ_nu (σr σi : Nat → Rat) (m : List (Nat × R)) :
    sumQ (nu σr σi) m = toLex (Lin.sumS σr m, Lin.sumS σi m) := by
  induction m with
  | nil => rfl
  | cons a m ih =>
    obtain ⟨k, c⟩ := a
    rw [sumQ_cons, ih, Lin.sumS_cons, Lin.sumS_cons]
    rfl

theorem evalQ_nu (σr σi : Nat → Rat) (l : Lin) :
    evalQ l (nu σr σi) = toLex (Lin.evalS l σr, Lin.evalS { l with known := R.zero } σi) := by
  unfold evalQ
  rw [sumQ_nu, Lin.evalS_eq, Lin.evalS_eq]
  show _ = toLex (_, Lin.sumS σi l.vars + R.zero.toRat)
  rw [R.toRat_zero, QV.add_mk, add_zero]

theorem Solves.row {t : Lra} {σr σi : Nat → Rat} (h : Solves t σr σi) {e : Nat × Lin} (he : e ∈ t.tableau) :
    nu σr σi e.1 = evalQ e.2 (nu σr σi) := by
  rw [evalQ_nu, ← h.1 e he, ← h.2 e he]
  rfl

theorem sumQ_le {ν μ : Nat → QV} {m : List (Nat × R)}
    (h : ∀ p ∈ m, p.2.toRat • ν p.1 ≤ p.2.toRat • μ p.1) : sumQ ν m ≤ sumQ μ m := by
  induction m with
  | nil => exact le_refl _
  | cons a m ih =>
    obtain ⟨k, c⟩ := a
    rw [sumQ_cons, sumQ_cons]
    exact add_le_add (h (k, c) List.mem_cons_self) (ih (fun p hp => h p (List.mem_cons_of_mem _ hp)))

theorem evalQ_le {ν μ : Nat → QV} {l : Lin}
    (h : ∀ p ∈ l.vars, p.2.toRat • ν p.1 ≤ p.2.toRat • μ p.1) : evalQ l ν ≤ evalQ l μ := by
  unfold evalQ
  exact add_le_add (sumQ_le h) (le_refl _)

theorem nu_assign (t : Lra) (x : Nat) : nu t.ratAssign t.infAssign x = IR.val (t.value x) := rfl

theorem ble_ninf (v : QV) : BLe (IR.ofR R.ninf) v := BLe.ninf rfl
theorem vle_pinf (v : QV) : VLe v (IR.ofR R.pinf) := VLe.pinf rfl

theorem row_var_inrange {t : Lra} (ht : TabWF t) (hl : BoundsLen t) {e : Nat × Lin} (he : e ∈ t.tableau) :
    ubIdx e.1 < t.bounds.length ∧ ∀ p ∈ e.2.vars, ubIdx p.1 < t.bounds.length := by
  have hb := ht.bound e he
  have hw := ht.wlen
  unfold BoundsLen at hl
  unfold ubIdx
  refine ⟨by omega, fun p hp => ?_⟩
  have := hb.2 p hp
  omega

theorem boundsOK_congr {t u : Lra} (h : u.bounds = t.bounds) (hb : BoundsOK t) : BoundsOK u := by
  intro x
  rw [lb_eq_of_bounds h, ub_eq_of_bounds h]
  exact hb x

theorem boundsJust_congr {t u : Lra} (h : u.bounds = t.bounds) {α : Asg} {σr σi : Nat → Rat}
    (hj : BoundsJust α σr σi t) : BoundsJust α σr σi u := by
  intro x hx
  rw [lb_eq_of_bounds h, ub_eq_of_bounds h, lbReason_eq_of_bounds h, ubReason_eq_of_bounds h]
  exact hj x (h ▸ hx)

end Lra

end Oratio
