/-
The spellings of a well-formed bound agree (`LowerOK/UpperOK` of C09R, `LowOK/UpOK` of C11S, `SOk` of C09X), and the
rational reading `IRBelow / IRAbove` of C11S is `BLe / VLe` at `(y, 0)`; hence the interval evaluation of
Lemmas/LraInterval.lean in each vocabulary.
-/
import OratioModel
import OratioProofs.Lemmas.InfRational
import OratioProofs.Lemmas.LraInterval
import OratioProofs.Lemmas.LraReachDefs
import OratioProofs.Lemmas.LraRelSemDefs

namespace Oratio
namespace Lra
open R Lin

theorem OKs.wf {bad : R} {a : IR} (h : OKs bad a) : a.WF := ⟨h.1, h.2.2.1⟩

theorem lowerOK_iff {b : IR} : LowerOK b ↔ LbOk b ∧ R.FinWF b.inf :=
  ⟨fun ⟨w, n, i⟩ => ⟨(w.cases.resolve_left n).symm.imp (fun f => ⟨f, i⟩) id, i⟩,
    fun ⟨s, i⟩ => s.elim (fun f => ⟨f.1.1, f.1.ne_pinf, i⟩) fun e => ⟨e ▸ R.ninf_wf, e ▸ by decide, i⟩⟩

theorem upperOK_iff {b : IR} : UpperOK b ↔ UbOk b ∧ R.FinWF b.inf :=
  ⟨fun ⟨w, n, i⟩ => ⟨(w.cases.elim Or.inr fun h => Or.inl ⟨h.resolve_left n, i⟩), i⟩,
    fun ⟨s, i⟩ => s.elim (fun f => ⟨f.1.1, f.1.ne_ninf, i⟩) fun e => ⟨e ▸ R.pinf_wf, e ▸ by decide, i⟩⟩

theorem _root_.Oratio.IR.Fin.lower {a : IR} (h : IR.Fin a) : LowerOK a := ⟨h.1.1, h.1.ne_pinf, h.2⟩
theorem _root_.Oratio.IR.Fin.upper {a : IR} (h : IR.Fin a) : UpperOK a := ⟨h.1.1, h.1.ne_ninf, h.2⟩

theorem finIR_zero : IR.Fin (IR.ofR R.zero) := ⟨R.finWF_zero, R.finWF_zero⟩

def wsum (f : Nat × R → Rat) (m : List (Nat × R)) : Rat := (m.map (fun e => e.2.toRat * f e)).sum

theorem wsum_var (σ : Nat → Rat) (m : List (Nat × R)) : wsum (fun e => σ e.1) m = sumS σ m := rfl

/-! `lb(lin) ≤ ub(lin)`: both bound the value of `lin` at a valuation inside every interval (`between`) -/
def between (lo hi : IR) : QV := if lo.rat.den ≠ 0 then IR.val lo else IR.val hi

theorem between_spec {lo hi : IR} (hlo : LbOk lo) (hhi : UbOk hi) (hle : IR.le lo hi = true) :
    BLe lo (between lo hi) ∧ VLe (between lo hi) hi := by
  unfold between
  rcases hlo with lf | e
  · rw [if_pos lf.1.2]
    exact ⟨(BLe.fin lf).2 le_rfl, hhi.elim (fun h => (VLe.fin h).2 ((IR.le_val lf h).1 hle)) VLe.pinf⟩
  · rw [if_neg (not_not.2 (e ▸ rfl))]
    exact ⟨BLe.ninf e, hhi.elim (fun h => (VLe.fin h).2 le_rfl) VLe.pinf⟩

theorem le_of_between {a b : IR} (ha : LowerOK a) (hb : UpperOK b) {v : QV} (h1 : BLe a v) (h2 : VLe v b) :
    IR.le a b = true := by
  rcases (lowerOK_iff.1 ha).1 with fa | e
  · rcases (upperOK_iff.1 hb).1 with fb | e
    · exact (IR.le_val fa fb).2 (((BLe.fin fa).1 h1).trans ((VLe.fin fb).1 h2))
    · exact le_of_rat_pinf ha.wf e ha.2.1
  · exact le_of_rat_ninf hb.wf e hb.2.1

theorem lbLin_ubLin_ok (t : Lra) {l : Lin} (hl : l.WF) (hnz : ∀ p ∈ l.vars, p.2.num ≠ 0)
    (hb : ∀ p ∈ l.vars, LowerOK (t.lb p.1) ∧ UpperOK (t.ub p.1) ∧ IR.le (t.lb p.1) (t.ub p.1) = true) :
    LowerOK (t.lbLin l) ∧ UpperOK (t.ubLin l) ∧ IR.le (t.lbLin l) (t.ubLin l) = true := by
  have hs : ∀ p ∈ l.vars, LbOk (t.lb p.1) ∧ UbOk (t.ub p.1) := fun p hp =>
    ⟨(lowerOK_iff.1 (hb p hp).1).1, (upperOK_iff.1 (hb p hp).2.1).1⟩
  have hi : ∀ p ∈ l.vars, R.FinWF (t.lb p.1).inf ∧ R.FinWF (t.ub p.1).inf := fun p hp =>
    ⟨(hb p hp).1.2.2, (hb p hp).2.1.2.2⟩
  have hL : LowerOK (t.lbLin l) := lowerOK_iff.2 ⟨(Side.lin .lo hl hnz hs).1, linBd_inf_fin hl hi⟩
  have hU : UpperOK (t.ubLin l) :=
    upperOK_iff.2 ⟨(Side.lin .hi hl hnz fun p hp => (hs p hp).symm).1, linBd_inf_fin hl fun p hp => (hi p hp).symm⟩
  obtain ⟨w1, w2⟩ := lbLin_ubLin_holds hl hnz hs (ν := fun x => between (t.lb x) (t.ub x)) fun p hp =>
    between_spec (hs p hp).1 (hs p hp).2 (hb p hp).2.2
  exact ⟨hL, hU, le_of_between hL hU w1 w2⟩

theorem LowOK.side {b : IR} (h : LowOK b) : LbOk b ∧ R.FinWF b.inf := sok_and_inf (d := .lo) |>.1 h
theorem UpOK.side {b : IR} (h : UpOK b) : UbOk b ∧ R.FinWF b.inf := sok_and_inf (d := .hi) |>.1 h

theorem BndWF.sok {t : Lra} (hb : BndWF t) {l : Lin} (hlv : ∀ p ∈ l.vars, p.1 < t.vals.length) :
    ∀ p ∈ l.vars, LbOk (t.lb p.1) ∧ UbOk (t.ub p.1) :=
  fun p hp => ⟨(hb _ (hlv p hp)).1.side.1, (hb _ (hlv p hp)).2.side.1⟩

theorem irAbove_fin {c : IR} (hc : R.FinWF c.rat) (y : Rat) : IRAbove c y ↔ (toLex (y, 0) : QV) ≤ IR.val c :=
  ⟨fun h => (QV.le_iff _ _ _ _).2 (h.resolve_left hc.ne_pinf).2, fun h => Or.inr ⟨hc.2, (QV.le_iff _ _ _ _).1 h⟩⟩

theorem irBelow_fin {c : IR} (hc : R.FinWF c.rat) (y : Rat) : IRBelow c y ↔ IR.val c ≤ (toLex (y, 0) : QV) :=
  ⟨fun h => (QV.le_iff _ _ _ _).2 (h.resolve_left hc.ne_ninf).2, fun h => Or.inr ⟨hc.2, (QV.le_iff _ _ _ _).1 h⟩⟩

theorem irBelow_iff {b : IR} (hb : LbOk b) (y : Rat) : IRBelow b y ↔ BLe b (toLex (y, 0)) := by
  rcases hb with hf | hi
  · rw [BLe.fin hf, irBelow_fin hf.1]
  · exact iff_of_true (Or.inl hi) (BLe.ninf hi)

theorem irAbove_iff {b : IR} (hb : UbOk b) (y : Rat) : IRAbove b y ↔ VLe (toLex (y, 0)) b := by
  rcases hb with hf | hi
  · rw [VLe.fin hf, irAbove_fin hf.1]
  · exact iff_of_true (Or.inl hi) (VLe.pinf hi)

theorem QV.le_reading {a a' y y' : Rat} : (toLex (a, a') : QV) ≤ toLex (y, y') ↔ if y' < a' then a < y else a ≤ y := by
  rw [QV.le_iff]
  split
  · rename_i h
    exact ⟨fun h' => h'.elim id fun ⟨_, h2⟩ => absurd h (not_lt.2 h2), Or.inl⟩
  · rename_i h
    exact ⟨fun h' => h'.elim le_of_lt fun h2 => le_of_eq h2.1, fun h1 => h1.lt_or_eq.imp id fun e => ⟨e, not_lt.1 h⟩⟩

theorem irAbove_reading {b : IR} (hb : R.FinWF b.rat) (y : Rat) :
    IRAbove b y ↔ (if b.inf.toRat < 0 then y < b.rat.toRat else y ≤ b.rat.toRat) :=
  (irAbove_fin hb y).trans QV.le_reading

theorem irBelow_reading {b : IR} (hb : R.FinWF b.rat) (y : Rat) :
    IRBelow b y ↔ (if 0 < b.inf.toRat then b.rat.toRat < y else b.rat.toRat ≤ y) :=
  (irBelow_fin hb y).trans QV.le_reading

theorem lbLin_ok {t : Lra} (hb : BndWF t) {l : Lin} (hl : l.WF) (hnz : NoZero l)
    (hlv : ∀ p ∈ l.vars, p.1 < t.vals.length) : LowOK (t.lbLin l) :=
  sok_and_inf.2 ⟨(Side.lin .lo hl hnz (hb.sok hlv)).1,
    linBd_inf_fin hl fun p hp => ⟨(hb _ (hlv p hp)).1.1, (hb _ (hlv p hp)).2.1⟩⟩

theorem ubLin_ok {t : Lra} (hb : BndWF t) {l : Lin} (hl : l.WF) (hnz : NoZero l)
    (hlv : ∀ p ∈ l.vars, p.1 < t.vals.length) : UpOK (t.ubLin l) :=
  sok_and_inf.2 ⟨(Side.lin .hi hl hnz fun p hp => (hb.sok hlv p hp).symm).1,
    linBd_inf_fin hl fun p hp => ⟨(hb _ (hlv p hp)).2.1, (hb _ (hlv p hp)).1.1⟩⟩

theorem lbLin_ubLin_bounds {t : Lra} (hb : BndWF t) {l : Lin} (hl : l.WF) (hnz : NoZero l)
    (hlv : ∀ p ∈ l.vars, p.1 < t.vals.length) {σ : Nat → Rat} (hσ : InBounds t σ) :
    IRBelow (t.lbLin l) (Lin.evalS l σ) ∧ IRAbove (t.ubLin l) (Lin.evalS l σ) := by
  have := lbLin_ubLin_holds hl hnz (hb.sok hlv) (ν := nu σ fun _ => 0) fun p hp =>
    ⟨(irBelow_iff (hb.sok hlv p hp).1 _).1 (hσ _ (hlv p hp)).1, (irAbove_iff (hb.sok hlv p hp).2 _).1 (hσ _ (hlv p hp)).2⟩
  rw [evalQ_nu, evalS_zero, R.toRat_zero] at this
  exact ⟨(irBelow_iff (lbLin_ok hb hl hnz hlv).side.1 _).2 this.1, (irAbove_iff (ubLin_ok hb hl hnz hlv).side.1 _).2 this.2⟩

theorem toRat_neg_one : (R.neg R.one).toRat = -1 := by
  rw [R.toRat_neg ⟨by decide, by decide⟩, R.toRat_one]

theorem simpleC_inf {v : IR} (hv : SimpleC v) :
    R.FinWF v.inf ∧ (v.inf.toRat = 0 ∨ v.inf.toRat = 1 ∨ v.inf.toRat = -1) := by
  rcases hv.2 with h | h | h <;> rw [h]
  · exact ⟨R.finWF_zero, Or.inl R.toRat_zero⟩
  · exact ⟨R.finWF_ofInt 1, Or.inr (Or.inl R.toRat_one)⟩
  · exact ⟨R.finWF_neg (R.finWF_ofInt 1), Or.inr (Or.inr toRat_neg_one)⟩

theorem add_zero_fin {a : R} (ha : R.FinWF a) : R.add a R.zero = a := by
  obtain ⟨h1, h2⟩ := R.add_fin ha R.finWF_zero
  apply R.FinWF.ext h1 ha
  rw [h2, R.toRat_zero, add_zero]

theorem simpleC_shift {v : IR} (hv : SimpleC v) {d : R} (hd : R.FinWF d) :
    (IR.add v ⟨R.zero, d⟩).rat = v.rat ∧ (IR.add v ⟨R.zero, d⟩).inf.toRat = v.inf.toRat + d.toRat :=
  ⟨add_zero_fin hv.1, (R.add_fin (simpleC_inf hv).1 hd).2⟩

/-- the `ε` part of a simple constant is an integer, so `(q, k + 1) ≤ (y, 0)` is `(q, k) < (y, 0)` -/
theorem below_add_eps_iff {v : IR} (hv : SimpleC v) (y : Rat) :
    IRBelow (IR.add v ⟨R.zero, R.one⟩) y ↔ ¬ IRAbove v y := by
  obtain ⟨e1, e2⟩ := simpleC_shift hv (d := R.one) (R.finWF_ofInt 1)
  rw [irBelow_fin (e1 ▸ hv.1), irAbove_fin hv.1, not_le]
  show (toLex (_, _) : QV) ≤ toLex (y, 0) ↔ (toLex (_, _) : QV) < toLex (y, 0)
  rw [QV.le_iff, QV.lt_iff, e1]
  refine or_congr_right (and_congr_right fun _ => ?_)
  show (IR.add v ⟨R.zero, R.one⟩).inf.toRat ≤ 0 ↔ _
  rw [e2, R.toRat_one]
  rcases (simpleC_inf hv).2 with hk | hk | hk <;> rw [hk] <;> norm_num

theorem above_sub_eps_iff {v : IR} (hv : SimpleC v) (y : Rat) :
    IRAbove (IR.sub v ⟨R.zero, R.one⟩) y ↔ ¬ IRBelow v y := by
  obtain ⟨e1, e2⟩ := simpleC_shift hv (d := R.neg R.one) (R.finWF_neg (R.finWF_ofInt 1))
  show IRAbove (IR.add v ⟨R.zero, R.neg R.one⟩) y ↔ _
  rw [irAbove_fin (e1 ▸ hv.1), irBelow_fin hv.1, not_le]
  show (toLex (y, 0) : QV) ≤ toLex (_, _) ↔ (toLex (y, 0) : QV) < toLex (_, _)
  rw [QV.le_iff, QV.lt_iff, e1]
  refine or_congr_right (and_congr_right fun _ => ?_)
  show 0 ≤ (IR.add v ⟨R.zero, R.neg R.one⟩).inf.toRat ↔ _
  rw [e2, toRat_neg_one]
  rcases (simpleC_inf hv).2 with hk | hk | hk <;> rw [hk] <;> norm_num

end Lra

end Oratio
