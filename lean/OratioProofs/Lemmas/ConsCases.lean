/-
The control flow of the five reified constructors, once, over any set of primitives `P : Prim σ`
(OratioModel/Sat/Cons.lean): a call answers from the root values or the cache and leaves the state alone, or it runs
`freshDef` (a fresh variable, its defining clauses, a cache entry), or - product encoding of at-most-one - `guardDef`
after five named calls.  `Cons.* Enc.prim` is the root-level model `Enc.*` (`Cons_enc_*`, by `rfl`).
-/
import OratioModel.Sat.Cons
import OratioProofs.Lemmas.EncCnf

namespace Oratio
namespace Cons
open Enc EncL
variable {σ : Type} (P : Prim σ)

def guardDef (s : σ) (k : Key) (ctr : Lit) (cls : List (List Lit)) : Lit × σ :=
  match newClauses P s cls with
  | (false, s2) => (Lit.falseLit, s2)
  | (true, s2) => (ctr, P.remember s2 k ctr)

def freshDef (s : σ) (k : Key) (cs : Lit → List (List Lit)) : Lit × σ :=
  guardDef P (P.newVar s).2 k ⟨(P.newVar s).1, true⟩ (cs ⟨(P.newVar s).1, true⟩)

/-- `new_conj` (`abs = false`) and `new_disj` (`abs = true`) -/
def newJunct (abs : Bool) (s : σ) (ls : List Lit) : Lit × σ :=
  match scanJunct P s abs (sortByVar ls) none [] with
  | none => (⟨0, !abs⟩, s)
  | some [] => (⟨0, abs⟩, s)
  | some [l] => (l, s)
  | some ls =>
    match P.lookup s (junctKey abs ls) with
    | some l => (l, s)
    | none => freshDef P s (junctKey abs ls) (junctCls abs ls)

theorem newConj_eq (s : σ) (ls : List Lit) : newConj P s ls = newJunct P false s ls := by
  unfold newConj newJunct
  rcases scanJunct P s false (sortByVar ls) none [] with _ | _ | ⟨_, _ | _⟩ <;> rfl

theorem newDisj_eq (s : σ) (ls : List Lit) : newDisj P s ls = newJunct P true s ls := by
  unfold newDisj newJunct
  rcases scanJunct P s true (sortByVar ls) none [] with _ | _ | ⟨_, _ | _⟩ <;> rfl

/-- `r`: the answer of the filtering loop, named so that an instance can give it in its own terms -/
theorem newJunct_cases {abs : Bool} {s : σ} {ls : List Lit} {M : Lit × σ → Prop} {r : Option (List Lit)}
    (hr : scanJunct P s abs (sortByVar ls) none [] = r)
    (stop : r = none → M (⟨0, !abs⟩, s))
    (empty : r = some [] → M (⟨0, abs⟩, s))
    (single : ∀ l, r = some [l] → M (l, s))
    (hit : ∀ ls' l, r = some ls' → P.lookup s (junctKey abs ls') = some l → M (l, s))
    (fresh : ∀ l1 l2 t, r = some (l1 :: l2 :: t) → P.lookup s (junctKey abs (l1 :: l2 :: t)) = none →
      M (freshDef P s (junctKey abs (l1 :: l2 :: t)) (junctCls abs (l1 :: l2 :: t)))) :
    M (newJunct P abs s ls) := by
  unfold newJunct
  rw [hr]
  split
  · exact stop rfl
  · exact empty rfl
  · next l => exact single l rfl
  · next ls' _ _ =>
    split
    · next l hl => exact hit ls' l rfl hl
    · next hl =>
      match ls', hl with
      | l1 :: l2 :: t, hl => exact fresh l1 l2 t rfl hl
      | [], _ => exact absurd rfl ‹[] = [] → False›
      | [l], _ => exact absurd rfl (‹∀ l', [l] = [l'] → False› l)

theorem newEq_cases {s : σ} {a b : Lit} {M : Lit × σ → Prop}
    (both : ∀ va vb, P.value s a = some va → P.value s b = some vb → M (⟨0, !(va == vb)⟩, s))
    (left : ∀ va, P.value s a = some va → P.value s b = none → M (if va then b else b.neg, s))
    (right : ∀ vb, P.value s a = none → P.value s b = some vb → M (if vb then a else a.neg, s))
    (hit : ∀ l, P.value s a = none → P.value s b = none → P.lookup s (eqKey a b) = some l → M (l, s))
    (fresh : P.value s a = none → P.value s b = none → P.lookup s (eqKey a b) = none →
      M (freshDef P s (eqKey a b) (eqCls a b))) : M (newEq P s a b) := by
  unfold newEq
  cases hva : P.value s a with
  | some va =>
    cases hvb : P.value s b with
    | some vb => cases va <;> cases vb <;> exact both _ _ hva hvb
    | none => cases va <;> exact left _ hva hvb
  | none =>
    cases hvb : P.value s b with
    | some vb => cases vb <;> exact right _ hva hvb
    | none =>
      dsimp only
      split
      · next l hl => exact hit l hva hvb hl
      · next hl => exact fresh hva hvb hl

theorem amoCore_small (fuel : Nat) (s : σ) (ls : List Lit) (h : ls.length ≤ 1) :
    amoCore P fuel s ls = (Lit.trueLit, s) := by
  unfold amoCore; simp [h]

theorem amoCore_hit (fuel : Nat) (s : σ) (ls : List Lit) (h1 : 1 < ls.length) {l : Lit}
    (h2 : P.lookup s (.amo ls) = some l) : amoCore P fuel s ls = (l, s) := by
  unfold amoCore; simp [Nat.not_le.2 h1, h2]

theorem amoCore_pair (fuel : Nat) (s : σ) (ls : List Lit) (h1 : 1 < ls.length)
    (h2 : P.lookup s (.amo ls) = none) (h4 : ls.length < 4) :
    amoCore P fuel s ls = freshDef P s (.amo ls) (pairCls ls) := by
  unfold amoCore; simp only [Nat.not_le.2 h1, h2, h4, if_true, if_false]; rfl

theorem amoCore_zero (s : σ) (ls : List Lit) (h2 : P.lookup s (.amo ls) = none) (h4 : 4 ≤ ls.length) :
    amoCore P 0 s ls = (Lit.falseLit, s) := by
  unfold amoCore; simp only [show ¬ ls.length ≤ 1 by omega, h2, Nat.not_lt.2 h4, if_false]

/-- the product encoding: row and column variables, their two at-most-ones, the conjunction, the guarded clauses -/
theorem amoCore_succ (fuel : Nat) (s : σ) (ls : List Lit) (h2 : P.lookup s (.amo ls) = none)
    (h4 : 4 ≤ ls.length) {ps qs : Nat} (hps : ceilSqrt ls.length = ps) (hqs : ceilDiv ls.length ps = qs)
    {u w : List Lit} {s1 s2 s3 s4 s5 : σ} {cu cw ctr : Lit}
    (e1 : newVars P s ps = (u, s1)) (e2 : newVars P s1 qs = (w, s2)) (e3 : amoCore P fuel s2 u = (cu, s3))
    (e4 : amoCore P fuel s3 w = (cw, s4)) (e5 : newConj P s4 [cu, cw] = (ctr, s5)) :
    amoCore P (fuel + 1) s ls = guardDef P s5 (.amo ls) ctr (prodClauses ls ps qs u w ctr) := by
  rw [amoCore, if_neg (by omega), h2]
  -- the intermediate results are variables with equations: the terms `rfl` compares stay small
  simp only [if_neg (Nat.not_lt.2 h4), hps, hqs, e1, e2, e3, e4, e5]
  rfl

theorem amoCore_cases {M : Nat → σ → List Lit → Lit × σ → Prop}
    (small : ∀ fuel s ls, ls.length ≤ 1 → M fuel s ls (Lit.trueLit, s))
    (hit : ∀ fuel s ls l, 1 < ls.length → P.lookup s (.amo ls) = some l → M fuel s ls (l, s))
    (pair : ∀ fuel s ls, 1 < ls.length → P.lookup s (.amo ls) = none → ls.length < 4 →
      M fuel s ls (freshDef P s (.amo ls) (pairCls ls)))
    (dry : ∀ s ls, P.lookup s (.amo ls) = none → 4 ≤ ls.length → M 0 s ls (Lit.falseLit, s))
    (prod : ∀ fuel s ls, P.lookup s (.amo ls) = none → 4 ≤ ls.length →
      (∀ s' ls', M fuel s' ls' (amoCore P fuel s' ls')) → M (fuel + 1) s ls (amoCore P (fuel + 1) s ls)) :
    ∀ fuel s ls, M fuel s ls (amoCore P fuel s ls) := by
  have front : ∀ fuel s ls, (P.lookup s (.amo ls) = none → 4 ≤ ls.length → M fuel s ls (amoCore P fuel s ls)) →
      M fuel s ls (amoCore P fuel s ls) := fun fuel s ls last => by
    by_cases h1 : ls.length ≤ 1
    · rw [amoCore_small P fuel s ls h1]; exact small fuel s ls h1
    · cases h2 : P.lookup s (.amo ls) with
      | some l => rw [amoCore_hit P fuel s ls (by omega) h2]; exact hit fuel s ls l (by omega) h2
      | none =>
        by_cases h4 : ls.length < 4
        · rw [amoCore_pair P fuel s ls (by omega) h2 h4]; exact pair fuel s ls (by omega) h2 h4
        · exact last h2 (by omega)
  intro fuel
  induction fuel with
  | zero => exact fun s ls => front 0 s ls fun h2 h4 => by rw [amoCore_zero P s ls h2 h4]; exact dry s ls h2 h4
  | succ fuel ih => exact fun s ls => front _ s ls fun h2 h4 => prod fuel s ls h2 h4 ih

theorem newExctOne_cases {s : σ} {ls : List Lit} {M : Lit × σ → Prop} {r : CardScan}
    (hr : scanCard P s (sortDedup ls) none [] = r)
    (two : r = .twoTrue → M (Lit.falseLit, s))
    (one : ∀ others, r = .oneTrue others → M (newConj P s (others.map Lit.neg)))
    (empty : r = .open [] → M (Lit.falseLit, s))
    (unit : ∀ x, r = .open [x] → x.sign = true → M (x, s))
    (hit : ∀ ls' l, r = .open ls' → P.lookup s (.exo ls') = some l → M (l, s))
    (fresh : ∀ ls' r1, r = .open ls' → ls' ≠ [] → P.lookup s (.exo ls') = none →
      amoCore P ls'.length s ls' = r1 → M (freshDef P r1.2 (.exo ls') (exoCls r1.1 ls'))) :
    M (newExctOne P s ls) := by
  unfold newExctOne
  rw [hr]
  cases r with
  | twoTrue => exact two rfl
  | oneTrue o => exact one o rfl
  | «open» ls' =>
    match ls' with
    | [] => exact empty rfl
    | x :: t =>
      dsimp only
      by_cases hc : (x :: t).length = 1 ∧ ((x :: t).headD Lit.falseLit).sign = true
      · rw [if_pos hc]
        match t, hc with
        | [], hc => exact unit x rfl hc.2
      · rw [if_neg hc]
        cases hl : P.lookup s (.exo (x :: t)) with
        | some l => exact hit _ l rfl hl
        | none =>
          obtain ⟨r1, hr1⟩ : ∃ r1, amoCore P (x :: t).length s (x :: t) = r1 := ⟨_, rfl⟩
          dsimp only
          rw [hr1]
          exact fresh _ r1 rfl (List.cons_ne_nil _ _) hl hr1

end Cons

section
/- Both sides are stuck on a `match` of their own; `rfl` unfolds those only without smart unfolding. -/
set_option smartUnfolding false

theorem Cons_enc_scanJunct (s : Enc) (ab ls p acc) :
    Cons.scanJunct Enc.prim s ab ls p acc = s.scanJunct ab ls p acc := by rfl
theorem Cons_enc_scanCard (s : Enc) (ls p acc) : Cons.scanCard Enc.prim s ls p acc = s.scanCard ls p acc := by rfl
theorem Cons_enc_newVars (s : Enc) (n) : Cons.newVars Enc.prim s n = s.newVars n := by rfl
theorem Cons_enc_amoCore (fuel) (s : Enc) (ls) : Cons.amoCore Enc.prim fuel s ls = Enc.amoCore fuel s ls := by rfl
theorem Cons_enc_newEq (s : Enc) (a b) : Cons.newEq Enc.prim s a b = s.newEq a b := by rfl
theorem Cons_enc_newConj (s : Enc) (ls) : Cons.newConj Enc.prim s ls = s.newConj ls := by rfl
theorem Cons_enc_newDisj (s : Enc) (ls) : Cons.newDisj Enc.prim s ls = s.newDisj ls := by rfl
theorem Cons_enc_newAtMostOne (s : Enc) (ls) : Cons.newAtMostOne Enc.prim s ls = s.newAtMostOne ls := by
  unfold Cons.newAtMostOne Enc.newAtMostOne
  rw [Cons_enc_scanCard]
  cases s.scanCard (Enc.sortDedup ls) none [] with
  | twoTrue => rfl
  | oneTrue o => exact Cons_enc_newConj s _
  | «open» l => exact Cons_enc_amoCore _ s l
theorem Cons_enc_newExctOne (s : Enc) (ls) : Cons.newExctOne Enc.prim s ls = s.newExctOne ls := by
  unfold Cons.newExctOne Enc.newExctOne
  rw [Cons_enc_scanCard]
  cases s.scanCard (Enc.sortDedup ls) none [] with
  | twoTrue => rfl
  | oneTrue o => exact Cons_enc_newConj s _
  | «open» l =>
    cases l with
    | nil => rfl
    | cons x t => dsimp only; rw [Cons_enc_amoCore]; rfl

theorem Cons_enc_guardDef (s : Enc) (k : Key) (ctr : Lit) (cls : List (List Lit)) :
    Cons.guardDef Enc.prim s k ctr cls =
      match s.newClauses cls with
      | (false, s2) => (Lit.falseLit, s2)
      | (true, s2) => (ctr, s2.remember k ctr) := by rfl

theorem Cons_enc_freshDef (s : Enc) (k : Key) (cs : Lit → List (List Lit)) :
    Cons.freshDef Enc.prim s k cs =
      match (s.newVar.2).newClauses (cs ⟨s.nvars, true⟩) with
      | (false, s2) => (Lit.falseLit, s2)
      | (true, s2) => (⟨s.nvars, true⟩, s2.remember k ⟨s.nvars, true⟩) := by rfl

end

end Oratio
