/-
The keys of a `Lin` under `find / erase / addTerm / mapC`, and the ascending sets of rows `setInsert / setErase`.
-/
import OratioModel
import OratioProofs.Lemmas.Lin

namespace Oratio
namespace Lin

theorem sumS_erase_getD {m : List (Nat × R)} (v : Nat) (σ : Nat → Rat) :
    sumS σ (erase m v) = sumS σ m - ((find m v).getD R.zero).toRat * σ v := by
  cases h : find m v with
  | none => rw [erase_of_none h]; simp [R.toRat_zero]
  | some d => rw [sumS_erase v σ h]; rfl

theorem find_erase_isSome {m : List (Nat × R)} (v w : Nat) (hs : Sorted m) :
    (find (erase m v) w).isSome = true ↔ w ≠ v ∧ (find m w).isSome = true := by
  rw [find_erase v w hs]
  by_cases hw : w = v
  · simp [hw]
  · simp [hw]

theorem find_mapC_isSome (f : R → R) (m : List (Nat × R)) (v : Nat) :
    (find (mapC f m) v).isSome = (find m v).isSome := by
  rw [find_mapC]; simp

theorem find_addTerm_of_ne {m : List (Nat × R)} {t : Nat × R} (hs : Sorted m) {v : Nat} (hv : v ≠ t.1) :
    find (addTerm m t) v = find m v := by
  unfold addTerm
  cases hf : find m t.1 with
  | none => simp only; rw [find_insert _ _ hf, if_neg hv]
  | some c =>
    simp only
    split
    · rw [find_erase _ _ hs, if_neg hv]
    · rw [find_set _ _ _ hf, if_neg hv]

theorem addTerm_keys {m : List (Nat × R)} {t : Nat × R} (hs : Sorted m) {v : Nat}
    (h : (find (addTerm m t) v).isSome = true) : (find m v).isSome = true ∨ v = t.1 := by
  by_cases hv : v = t.1
  · exact Or.inr hv
  · exact Or.inl (find_addTerm_of_ne hs hv ▸ h)

theorem foldl_addTerm_keys (r m : List (Nat × R)) (hs : Sorted m) (hw : CoefWF m) (hwr : CoefWF r) (v : Nat)
    (h : (find (r.foldl addTerm m) v).isSome = true) : (find m v).isSome = true ∨ (find r v).isSome = true := by
  refine foldl_addTerm_ind (P := fun m' => (find m' v).isSome = true → (find m v).isSome = true ∨ (find r v).isSome = true)
    hs hw hwr Or.inl (fun m' t ht a _ c h' => ?_) h
  rcases addTerm_keys a h' with h1 | h1
  · exact c h1
  · exact Or.inr (find_isSome_iff.2 ⟨t, ht, h1.symm⟩)

end Lin

namespace Lra
open Lin

theorem setInsert_eq_insertK (x : Nat) : ∀ l : List Nat, setInsert x l = ListAux.insertK id (· < ·) x l
  | [] => rfl
  | y :: t => by
    rw [setInsert, ListAux.insertK, setInsert_eq_insertK x t]
    simp only [beq_iff_eq, id]

theorem mem_setInsert {x y : Nat} {l : List Nat} : y ∈ setInsert x l ↔ y = x ∨ y ∈ l := by
  rw [setInsert_eq_insertK]; exact ListAux.mem_insertK_id

theorem sorted_setInsert {x : Nat} {l : List Nat} (h : l.Pairwise (· < ·)) :
    (setInsert x l).Pairwise (· < ·) := by
  rw [setInsert_eq_insertK]
  exact ListAux.sorted_insertK (key := id) (lt := (· < ·)) Nat.lt_trans (fun {a b} h1 h2 => by omega) x h

theorem mem_setErase {x y : Nat} {l : List Nat} : y ∈ setErase x l ↔ y ∈ l ∧ y ≠ x := by
  simp [setErase]

theorem sorted_setErase {x : Nat} {l : List Nat} (h : l.Pairwise (· < ·)) :
    (setErase x l).Pairwise (· < ·) :=
  List.Pairwise.sublist List.filter_sublist h

theorem forall_mem_set {α : Type} {P : α → Prop} {l : List α} {i : Nat} {x : α}
    (h : ∀ w ∈ l, P w) (hx : P x) : ∀ w ∈ l.set i x, P w := by
  intro w hw
  rcases List.mem_or_eq_of_mem_set hw with hw | rfl
  · exact h w hw
  · exact hx

theorem getD_sorted {tw : List (List Nat)} (h : ∀ w ∈ tw, w.Pairwise (· < ·)) (v : Nat) :
    (tw.getD v []).Pairwise (· < ·) := by
  by_cases hv : v < tw.length
  · have : tw.getD v [] = tw[v] := by simp [List.getD_eq_getElem?_getD, hv]
    rw [this]
    exact h _ (List.getElem_mem hv)
  · have : tw.getD v [] = [] := by simp [List.getD_eq_getElem?_getD, Nat.le_of_not_lt hv]
    rw [this]
    exact List.Pairwise.nil

theorem getD_finWF {m : List (Nat × R)} (hw : CoefWF m) (v : Nat) : R.FinWF ((Lin.find m v).getD R.zero) := by
  cases h : Lin.find m v with
  | none => exact R.finWF_zero
  | some c => exact coefWF_find hw h

theorem forall_keys_iff {m : List (Nat × R)} (Q : Nat → Prop) :
    (∀ p ∈ m, Q p.1) ↔ ∀ v, (Lin.find m v).isSome = true → Q v :=
  ⟨fun h v hv => by obtain ⟨p, hp, rfl⟩ := find_isSome_iff.1 hv; exact h p hp,
    fun h p hp => h p.1 (find_isSome_iff.2 ⟨p, hp, rfl⟩)⟩

theorem coeff_num_ne_zero {l : Lin} {xj : Nat} (h : (l.coeff xj).num ≠ 0) :
    ∃ cf, Lin.find l.vars xj = some cf ∧ cf.num ≠ 0 := by
  unfold Lin.coeff at h
  cases hf : Lin.find l.vars xj with
  | none => rw [hf] at h; exact absurd rfl h
  | some c => rw [hf] at h; exact ⟨c, rfl, h⟩

theorem find_none_of_keys_lt {m : List (Nat × R)} {n : Nat} (h : ∀ v, (Lin.find m v).isSome = true → v < n) :
    Lin.find m n = none :=
  Option.not_isSome_iff_eq_none.1 fun hf => Nat.lt_irrefl _ (h _ hf)

theorem find_none_of_lt {m : List (Nat × R)} {n : Nat} (h : ∀ p ∈ m, p.1 < n) : Lin.find m n = none :=
  find_none_of_keys_lt ((forall_keys_iff (· < n)).1 h)

theorem evalS_update {l : Lin} (hl : l.WF) {x : Nat} (hx : Lin.find l.vars x = none) (σ : Nat → Rat) (q : Rat) :
    Lin.evalS l (Function.update σ x q) = Lin.evalS l σ := by
  apply eval_coeff_spec l hl
  intro v hv
  by_cases h : v = x
  · subst h
    exfalso
    apply hv
    show ((Lin.find l.vars v).getD R.zero).toRat = 0
    rw [hx]
    exact R.toRat_zero
  · exact Function.update_of_ne h _ _

end Lra

end Oratio
