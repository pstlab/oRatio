/-
Lemmas for property C13 that mention no state: what each clause family the reified constructors post (`junctCls`,
`eqCls`, `pairCls`, `prodClauses`, `exoCls`) says in a total assignment and which variables it is over.  The product
encoding of at-most-one is a grid of row and column selectors.
-/
import OratioProofs.Lemmas.Enc
import OratioProofs.Lemmas.EncArith

namespace Oratio
namespace EncL
open Enc

def junctVal (abs : Bool) (f : Lit → Bool) (ls : List Lit) : Bool :=
  match abs with
  | false => ls.all f
  | true => ls.any f

theorem junctVal_eq_abs {abs : Bool} {f : Lit → Bool} {ls : List Lit} :
    junctVal abs f ls = abs ↔ ∃ l ∈ ls, f l = abs := by
  cases abs <;> simp [junctVal]

theorem bool_eq_iff (abs : Bool) {x y : Bool} : x = y ↔ (x = abs ↔ y = abs) := by
  cases abs <;> cases x <;> cases y <;> simp

theorem junctVal_congr {abs : Bool} {f g : Lit → Bool} {a b : List Lit}
    (h : (∃ l ∈ a, f l = abs) ↔ ∃ l ∈ b, g l = abs) : junctVal abs f a = junctVal abs g b := by
  rw [bool_eq_iff abs, junctVal_eq_abs, junctVal_eq_abs, h]

theorem junctVal_nil (abs : Bool) (f : Lit → Bool) : junctVal abs f [] = !abs := by cases abs <;> rfl

theorem junctVal_singleton (abs : Bool) (f : Lit → Bool) (l : Lit) : junctVal abs f [l] = f l := by
  cases abs <;> simp [junctVal]

def junctKey : Bool → List Lit → Key
  | false, ls => .conj ls
  | true, ls => .disj ls

theorem keySem_junct {α : Asg} {abs : Bool} {ls : List Lit} {l : Lit} :
    KeySem α (junctKey abs ls) l ↔ α.lit l = junctVal abs α.lit ls := by cases abs <;> exact Iff.rfl

theorem keyLits_junct (abs : Bool) (ls : List Lit) : keyLits (junctKey abs ls) = ls := by cases abs <;> rfl

def junctCls (abs : Bool) (ls : List Lit) (ctr : Lit) : List (List Lit) :=
  match abs with
  | false => ls.map (fun l => [ctr.neg, l]) ++ [ctr :: ls.map Lit.neg]
  | true => ls.map (fun l => [l.neg, ctr]) ++ [ctr.neg :: ls]

theorem junct_clauses (β : Asg) (abs : Bool) (ctr : Lit) (ls : List Lit) :
    β.cnf (junctCls abs ls ctr) = true ↔ β.lit ctr = junctVal abs β.lit ls := by
  cases abs <;> cases h : β.lit ctr <;>
    simp [junctCls, junctVal, Asg.cnf, Asg.clause, List.all_append, Asg.lit_neg, h, List.any_map, Function.comp_def]

theorem junctCls_vars {abs : Bool} {ls : List Lit} {ctr : Lit} {c : List Lit} (hc : c ∈ junctCls abs ls ctr)
    {x : Lit} (hx : x ∈ c) : x.var = ctr.var ∨ ∃ l ∈ ls, x.var = l.var := by
  cases abs <;> simp only [junctCls, List.mem_append, List.mem_map, List.mem_singleton] at hc <;>
    rcases hc with ⟨y, hy, rfl⟩ | rfl <;>
    simp only [List.mem_cons, List.mem_map, List.not_mem_nil, or_false] at hx
  · rcases hx with rfl | rfl
    · exact Or.inl rfl
    · exact Or.inr ⟨_, hy, rfl⟩
  · rcases hx with rfl | ⟨z, hz, rfl⟩
    · exact Or.inl rfl
    · exact Or.inr ⟨z, hz, rfl⟩
  · rcases hx with rfl | rfl
    · exact Or.inr ⟨y, hy, rfl⟩
    · exact Or.inl rfl
  · rcases hx with rfl | hx
    · exact Or.inl rfl
    · exact Or.inr ⟨x, hx, rfl⟩

def eqKey (a b : Lit) : Key := if a.idx < b.idx then .eq a b else .eq b a

theorem keySem_eq {α : Asg} {a b l : Lit} : KeySem α (eqKey a b) l ↔ α.lit l = (α.lit a == α.lit b) := by
  unfold eqKey
  split
  · exact Iff.rfl
  · show α.lit l = (α.lit b == α.lit a) ↔ _
    rw [Bool.beq_comm]

theorem keyLits_eq {a b x : Lit} (hx : x ∈ keyLits (eqKey a b)) : x = a ∨ x = b := by
  unfold eqKey at hx
  split at hx <;> simp only [keyLits, List.mem_cons, List.not_mem_nil, or_false] at hx
  · exact hx
  · exact hx.symm

def eqCls (a b ctr : Lit) : List (List Lit) :=
  [[ctr.neg, a.neg, b], [ctr.neg, a, b.neg], [ctr, a.neg, b.neg], [ctr, a, b]]

theorem eq_clauses (β : Asg) (ctr a b : Lit) :
    β.cnf (eqCls a b ctr) = true ↔ β.lit ctr = (β.lit a == β.lit b) := by
  cases h : β.lit ctr <;> cases ha : β.lit a <;> cases hb : β.lit b <;>
    simp [eqCls, Asg.cnf, Asg.clause, Asg.lit_neg, h, ha, hb]

theorem eqCls_vars {a b ctr : Lit} {c : List Lit} (hc : c ∈ eqCls a b ctr) {x : Lit} (hx : x ∈ c) :
    x.var = ctr.var ∨ x.var = a.var ∨ x.var = b.var := by
  simp only [eqCls, List.mem_cons, List.not_mem_nil, or_false] at hc
  rcases hc with rfl | rfl | rfl | rfl <;>
    simp only [List.mem_cons, List.not_mem_nil, or_false] at hx <;>
    rcases hx with rfl | rfl | rfl <;> simp

theorem amo_of_sub {α : Asg} {A B : List Lit} (h : ∀ l ∈ A, l ∈ B ∨ α.lit l = false)
    (hB : AtMostOne α B) : AtMostOne α A := by
  intro a ha b hb hta htb
  rcases h a ha with h1 | h1
  · rcases h b hb with h2 | h2
    · exact hB a h1 b h2 hta htb
    · rw [htb] at h2; cases h2
  · rw [hta] at h1; cases h1

theorem amo_congr {α β : Asg} {ls : List Lit} (h : ∀ l ∈ ls, β l.var = α l.var) (hA : AtMostOne α ls) :
    AtMostOne β ls := by
  intro a ha b hb hta htb
  rw [lit_congr (h a ha)] at hta
  rw [lit_congr (h b hb)] at htb
  exact hA a ha b hb hta htb

theorem amo_short {α : Asg} {ls : List Lit} (h : ls.length ≤ 1) : AtMostOne α ls := by
  intro a ha b hb _ _
  match ls, h with
  | [], _ => cases ha
  | [x], _ =>
    simp only [List.mem_singleton] at ha hb
    rw [ha, hb]
  | _ :: _ :: _, h => simp at h

theorem pairs_eq : ∀ ls : List Lit, pairs ls = ListAux.pairs ls
  | [] => rfl
  | a :: t => by rw [pairs, ListAux.pairs, pairs_eq t]

def pairCls (ls : List Lit) : Lit → List (List Lit) :=
  fun ctr => (pairs ls).map (fun p => [p.1.neg, p.2.neg, ctr.neg])

theorem pair_clauses (β : Asg) (ctr : Lit) (ls : List Lit) :
    β.cnf ((pairs ls).map (fun p => [p.1.neg, p.2.neg, ctr.neg])) = true ↔
      ∀ p ∈ pairs ls, ¬ (β.lit p.1 = true ∧ β.lit p.2 = true ∧ β.lit ctr = true) := by
  rw [Asg.cnf_iff]
  simp only [List.mem_map, forall_exists_index, and_imp, forall_apply_eq_imp_iff₂]
  refine forall_congr' fun p => forall_congr' fun _ => ?_
  cases h1 : β.lit p.1 <;> cases h2 : β.lit p.2 <;> cases h3 : β.lit ctr <;>
    simp [Asg.clause, Asg.lit_neg, h1, h2, h3]

theorem uLits_length (base n : Nat) : (uLits base n).length = n := by simp [uLits]

theorem mem_uLits {base n : Nat} {l : Lit} : l ∈ uLits base n ↔ ∃ i, i < n ∧ l = ⟨base + i, true⟩ := by
  simp only [uLits, List.mem_map, List.mem_range, eq_comm]

theorem uLits_getD {base n i : Nat} (h : i < n) : (uLits base n).getD i Lit.falseLit = ⟨base + i, true⟩ := by
  simp [uLits, List.getD_eq_getElem?_getD, h]

/-- an index out of range gives the default `FALSE_lit`, over variable 0 -/
theorem uLits_getD_lt {base n N : Nat} (i : Nat) (hN : 0 < N) (h : base + n ≤ N) :
    ((uLits base n).getD i Lit.falseLit).var < N := by
  by_cases hi : i < n
  · rw [uLits_getD hi]; exact Nat.lt_of_lt_of_le (Nat.add_lt_add_left hi base) h
  · rw [List.getD_eq_getElem?_getD, List.getElem?_eq_none (by rw [uLits_length]; omega)]; exact hN

theorem uLits_nodup (base n : Nat) : (uLits base n).Nodup := by
  unfold uLits
  rw [List.nodup_iff_pairwise_ne, List.pairwise_map]
  refine List.Pairwise.imp ?_ (List.nodup_iff_pairwise_ne.1 List.nodup_range)
  intro a b hab h
  simp only [Lit.mk.injEq, and_true] at h
  omega

def prodClauses (ls : List Lit) (ps qs : Nat) (u w : List Lit) (ctr : Lit) : List (List Lit) :=
  (List.range ps).flatMap (fun i => (List.range qs).flatMap (fun j =>
    match ls[i * qs + j]? with
    | some lk => [[lk.neg, u.getD i Lit.falseLit, ctr.neg], [lk.neg, w.getD j Lit.falseLit, ctr.neg]]
    | none => []))

theorem mem_prodClauses {ls : List Lit} {ps qs : Nat} {u w : List Lit} {ctr : Lit} {c : List Lit} :
    c ∈ prodClauses ls ps qs u w ctr ↔ ∃ i, i < ps ∧ ∃ j, j < qs ∧ ∃ lk, ls[i * qs + j]? = some lk ∧
      (c = [lk.neg, u.getD i Lit.falseLit, ctr.neg] ∨ c = [lk.neg, w.getD j Lit.falseLit, ctr.neg]) := by
  simp only [prodClauses, List.mem_flatMap, List.mem_range]
  constructor
  · rintro ⟨i, hi, j, hj, hc⟩
    split at hc
    · next lk hlk =>
      simp only [List.mem_cons, List.not_mem_nil, or_false] at hc
      exact ⟨i, hi, j, hj, lk, hlk, hc⟩
    · cases hc
  · rintro ⟨i, hi, j, hj, lk, hlk, hc⟩
    refine ⟨i, hi, j, hj, ?_⟩
    rw [hlk]
    simpa using hc

theorem prodClauses_true (β : Asg) (ls : List Lit) (ps qs : Nat) (u w : List Lit) (ctr : Lit) :
    β.cnf (prodClauses ls ps qs u w ctr) = true ↔
      ∀ i, i < ps → ∀ j, j < qs → ∀ lk, ls[i * qs + j]? = some lk → β.lit lk = true → β.lit ctr = true →
        (β.lit (u.getD i Lit.falseLit) = true ∧ β.lit (w.getD j Lit.falseLit) = true) := by
  rw [Asg.cnf_iff]
  constructor
  · intro h i hi j hj lk hlk h1 h2
    exact ⟨(clause_imp β _ _ _).1 (h _ (mem_prodClauses.2 ⟨i, hi, j, hj, lk, hlk, Or.inl rfl⟩)) h1 h2,
      (clause_imp β _ _ _).1 (h _ (mem_prodClauses.2 ⟨i, hi, j, hj, lk, hlk, Or.inr rfl⟩)) h1 h2⟩
  · intro h c hc
    obtain ⟨i, hi, j, hj, lk, hlk, hc⟩ := mem_prodClauses.1 hc
    rcases hc with rfl | rfl
    · exact (clause_imp β _ _ _).2 fun h1 h2 => (h i hi j hj lk hlk h1 h2).1
    · exact (clause_imp β _ _ _).2 fun h1 h2 => (h i hi j hj lk hlk h1 h2).2

theorem lt_of_getElem? {ls : List Lit} {a : Lit} {k : Nat} (h : ls[k]? = some a) : k < ls.length :=
  (List.getElem?_eq_some_iff.1 h).1

theorem prod_forces {α : Asg} {ls : List Lit} {ps qs n0 m0 : Nat} {ctr : Lit} (hq : 0 < qs)
    (hcover : ls.length ≤ ps * qs)
    (hcls : α.cnf (prodClauses ls ps qs (uLits n0 ps) (uLits m0 qs) ctr) = true) (hctr : α.lit ctr = true)
    (hU : AtMostOne α (uLits n0 ps)) (hW : AtMostOne α (uLits m0 qs)) : AtMostOne α ls := by
  rw [prodClauses_true] at hcls
  have key : ∀ k a, ls[k]? = some a → α.lit a = true →
      α.lit ⟨n0 + k / qs, true⟩ = true ∧ α.lit ⟨m0 + k % qs, true⟩ = true ∧ k / qs < ps ∧ k % qs < qs := by
    intro k a hk hta
    obtain ⟨d1, d2, d3⟩ := index_decomp hq hcover (lt_of_getElem? hk)
    have := hcls (k / qs) d1 (k % qs) d2 a (by rw [d3]; exact hk) hta hctr
    rw [uLits_getD d1, uLits_getD d2] at this
    exact ⟨this.1, this.2, d1, d2⟩
  intro a ha b hb hta htb
  obtain ⟨k, hk⟩ := List.getElem?_of_mem ha
  obtain ⟨k', hk'⟩ := List.getElem?_of_mem hb
  obtain ⟨u1, w1, i1, j1⟩ := key k a hk hta
  obtain ⟨u2, w2, i2, j2⟩ := key k' b hk' htb
  have e1 := hU _ (mem_uLits.2 ⟨_, i1, rfl⟩) _ (mem_uLits.2 ⟨_, i2, rfl⟩) u1 u2
  have e2 := hW _ (mem_uLits.2 ⟨_, j1, rfl⟩) _ (mem_uLits.2 ⟨_, j2, rfl⟩) w1 w2
  simp only [Lit.mk.injEq, and_true] at e1 e2
  have hkk : k = k' := by
    rw [← Nat.div_add_mod k qs, ← Nat.div_add_mod k' qs, Nat.add_left_cancel e1, Nat.add_left_cancel e2]
  subst hkk
  exact Option.some.inj (hk.symm.trans hk')

theorem prod_clauses_of_false {β : Asg} {ls : List Lit} {ps qs : Nat} {u w : List Lit} {ctr : Lit}
    (h : β.lit ctr = false) : β.cnf (prodClauses ls ps qs u w ctr) = true := by
  rw [prodClauses_true]
  intro i _ j _ lk _ _ hc
  rw [h] at hc; cases hc

theorem prodClauses_range {ls : List Lit} {ps qs n0 m0 N : Nat} {ctr : Lit}
    (hls : ∀ l ∈ ls, l.var < N) (hu : n0 + ps ≤ N) (hw : m0 + qs ≤ N) (hc : ctr.var < N) :
    ∀ c ∈ prodClauses ls ps qs (uLits n0 ps) (uLits m0 qs) ctr, ∀ l ∈ c, l.var < N := by
  intro c hcm l hl
  obtain ⟨i, _, j, _, lk, hlk, hcc⟩ := mem_prodClauses.1 hcm
  have hN : 0 < N := Nat.lt_of_le_of_lt (Nat.zero_le _) hc
  rcases hcc with rfl | rfl <;>
    simp only [List.mem_cons, List.not_mem_nil, or_false] at hl <;>
    rcases hl with rfl | rfl | rfl
  · exact hls lk (List.mem_of_getElem? hlk)
  · exact uLits_getD_lt i hN hu
  · exact hc
  · exact hls lk (List.mem_of_getElem? hlk)
  · exact uLits_getD_lt j hN hw
  · exact hc

theorem amo_uLits {β : Asg} {base n : Nat} {o : Option Nat}
    (h : ∀ i, i < n → β (base + i) = true → o = some i) : AtMostOne β (uLits base n) := by
  intro a ha b hb hta htb
  obtain ⟨i, hi, rfl⟩ := mem_uLits.1 ha
  obtain ⟨j, hj, rfl⟩ := mem_uLits.1 hb
  rw [Asg.lit_mk_true] at hta htb
  rw [Option.some.inj ((h i hi hta).symm.trans (h j hj htb))]

/-- for completeness: old variables as in `α`; of the row (from `n0`) and column (from `n0 + ps`) variables the one with index `oi` resp. `oj` is true -/
def oneHot (n0 ps : Nat) (α : Asg) (oi oj : Option Nat) : Asg := fun v =>
  if v < n0 then α v else if v < n0 + ps then decide (oi = some (v - n0)) else decide (oj = some (v - (n0 + ps)))

theorem oneHot_old {n0 ps : Nat} {α : Asg} {oi oj : Option Nat} {v : Nat} (h : v < n0) :
    oneHot n0 ps α oi oj v = α v := if_pos h

theorem oneHot_row {n0 ps : Nat} {α : Asg} {oi oj : Option Nat} {i : Nat} (h : i < ps) :
    oneHot n0 ps α oi oj (n0 + i) = decide (oi = some i) := by
  unfold oneHot
  rw [if_neg (by omega), if_pos (by omega), Nat.add_sub_cancel_left]

theorem oneHot_col {n0 ps : Nat} {α : Asg} {oi oj : Option Nat} (j : Nat) :
    oneHot n0 ps α oi oj (n0 + ps + j) = decide (oj = some j) := by
  unfold oneHot
  rw [if_neg (by omega), if_neg (by omega), Nat.add_sub_cancel_left]

theorem exists_hot {α : Asg} {ls : List Lit} (hnd : ls.Nodup) (hA : AtMostOne α ls) :
    ∃ o : Option Nat, ∀ (k : Nat) (lk : Lit), ls[k]? = some lk → α.lit lk = true → o = some k := by
  by_cases hex : ∃ (k : Nat) (lk : Lit), ls[k]? = some lk ∧ α.lit lk = true
  · obtain ⟨k0, lk0, e1, e2⟩ := hex
    refine ⟨some k0, fun k lk hk ht => ?_⟩
    have := hA lk (List.mem_of_getElem? hk) lk0 (List.mem_of_getElem? e1) ht e2
    subst this
    rw [(List.getElem?_inj (lt_of_getElem? hk) hnd).1 (hk.trans e1.symm)]
  · exact ⟨none, fun k lk hk ht => absurd ⟨k, lk, hk, ht⟩ hex⟩

theorem oneHot_prodClauses {α γ : Asg} {ls : List Lit} {n0 ps qs : Nat} {ctr : Lit} {o : Option Nat}
    (hls : ∀ l ∈ ls, l.var < n0)
    (ho : ∀ (k : Nat) (lk : Lit), ls[k]? = some lk → α.lit lk = true → o = some k)
    (hγ : ∀ v, v < n0 + ps + qs → γ v = oneHot n0 ps α (o.map (· / qs)) (o.map (· % qs)) v) :
    γ.cnf (prodClauses ls ps qs (uLits n0 ps) (uLits (n0 + ps) qs) ctr) = true := by
  rw [prodClauses_true]
  intro i hi j hj lk hlk ht _
  have hv := hls lk (List.mem_of_getElem? hlk)
  rw [lit_congr ((hγ _ (by omega)).trans (oneHot_old hv))] at ht
  rw [uLits_getD hi, uLits_getD hj, Asg.lit_mk_true, Asg.lit_mk_true, hγ _ (by omega), hγ _ (by omega), oneHot_row hi,
    oneHot_col j, ho _ lk hlk ht]
  simp [index_div hj, index_mod hj]

theorem exo_transfer {α : Asg} {ls ls' : List Lit} (h1 : ∀ l ∈ ls', l ∈ ls)
    (h2 : ∀ l ∈ ls, l ∈ ls' ∨ α.lit l = false) : ExactlyOne α ls' ↔ ExactlyOne α ls := by
  constructor
  · rintro ⟨hA, a, ha, hta⟩
    exact ⟨amo_of_sub h2 hA, a, h1 a ha, hta⟩
  · rintro ⟨hA, a, ha, hta⟩
    refine ⟨amo_of_sub (fun l hl => Or.inl (h1 l hl)) hA, a, ?_, hta⟩
    rcases h2 a ha with h | h
    · exact h
    · rw [hta] at h; cases h

def exoCls (amo : Lit) (ls : List Lit) (ctr : Lit) : List (List Lit) := [[ctr.neg, amo], ls ++ [ctr.neg]]

theorem exo_clauses (β : Asg) (ctr amo : Lit) (ls : List Lit) :
    β.cnf (exoCls amo ls ctr) = true ↔
      (β.lit ctr = true → β.lit amo = true ∧ ∃ l ∈ ls, β.lit l = true) := by
  cases hc : β.lit ctr <;> simp [exoCls, Asg.cnf, Asg.clause, Asg.lit_neg, hc, List.any_append]

/-- a clause over the variables up to `n` that mentions `n` and an open literal below `n`: with `n` fresh it has
    two undefined literals over different variables, so `new_clause` neither drops it nor assigns anything -/
def OpenAt (n : Nat) (isOpen : Lit → Prop) (c : List Lit) : Prop :=
  (∀ l ∈ c, l.var ≤ n) ∧ (∃ x ∈ c, x.var = n) ∧ ∃ y ∈ c, y.var < n ∧ isOpen y

theorem junctCls_open {abs : Bool} {l1 : Lit} {t : List Lit} {n : Nat} {isOpen : Lit → Prop}
    (hopen : ∀ l ∈ l1 :: t, l.var < n ∧ isOpen l ∧ isOpen l.neg) {c : List Lit}
    (hc : c ∈ junctCls abs (l1 :: t) ⟨n, true⟩) : OpenAt n isOpen c := by
  refine ⟨fun x hx => ?_, ?_⟩
  · rcases junctCls_vars hc hx with e | ⟨y, hy, e⟩
    · exact Nat.le_of_eq e
    · exact e ▸ Nat.le_of_lt (hopen y hy).1
  · have h1 := hopen l1 List.mem_cons_self
    cases abs <;> simp only [junctCls, List.mem_append, List.mem_map, List.mem_singleton] at hc <;>
      rcases hc with ⟨y, hy, rfl⟩ | rfl
    · exact ⟨⟨_, List.mem_cons_self, rfl⟩, y, by simp, (hopen y hy).1, (hopen y hy).2.1⟩
    · exact ⟨⟨_, List.mem_cons_self, rfl⟩, l1.neg, by simp, h1.1, h1.2.2⟩
    · exact ⟨⟨⟨n, true⟩, by simp, rfl⟩, y.neg, by simp, (hopen y hy).1, (hopen y hy).2.2⟩
    · exact ⟨⟨_, List.mem_cons_self, rfl⟩, l1, by simp, h1.1, h1.2.1⟩

theorem eqCls_open {a b : Lit} {n : Nat} {isOpen : Lit → Prop} (ha : a.var < n) (hb : b.var < n)
    (hopen : isOpen b ∧ isOpen b.neg) {c : List Lit} (hc : c ∈ eqCls a b ⟨n, true⟩) : OpenAt n isOpen c := by
  refine ⟨fun x hx => ?_, ?_⟩
  · rcases eqCls_vars hc hx with e | e | e
    · exact Nat.le_of_eq e
    · exact e ▸ Nat.le_of_lt ha
    · exact e ▸ Nat.le_of_lt hb
  · simp only [eqCls, List.mem_cons, List.not_mem_nil, or_false] at hc
    rcases hc with rfl | rfl | rfl | rfl
    · exact ⟨⟨_, List.mem_cons_self, rfl⟩, b, by simp, hb, hopen.1⟩
    · exact ⟨⟨_, List.mem_cons_self, rfl⟩, b.neg, by simp, hb, hopen.2⟩
    · exact ⟨⟨_, List.mem_cons_self, rfl⟩, b.neg, by simp, hb, hopen.2⟩
    · exact ⟨⟨_, List.mem_cons_self, rfl⟩, b, by simp, hb, hopen.1⟩

theorem pairCls_open {ls : List Lit} {n : Nat} {isOpen : Lit → Prop}
    (hopen : ∀ l ∈ ls, l.var < n ∧ isOpen l.neg) {c : List Lit} (hc : c ∈ pairCls ls ⟨n, true⟩) :
    OpenAt n isOpen c := by
  simp only [pairCls, List.mem_map] at hc
  obtain ⟨p, hp, rfl⟩ := hc
  obtain ⟨m1, m2, -⟩ := ListAux.of_mem_pairs (a := p.1) (b := p.2) (pairs_eq ls ▸ hp)
  refine ⟨fun x hx => ?_, ⟨(⟨n, true⟩ : Lit).neg, by simp, rfl⟩, p.1.neg, by simp, (hopen _ m1).1, (hopen _ m1).2⟩
  simp only [List.mem_cons, List.not_mem_nil, or_false] at hx
  rcases hx with rfl | rfl | rfl
  · exact Nat.le_of_lt (hopen _ m1).1
  · exact Nat.le_of_lt (hopen _ m2).1
  · exact Nat.le_refl _

end EncL
end Oratio
