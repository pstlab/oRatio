/-
Lemmas for property C13.  The vocabulary of `OratioProofs/Properties/C13.lean`, which imports this file, is defined
here a second time (namespace `EncL`; the two are definitionally equal); then assignments and the models of a state.
-/
import OratioModel.Sat.Enc
import OratioProofs.Lemmas.ListAux
import OratioProofs.Lemmas.LitBasic

namespace Oratio
namespace EncL
open Enc

def Sat (α : Asg) (s : Enc) : Prop := α 0 = false ∧ Enc.Models α s
def AtMostOne (α : Asg) (ls : List Lit) : Prop := ∀ a ∈ ls, ∀ b ∈ ls, α.lit a = true → α.lit b = true → a = b
def ExactlyOne (α : Asg) (ls : List Lit) : Prop := AtMostOne α ls ∧ ∃ a ∈ ls, α.lit a = true
def KeySem (α : Asg) : Key → Lit → Prop
  | .eq a b, l => α.lit l = (α.lit a == α.lit b)
  | .conj ls, l => α.lit l = ls.all α.lit
  | .disj ls, l => α.lit l = ls.any α.lit
  | .amo ls, l => α.lit l = true → AtMostOne α ls
  | .exo ls, l => α.lit l = true → ExactlyOne α ls
def keyLits : Key → List Lit
  | .eq a b => [a, b]
  | .conj ls => ls
  | .disj ls => ls
  | .amo ls => ls
  | .exo ls => ls
def WF (s : Enc) : Prop :=
  s.vals.head? = some (some false) ∧
  (∀ c ∈ s.clauses, ∀ l ∈ c, l.var < s.nvars) ∧
  (∀ e ∈ s.exprs, e.2.var < s.nvars ∧ ∀ l ∈ keyLits e.1, l.var < s.nvars)
def Inv (s : Enc) : Prop := WF s ∧ ∀ e ∈ s.exprs, ∀ α, Sat α s → KeySem α e.1 e.2
def Extends (s s' : Enc) : Prop :=
  ∀ α, Sat α s → ∃ α', Sat α' s' ∧ ∀ v, v < s.nvars → α' v = α v
def Refines (s s' : Enc) : Prop := s.nvars ≤ s'.nvars ∧ ∀ α, Sat α s' → Sat α s
def InRange (s : Enc) (ls : List Lit) : Prop := ∀ l ∈ ls, l.var < s.nvars

theorem WF.clause_lt {s : Enc} (hw : WF s) {c : List Lit} (hc : c ∈ s.clauses) {l : Lit} (hl : l ∈ c) :
    l.var < s.nvars := hw.2.1 c hc l hl
theorem WF.expr_lt {s : Enc} (hw : WF s) {e : Key × Lit} (he : e ∈ s.exprs) : e.2.var < s.nvars :=
  (hw.2.2 e he).1
theorem WF.key_lt {s : Enc} (hw : WF s) {e : Key × Lit} (he : e ∈ s.exprs) {l : Lit} (hl : l ∈ keyLits e.1) :
    l.var < s.nvars := (hw.2.2 e he).2 l hl
theorem Inv.wf {s : Enc} (h : Inv s) : WF s := h.1
theorem Inv.sem {s : Enc} (h : Inv s) {e : Key × Lit} (he : e ∈ s.exprs) {α : Asg} (hα : Sat α s) :
    KeySem α e.1 e.2 := h.2 e he α hα

@[simp] theorem neg_var (l : Lit) : l.neg.var = l.var := rfl

theorem lit_negv (α : Asg) (v : Nat) : α.lit ⟨v, false⟩ = !α v := Asg.lit_mk_false α v

theorem lit_mk_eq_true (α : Asg) (v : Nat) (b : Bool) : α.lit ⟨v, b⟩ = true ↔ α v = b := by
  cases b <;> simp [Asg.lit]

theorem lit_eq_true_iff (α : Asg) (l : Lit) : α.lit l = true ↔ α l.var = l.sign := by
  cases l with | mk v b => exact lit_mk_eq_true α v b

theorem clause_imp2 (β : Asg) (a b : Lit) :
    β.clause [a.neg, b] = true ↔ (β.lit a = true → β.lit b = true) := by
  simp only [Asg.clause_cons, Asg.clause_nil, Asg.lit_neg, Bool.or_false]
  cases β.lit a <;> cases β.lit b <;> decide

theorem clause_nand2 (β : Asg) (a b : Lit) :
    β.clause [a.neg, b.neg] = true ↔ (β.lit a = true → β.lit b = false) := by
  simp only [Asg.clause_cons, Asg.clause_nil, Asg.lit_neg, Bool.or_false]
  cases β.lit a <;> cases β.lit b <;> decide

theorem clause_imp (β : Asg) (a b c : Lit) :
    β.clause [a.neg, b, c.neg] = true ↔ (β.lit a = true → β.lit c = true → β.lit b = true) := by
  simp only [Asg.clause_cons, Asg.clause_nil, Asg.lit_neg, Bool.or_false]
  cases β.lit a <;> cases β.lit b <;> cases β.lit c <;> decide

theorem clause_imp_last (β : Asg) (a b c : Lit) :
    β.clause [a.neg, c.neg, b] = true ↔ (β.lit a = true → β.lit c = true → β.lit b = true) := by
  simp only [Asg.clause_cons, Asg.clause_nil, Asg.lit_neg, Bool.or_false]
  cases β.lit a <;> cases β.lit b <;> cases β.lit c <;> decide

theorem clause_imp_first (β : Asg) (a b c : Lit) :
    β.clause [b, a.neg, c.neg] = true ↔ (β.lit a = true → β.lit c = true → β.lit b = true) := by
  simp only [Asg.clause_cons, Asg.clause_nil, Asg.lit_neg, Bool.or_false]
  cases β.lit a <;> cases β.lit b <;> cases β.lit c <;> decide

theorem lit_congr {α β : Asg} {l : Lit} (h : β l.var = α l.var) : β.lit l = α.lit l := by
  simp [Asg.lit, h]

theorem clause_congr {α β : Asg} {c : Clause} (h : ∀ l ∈ c, β l.var = α l.var) :
    β.clause c = α.clause c := by
  induction c with
  | nil => rfl
  | cons a t ih =>
    rw [Asg.clause_cons, Asg.clause_cons, lit_congr (h a (by simp)), ih (fun l hl => h l (by simp [hl]))]

def upd (α : Asg) (v : Nat) (b : Bool) : Asg := fun x => if x = v then b else α x

@[simp] theorem upd_same (α : Asg) (v : Nat) (b : Bool) : upd α v b v = b := by simp [upd]
theorem upd_ne (α : Asg) {v x : Nat} (b : Bool) (h : x ≠ v) : upd α v b x = α x := if_neg h
theorem upd_lt (α : Asg) {v x : Nat} (b : Bool) (h : x < v) : upd α v b x = α x := upd_ne α b (Nat.ne_of_lt h)

theorem cnf_units_iff (α : Asg) (s : Enc) :
    α.cnf s.units = true ↔ ∀ v b, s.vals.getD v none = some b → α v = b := by
  rw [Asg.cnf_iff]
  constructor
  · intro h v b hv
    have hlt := ListAux.lt_of_getD_ne (d := none) (by rw [hv]; nofun)
    have := h [⟨v, b⟩] (by
      simp only [units, List.mem_filterMap, List.mem_range]
      exact ⟨v, hlt, by rw [hv]⟩)
    rwa [Asg.clause_singleton, lit_mk_eq_true] at this
  · intro h c hc
    simp only [units, List.mem_filterMap, List.mem_range] at hc
    obtain ⟨v, _, hc⟩ := hc
    split at hc
    · next b hb =>
      cases hc
      rw [Asg.clause_singleton, lit_mk_eq_true]; exact h v b hb
    · cases hc

theorem models_iff (α : Asg) (s : Enc) :
    Models α s ↔ (∀ c ∈ s.clauses, α.clause c = true) ∧ ∀ v b, s.vals.getD v none = some b → α v = b := by
  unfold Models Enc.cnf
  rw [← cnf_units_iff, Asg.cnf_append, Bool.and_eq_true, Asg.cnf_iff]

theorem models_clause (α : Asg) (s : Enc) (c : List Lit) :
    Models α { s with clauses := s.clauses ++ [c] } ↔ (Models α s ∧ α.clause c = true) := by
  simp only [models_iff, List.mem_append, List.mem_singleton, or_imp, forall_and, forall_eq, and_right_comm]

theorem value_sound {α : Asg} {s : Enc} (h : Models α s) {l : Lit} {b : Bool} (hv : s.value l = some b) :
    α.lit l = b := by
  unfold Enc.value litValue at hv
  split at hv
  · cases hv
  · next c hc =>
    rw [Asg.lit, ((models_iff α s).1 h).2 _ _ hc]
    exact Option.some.inj hv

theorem value_none_iff (s : Enc) (l : Lit) : s.value l = none ↔ s.vals.getD l.var none = none :=
  litValue_eq_none

theorem value_none_congr (s : Enc) {a b : Lit} (h : a.var = b.var) : s.value a = none ↔ s.value b = none := by
  rw [value_none_iff, value_none_iff, h]

theorem value_none_of_ge {s : Enc} {l : Lit} (h : s.nvars ≤ l.var) : s.value l = none := by
  rw [value_none_iff, List.getD_eq_getElem?_getD, List.getElem?_eq_none h]
  rfl

theorem value_neg (s : Enc) (l : Lit) : s.value l.neg = (s.value l).map (!·) := litValue_neg s.vals l

theorem vals_eq_cons {s : Enc} (hw : WF s) : ∃ t, s.vals = some false :: t := by
  have := hw.1
  cases hv : s.vals with
  | nil => rw [hv] at this; cases this
  | cons a t => rw [hv] at this; cases this; exact ⟨t, rfl⟩

theorem nvars_pos {s : Enc} (hw : WF s) : 0 < s.nvars := by
  obtain ⟨t, ht⟩ := vals_eq_cons hw
  unfold Enc.nvars
  rw [ht]; exact Nat.succ_pos _

theorem Inv.pos {s : Enc} (h : Inv s) : 0 < s.nvars := nvars_pos h.1

theorem sat_congr {s : Enc} (hw : WF s) {α β : Asg} (hab : ∀ v, v < s.nvars → β v = α v)
    (h : Sat α s) : Sat β s := by
  obtain ⟨h0, hm⟩ := h
  refine ⟨by rw [hab 0 (nvars_pos hw)]; exact h0, ?_⟩
  rw [models_iff] at hm ⊢
  refine ⟨fun c hc => ?_, fun v b hv => ?_⟩
  · rw [clause_congr (fun l hl => hab l.var (hw.clause_lt hc hl))]
    exact hm.1 c hc
  · rw [hab v (ListAux.lt_of_getD_ne (d := none) (by rw [hv]; nofun))]
    exact hm.2 v b hv

theorem var_ne_zero_of_none {s : Enc} (hw : WF s) {l : Lit} (h : s.value l = none) : l.var ≠ 0 := by
  intro h0
  obtain ⟨t, ht⟩ := vals_eq_cons hw
  rw [value_none_iff, h0, ht] at h
  cases h

theorem Refines.refl (s : Enc) : Refines s s := ⟨Nat.le_refl _, fun _ h => h⟩
theorem Refines.trans {a b c : Enc} (h1 : Refines a b) (h2 : Refines b c) : Refines a c :=
  ⟨Nat.le_trans h1.1 h2.1, fun α h => h1.2 α (h2.2 α h)⟩
theorem Extends.refl (s : Enc) : Extends s s := fun α h => ⟨α, h, fun _ _ => rfl⟩
theorem Extends.trans {a b c : Enc} (hn : a.nvars ≤ b.nvars) (h1 : Extends a b) (h2 : Extends b c) :
    Extends a c := by
  intro α h
  obtain ⟨β, hβ, hβα⟩ := h1 α h
  obtain ⟨γ, hγ, hγβ⟩ := h2 β hβ
  exact ⟨γ, hγ, fun v hv => by rw [hγβ v (Nat.lt_of_lt_of_le hv hn), hβα v hv]⟩

/-- what every constructor answers: the invariant is kept, no model is lost, nothing is removed -/
structure Step (s : Enc) (r : Lit × Enc) : Prop where
  inv : Inv r.2
  lt : r.1.var < r.2.nvars
  ext : Extends s r.2
  ref : Refines s r.2

theorem Step.same {s : Enc} (h : Inv s) {l : Lit} (hl : l.var < s.nvars) : Step s (l, s) :=
  ⟨h, hl, Extends.refl s, Refines.refl s⟩

theorem Step.trans {s : Enc} {r₁ r₂ : Lit × Enc} (h1 : Step s r₁) (h2 : Step r₁.2 r₂) : Step s r₂ :=
  ⟨h2.inv, h2.lt, Extends.trans h1.ref.1 h1.ext h2.ext, h1.ref.trans h2.ref⟩

structure Defines (s : Enc) (φ : Asg → Bool) (r : Lit × Enc) : Prop extends Step s r where
  sem : ∀ α, Sat α r.2 → α.lit r.1 = φ α

theorem Defines.same {s : Enc} {φ : Asg → Bool} (h : Inv s) {l : Lit} (hl : l.var < s.nvars)
    (hs : ∀ α, Sat α s → α.lit l = φ α) : Defines s φ (l, s) := ⟨.same h hl, hs⟩

theorem Defines.of_trans {s s' : Enc} {φ φ' : Asg → Bool} {r : Lit × Enc} (he : Extends s s')
    (hr : Refines s s') (g : Defines s' φ r) (hφ : ∀ α, Sat α r.2 → φ α = φ' α) : Defines s φ' r :=
  ⟨⟨g.inv, g.lt, Extends.trans hr.1 he g.ext, hr.trans g.ref⟩, fun α hα => (g.sem α hα).trans (hφ α hα)⟩

theorem sat_exprs (α : Asg) (s : Enc) (ex : List (Key × Lit)) : Sat α { s with exprs := ex } ↔ Sat α s := Iff.rfl

theorem sat_remember (α : Asg) (s : Enc) (k : Key) (l : Lit) : Sat α (s.remember k l) ↔ Sat α s := Iff.rfl

theorem inv_of_refines {s s' : Enc} (h : Inv s) (hw : WF s') (he : s'.exprs = s.exprs)
    (hr : ∀ α, Sat α s' → Sat α s) : Inv s' := by
  refine ⟨hw, fun e he' α hα => ?_⟩
  rw [he] at he'
  exact h.sem he' (hr α hα)

theorem inv_remember {s : Enc} (h : Inv s) {k : Key} {l : Lit} (hl : l.var < s.nvars)
    (hk : ∀ x ∈ keyLits k, x.var < s.nvars) (hs : ∀ α, Sat α s → KeySem α k l) :
    Inv (s.remember k l) := by
  refine ⟨⟨h.1.1, h.1.2.1, fun e he => ?_⟩, fun e he α hα => ?_⟩
  · simp only [Enc.remember, List.mem_append, List.mem_singleton] at he
    rcases he with he | rfl
    · exact h.1.2.2 e he
    · exact ⟨hl, hk⟩
  · simp only [Enc.remember, List.mem_append, List.mem_singleton] at he
    rcases he with he | rfl
    · exact h.sem he hα
    · exact hs α hα

/-- `n` further undecided variables: `newVar`, `newVars`, the guard loop of `ov_theory::new_var` -/
def addVars (s : Enc) (n : Nat) : Enc := { s with vals := s.vals ++ List.replicate n none }

theorem newVar_eq (s : Enc) : s.newVar = (s.nvars, { s with vals := s.vals ++ List.replicate 1 none }) := rfl

@[simp] theorem addVars_zero (s : Enc) : addVars s 0 = s := by simp [addVars]

theorem addVars_addVars (s : Enc) (m n : Nat) : addVars (addVars s m) n = addVars s (m + n) := by
  simp [addVars, List.append_assoc]

def uLits (base n : Nat) : List Lit := (List.range n).map (fun i => (⟨base + i, true⟩ : Lit))

theorem newVars_eq (s : Enc) (n : Nat) : s.newVars n = (uLits s.nvars n, addVars s n) := by
  unfold uLits
  induction n generalizing s with
  | zero => simp [Enc.newVars]
  | succ n ih =>
    simp only [Enc.newVars, newVar_eq, ih]
    refine Prod.ext ?_ (by rw [Nat.add_comm n 1]; exact addVars_addVars s 1 n)
    simp only [List.range_succ_eq_map, List.map_cons, List.map_map, Enc.nvars, List.length_append,
      List.length_replicate]
    congr 1
    refine List.map_congr_left fun i _ => ?_
    simp only [Function.comp, Lit.mk.injEq, and_true]; omega

theorem nvars_addVars (s : Enc) (n : Nat) : (addVars s n).nvars = s.nvars + n := by
  simp [Enc.nvars, addVars]

theorem value_addVars (s : Enc) (n : Nat) (l : Lit) : (addVars s n).value l = s.value l := by
  simp only [addVars, Enc.value, litValue, ListAux.getD_append_replicate]

theorem sat_addVars (α : Asg) (s : Enc) (n : Nat) : Sat α (addVars s n) ↔ Sat α s :=
  and_congr Iff.rfl (by simp only [addVars, models_iff, ListAux.getD_append_replicate])

theorem wf_addVars {s : Enc} (hw : WF s) (n : Nat) : WF (addVars s n) := by
  obtain ⟨t, ht⟩ := vals_eq_cons hw
  have hle : s.nvars ≤ (addVars s n).nvars := by rw [nvars_addVars]; exact Nat.le_add_right _ _
  refine ⟨?_, fun c hc l hl => Nat.lt_of_lt_of_le (hw.clause_lt hc hl) hle,
    fun e he => ⟨Nat.lt_of_lt_of_le (hw.expr_lt he) hle, fun l hl => Nat.lt_of_lt_of_le (hw.key_lt he hl) hle⟩⟩
  show (s.vals ++ _).head? = _
  rw [ht]; rfl

theorem inv_addVars {s : Enc} (h : Inv s) (n : Nat) : Inv (addVars s n) :=
  inv_of_refines h (wf_addVars h.1 n) rfl (fun α hα => (sat_addVars α s n).1 hα)

theorem refines_addVars (s : Enc) (n : Nat) : Refines s (addVars s n) :=
  ⟨by rw [nvars_addVars]; omega, fun α hα => (sat_addVars α s n).1 hα⟩

theorem extends_addVars {s : Enc} (n : Nat) : Extends s (addVars s n) :=
  fun α h => ⟨α, (sat_addVars α s n).2 h, fun _ _ => rfl⟩

theorem sat_addVars_of_agree {s : Enc} (hw : WF s) (n : Nat) {α β : Asg} (h : Sat α s)
    (hab : ∀ v, v < s.nvars → β v = α v) : Sat β (addVars s n) :=
  (sat_addVars β s n).2 (sat_congr hw hab h)

theorem models_set {α : Asg} {s : Enc} {p : Lit} (hp : p.var < s.nvars) (hn : s.value p = none) :
    Models α { s with vals := s.vals.set p.var (some p.sign) } ↔ (Models α s ∧ α.lit p = true) := by
  rw [value_none_iff] at hn
  simp only [models_iff, ListAux.getD_set, show p.var < s.vals.length from hp, and_true, @eq_comm _ p.var, lit_eq_true_iff]
  constructor
  · rintro ⟨h1, h2⟩
    refine ⟨⟨h1, fun v b hv => ?_⟩, ?_⟩
    · have := h2 v b
      by_cases hvp : v = p.var
      · subst hvp; rw [hn] at hv; cases hv
      · simp only [hvp, if_false] at this; exact this hv
    · have := h2 p.var p.sign; simpa using this
  · rintro ⟨⟨h1, h2⟩, h3⟩
    refine ⟨h1, fun v b hv => ?_⟩
    by_cases hvp : v = p.var
    · subst hvp; simp at hv; rw [← hv]; exact h3
    · simp only [hvp, if_false] at hv; exact h2 v b hv

theorem wf_set {s : Enc} (hw : WF s) {p : Lit} (hn : s.value p = none) :
    WF { s with vals := s.vals.set p.var (some p.sign) } := by
  obtain ⟨t, ht⟩ := vals_eq_cons hw
  have hnv : ({ s with vals := s.vals.set p.var (some p.sign) } : Enc).nvars = s.nvars := List.length_set
  refine ⟨?_, hnv ▸ hw.2.1, hnv ▸ hw.2.2⟩
  show (s.vals.set p.var _).head? = _
  rw [ht]
  cases hpv : p.var with
  | zero => exact absurd hpv (var_ne_zero_of_none hw hn)
  | succ k => rfl

end EncL
end Oratio
