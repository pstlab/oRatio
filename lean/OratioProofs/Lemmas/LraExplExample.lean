/-
C09X: decidable tests for the invariants on concrete states, and the concrete states of
the non-vacuity examples of `Properties/C09Explain.lean`.
-/
import OratioModel
import OratioProofs.Lemmas.LraExplKept

namespace Oratio
deriving instance DecidableEq for LBound
deriving instance DecidableEq for LAsrt

namespace Lra
open IR Lin

instance (r : R) : Decidable (R.FinWF r) := by unfold R.FinWF; infer_instance
instance (x : IR) : Decidable (IR.Fin x) := by unfold IR.Fin R.FinWF; infer_instance
instance (b : IR) : Decidable (LbOk b) := by unfold LbOk; infer_instance
instance (b : IR) : Decidable (UbOk b) := by unfold UbOk; infer_instance
instance (b : IR) (v : QV) : Decidable (BLe b v) := by unfold BLe; infer_instance
instance (b : IR) (v : QV) : Decidable (VLe v b) := by unfold VLe; infer_instance

theorem boundsOK_of_test {t : Lra} (hl : BoundsLen t)
    (h : ∀ x, x < t.vals.length → LbOk (t.lb x) ∧ UbOk (t.ub x)) : BoundsOK t := by
  intro x
  rcases Nat.lt_or_ge x t.vals.length with hx | hx
  · exact h x hx
  · have hd : ∀ i, 2 * x ≤ i → (t.bnd i).value = IR.ofR R.zero := fun i hi => by
      unfold Lra.bnd
      rw [List.getD_eq_getElem?_getD, List.getElem?_eq_none (hl ▸ Nat.le_trans (Nat.mul_le_mul_left 2 hx) hi)]
      rfl
    exact ⟨Or.inl (show IR.Fin (t.bnd (2 * x)).value from hd _ (Nat.le_refl _) ▸ finIR_zero),
      Or.inl (show IR.Fin (t.bnd (2 * x + 1)).value from hd _ (Nat.le_succ _) ▸ finIR_zero)⟩

theorem boundsJust_of_test {α : Asg} {σr σi : Nat → Rat} {t : Lra} (hl : BoundsLen t)
    (h : ∀ x, x < t.vals.length →
      (α.lit (t.lbReason x) = true → BLe (t.lb x) (nu σr σi x)) ∧
      (α.lit (t.ubReason x) = true → VLe (nu σr σi x) (t.ub x))) : BoundsJust α σr σi t :=
  fun x hx => h x (by unfold BoundsLen at hl; unfold ubIdx at hx; omega)

def awatchTest (t : Lra) : Bool :=
  (List.range t.aWatches.length).all fun x =>
    (t.aWatches.getD x []).all fun b =>
      match t.asrtOf b with
      | some a => a.x == x
      | none => true

theorem awatchOK_of_test {t : Lra} (h : awatchTest t = true) : AWatchOK t := by
  intro x b hb a hab
  by_cases hx : x < t.aWatches.length
  · unfold awatchTest at h
    rw [List.all_eq_true] at h
    have h1 := h x (List.mem_range.2 hx)
    rw [List.all_eq_true] at h1
    have h2 := h1 b hb
    rw [hab] at h2
    simpa using h2
  · exfalso
    rw [List.getD_eq_getElem?_getD, List.getElem?_eq_none (Nat.le_of_not_lt hx)] at hb
    cases hb

instance decSortedKeys : ∀ m : List (Nat × R), Decidable (Lin.SortedKeys m)
  | [] => isTrue trivial
  | [_] => isTrue trivial
  | (a, _) :: (b, c) :: m =>
    have : Decidable (Lin.SortedKeys ((b, c) :: m)) := decSortedKeys ((b, c) :: m)
    inferInstanceAs (Decidable (a < b ∧ Lin.SortedKeys ((b, c) :: m)))

instance (l : Lin) : Decidable l.WF := by unfold Lin.WF R.WF; infer_instance

/-- `ExplInv` in bounded (decidable) form; `TabWF.watch` is tested in its two directions -/
def InvTest (t : Lra) : Prop :=
  ((t.tableau.map Prod.fst).Pairwise (· < ·) ∧ (∀ e ∈ t.tableau, e.2.WF) ∧
    (∀ e ∈ t.tableau, e.1 < t.tWatches.length ∧ ∀ p ∈ e.2.vars, p.1 < t.tWatches.length) ∧
    (∀ e ∈ t.tableau, ∀ p ∈ e.2.vars, t.isBasic p.1 = false) ∧ (∀ w ∈ t.tWatches, w.Pairwise (· < ·)) ∧
    (∀ v, v < t.tWatches.length → ∀ r ∈ t.tWatches.getD v [], ∃ e ∈ t.tableau, e.1 = r ∧ ∃ p ∈ e.2.vars, p.1 = v) ∧
    (∀ e ∈ t.tableau, ∀ p ∈ e.2.vars, e.1 ∈ t.tWatches.getD p.1 []) ∧ t.tWatches.length = t.vals.length) ∧
  (∀ x, x < t.vals.length → LbOk (t.lb x) ∧ UbOk (t.ub x)) ∧
  t.bounds.length = 2 * t.vals.length ∧ (∀ e ∈ t.vAsrts, IR.Fin e.2.v) ∧ awatchTest t = true

instance (t : Lra) : Decidable (InvTest t) := by unfold InvTest; infer_instance

theorem explInv_of_test {t : Lra} (h : InvTest t) : ExplInv t := by
  obtain ⟨⟨k, r, b, n, ws, w1, w2, wl⟩, hb, hl, ha, hw⟩ := h
  refine ⟨⟨k, r, b, n, ws, fun v r => ⟨fun hr => ?_, ?_⟩, wl⟩, boundsOK_of_test hl hb, hl, ha, awatchOK_of_test hw⟩
  · refine w1 v (Nat.lt_of_not_le fun hv => ?_) r hr
    rw [List.getD_eq_getElem?_getD, List.getElem?_eq_none hv] at hr
    cases hr
  · rintro ⟨e, he, rfl, p, hp, rfl⟩
    exact w2 e he p hp

/-- `x2 = x0 + x1`, `x3 = x0 - x1` over the non-basic `x0`, `x1`: what `new_var()` twice and
    `new_var(x0 + x1)`, `new_var(x0 - x1)` build (all bounds infinite, all values 0) -/
def exBase : Lra :=
  { bounds := [⟨IR.ofR R.ninf, Lit.trueLit⟩, ⟨IR.ofR R.pinf, Lit.trueLit⟩,
               ⟨IR.ofR R.ninf, Lit.trueLit⟩, ⟨IR.ofR R.pinf, Lit.trueLit⟩,
               ⟨IR.ofR R.ninf, Lit.trueLit⟩, ⟨IR.ofR R.pinf, Lit.trueLit⟩,
               ⟨IR.ofR R.ninf, Lit.trueLit⟩, ⟨IR.ofR R.pinf, Lit.trueLit⟩],
    vals := [IR.ofR R.zero, IR.ofR R.zero, IR.ofR R.zero, IR.ofR R.zero],
    tableau := [(2, ⟨[(0, ⟨1, 1⟩), (1, ⟨1, 1⟩)], ⟨0, 1⟩⟩), (3, ⟨[(0, ⟨1, 1⟩), (1, ⟨-1, 1⟩)], ⟨0, 1⟩⟩)],
    exprs := [], sAsrts := [], vAsrts := [],
    aWatches := [[], [], [], []], tWatches := [[2, 3], [2, 3], [], []], layers := [] }

theorem exBase_inv : ExplInv exBase := explInv_of_test (by decide)

theorem exBase_valsOK : ValsOK exBase := by
  refine ⟨value_fin_of_vals (by decide), ?_⟩
  unfold Solves
  decide +kernel

def exP1 : Lit := ⟨1, true⟩
def exP2 : Lit := ⟨2, true⟩
def exP3 : Lit := ⟨3, true⟩

/-- `x0 ≤ 0` (reason `p1`), `x2 ≥ 1` (reason `p2`), `x3 ≥ 0` (reason `p3`): infeasible, since
    `x1 = x2 - x0 ≥ 1` and `x3 = x0 - x1 ≤ -1` -/
def exA : Lra := (assertUpper Sat.init exBase 0 (IR.ofR R.zero) exP1).th
def exB : Lra := (assertLower Sat.init exA 2 (IR.ofR R.one) exP2).th
def exC : Lra := (assertLower Sat.init exB 3 (IR.ofR R.zero) exP3).th

theorem fin_one : IR.Fin (IR.ofR R.one) := (fin_ofR R.finWF_one).1

theorem exA_inv : ExplInv exA := by
  unfold exA; rw [assertUpper_eq]; exact explInv_assertS .hi exBase_inv _ _ finIR_zero _
theorem exA_valsOK : ValsOK exA := by
  unfold exA; rw [assertUpper_eq]; exact valsOK_assertS .hi exBase_inv.tab exBase_valsOK _ (by decide) finIR_zero _
theorem exB_inv : ExplInv exB := explInv_assertLower exA_inv _ _ fin_one _
theorem exB_valsOK : ValsOK exB := valsOK_assertLower exA_inv.tab exA_valsOK _ (by decide) fin_one _
theorem exC_inv : ExplInv exC := explInv_assertLower exB_inv _ _ finIR_zero _
theorem exC_valsOK : ValsOK exC := valsOK_assertLower exB_inv.tab exB_valsOK _ (by decide) finIR_zero _

/-- the conflict `check` finds after one pivot: `[¬p1, ¬p2, ¬p3]` -/
def exCl : List Lit := [⟨1, false⟩, ⟨2, false⟩, ⟨3, false⟩]

theorem exC_run : (exC.check 5).map (fun r => (r.1, r.2.tableau.map (·.1))) = some (some exCl, [1, 3]) := by decide

theorem exC_check : exC.check 5 = some (some exCl, ((exC.check 5).map (·.2)).getD exC) := by
  have h := exC_run
  cases hc : exC.check 5 with
  | none => rw [hc] at h; cases h
  | some r =>
    rw [hc] at h
    obtain ⟨h1, -⟩ := Prod.mk.inj (Option.some.inj h)
    exact congrArg (fun c => some (c, r.2)) h1

/-- `check` pivots before it finds the conflict: `x1` is basic in the final tableau -/
theorem exC_check_pivots : (((exC.check 5).map (·.2)).getD exC).tableau.map (·.1) = [1, 3] := by
  have h := exC_run
  cases hc : exC.check 5 with
  | none => rw [hc] at h; cases h
  | some r =>
    rw [hc] at h
    exact (Prod.mk.inj (Option.some.inj h)).2

theorem exC_tableau : exC.tableau = exBase.tableau := by
  unfold exC exB exA
  rw [assertLower_eq, assertLower_eq, assertUpper_eq, (assertS_writes ..).tableau, (assertS_writes ..).tableau,
    (assertS_writes ..).tableau]

/-- `p2`, `p3` true, `p1` false (and the constant variable 0 false) -/
def exAlpha : Asg := fun v => v == 2 || v == 3
/-- `x0 = x1 = 1`, `x2 = 2`, `x3 = 0` -/
def exSig : Nat → Rat := fun x => match x with | 0 => 1 | 1 => 1 | 2 => 2 | 3 => 0 | _ => 0

theorem vle_ofR {k : R} (hk : R.FinWF k) (v : QV) : VLe v (IR.ofR k) ↔ v ≤ (toLex (k.toRat, 0) : QV) := by
  rw [VLe.fin (fin_ofR hk).1, (fin_ofR hk).2]

theorem exC_solves : Solves exC exSig (fun _ => 0) := by
  unfold Solves
  rw [exC_tableau]
  decide +kernel

theorem exC_just : BoundsJust exAlpha exSig (fun _ => 0) exC :=
  boundsJust_of_test exC_inv.blen (by decide +kernel)

/-- `x2 = x0 + x1` with the assertion `b1 : x2 ≤ 4`: what `new_var()` twice and `new_leq(x0 + x1, 4)` build -/
def exR0 : Lra :=
  { bounds := [⟨IR.ofR R.ninf, Lit.trueLit⟩, ⟨IR.ofR R.pinf, Lit.trueLit⟩,
               ⟨IR.ofR R.ninf, Lit.trueLit⟩, ⟨IR.ofR R.pinf, Lit.trueLit⟩,
               ⟨IR.ofR R.ninf, Lit.trueLit⟩, ⟨IR.ofR R.pinf, Lit.trueLit⟩],
    vals := [IR.ofR R.zero, IR.ofR R.zero, IR.ofR R.zero],
    tableau := [(2, ⟨[(0, ⟨1, 1⟩), (1, ⟨1, 1⟩)], ⟨0, 1⟩⟩)],
    exprs := [], sAsrts := [], vAsrts := [(1, ⟨.leq, ⟨1, true⟩, 2, IR.ofR ⟨4, 1⟩⟩)],
    aWatches := [[], [], [1]], tWatches := [[2], [2], []], layers := [] }

/-- a SAT core with the variables 1 (`b1`), 2 (`p2`), 3 (`p3`), all unassigned -/
def exS : Sat := Sat.init.newVar.2.newVar.2.newVar.2

theorem exR0_inv : ExplInv exR0 := explInv_of_test (by decide)

theorem exR0_key : AsrtKey exR0 := by
  intro e he
  simp only [exR0, List.mem_cons, List.not_mem_nil, or_false] at he
  subst he
  rfl

theorem exR0_vars : AsrtVars exR0 := by
  intro e he
  simp only [exR0, List.mem_cons, List.not_mem_nil, or_false] at he
  subst he
  decide

/-- `x0 ≥ 3` (reason `p2`), then `x1 ≥ 2` (reason `p3`): the row of `x2` gives `x2 ≥ 5 > 4` -/
def exO1 : LOut := assertLower exS exR0 0 (IR.ofR ⟨3, 1⟩) exP2
def exO2 : LOut := assertLower exO1.sat exO1.th 1 (IR.ofR ⟨2, 1⟩) exP3

theorem exO1_inv : ExplInv exO1.th := explInv_assertLower exR0_inv _ _ (fin_ofR (by decide)).1 _

/-- `b1` is unassigned: the row propagation records `[¬b1, ¬p2, ¬p3]` -/
theorem exO2_log : exO2.cnfl = none ∧ exO2.sat.log = exO1.sat.log ++ [[⟨1, false⟩, ⟨2, false⟩, ⟨3, false⟩]] := by
  decide

/-- the same with `b1` already true: the row propagation reports the conflict -/
def exO1' : LOut := assertLower (exS.enqueue ⟨1, true⟩ none).2 exR0 0 (IR.ofR ⟨3, 1⟩) exP2
def exO2' : LOut := assertLower exO1'.sat exO1'.th 1 (IR.ofR ⟨2, 1⟩) exP3

theorem exO1'_inv : ExplInv exO1'.th := explInv_assertLower exR0_inv _ _ (fin_ofR (by decide)).1 _

theorem exO2'_cnfl : exO2'.cnfl = some [⟨1, false⟩, ⟨2, false⟩, ⟨3, false⟩] := by decide

/-- `b1`, `p2` true, `p3` false; `x0 = 3`, `x1 = 0`, `x2 = 3` -/
def exAlpha2 : Asg := fun v => v == 1 || v == 2
def exSig2 : Nat → Rat := fun x => match x with | 0 => 3 | 1 => 0 | 2 => 3 | _ => 0

theorem exO1_hyps : Solves exO1.th exSig2 (fun _ => 0) ∧ BoundsJust exAlpha2 exSig2 (fun _ => 0) exO1.th ∧
    AsrtAgrees exAlpha2 exSig2 (fun _ => 0) exO1.th ∧
    (exAlpha2.lit exP3 = true → IR.val (IR.ofR ⟨2, 1⟩) ≤ nu exSig2 (fun _ => 0) 1) := by
  have ht : exO1.th.tableau = exR0.tableau := by unfold exO1; rw [assertLower_eq, (assertS_writes ..).tableau]
  have hv : exO1.th.vAsrts = exR0.vAsrts := by unfold exO1; rw [assertLower_eq, (assertS_writes ..).kept.vAsrts]
  refine ⟨?_, ?_, ?_, fun h => absurd h (by decide)⟩
  · unfold Solves
    rw [ht]
    decide +kernel
  · exact boundsJust_of_test exO1_inv.blen (by decide +kernel)
  · unfold AsrtAgrees
    rw [hv]
    intro e he
    simp only [exR0, List.mem_cons, List.not_mem_nil, or_false] at he
    subst he
    simp only
    refine ⟨fun _ => ?_, fun h => absurd h (by decide)⟩
    rw [(fin_ofR (k := ⟨4, 1⟩) (by decide)).2]
    show (toLex (3, 0) : QV) ≤ toLex ((⟨4, 1⟩ : R).toRat, 0)
    rw [QV.le_iff]; left; norm_num [R.toRat]

/-! ### `propagate`: `x2 ≥ 5` (reason `p2`) is in place, then `b1 : x2 ≤ 4` becomes true -/
def exQs : Sat := ((exS.enqueue ⟨1, true⟩ none).2.enqueue ⟨2, true⟩ none).2
def exQ0 : Lra := (assertLower exQs exR0 2 (IR.ofR ⟨5, 1⟩) exP2).th

theorem exQ0_inv : ExplInv exQ0 := explInv_assertLower exR0_inv _ _ (fin_ofR (by decide)).1 _
theorem exQ0_key : AsrtKey exQ0 := by
  unfold AsrtKey exQ0; rw [assertLower_eq, (assertS_writes ..).kept.vAsrts]; exact exR0_key
theorem exQ0_vars : AsrtVars exQ0 := by
  unfold AsrtVars exQ0; rw [assertLower_eq, (assertS_writes ..).kept.vAsrts, (assertS_writes ..).kept.nvars]; exact exR0_vars

theorem exQ_cnfl : (propagateLit exQs exQ0 ⟨1, true⟩).cnfl = some [⟨1, false⟩, ⟨2, false⟩] := by decide

theorem exQ_reasons : ReasonsTrue exQs exQ0 := by
  have h0 : ReasonsTrue exQs exR0 := fun x => by
    have hb : ∀ i, (exR0.bnd i).reason = Lit.trueLit := fun i => by
      unfold Lra.bnd
      rw [List.getD_eq_getElem?_getD]
      match i with
      | 0 | 1 | 2 | 3 | 4 | 5 => rfl
      | n + 6 => rfl
    unfold Lra.lbReason Lra.ubReason
    rw [hb, hb]
    exact ⟨by decide, by decide⟩
  unfold exQ0
  rw [assertLower_eq]
  rcases assertS_th .lo exQs exR0 2 (IR.ofR ⟨5, 1⟩) exP2 with e | e <;> rw [e]
  · exact h0
  · exact reasonsTrue_set (boundSet_as .lo exR0 2 _ exP2).bounds h0 (by decide)

end Lra

end Oratio
