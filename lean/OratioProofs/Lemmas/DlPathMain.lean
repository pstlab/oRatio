/-
C10X: the two instances.  `Dl.PathInv` (sentinel integers) and `DlR.PathInvR` (ε-rationals) are
`DlG.PathInv` at the integer laws `Dl.idlLaws` and at `DlR.rdlLaws`; `Just`, `Agrees` are so by
definition, `ConstrsOk` up to the weight of the negated constraint.  Through them `ExactM.propagate_path`: on an
exact state `propagateLit` keeps the path invariant.
-/
import OratioProofs.Lemmas.DlPathOps
import OratioProofs.Lemmas.DlExact
import OratioProofs.Lemmas.DlRdlExact
import OratioProofs.Lemmas.DlPathRDefs

namespace Oratio

namespace Dl
variable {R K : Int} {hK : 0 ≤ K} {hKR : K ≤ R} {hR : 2 * R + K < idlInf}

theorem pathInv_iff {s : Sat} {t : Dl Int} : PathInv s t ↔ DlG.PathInv (idlLaws R K hK hKR hR) s t := by
  have ne : ∀ {x : Int}, iden x ≠ ⊤ ↔ x ≠ idlInf := iden_eq_top.not
  have key : ∀ {a b w : Int}, a ≠ idlInf → b ≠ idlInf → (iden a + (w : WithTop Int) ≤ iden b ↔ a + w ≤ b) := by
    intro a b w ha hb
    rw [iden_fin ha, iden_fin hb, ← WithTop.coe_add, WithTop.coe_le_coe]
  constructor
  · intro h
    refine ⟨fun k j bb hl => ?_, fun i j hi hj hij hf => ?_, fun i j hi hj hf => h.chain i j hi hj (ne.mp hf)⟩
    · obtain ⟨h1, h2, h3, w, h4, h5⟩ := h.dc k j bb hl
      exact ⟨h1, h2, h3, w, h4, iden_le_coe.mpr h5⟩
    · obtain ⟨h1, h2, h3, bb, w, h4, h5⟩ := h.tree i j hi hj hij (ne.mp hf)
      exact ⟨h1, h2, ne.mpr h3, bb, w, h4, (key h3 (ne.mp hf)).mpr h5⟩
  · intro h
    refine ⟨fun k j bb hl => ?_, fun i j hi hj hij hf => ?_, fun i j hi hj hf => h.chain i j hi hj (ne.mpr hf)⟩
    · obtain ⟨h1, h2, h3, w, h4, h5⟩ := h.dc k j bb hl
      exact ⟨h1, h2, h3, w, h4, iden_le_coe.mp h5⟩
    · obtain ⟨h1, h2, h3, bb, w, h4, h5⟩ := h.tree i j hi hj hij (ne.mpr hf)
      exact ⟨h1, h2, ne.mp h3, bb, w, h4, (key (ne.mp h3) hf).mp h5⟩

theorem constrsOk_iff {t : Dl Int} : ConstrsOk K t ↔ DlG.ConstrsOk (idlLaws R K hK hKR hR) t := by
  constructor
  · intro h c hc
    obtain ⟨a, b, c', d, e⟩ := h c hc
    exact ⟨a, b, c', ⟨d, by omega⟩, by show -K ≤ -c.dist - 1; omega, by show -c.dist - 1 ≤ K; omega⟩
  · intro h c hc
    obtain ⟨a, b, c', d, e⟩ := h c hc
    have e2 : -K ≤ -c.dist - 1 := e.1
    exact ⟨a, b, c', d.1, by omega⟩

/-- the integer laws with an empty range: enough where only the reading of the numbers matters -/
abbrev idlLaws₀ : DLaws idlOps Int := idlLaws 0 0 le_rfl le_rfl (by decide)

theorem pathInv_iff₀ {s : Sat} {t : Dl Int} : PathInv s t ↔ DlG.PathInv idlLaws₀ s t := pathInv_iff

section Lit
variable {K : Int} {E : List REdge} {s : Sat} {t : Dl Int} (h : ExactM K E t) (hP : PathInv s t)
  {c : DConstr Int} (hc : t.constrOf c.b = some c) {b : Bool} (hv : s.value ⟨c.b, true⟩ = some b)
  (hr : c.src < t.nVars ∧ c.dst < t.nVars ∧ c.src ≠ c.dst ∧ -K ≤ c.dist ∧ c.dist + 1 ≤ K)
include h hP hc hv hr

theorem ExactM.propagate_path {s' : Sat} {t' : Dl Int} (hp : propagateLit idlOps s t ⟨c.b, b⟩ = .inr (s', t')) :
    PathInv s' t' ∧ SatLe s s' ∧ (ConstrsOk K t → DlG.LogGood idlLaws₀ t s s') :=
  have r := DlG.PathInv.propagate (L := lawsFor t.nVars K h.range) hc hv ⟨hr.1, hr.2.1, hr.2.2.1, hr.2.2.2.1, by omega⟩
    h.toG.block (pathInv_iff.mp hP)
    (fun _ => ⟨⟨by show -K ≤ -c.dist - 1; omega, by show -c.dist - 1 ≤ K; omega⟩, trivial⟩)
    (h.toG.enforces (fun _ _ _ hf hg hw => h.room hf hg hw) s c.b) hp
  ⟨pathInv_iff.mpr r.1, r.2.1, fun hok => r.2.2 (constrsOk_iff.mp hok)⟩
end Lit

end Dl

namespace DlR
open Dl

theorem pathInvR_iff {s : Sat} {t : Dl IR} : PathInvR s t ↔ DlG.PathInv rdlLaws s t :=
  ⟨fun h => ⟨h.dc, h.tree, h.chain⟩, fun h => ⟨h.dc, h.tree, h.chain⟩⟩

theorem constrsOkR_iff {t : Dl IR} : ConstrsOkR t ↔ DlG.ConstrsOk rdlLaws t :=
  ⟨fun h c hc => ⟨(h c hc).1, (h c hc).2.1, (h c hc).2.2.1, (h c hc).2.2.2, (IR.fin_negStrict (h c hc).2.2.2).1⟩,
   fun h c hc => ⟨(h c hc).1, (h c hc).2.1, (h c hc).2.2.1, (h c hc).2.2.2.1⟩⟩

section Lit
variable {E : List QEdge} {s : Sat} {t : Dl IR} (h : ExactM E t) (hP : PathInvR s t)
  {c : DConstr IR} (hc : t.constrOf c.b = some c) {b : Bool} (hv : s.value ⟨c.b, true⟩ = some b)
  (hr : c.src < t.nVars ∧ c.dst < t.nVars ∧ c.src ≠ c.dst ∧ IR.Fin c.dist)
include h hP hc hv hr

theorem ExactM.propagate_path (hint : b = false → c.dist.inf.den = 1 ∧ (d rdlOps t c.src c.dst).inf.den = 1)
    {s' : Sat} {t' : Dl IR} (hp : propagateLit rdlOps s t ⟨c.b, b⟩ = .inr (s', t')) :
    PathInvR s' t' ∧ SatLe s s' ∧ (ConstrsOkR t → DlG.LogGood rdlLaws t s s') :=
  have r := (pathInvR_iff.mp hP).propagate hc hv hr h.toG.block
    (fun hb => ⟨(IR.fin_negStrict hr.2.2.2).1, (hint hb).2, (hint hb).1⟩)
    (h.toG.enforces (fun f g w _ _ _ => room t f g w) s c.b) hp
  ⟨pathInvR_iff.mpr r.1, r.2.1, fun hok => r.2.2 (constrsOkR_iff.mp hok)⟩
end Lit

end DlR
end Oratio
