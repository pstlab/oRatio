/-
The networks `assume(p)` calls `propagate` from (level opened, theories pushed, `p` enqueued if it was
unassigned), and `assume(p)` in terms of them.
-/
import OratioProofs.Lemmas.SatCoreOps

namespace Oratio
namespace Net

def assumeStart (n : Net) (p : Lit) : Net :=
  { n with sat := (n.sat.pushLevel p).enq p none, lra := n.lra.push, idl := n.idl.push, rdl := n.rdl.push }

end Net

namespace NetCheck
open Sat Net

def pushStart (n : Net) (p : Lit) : Net :=
  { n with sat := n.sat.pushLevel p, lra := n.lra.push, idl := n.idl.push, rdl := n.rdl.push }

/-- the network on which `assume(p)` calls `propagate` (when `enqueue` answers `true`): `p` is enqueued only if it
    was unassigned -/
def startOf (n : Net) (p : Lit) : Net :=
  { pushStart n p with sat := ((n.sat.pushLevel p).enqueue p none).2 }

end NetCheck

namespace Net
open Sat NetCheck

theorem assume_start (n : Net) (p : Lit) (fuel : Nat) : n.assume p fuel =
    if n.sat.value p = some false then some (false, pushStart n p) else propagate (startOf n p) fuel := by
  have e : n.assume p fuel = match (n.sat.pushLevel p).enqueue p none with
    | (false, s) => some (false, { pushStart n p with sat := s })
    | (true, s) => Net.propagate { pushStart n p with sat := s } fuel := rfl
  rw [e, startOf]
  rcases hv : n.sat.value p with _ | _ | _
  · rw [enqueue_none (s := n.sat.pushLevel p) none hv]; rfl
  · rw [enqueue_some (s := n.sat.pushLevel p) none hv]; rfl
  · rw [enqueue_some (s := n.sat.pushLevel p) none hv]; rfl

theorem startOf_eq (n : Net) (p : Lit) :
    startOf n p = if n.sat.value p = none then assumeStart n p else pushStart n p := by
  unfold startOf
  rcases hv : n.sat.value p with _ | b
  · rw [enqueue_none (s := n.sat.pushLevel p) none hv]; rfl
  · rw [enqueue_some (s := n.sat.pushLevel p) none hv]; rfl

theorem assume_eq {n : Net} {p : Lit} (hv : n.sat.value p = none) (fuel : Nat) :
    n.assume p fuel = propagate (assumeStart n p) fuel := by
  rw [assume_start, startOf_eq, hv]; rfl

end Net

namespace NetCheck
open Sat Net

theorem assume_false {n : Net} {p : Lit} (hv : n.sat.value p = some false) (fuel : Nat) :
    n.assume p fuel = some (false, pushStart n p) := by
  rw [assume_start, if_pos hv]

end NetCheck
end Oratio
