/-
The round-trip induction for the expression parser model (property C16, parser part): for every well-formed tree `e`,
parsing the unparenthesised print of `e` at a precedence not above the level of `e` reaches the operator loop with
exactly `e` built (`MP`).  The statements speak of what a call returns from some fuel on (`Settles`), so the induction
contains no arithmetic; `stab` and `exprInv` (ParserTotal.lean) give the value at the fuel of the entry points.
-/
import OratioProofs.Lemmas.ParserTotal

namespace Oratio.Riddle

/-- tokens with which `_expression` can begin -/
def primStart : Tok → Bool
  | .bool _ | .int _ | .real _ | .str _ | .id _ => true
  | .sym .LPAREN | .sym .PLUS | .sym .MINUS | .sym .BANG | .sym .NEW => true
  | _ => false

theorem wrap_head (b : Bool) (ts : List Tok) (h : ∃ t r, ts = t :: r ∧ primStart t = true) :
    ∃ t r, wrap b ts = t :: r ∧ primStart t = true := by
  cases b with
  | false => simpa [wrap] using h
  | true => exact ⟨.sym .LPAREN, ts ++ [.sym .RPAREN], rfl, rfl⟩

theorem append_head {ts : List Tok} (us : List Tok) (h : ∃ t r, ts = t :: r ∧ primStart t = true) :
    ∃ t r, ts ++ us = t :: r ∧ primStart t = true := by
  obtain ⟨t, r, rfl, ht⟩ := h
  exact ⟨t, r ++ us, rfl, ht⟩

theorem printE_head : (e : Expr) → e.WF → ∃ t r, printE e = t :: r ∧ primStart t = true
  | .bool _, _ | .int _, _ | .real _, _ | .str _, _ => ⟨_, _, rfl, rfl⟩
  | .cast _ _, _ | .ctor _ _, _ => ⟨_, _, by rw [printE]; rfl, rfl⟩
  | .un op _, _ => ⟨_, _, by rw [printE], by cases op <;> rfl⟩
  | .bin op l r, h => by
    rw [printE]
    exact append_head _ (wrap_head _ _ (printE_head l h.1))
  | .call ids fn args, _ => by
    rw [printE]
    cases ids <;> exact ⟨_, _, rfl, rfl⟩
  | .id ids, h => by
    rw [printE]
    cases ids with
    | nil => exact absurd rfl h
    | cons n ns => exact ⟨_, _, rfl, rfl⟩
  | .nary op [], h => absurd h.1 (by decide)
  | .nary op (e :: es), h => by
    rw [printE]
    exact append_head _ (wrap_head _ _ (printE_head e h.2.1))


theorem eq_id_of_isId {e : Expr} (h : e.isId = true) : ∃ q, e = .id q := by
  cases e <;> simp_all [Expr.isId]

theorem castLook_left (l : Expr) (s : Sym) (b : Bool) (tl : List Tok) (hwf : l.WF)
    (hs1 : s ≠ .DOT) (hs2 : s ≠ .RPAREN)
    (ih : l.isId = false → ∀ suffix, castLook (printE l ++ suffix) = .ok false) :
    castLook (wrap b (printE l) ++ .sym s :: tl) = .ok false := by
  cases b with
  | true => exact castLook_not_id _ (by intro n r h; simp [wrap, paren] at h)
  | false =>
    simp only [wrap, Bool.false_eq_true, if_false]
    cases hid : l.isId with
    | false => exact ih hid _
    | true =>
      obtain ⟨q, rfl⟩ := eq_id_of_isId hid
      rw [printE]
      cases q with
      | nil => exact absurd rfl hwf
      | cons n ns =>
        simp only [qidToks, List.cons_append]
        exact castLook_ids_other n ns _ _ (by simpa using hs1) (by simpa using hs2)

theorem castLook_printE : (e : Expr) → e.WF → e.isId = false → ∀ suffix, castLook (printE e ++ suffix) = .ok false
  | .bool _, _, _, _ | .int _, _, _, _ | .real _, _, _, _ | .str _, _, _, _ | .cast _ _, _, _, _ | .un _ _, _, _, _
  | .ctor _ _, _, _, _ => castLook_not_id _ (by intro n r h; cases h)
  | .bin op l r, h, _, suffix => by
    rw [printE, List.append_assoc, List.cons_append]
    exact castLook_left l op.sym _ _ h.1 op.sym_ne_dot op.sym_ne_rparen
      (castLook_printE l h.1)
  | .call ids fn args, _, _, suffix => by
    rw [printE]
    cases hq : ids ++ [fn] with
    | nil => simp at hq
    | cons n ns =>
      simp only [qidToks, List.cons_append, List.append_assoc]
      exact castLook_ids_other n ns _ _ (by simp) (by simp)
  | .id _, _, hid, _ => by simp [Expr.isId] at hid
  | .nary op [], h, _, _ => absurd h.1 (by decide)
  | .nary op [_], h, _, _ => absurd h.1 (Nat.lt_irrefl 1)
  | .nary op (e :: e' :: es), h, _, suffix => by
    rw [printE, printTail, List.append_assoc, List.cons_append]
    exact castLook_left e op.sym _ _ h.2.1 op.sym_ne_dot op.sym_ne_rparen
      (castLook_printE e h.2.1)

theorem pLoop_stop (f p : Nat) (e : Expr) (rest : List Tok) (h : stopsAt p rest = true) :
    pLoop (f + 1) p e rest = .ok (e, rest) := by
  cases rest with
  | nil => simp [stopsAt] at h
  | cons t r =>
    cases t with
    | sym s =>
      rw [pLoop.eq_2]
      simp only [stopsAt, Bool.and_eq_true] at h
      cases hs : opInfo s with
      | none => rfl
      | some kl =>
        obtain ⟨k, l⟩ := kl
        have hl : l < p := by simpa [hs] using h.2
        cases k with
        | bin op => simp only []; rw [if_neg (by omega)]; rfl
        | nary op => simp only []; rw [if_neg (by omega)]; rfl
    | _ => rw [pLoop.eq_4] <;> simp

def Settles {α : Type} (f : Nat → Except PErr α) (r : Except PErr α) : Prop := ∃ G, ∀ F, G ≤ F → f F = r

theorem Settles.const {α : Type} (r : Except PErr α) : Settles (fun _ => r) r := ⟨0, fun _ _ => rfl⟩

theorem Settles.of_succ {α : Type} {f : Nat → Except PErr α} {r : Except PErr α} (h : Settles (fun F => f (F + 1)) r) :
    Settles f r := by
  obtain ⟨G, hG⟩ := h
  refine ⟨G + 1, fun F hF => ?_⟩
  obtain ⟨F, rfl⟩ : ∃ F', F = F' + 1 := ⟨F - 1, by omega⟩
  exact hG F (by omega)

theorem Settles.bind {α β : Type} {m : Nat → Except PErr α} {k : Nat → α → Except PErr β} {a : α} {r : Except PErr β}
    (hm : Settles m (.ok a)) (hk : Settles (fun F => k F a) r) : Settles (fun F => m F >>= k F) r := by
  obtain ⟨G, hG⟩ := hm
  obtain ⟨G', hG'⟩ := hk
  exact ⟨max G G', fun F hF => by show m F >>= k F = r; rw [hG F (by omega)]; exact hG' F (by omega)⟩

theorem Settles.unique {α : Type} {f : Nat → Except PErr α} {r r' : Except PErr α} (h : Settles f r) (h' : Settles f r') :
    r = r' := by
  obtain ⟨G, hG⟩ := h
  obtain ⟨G', hG'⟩ := h'
  rw [← hG (max G G') (by omega), hG' (max G G') (by omega)]

theorem Settles.of_ne_fuel {α : Type} {f : Nat → Except PErr α} (hs : ∀ F, FuelExt (f (F + 1)) (f F)) {F : Nat}
    (h : f F ≠ .error .fuel) : Settles f (f F) := by
  refine ⟨F, fun F' hF => ?_⟩
  induction hF with
  | refl => rfl
  | step _ ih => rw [hs _ (ih ▸ h), ih]

/-- with the fuel the entry point passes, `_expression(p)` returns the value it settles on -/
theorem pExpr_of_settles {p : Nat} {toks : List Tok} {r : Except PErr (Expr × List Tok)}
    (h : Settles (fun F => pExpr F p toks) r) {F : Nat} (hF : 3 * toks.length + 2 ≤ F) : pExpr F p toks = r :=
  (Settles.of_ne_fuel (fun F => (stab F).expr p toks) fun he =>
    absurd ((((exprInv F).expr toks p).of_error he).1 rfl) (Nat.not_lt.2 hF)).unique h

theorem pLoop_settles {p : Nat} {e : Expr} {rest : List Tok} (h : stopsAt p rest = true) :
    Settles (fun F => pLoop F p e rest) (.ok (e, rest)) :=
  .of_succ ⟨0, fun F _ => pLoop_stop F p e rest h⟩

/-- parsing the unparenthesised print of `e` at a level `pr` not above the level of `e` reaches the operator loop
    with exactly `e` built and the rest of the input untouched: whatever the loop then returns, the call returns -/
def MP (e : Expr) : Prop :=
  ∀ (pr : Nat) (rest : List Tok) (r : Except PErr (Expr × List Tok)), pr ≤ e.level → follows e rest = true →
    Settles (fun F => pLoop F pr e rest) r → Settles (fun F => pExpr F pr (printE e ++ rest)) r

theorem parse_raw {x : Expr} (hM : MP x) {p : Nat} {rest : List Tok} (hp : p ≤ x.level) (hs : stopsAt p rest = true) :
    Settles (fun F => pExpr F p (printE x ++ rest)) (.ok (x, rest)) :=
  hM p rest _ hp (follows_of_stopsAt hp hs) (pLoop_settles hs)

theorem primary_paren {x : Expr} (hM : MP x) {rest : List Tok}
    (hcl : castLook (printE x ++ .sym .RPAREN :: rest) = .ok false) (hr : rest ≠ []) :
    Settles (fun F => pPrimary F (paren (printE x) ++ rest)) (.ok (x, rest)) := by
  have e1 : paren (printE x) ++ rest = .sym .LPAREN :: (printE x ++ .sym .RPAREN :: rest) := by simp [paren]
  rw [e1]
  refine .of_succ ?_
  simp only [pPrimary.eq_7, adv_cons _ (List.append_ne_nil_of_right_ne_nil _ (List.cons_ne_nil _ _)), ok_bind, hcl,
    Bool.false_eq_true, if_false]
  refine .bind (parse_raw hM (Nat.zero_le _) rfl) ?_
  simp only [expectSym_self _ _ hr, ok_bind, pure_eq_ok]
  exact .const _

theorem loop_wrap {x : Expr} (hwf : x.WF) (hM : MP x) (b : Bool) {pr : Nat} {rest : List Tok}
    {r : Except PErr (Expr × List Tok)} (hb0 : b = false → pr ≤ x.level ∧ follows x rest = true)
    (hb1 : b = true → x.isId = false) (hr : rest ≠ []) (hl : Settles (fun F => pLoop F pr x rest) r) :
    Settles (fun F => pExpr F pr (wrap b (printE x) ++ rest)) r := by
  cases b with
  | false => exact hM pr rest r (hb0 rfl).1 (hb0 rfl).2 hl
  | true => exact .of_succ (.bind (primary_paren hM (castLook_printE x hwf (hb1 rfl) _) hr) hl)

theorem parse_wrap {x : Expr} (hwf : x.WF) (hM : MP x) (b : Bool) {p : Nat} {rest : List Tok}
    (hb0 : b = false → p ≤ x.level) (hb1 : b = true → x.isId = false) (hs : stopsAt p rest = true) :
    Settles (fun F => pExpr F p (wrap b (printE x) ++ rest)) (.ok (x, rest)) :=
  loop_wrap hwf hM b (fun hb => ⟨hb0 hb, follows_of_stopsAt (hb0 hb) hs⟩) hb1 (stopsAt_ne_nil hs) (pLoop_settles hs)

theorem isId_level {e : Expr} (h : e.isId = true) : e.level = 4 := by
  cases e <;> simp_all [Expr.isId, Expr.level]

theorem not_isId_of_level {e : Expr} (h : e.level < 4) : e.isId = false := by
  cases hid : e.isId with
  | false => rfl
  | true => have := isId_level hid; omega

theorem parse_operand {x : Expr} (hwf : x.WF) (hM : MP x) {p : Nat} (hp : p ≤ 4) {rest : List Tok}
    (hs : stopsAt p rest = true) :
    Settles (fun F => pExpr F p (wrap (decide (x.level < p)) (printE x) ++ rest)) (.ok (x, rest)) :=
  parse_wrap hwf hM _ (fun hb => Nat.not_lt.1 (of_decide_eq_false hb))
    (fun hb => not_isId_of_level (Nat.lt_of_lt_of_le (of_decide_eq_true hb) hp)) hs

def AllMP : List Expr → Prop
  | [] => True
  | e :: es => MP e ∧ AllMP es

theorem stopsAt_nop (op : NOp) (p : Nat) (hp : op.level < p) (r : List Tok) : stopsAt p (.sym op.sym :: r) = true := by
  simp [stopsAt, opInfo_nop, op.sym_ne_dot, op.sym_ne_lparen, hp]

theorem stopsAt_tail (op : NOp) (xs : List Expr) (rest : List Tok) (hs : stopsAt (op.level + 1) rest = true) :
    stopsAt (op.level + 1) (printTail op xs ++ rest) = true := by
  cases xs with
  | nil => simpa [printTail] using hs
  | cons x xs => simpa [printTail] using stopsAt_nop op _ (Nat.lt_succ_self _) _

theorem pNary_tail (op : NOp) : ∀ (xs : List Expr), WFs xs → AllMP xs → ∀ (acc : List Expr) (rest : List Tok),
    stopsAt (op.level + 1) rest = true → isSym op.sym rest = false →
    Settles (fun F => pNary F op.sym (op.level + 1) acc (printTail op xs ++ rest)) (.ok (acc ++ xs, rest))
  | [], _, _, acc, rest, _, hn => by
    refine .of_succ ?_
    simp only [printTail, List.nil_append, pNary.eq_2, hn, Bool.false_eq_true, if_false, List.append_nil, pure_eq_ok]
    exact .const _
  | x :: xs, hwf, hM, acc, rest, hs, hn => by
    have e1 : printTail op (x :: xs) ++ rest =
        .sym op.sym :: (wrap (decide (x.level < op.level + 1)) (printE x) ++ (printTail op xs ++ rest)) := by
      simp only [printTail, List.cons_append, List.append_assoc]
    have hne := List.append_ne_nil_of_right_ne_nil (wrap (decide (x.level < op.level + 1)) (printE x))
      (stopsAt_ne_nil (stopsAt_tail op xs rest hs))
    rw [e1]
    refine .of_succ ?_
    simp only [pNary.eq_2, isSym_self, if_true, adv_cons _ hne, ok_bind]
    refine .bind (parse_operand hwf.1 hM.1 (Nat.succ_le_succ op.level_le) (stopsAt_tail op xs rest hs)) ?_
    simpa only [List.append_assoc, List.singleton_append] using pNary_tail op xs hwf.2 hM.2 (acc ++ [x]) rest hs hn

theorem isSym_rparen_primStart {t : Tok} (r : List Tok) (h : primStart t = true) : isSym .RPAREN (t :: r) = false := by
  cases t with
  | sym s =>
    cases hb : (Sym.RPAREN == s) with
    | false => exact hb
    | true => rw [← eq_of_beq hb] at h; exact absurd h (by decide)
  | _ => rfl

theorem printArgs_cons_head (x : Expr) (xs : List Expr) (hwf : x.WF) :
    ∃ t r, printArgs (x :: xs) = t :: r ∧ primStart t = true := by
  cases xs with
  | nil => simpa [printArgs] using printE_head x hwf
  | cons y ys =>
    rw [printArgs.eq_3 _ _ (by simp)]
    exact append_head _ (printE_head x hwf)

theorem pArgs_print : ∀ (x : Expr) (xs : List Expr), WFs (x :: xs) → AllMP (x :: xs) → ∀ (rest : List Tok),
    Settles (fun F => pArgs F (printArgs (x :: xs) ++ .sym .RPAREN :: rest)) (.ok (x :: xs, .sym .RPAREN :: rest))
  | x, [], _, hM, rest => by
    simp only [printArgs]
    refine .of_succ ?_
    simp only [pArgs.eq_2]
    refine .bind (parse_raw hM.1 (Nat.zero_le _) rfl) ?_
    simp only [matchSym_of_not (s := .COMMA) (toks := .sym .RPAREN :: rest) rfl, ok_bind, pure_eq_ok, Bool.false_eq_true, if_false]
    exact .const _
  | x, y :: ys, hwf, hM, rest => by
    have e1 : printArgs (x :: y :: ys) ++ .sym .RPAREN :: rest =
        printE x ++ .sym .COMMA :: (printArgs (y :: ys) ++ .sym .RPAREN :: rest) := by
      simp [printArgs]
    rw [e1]
    refine .of_succ ?_
    simp only [pArgs.eq_2]
    refine .bind (parse_raw hM.1 (Nat.zero_le _) rfl) ?_
    simp only [matchSym_self _ (List.append_ne_nil_of_right_ne_nil _ (List.cons_ne_nil _ _)), ok_bind, if_true]
    exact .bind (pArgs_print y ys hwf.2 hM.2 rest) (.const _)

theorem pCallArgs_print (args : List Expr) (hwf : WFs args) (hM : AllMP args) (rest : List Tok) (hr : rest ≠ []) :
    Settles (fun F => pCallArgs F (printArgs args ++ .sym .RPAREN :: rest)) (.ok (args, rest)) := by
  refine .of_succ ?_
  cases args with
  | nil =>
    simp only [printArgs, List.nil_append, pCallArgs.eq_2, matchSym_self _ hr, ok_bind, pure_eq_ok, if_true]
    exact .const _
  | cons x xs =>
    obtain ⟨t, r, e1, ht⟩ := printArgs_cons_head x xs hwf.1
    have h1 : isSym .RPAREN (printArgs (x :: xs) ++ .sym .RPAREN :: rest) = false := by
      rw [e1]; exact isSym_rparen_primStart _ ht
    simp only [pCallArgs.eq_2, matchSym_of_not h1, ok_bind, Bool.false_eq_true, if_false]
    refine .bind (pArgs_print x xs hwf hM rest) ?_
    simp only [expectSym_self _ _ hr, ok_bind, pure_eq_ok]
    exact .const _

theorem isSym_false_of_ne {s : Sym} {t : Tok} (r : List Tok) (h : t ≠ .sym s) : isSym s (t :: r) = false := by
  cases t with
  | sym s' =>
    simp only [isSym]
    cases hb : (s == s') with
    | false => rfl
    | true => exact absurd (by rw [eq_of_beq hb]) h
  | _ => rfl

theorem pPrimary_un (op : UOp) (f : Nat) (tail : List Tok) :
    pPrimary (f + 1) (.sym op.sym :: tail) =
      (adv (.sym op.sym :: tail) >>= fun t1 => pExpr f 4 t1 >>= fun x => pure (.un op x.1, x.2)) := by
  cases op
  · exact pPrimary.eq_8 f tail
  · exact pPrimary.eq_9 f tail
  · exact pPrimary.eq_10 f tail

theorem mp_of_primary {e : Expr}
    (h : ∀ rest, follows e rest = true → Settles (fun F => pPrimary F (printE e ++ rest)) (.ok (e, rest))) : MP e :=
  fun _ rest _ _ hf hl => .of_succ (.bind (h rest hf) hl)

theorem mp_lit (e : Expr) (t : Tok) (hpr : printE e = [t])
    (hprim : ∀ f tail, pPrimary (f + 1) (t :: tail) = (adv (t :: tail) >>= fun u => pure (e, u))) : MP e :=
  mp_of_primary fun rest hf => by
    rw [hpr, List.singleton_append]
    refine .of_succ ?_
    simp only [hprim, adv_cons _ (follows_ne_nil hf), ok_bind, pure_eq_ok]
    exact .const _

theorem mp_id (q : QId) (hq : q ≠ []) : MP (.id q) := by
  cases q with
  | nil => exact absurd rfl hq
  | cons n ns =>
    refine mp_of_primary fun rest hf => ?_
    cases rest with
    | nil => exact absurd hf Bool.false_ne_true
    | cons t r =>
      obtain ⟨ht1, ht2⟩ := follows_head hf
      rw [printE]
      simp only [qidToks, List.cons_append]
      refine .of_succ ?_
      simp only [pPrimary.eq_12, adv_cons _ (dotToks_append_ne_nil ns t r), ok_bind, dotIds_dotToks ns t r ht1,
        matchSym_of_not (isSym_false_of_ne r ht2), Bool.false_eq_true, if_false, pure_eq_ok]
      exact .const _

theorem mp_un (op : UOp) (x : Expr) (hwf : x.WF) (hM : MP x) : MP (.un op x) :=
  mp_of_primary fun rest hf => by
    have hne := List.append_ne_nil_of_right_ne_nil (wrap (decide (x.level < 4)) (printE x)) (follows_ne_nil hf)
    rw [printE, List.cons_append]
    refine .of_succ ?_
    simp only [pPrimary_un, adv_cons _ hne, ok_bind]
    exact .bind (parse_operand hwf hM (Nat.le_refl 4) (stopsAt_of_follows hf fun _ => .inr (Nat.lt_succ_self 3))) (.const _)

theorem operandStart_append {ts : List Tok} (us : List Tok) (h : operandStart ts = true) : operandStart (ts ++ us) = true := by
  cases ts with
  | nil => simp [operandStart] at h
  | cons t r =>
    cases t with
    | sym s => cases s <;> exact h
    | _ => rfl

theorem operandStart_wrap (ts rest : List Tok) : operandStart (wrap (!operandStart ts) ts ++ rest) = true := by
  cases h : operandStart ts with
  | true => simpa [wrap] using operandStart_append rest h
  | false => rfl

theorem operandStart_id {x : Expr} (hwf : x.WF) (hid : x.isId = true) : operandStart (printE x) = true := by
  obtain ⟨q, rfl⟩ := eq_id_of_isId hid
  cases q with
  | nil => exact absurd rfl hwf
  | cons n ns => rw [printE]; rfl

theorem mp_cast (tp : QId) (x : Expr) (htp : tp ≠ []) (hwf : x.WF) (hM : MP x) : MP (.cast tp x) := by
  cases tp with
  | nil => exact absurd rfl htp
  | cons n ns =>
    refine mp_of_primary fun rest hf => ?_
    have hs : stopsAt 0 rest = true := stopsAt_of_follows hf nofun
    generalize hb : (!operandStart (printE x)) = b
    have e1 : printE (.cast (n :: ns) x) ++ rest =
        .sym .LPAREN :: (.id n :: (dotToks ns ++ .sym .RPAREN :: (wrap b (printE x) ++ rest))) := by
      rw [printE, hb]; simp [qidToks]
    rw [e1]
    obtain ⟨t, r, e2⟩ := List.exists_cons_of_ne_nil
      (List.append_ne_nil_of_right_ne_nil (wrap b (printE x)) (follows_ne_nil hf))
    have hos : operandStart (t :: r) = true := by rw [← e2, ← hb]; exact operandStart_wrap _ _
    have hx : Settles (fun F => pExpr F 0 (t :: r)) (.ok (x, rest)) := by
      rw [← e2]
      exact parse_wrap hwf hM b (fun _ => Nat.zero_le _) (by
        intro hb1
        cases hid : x.isId with
        | false => rfl
        | true =>
          have := operandStart_id hwf hid
          rw [hb1] at hb
          simp [this] at hb) hs
    have hq := qid_qidToks (n :: ns) (by simp) (.sym .RPAREN) (t :: r) (by simp)
    simp only [qidToks, List.cons_append] at hq
    refine .of_succ ?_
    simp only [pPrimary.eq_7, adv_cons2, ok_bind, e2, castLook_ids_rparen, hos, if_true, hq,
      expectSym_self _ _ (List.cons_ne_nil t r)]
    exact .bind hx (.const _)

theorem mp_ctor (tp : QId) (args : List Expr) (htp : tp ≠ []) (hwf : WFs args) (hM : AllMP args) : MP (.ctor tp args) := by
  refine mp_of_primary fun rest hf => ?_
  have e1 : printE (.ctor tp args) ++ rest =
      .sym .NEW :: (qidToks tp ++ .sym .LPAREN :: (printArgs args ++ .sym .RPAREN :: rest)) := by
    rw [printE]; simp
  rw [e1]
  refine .of_succ ?_
  simp only [pPrimary.eq_11, adv_cons _ (List.append_ne_nil_of_right_ne_nil _ (List.cons_ne_nil _ _)), ok_bind,
    qid_qidToks tp htp _ _ (show Tok.sym .LPAREN ≠ .sym .DOT by simp),
    expectSym_self _ _ (List.append_ne_nil_of_right_ne_nil _ (List.cons_ne_nil _ _))]
  exact .bind (pCallArgs_print args hwf hM rest (follows_ne_nil hf)) (.const _)

theorem mp_call (ids : QId) (fn : Name) (args : List Expr) (hwf : WFs args) (hM : AllMP args) : MP (.call ids fn args) := by
  obtain ⟨n, ns, hq⟩ := List.exists_cons_of_ne_nil (l := ids ++ [fn]) (List.append_ne_nil_of_right_ne_nil _ (List.cons_ne_nil _ _))
  have e1 : ∀ rest, printE (.call ids fn args) ++ rest =
      .id n :: (dotToks ns ++ .sym .LPAREN :: (printArgs args ++ .sym .RPAREN :: rest)) := fun rest => by
    rw [printE, hq]; simp [qidToks]
  refine mp_of_primary fun rest hf => ?_
  rw [e1]
  refine .of_succ ?_
  simp only [pPrimary.eq_12, adv_cons _ (dotToks_append_ne_nil _ _ _), ok_bind,
    dotIds_dotToks ns _ _ (show Tok.sym .LPAREN ≠ .sym .DOT by simp),
    matchSym_self _ (List.append_ne_nil_of_right_ne_nil _ (List.cons_ne_nil _ _)), if_true,
    splitLast_concat n ns ids fn hq.symm, pure_eq_ok]
  exact .bind (pCallArgs_print args hwf hM rest (follows_ne_nil hf)) (.const _)

theorem not_isId_of_isCast {e : Expr} (h : e.isCast = true) : e.isId = false := by
  cases e <;> simp_all [Expr.isCast, Expr.isId]

theorem mp_bin (op : BOp) (l r : Expr) (hl : l.WF) (hr : r.WF) (hMl : MP l) (hMr : MP r) : MP (.bin op l r) := by
  intro pr rest res hp hf hres
  have hp' : pr ≤ op.level := hp
  have hs' : stopsAt (op.level + 1) rest = true := stopsAt_of_follows hf fun _ => .inl (Nat.lt_succ_self _)
  generalize hbl : (decide (l.level < op.level) || l.isCast) = bl
  have e1 : printE (.bin op l r) ++ rest =
      wrap bl (printE l) ++ (.sym op.sym :: (wrap (decide (r.level < op.level + 1)) (printE r) ++ rest)) := by
    rw [printE, hbl, List.append_assoc, List.cons_append]
  have hlv := op.level_le
  have hne := List.append_ne_nil_of_right_ne_nil (wrap (decide (r.level < op.level + 1)) (printE r)) (follows_ne_nil hf)
  rw [e1]
  refine loop_wrap hl hMl bl
    (by
      intro hb
      rw [hb] at hbl
      simp only [Bool.or_eq_false_iff, decide_eq_false_iff_not] at hbl
      exact ⟨by omega, (follows_sym (opInfo_bop op) op.sym_ne_dot op.sym_ne_lparen).2 ⟨by omega, hbl.2, nofun⟩⟩)
    (by
      intro hb
      rw [hb] at hbl
      simp only [Bool.or_eq_true, decide_eq_true_eq] at hbl
      cases hbl with
      | inl h => exact not_isId_of_level (by omega)
      | inr h => exact not_isId_of_isCast h)
    (by simp) (.of_succ ?_)
  simp only [pLoop.eq_2, opInfo_bop, if_pos hp', adv_cons _ hne, ok_bind]
  exact .bind (parse_operand hr hMr (by omega) hs') hres

theorem not_isId_of_isNary {e : Expr} {op : NOp} (h : e.isNary op = true) : e.isId = false := by
  cases e <;> simp_all [Expr.isNary, Expr.isId]

theorem isSym_nop_of_follows {op : NOp} {es : List Expr} {rest : List Tok} (h : follows (.nary op es) rest = true) :
    isSym op.sym rest = false := by
  cases hb : isSym op.sym rest with
  | false => rfl
  | true =>
    cases rest with
    | nil => exact hb.symm
    | cons t r =>
      cases t with
      | sym s =>
        rw [← eq_of_beq (show (op.sym == s) = true from hb)] at h
        have := ((follows_sym (opInfo_nop op) op.sym_ne_dot op.sym_ne_lparen).1 h).2.2 op rfl
        simp [Expr.isNary] at this
      | _ => exact hb.symm

theorem mp_nary (op : NOp) (x y : Expr) (ys : List Expr) (hx : x.WF) (hys : WFs (y :: ys))
    (hMx : MP x) (hMys : AllMP (y :: ys)) : MP (.nary op (x :: y :: ys)) := by
  intro pr rest res hp hf hres
  have hp' : pr ≤ op.level := hp
  have hs : stopsAt (op.level + 1) rest = true := stopsAt_of_follows hf fun _ => .inl (Nat.lt_succ_self _)
  have hn := isSym_nop_of_follows hf
  generalize hb1 : (decide (x.level < op.level) || x.isCast || x.isNary op) = b1
  have e1 : printE (.nary op (x :: y :: ys)) ++ rest = wrap b1 (printE x) ++ (printTail op (y :: ys) ++ rest) := by
    rw [printE, hb1]; simp
  obtain ⟨tl, e2⟩ : ∃ tl, printTail op (y :: ys) ++ rest = .sym op.sym :: tl := ⟨_, by rw [printTail]; rfl⟩
  have hlv := op.level_le
  have ht := pNary_tail op (y :: ys) hys hMys [x] rest hs hn
  rw [e1]
  refine loop_wrap hx hMx b1
    (by
      intro hb
      rw [hb] at hb1
      simp only [Bool.or_eq_false_iff, decide_eq_false_iff_not] at hb1
      exact ⟨by omega, e2 ▸ (follows_sym (opInfo_nop op) op.sym_ne_dot op.sym_ne_lparen).2
        ⟨by omega, hb1.1.2, fun _ h => OpKind.nary.inj h ▸ hb1.2⟩⟩)
    (by
      intro hb
      rw [hb] at hb1
      simp only [Bool.or_eq_true, decide_eq_true_eq] at hb1
      rcases hb1 with (h | h) | h
      · exact not_isId_of_level (by omega)
      · exact not_isId_of_isCast h
      · exact not_isId_of_isNary h)
    (by rw [e2]; simp) (.of_succ ?_)
  rw [e2] at ht ⊢
  simp only [pLoop.eq_2, opInfo_nop, if_pos hp']
  exact .bind ht (by simpa only [List.singleton_append] using hres)

-- `pPrimary.eq_3` … `eq_6` are the arms of the four literals, `eq_7` of `(`, `eq_8` … `eq_10` of `+ - !`,
-- `eq_11` of `new`, `eq_12` of an identifier
mutual
theorem mp : (e : Expr) → e.WF → MP e
  | .bool b, _ => mp_lit _ (.bool b) (by rw [printE]) (fun f tail => pPrimary.eq_3 f b tail)
  | .int n, _ => mp_lit _ (.int n) (by rw [printE]) (fun f tail => pPrimary.eq_4 f n tail)
  | .real r, _ => mp_lit _ (.real r) (by rw [printE]) (fun f tail => pPrimary.eq_5 f r tail)
  | .str s, _ => mp_lit _ (.str s) (by rw [printE]) (fun f tail => pPrimary.eq_6 f s tail)
  | .cast tp x, h => mp_cast tp x h.1 h.2 (mp x h.2)
  | .un op x, h => mp_un op x h (mp x h)
  | .ctor tp args, h => mp_ctor tp args h.1 h.2 (mps args h.2)
  | .bin op l r, h => mp_bin op l r h.1 h.2 (mp l h.1) (mp r h.2)
  | .call ids fn args, h => mp_call ids fn args h (mps args h)
  | .id q, h => mp_id q h
  | .nary _ [], h => absurd h.1 (by decide)
  | .nary _ [_], h => absurd h.1 (Nat.lt_irrefl 1)
  | .nary op (x :: y :: ys), h =>
    mp_nary op x y ys h.2.1 h.2.2
      (mp x h.2.1) (mps (y :: ys) h.2.2)
theorem mps : (es : List Expr) → WFs es → AllMP es
  | [], _ => trivial
  | e :: es, h => ⟨mp e h.1, mps es h.2⟩
end

/-- parsing the unparenthesised print of `e` at a level `pr` not above the level of `e`
    reaches the operator loop with exactly `e` built and the rest of the input untouched -/
def MProp (e : Expr) : Prop :=
  ∀ (pr : Nat) (rest : List Tok) (F : Nat), pr ≤ e.level → follows e rest = true →
    3 * (printE e ++ rest).length + 2 ≤ F →
    ∃ F', 3 * rest.length + 2 ≤ F' ∧ pExpr F pr (printE e ++ rest) = pLoop F' pr e rest

def AllM : List Expr → Prop
  | [] => True
  | e :: es => MProp e ∧ AllM es

/-- by totality (`exprInv`) neither side is "out of fuel" at `F`, so both are the values they settle on -/
theorem MProp_of_MP {e : Expr} (hwf : e.WF) (h : MP e) : MProp e := by
  intro pr rest F hp hf hF
  have hlen := List.length_append (as := printE e) (bs := rest)
  have h2 : pLoop F pr e rest ≠ .error .fuel := fun he =>
    absurd ((((exprInv F).loop rest pr e hwf).of_error he).1 rfl) (by omega)
  exact ⟨F, by omega, pExpr_of_settles (h pr rest _ hp hf (Settles.of_ne_fuel (fun F => (stab F).loop pr e rest) h2)) hF⟩

theorem mprop (e : Expr) (h : e.WF) : MProp e := MProp_of_MP h (mp e h)

theorem mprops : (es : List Expr) → WFs es → AllM es
  | [], _ => trivial
  | e :: es, h => ⟨mprop e h.1, mprops es h.2⟩

end Oratio.Riddle
