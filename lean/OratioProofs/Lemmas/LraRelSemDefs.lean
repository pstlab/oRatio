/-
Definitions for property C11 (semantic version): how a rational valuation is compared with an
`inf_rational` bound, "within the bounds", well-formed bounds, the shape of the constants of the
assertions created by `newRel`, and the semantic invariant of `exprs` / `s_asrts`.
-/
import OratioModel
import OratioProofs.Lemmas.Lin
import OratioProofs.Lemmas.Rational
import OratioProofs.Lemmas.LraState

namespace Oratio
namespace Lra

/-- `b ≤ y` for a bound `b = q + k·ε` and a rational `y`: `(q, k) ≤ (y, 0)` lexicographically, i.e.
    `q < y`, or `q = y` and `k ≤ 0`; `-∞` is below every rational, `+∞` below none -/
def IRBelow (b : IR) (y : Rat) : Prop :=
  b.rat = R.ninf ∨ (b.rat.den ≠ 0 ∧ (b.rat.toRat < y ∨ (b.rat.toRat = y ∧ b.inf.toRat ≤ 0)))

/-- `y ≤ b`: `(y, 0) ≤ (q, k)` lexicographically; `+∞` is above every rational, `-∞` above none -/
def IRAbove (b : IR) (y : Rat) : Prop :=
  b.rat = R.pinf ∨ (b.rat.den ≠ 0 ∧ (y < b.rat.toRat ∨ (y = b.rat.toRat ∧ 0 ≤ b.inf.toRat)))

/-- a lower bound is canonical: finite infinitesimal part, rational part finite or `-∞` -/
def LowOK (b : IR) : Prop := R.FinWF b.inf ∧ (R.FinWF b.rat ∨ b.rat = R.ninf)
/-- an upper bound is canonical: finite infinitesimal part, rational part finite or `+∞` -/
def UpOK (b : IR) : Prop := R.FinWF b.inf ∧ (R.FinWF b.rat ∨ b.rat = R.pinf)
/-- both parts canonical and finite: `IR.Fin` (Lemmas/InfRational.lean) under the name used by C11S -/
def FinIR_s (b : IR) : Prop := R.FinWF b.rat ∧ R.FinWF b.inf

/-- the bounds of every existing variable are canonical -/
def BndWF (t : Lra) : Prop := ∀ x, x < t.vals.length → LowOK (t.lb x) ∧ UpOK (t.ub x)

/-- the valuation lies within the bounds of every existing variable -/
def InBounds (t : Lra) (σ : Nat → Rat) : Prop :=
  ∀ x, x < t.vals.length → IRBelow (t.lb x) (σ x) ∧ IRAbove (t.ub x) (σ x)

/-- the requested relation between two rationals -/
def RelHolds (r : LRel) (x y : Rat) : Prop :=
  match r with
  | .lt => x < y
  | .leq => x ≤ y
  | .geq => x ≥ y
  | .gt => x > y

/-- what the assertion `x ≤ v` / `x ≥ v` says of a rational valuation -/
def AsrtSays (a : LAsrt) (σ : Nat → Rat) : Prop :=
  match a.o with
  | .leq => IRAbove a.v (σ a.x)
  | .geq => IRBelow a.v (σ a.x)

/-- the constants of the assertions `newRel` creates: `c`, `c - ε`, `c + ε` with `c` canonical and finite -/
def SimpleC (c : IR) : Prop := R.FinWF c.rat ∧ (c.inf = R.zero ∨ c.inf = R.one ∨ c.inf = R.neg R.one)

/-- no zero coefficient -/
def NoZero (l : Lin) : Prop := ∀ p ∈ l.vars, p.2.num ≠ 0

/-- the rows hold: `Lra.RowsHoldAt` (Properties/C09Bridge.lean) over `Lin.evalS` -/
def RowsS (t : Lra) (σ : Nat → Rat) : Prop := ∀ e ∈ t.tableau, σ e.1 = Lin.evalS e.2 σ

/-- Semantic invariant of the two string-keyed caches of the theory:
    * a name in `exprs` that is the print-out of a canonical expression names a variable that has the value of
      that expression in every solution of the tableau;
    * a key in `s_asrts` that is the print-out of `x (≤|≥) c` is bound to the control literal of the assertion
      `x (≤|≥) c` registered in `v_asrts`. -/
structure SemInv (t : Lra) : Prop where
  exprs_sem : ∀ e ∈ t.exprs, ∀ l : Lin, l.WF → Lin.toStr l = e.1 → ∀ σ, RowsS t σ → σ e.2 = Lin.evalS l σ
  sAsrts_sem : ∀ e ∈ t.sAsrts, ∀ (up : Bool) (x : Nat) (c : IR), SimpleC c → relKey up x c = e.1 →
    t.asrtOf e.2.var = some ⟨if up then .leq else .geq, e.2, x, c⟩

end Lra
end Oratio
