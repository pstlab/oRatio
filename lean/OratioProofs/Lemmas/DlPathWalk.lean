/-
C10X: the explanation walk reads off a justified path; a path closing a negative cycle with the edge
of a constraint literal makes every clause holding the walk literals and the complement of that
literal a theory lemma (`explain_cycle`): the one argument behind the conflict clause of
`propagate(lit)` and the clauses the scan records, in both polarities.
-/
import OratioProofs.Lemmas.DlPathInv
import OratioProofs.Lemmas.SatRecBy

namespace Oratio

namespace Dl

theorem value_bnot {s : Sat} {v : Nat} {b : Bool} (h : s.value ⟨v, true⟩ = some b) : s.value ⟨v, !b⟩ = some false := by
  cases b
  · exact h
  · exact (Sat.value_neg s ⟨v, true⟩).trans (by rw [h]; rfl)

theorem walk_root {α : Type} (s : Sat) (t : Dl α) (i fuel : Nat) (acc : List Lit) : walk s t i fuel i acc = acc := by
  cases fuel with
  | zero => rfl
  | succ n => rw [walk, if_pos rfl]

theorem walk_step {α : Type} (s : Sat) (t : Dl α) {i cur bb : Nat} {v : Bool} (fuel : Nat) (acc : List Lit) (hne : cur ≠ i)
    (hl : lookupPair t.distConstr (p t i cur, cur) = some bb) (hv : s.value ⟨bb, true⟩ = some v) :
    walk s t i (fuel + 1) cur acc = walk s t i fuel (p t i cur) (acc ++ [⟨bb, !v⟩]) := by
  rw [walk, if_neg hne]
  simp only [hl, hv]
  cases v <;> rfl

theorem lit_false {α : Asg} {v : Nat} {b : Bool} (h : α.lit ⟨v, !b⟩ = false) : α v = b := by
  cases b <;> simpa [Asg.lit] using h

theorem enqueue_le (s : Sat) (l : Lit) (c : Option Nat) : SatLe s (s.enqueue l c).2 := (Sat.ext_enqueue s l c).le

theorem record_le (s : Sat) (lits : List Lit) : SatLe s (s.record lits) := (Sat.ext_record s lits).le

theorem record_log (s : Sat) (lits : List Lit) : (s.record lits).log = s.log ++ [lits] := (Sat.ext_record s lits).log

end Dl

namespace DlG
open Dl

section
variable {α : Type} (O : DOps α)

def ScanRec (t : Dl α) (s1 : Sat) (cl : Clause) : Prop :=
  ∃ c p f g w, c ∈ t.varDists ∧ s1.value ⟨c.b, true⟩ = none ∧ litEdge O c p = (f, g, w) ∧ cnfTest O t c p = true ∧
    cl = walk s1 t g t.nVars f [⟨c.b, !p⟩]

theorem scan_emits (s : Sat) (t : Dl α) (ups : List (Nat × Nat)) : Sat.RecBy (ScanRec O t) s (scanUpdates O s t ups) :=
  scan_inv O t (Sat.RecBy (ScanRec O t) s) (fun s1 b h => by
    rcases scanStep_cases O t s1 b with e | ⟨c, p, f, g, w, hc, hn, he, ht, e⟩ <;> rw [e]
    · exact h
    · exact .step h ⟨c, p, f, g, w, (constrOf_spec hc).1, hn, he, ht, rfl⟩) ups s (.refl s)

theorem scan_le (t : Dl α) (s0 : Sat) (ups : List (Nat × Nat)) : SatLe s0 (scanUpdates O s0 t ups) :=
  (scan_emits O s0 t ups).le

end

variable {α G : Type} [AddCommGroup G] [LinearOrder G] [IsOrderedAddMonoid G] {O : DOps α} (L : DLaws O G)

def edge (c : DConstr α) (b : Bool) : Nat × Nat × G :=
  bif b then (c.src, c.dst, L.val c.dist) else (c.dst, c.src, -L.val c.dist - L.unit)

/-- `Dl.Agrees`, `DlR.AgreesR` over the laws -/
def Agrees (t : Dl α) (σ : Nat → G) (α : Asg) : Prop :=
  ∀ c ∈ t.varDists, (α c.b = true → σ c.dst - σ c.src ≤ L.val c.dist) ∧
                     (α c.b = false → σ c.src - σ c.dst ≤ -L.val c.dist - L.unit)

def TheoryValid (t : Dl α) (cl : List Lit) : Prop := ∀ (σ : Nat → G) (α : Asg), Agrees L t σ α → α.clause cl = true

def LogGood (t : Dl α) (s0 s : Sat) : Prop :=
  ∃ new, s.log = s0.log ++ new ∧ ∀ cl ∈ new, TheoryValid L t cl ∧ ∀ l ∈ cl.tail, s.value l = some false

variable {L}

theorem Agrees.edge {t : Dl α} {σ : Nat → G} {asg : Asg} (h : Agrees L t σ asg) {c : DConstr α} (hc : c ∈ t.varDists)
    {b : Bool} (hb : asg c.b = b) : σ (edge L c b).2.1 - σ (edge L c b).1 ≤ (edge L c b).2.2 := by
  cases b
  · exact (h c hc).2 hb
  · exact (h c hc).1 hb

theorem Asserts.sound {s : Sat} {t : Dl α} {bb k j : Nat} {w : G} (h : Asserts L s t bb k j w) :
    ∃ v, s.value ⟨bb, true⟩ = some v ∧
      ∀ (σ : Nat → G) (α : Asg), Agrees L t σ α → α.lit ⟨bb, !v⟩ = false → σ j - σ k ≤ w := by
  obtain ⟨c, hc, hr⟩ := h
  obtain ⟨hmem, hcb⟩ := constrOf_spec hc
  rcases hr with ⟨v1, a1, a2, a3⟩ | ⟨v1, a1, a2, a3⟩
  · refine ⟨true, v1, fun σ α hag hl => ?_⟩
    have := hag.edge hmem (b := true) (by rw [hcb]; exact lit_false hl)
    rw [a3, ← a1, ← a2]; exact this
  · refine ⟨false, v1, fun σ α hag hl => ?_⟩
    have := hag.edge hmem (b := false) (by rw [hcb]; exact lit_false hl)
    rw [a3, ← a1, ← a2]; exact this

theorem PathInv.walk_spec {s : Sat} {t : Dl α} (hP : PathInv L s t) (hdiag : ∀ i, i < t.nVars → dn L t i i = 0)
    {i : Nat} (hi : i < t.nVars) :
    ∀ {m j : Nat}, ChainN t i m j → j < t.nVars → dn L t i j ≠ ⊤ → ∀ fuel, m ≤ fuel → ∀ acc : List Lit,
      ∃ ls, walk s t i fuel j acc = acc ++ ls ∧ (∀ l ∈ ls, s.value l = some false) ∧
        (∀ (σ : Nat → G) (α : Asg), Agrees L t σ α → (∀ l ∈ ls, α.lit l = false) →
          ((σ j - σ i : G) : WithTop G) ≤ dn L t i j) := by
  intro m j h
  induction h with
  | root =>
    intro _ _ fuel _ acc
    refine ⟨[], by rw [walk_root]; simp, by simp, ?_⟩
    intro σ α _ _
    rw [hdiag i hi, sub_self]; exact le_rfl
  | step hne hch ih =>
    rename_i m0 j0
    intro hjn hfin fuel hfuel acc
    obtain ⟨t1, t2, t3, bb, w0, t4, t5⟩ := hP.tree i j0 hi hjn (Ne.symm hne) hfin
    obtain ⟨v, hv, hsound⟩ := t4.2.sound
    cases fuel with
    | zero => omega
    | succ fuel =>
      rw [walk_step s t fuel acc hne t4.1 hv]
      obtain ⟨ls, e, fl, val⟩ := ih t1 t3 fuel (by omega) (acc ++ [⟨bb, !v⟩])
      refine ⟨⟨bb, !v⟩ :: ls, by rw [e]; simp, ?_, ?_⟩
      · intro l hlm
        rcases List.mem_cons.mp hlm with rfl | hlm
        · exact value_bnot hv
        · exact fl l hlm
      · intro σ α hag hall
        have h1 := val σ α hag (fun l hlm => hall l (List.mem_cons_of_mem _ hlm))
        have h4 := hsound σ α hag (hall _ List.mem_cons_self)
        have e : σ j0 - σ i = (σ (p t i j0) - σ i) + (σ j0 - σ (p t i j0)) := by abel
        rw [e, WithTop.coe_add]
        exact le_trans (add_le_add h1 (WithTop.coe_le_coe.mpr h4)) t5

theorem PathInv.explain {s : Sat} {t : Dl α} (hP : PathInv L s t) (hdiag : ∀ i, i < t.nVars → dn L t i i = 0)
    {i j : Nat} (hi : i < t.nVars) (hj : j < t.nVars) (hfin : dn L t i j ≠ ⊤) (acc : List Lit) :
    ∃ ls, walk s t i t.nVars j acc = acc ++ ls ∧ (∀ l ∈ ls, s.value l = some false) ∧
      (∀ (σ : Nat → G) (α : Asg), Agrees L t σ α → (∀ l ∈ ls, α.lit l = false) →
        ((σ j - σ i : G) : WithTop G) ≤ dn L t i j) := by
  obtain ⟨m, hm, hch⟩ := hP.chain i j hi hj hfin
  exact hP.walk_spec hdiag hi hch hj hfin t.nVars (by omega) acc

theorem PathInv.explain_cycle {s : Sat} {t : Dl α} (hP : PathInv L s t) (hdiag : ∀ i, i < t.nVars → dn L t i i = 0)
    {c : DConstr α} (hmem : c ∈ t.varDists) (b : Bool) {f g : Nat} {w : G} (he : edge L c b = (f, g, w))
    (hf : f < t.nVars) (hg : g < t.nVars) (hneg : dn L t g f + (w : WithTop G) < 0) (acc : List Lit) :
    ∃ ls, walk s t g t.nVars f acc = acc ++ ls ∧ (∀ l ∈ ls, s.value l = some false) ∧
      ∀ cl : List Lit, ⟨c.b, !b⟩ ∈ cl → (∀ l ∈ ls, l ∈ cl) → TheoryValid L t cl := by
  obtain ⟨ls, e, fl, val⟩ := hP.explain hdiag hg hf (WithTop.add_ne_top.mp (ne_top_of_lt hneg)).1 acc
  refine ⟨ls, e, fl, fun cl hin hsub σ α hag => clause_true_of fun hall => ?_⟩
  have h1 := val σ α hag (fun l hl => hall l (hsub l hl))
  have h2 := hag.edge hmem (lit_false (hall _ hin))
  rw [he] at h2
  have h3 : (((σ f - σ g) + w : G) : WithTop G) < 0 := by
    rw [WithTop.coe_add]; exact lt_of_le_of_lt (add_le_add h1 le_rfl) hneg
  have h4 : σ f - σ g + (σ g - σ f) ≤ σ f - σ g + w := add_le_add le_rfl h2
  rw [sub_add_sub_cancel, sub_self] at h4
  exact absurd (lt_of_le_of_lt h4 (by exact_mod_cast h3)) (lt_irrefl _)

theorem LogGood.refl (t : Dl α) (s : Sat) : LogGood L t s s := ⟨[], by simp, by simp⟩

theorem LogGood.congr {t t' : Dl α} {s0 s : Sat} (h : t'.varDists = t.varDists) (hG : LogGood L t' s0 s) : LogGood L t s0 s := by
  unfold LogGood TheoryValid Agrees at hG ⊢
  rwa [h] at hG

theorem LogGood.step {t : Dl α} {s0 s : Sat} (h : LogGood L t s0 s) (cl : List Lit) (hv : TheoryValid L t cl)
    (hf : ∀ l ∈ cl.tail, s.value l = some false) : LogGood L t s0 (s.record cl) := by
  obtain ⟨new, h1, h2⟩ := h
  refine ⟨new ++ [cl], by rw [record_log, h1, List.append_assoc], ?_⟩
  intro cl' hcl'
  rcases List.mem_append.mp hcl' with hm | hm
  · obtain ⟨a1, a2⟩ := h2 cl' hm
    exact ⟨a1, fun l hl => value_mono (record_le s cl) _ _ (a2 l hl)⟩
  · have : cl' = cl := by simpa using hm
    subst this
    exact ⟨hv, fun l hl => value_mono (record_le s _) _ _ (hf l hl)⟩

end DlG
end Oratio
