/-
Lemmas for property C14: `newEq`.

The loop of `new_eq` ignores the result of `new_clause`, so the proof is semantic
(`postAll_sat`, `Posted.ans_true` in EncClause.lean): as soon as ONE model of the network satisfies
all the posted clauses, no `new_clause` can have failed, and every model of the result satisfies
them all.

Two facts that give the statements their shape:
  * "requesting an equality loses no model" only holds for models in which neither variable
    takes two VALUES at once.  `((init.newVar [1,2] false).2.newVar [1,2] false).2` with
    b1,b2,b3 true, b4 false has no extension after `newEq 0 1` (`[eq,¬b1,¬b3]`, `[¬eq,¬b2,b4]`).
    The condition must be on values, not on distinct literals: a `newVarLits` domain may map
    two values to the same literal (`newVarLits [b1,b1] [1,2]`).
  * without "every cached pair has a common value" in `WF`, a state satisfying the invariant
    may cache a literal for a disjoint pair, and `newEq` then returns it instead of FALSE.
-/
import OratioProofs.Lemmas.Ov

namespace Oratio
namespace OvL
open Enc EncL ListAux

/-- the right-hand guard of a common value -/
def rv (dr : List (Nat × Lit)) (k : Nat) : Lit := (Ov.lookupVal dr k).getD Lit.falseLit

/-- the clauses posted by `new_eq` (same text as in the model) -/
def eqClauses (dl dr : List (Nat × Lit)) (eq : Lit) : List (List Lit) :=
  (dl.filter (fun e => !dr.any (fun f => f.1 == e.1))).map (fun e => [eq.neg, e.2.neg]) ++
  (dr.filter (fun e => !dl.any (fun f => f.1 == e.1))).map (fun e => [eq.neg, e.2.neg]) ++
  (dl.filter (fun e => dr.any (fun f => f.1 == e.1))).flatMap (fun e =>
    [[eq.neg, e.2.neg, rv dr e.1], [eq.neg, e.2, (rv dr e.1).neg], [eq, e.2.neg, (rv dr e.1).neg]])

theorem cnf_eqClauses (β : Asg) (dl dr : List (Nat × Lit)) (eq : Lit) :
    β.cnf (eqClauses dl dr eq) = true ↔
      (∀ e ∈ dl, (∀ f ∈ dr, f.1 ≠ e.1) → β.lit eq = true → β.lit e.2 = false) ∧
      (∀ e ∈ dr, (∀ f ∈ dl, f.1 ≠ e.1) → β.lit eq = true → β.lit e.2 = false) ∧
      (∀ e ∈ dl, (∃ f ∈ dr, f.1 = e.1) →
        (β.lit eq = true → (β.lit e.2 = true ↔ β.lit (rv dr e.1) = true)) ∧
        (β.lit e.2 = true → β.lit (rv dr e.1) = true → β.lit eq = true)) := by
  simp only [eqClauses, Asg.cnf, List.all_append, List.all_map, List.all_flatMap, Bool.and_eq_true,
    List.all_eq_true, List.mem_filter, Function.comp, List.all_cons, List.all_nil, Bool.and_true,
    clause_nand2, clause_imp, clause_imp_last, clause_imp_first, and_imp]
  rw [and_assoc]
  refine and_congr (forall_congr' fun e => forall_congr' fun _ => ?_)
    (and_congr (forall_congr' fun e => forall_congr' fun _ => ?_) (forall_congr' fun e => forall_congr' fun _ => ?_))
  · rw [show (!dr.any fun f => f.fst == e.fst) = true ↔ ∀ f ∈ dr, f.1 ≠ e.1 by simp]
  · rw [show (!dl.any fun f => f.fst == e.fst) = true ↔ ∀ f ∈ dl, f.1 ≠ e.1 by simp]
  · rw [show (dr.any fun f => f.fst == e.fst) = true ↔ ∃ f ∈ dr, f.1 = e.1 by simp]
    exact imp_congr_right fun _ =>
      ⟨fun ⟨a, b, c⟩ => ⟨fun h => ⟨a h, b h⟩, fun h2 h3 => c h2 h3⟩,
        fun ⟨ab, c⟩ => ⟨fun h => (ab h).1, fun h => (ab h).2, fun h2 h3 => c h2 h3⟩⟩

def TakesD (α : Asg) (d : List (Nat × Lit)) (k : Nat) : Prop :=
  (∃ l, Ov.lookupVal d k = some l ∧ α.lit l = true) ∧ ∀ e ∈ d, e.1 ≠ k → α.lit e.2 = false

theorem rv_mem {dr : List (Nat × Lit)} {k : Nat} (h : ∃ f ∈ dr, f.1 = k) : (k, rv dr k) ∈ dr := by
  obtain ⟨f, hf, hfk⟩ := h
  obtain ⟨l', hl'⟩ := lookupVal_isSome_of_mem hf
  rw [hfk] at hl'
  have hrv : rv dr k = l' := by simp [rv, hl']
  rw [hrv]
  exact mem_of_lookupBy hl'

theorem eq_iff_of_cnf {β : Asg} {dl dr : List (Nat × Lit)} {eq : Lit} {ka kb : Nat}
    (hc : β.cnf (eqClauses dl dr eq) = true) (ha : TakesD β dl ka) (hb : TakesD β dr kb) :
    β.lit eq = true ↔ ka = kb := by
  obtain ⟨c1, _, c3⟩ := (cnf_eqClauses β dl dr eq).1 hc
  obtain ⟨⟨la, hla, hlat⟩, _⟩ := ha
  obtain ⟨⟨lb, hlb, hlbt⟩, hb2⟩ := hb
  have hma := mem_of_lookupBy hla
  have hmb := mem_of_lookupBy hlb
  constructor
  · intro heq
    by_cases hex : ∃ f ∈ dr, f.1 = ka
    · have h3 := ((c3 (ka, la) hma hex).1 heq).1 hlat
      refine Classical.byContradiction fun hne => ?_
      have := hb2 (ka, rv dr ka) (rv_mem hex) hne
      rw [h3] at this; cases this
    · have := c1 (ka, la) hma (fun f hf hfk => hex ⟨f, hf, hfk⟩) heq
      rw [hlat] at this; cases this
  · intro hk
    subst hk
    have hrv : rv dr ka = lb := by simp [rv, hlb]
    exact (c3 (ka, la) hma ⟨(ka, lb), hmb, rfl⟩).2 hlat (by rw [hrv]; exact hlbt)

def AmoD (α : Asg) (d : List (Nat × Lit)) : Prop :=
  ∀ e ∈ d, ∀ f ∈ d, α.lit e.2 = true → α.lit f.2 = true → e.1 = f.1

theorem cnf_of_amo {β : Asg} {dl dr : List (Nat × Lit)} {eq : Lit} (hnd : (dl.map (·.1)).Nodup)
    (ha : AmoD β dl) (hb : AmoD β dr)
    (heq : β.lit eq = true ↔
      ∃ e ∈ dl, (∃ f ∈ dr, f.1 = e.1) ∧ β.lit e.2 = true ∧ β.lit (rv dr e.1) = true) :
    β.cnf (eqClauses dl dr eq) = true := by
  rw [cnf_eqClauses]
  refine ⟨fun e he hno ht => ?_, fun e he hno ht => ?_, fun e he hex =>
    ⟨fun ht => ⟨fun h2 => ?_, fun h3 => ?_⟩, fun h2 h3 => heq.2 ⟨e, he, hex, h2, h3⟩⟩⟩
  · obtain ⟨e0, he0, hex0, h20, _⟩ := heq.1 ht
    cases hv : β.lit e.2 with
    | false => rfl
    | true =>
      have := ha e he e0 he0 hv h20
      obtain ⟨f, hf, hfk⟩ := hex0
      exact absurd (hfk.trans this.symm) (hno f hf)
  · obtain ⟨e0, he0, hex0, _, h30⟩ := heq.1 ht
    cases hv : β.lit e.2 with
    | false => rfl
    | true =>
      have : e.1 = e0.1 := hb e he (e0.1, rv dr e0.1) (rv_mem hex0) hv h30
      exact absurd this.symm (hno e0 he0)
  · obtain ⟨e0, he0, _, h20, h30⟩ := heq.1 ht
    have := ha e he e0 he0 h2 h20
    rw [this]; exact h30
  · obtain ⟨e0, he0, hex0, h20, h30⟩ := heq.1 ht
    have h1 : e.1 = e0.1 := hb (e.1, rv dr e.1) (rv_mem hex) (e0.1, rv dr e0.1) (rv_mem hex0) h3 h30
    have : e = e0 := eq_of_nodup_map hnd he he0 h1
    rw [this]; exact h20

/-- `newEq` after the ordering of the pair (same text as in the model) -/
def eqCore (s : Ov) (l r : Nat) : Lit × Ov :=
  match (s.eqs.find? (fun e => e.1 = (l, r))).map (·.2) with
  | some x => (x, s)
  | none =>
    if ((s.dom l).filter (fun e => (s.dom r).any (fun f => f.1 == e.1))).isEmpty then (Lit.falseLit, s)
    else
      (⟨s.enc.nvars, true⟩,
        { s with
          enc := (eqClauses (s.dom l) (s.dom r) ⟨s.enc.nvars, true⟩).foldl
            (fun e c => (e.newClause c).2) s.enc.newVar.2
          eqs := s.eqs ++ [((l, r), ⟨s.enc.nvars, true⟩)] })

theorem newEq_eq (s : Ov) (a b : Nat) :
    s.newEq a b = if a = b then (Lit.trueLit, s) else if a > b then eqCore s b a else eqCore s a b := by
  unfold Ov.newEq
  by_cases hab : a = b
  · simp only [if_pos hab]
  · simp only [if_neg hab]
    by_cases hgt : a > b
    · simp only [if_pos hgt]; rfl
    · simp only [if_neg hgt]; rfl

theorem dom_mem {s : Ov} {v : Nat} (hv : v < s.doms.length) : s.dom v ∈ s.doms := by
  unfold Ov.dom
  rw [List.getD_eq_getElem?_getD, List.getElem?_eq_getElem hv]
  exact List.getElem_mem hv

theorem eqClauses_range {dl dr : List (Nat × Lit)} {eq : Lit} {n : Nat} (hq : eq.var < n) (h0 : 0 < n)
    (hl : ∀ e ∈ dl, e.2.var < n) (hr : ∀ e ∈ dr, e.2.var < n) :
    ∀ c ∈ eqClauses dl dr eq, ∀ x ∈ c, x.var < n := by
  have hrv : ∀ k, (rv dr k).var < n := by
    intro k
    unfold rv
    cases hlk : Ov.lookupVal dr k with
    | none => exact h0
    | some l => exact hr _ (mem_of_lookupBy hlk)
  intro c hc x hx
  simp only [eqClauses, List.mem_append, List.mem_map, List.mem_flatMap, List.mem_filter] at hc
  rcases hc with (⟨e, ⟨he, _⟩, rfl⟩ | ⟨e, ⟨he, _⟩, rfl⟩) | ⟨e, ⟨he, _⟩, hc⟩
  · simp only [List.mem_cons, List.not_mem_nil, or_false] at hx
    rcases hx with rfl | rfl
    · exact hq
    · exact hl e he
  · simp only [List.mem_cons, List.not_mem_nil, or_false] at hx
    rcases hx with rfl | rfl
    · exact hq
    · exact hr e he
  · simp only [List.mem_cons, List.not_mem_nil, or_false] at hc
    rcases hc with rfl | rfl | rfl <;>
      simp only [List.mem_cons, List.not_mem_nil, or_false] at hx <;>
      rcases hx with rfl | rfl | rfl <;>
      first | exact hq | exact hl e he | exact hrv e.1

theorem amoD_of_takes {α : Asg} {d : List (Nat × Lit)} {k : Nat} (h : TakesD α d k) : AmoD α d := by
  have key : ∀ e ∈ d, α.lit e.2 = true → e.1 = k := fun e he h1 =>
    Classical.byContradiction fun hne => by
      have := h.2 e he hne; rw [h1] at this; cases this
  intro e he f hf h1 h2
  rw [key e he h1, key f hf h2]

/-- the value to give the fresh equality variable `n`: "some common value has both guards true" -/
theorem eqClauses_ext {α : Asg} {dl dr : List (Nat × Lit)} {n : Nat} (hnd : (dl.map (·.1)).Nodup)
    (hl : ∀ e ∈ dl, e.2.var < n) (hr : ∀ e ∈ dr, e.2.var < n) (ha : AmoD α dl) (hb : AmoD α dr) :
    ∃ b, (upd α n b).cnf (eqClauses dl dr ⟨n, true⟩) = true := by
  have hag : ∀ x : Lit, x.var < n → ∀ b, (upd α n b).lit x = α.lit x := fun x hx b => lit_congr (upd_lt α b hx)
  have key : ∀ b, (b = true ↔ ∃ e ∈ dl, (∃ f ∈ dr, f.1 = e.1) ∧ α.lit e.2 = true ∧ α.lit (rv dr e.1) = true) →
      (upd α n b).cnf (eqClauses dl dr ⟨n, true⟩) = true := fun b hb' => by
    refine cnf_of_amo hnd (fun e he f hf h1 h2 => ?_) (fun e he f hf h1 h2 => ?_) ?_
    · rw [hag _ (hl e he)] at h1
      rw [hag _ (hl f hf)] at h2
      exact ha e he f hf h1 h2
    · rw [hag _ (hr e he)] at h1
      rw [hag _ (hr f hf)] at h2
      exact hb e he f hf h1 h2
    · rw [Asg.lit_mk_true, upd_same, hb']
      exact exists_congr fun e => and_congr_right fun he => and_congr_right fun hex => by
        rw [hag _ (hl e he), hag _ (hr _ (rv_mem hex))]
  by_cases hP : ∃ e ∈ dl, (∃ f ∈ dr, f.1 = e.1) ∧ α.lit e.2 = true ∧ α.lit (rv dr e.1) = true
  · exact ⟨true, key true ⟨fun _ => hP, fun _ => rfl⟩⟩
  · exact ⟨false, key false ⟨nofun, fun hh => absurd hh hP⟩⟩

theorem eqCore_some {s : Ov} {l r : Nat} {x : Lit}
    (hf : (s.eqs.find? (fun e => e.1 = (l, r))).map (·.2) = some x) : eqCore s l r = (x, s) := by
  unfold eqCore; rw [hf]

theorem eqCore_empty {s : Ov} {l r : Nat}
    (hf : (s.eqs.find? (fun e => e.1 = (l, r))).map (·.2) = none)
    (he : ((s.dom l).filter (fun e => (s.dom r).any (fun f => f.1 == e.1))).isEmpty = true) :
    eqCore s l r = (Lit.falseLit, s) := by
  unfold eqCore; rw [hf]; simp only [he, if_true]

theorem eqCore_fresh {s : Ov} {l r : Nat}
    (hf : (s.eqs.find? (fun e => e.1 = (l, r))).map (·.2) = none)
    (he : ((s.dom l).filter (fun e => (s.dom r).any (fun f => f.1 == e.1))).isEmpty = false) :
    eqCore s l r = (⟨s.enc.nvars, true⟩,
        { s with
          enc := (eqClauses (s.dom l) (s.dom r) ⟨s.enc.nvars, true⟩).foldl
            (fun e c => (e.newClause c).2) s.enc.newVar.2
          eqs := s.eqs ++ [((l, r), ⟨s.enc.nvars, true⟩)] }) := by
  unfold eqCore; rw [hf]; simp only [he, Bool.false_eq_true, if_false]

theorem eqCore_idem (s : Ov) (l r : Nat) : eqCore (eqCore s l r).2 l r = eqCore s l r := by
  cases hf : (s.eqs.find? (fun e => e.1 = (l, r))).map (·.2) with
  | some x => rw [eqCore_some hf]; exact eqCore_some hf
  | none =>
    cases he : ((s.dom l).filter (fun e => (s.dom r).any (fun f => f.1 == e.1))).isEmpty with
    | true => rw [eqCore_empty hf he]; exact eqCore_empty hf he
    | false =>
      rw [eqCore_fresh hf he]
      refine eqCore_some ?_
      simp only [Option.map_eq_none_iff] at hf
      simp only [List.find?_append, hf, Option.none_or]
      simp

theorem common_of_inter {dl dr : List (Nat × Lit)}
    (he : (dl.filter (fun e => dr.any (fun f => f.1 == e.1))).isEmpty = false) :
    ∃ e ∈ dl, ∃ f ∈ dr, f.1 = e.1 := by
  cases hfl : dl.filter (fun e => dr.any (fun f => f.1 == e.1)) with
  | nil => rw [hfl] at he; cases he
  | cons e t =>
    have : e ∈ dl.filter (fun e => dr.any (fun f => f.1 == e.1)) := by rw [hfl]; simp
    simp only [List.mem_filter, List.any_eq_true, beq_iff_eq] at this
    exact ⟨e, this.1, this.2⟩

theorem inter_of_disjoint {dl dr : List (Nat × Lit)} (hd : ∀ e ∈ dl, ∀ f ∈ dr, e.1 ≠ f.1) :
    (dl.filter (fun e => dr.any (fun f => f.1 == e.1))).isEmpty = true := by
  cases he : (dl.filter (fun e => dr.any (fun f => f.1 == e.1))).isEmpty with
  | true => rfl
  | false =>
    obtain ⟨e, he, f, hf, hfe⟩ := common_of_inter he
    exact absurd hfe.symm (hd e he f hf)

theorem find_entry {s : Ov} {l r : Nat} {x : Lit}
    (hf : (s.eqs.find? (fun e => e.1 = (l, r))).map (·.2) = some x) : ((l, r), x) ∈ s.eqs := by
  obtain ⟨e, he, rfl⟩ := Option.map_eq_some_iff.1 hf
  have hk := List.find?_some he
  exact (of_decide_eq_true hk : e.1 = (l, r)) ▸ List.mem_of_find?_eq_some he

theorem inv_push_eq {e : Enc} {doms : List (List (Nat × Lit))} {eqs : List ((Nat × Nat) × Lit)}
    (h : Inv ⟨e, doms, eqs⟩) {l r : Nat} {x : Lit} (hlr : l < r) (hr : r < doms.length)
    (hx : x.var < e.nvars)
    (hk : ∃ k, (Ov.lookupVal ((Ov.mk e doms eqs).dom l) k).isSome ∧
      (Ov.lookupVal ((Ov.mk e doms eqs).dom r) k).isSome)
    (hm : EqMeans ⟨e, doms, eqs⟩ l r x) : Inv ⟨e, doms, eqs ++ [((l, r), x)]⟩ := by
  obtain ⟨⟨w1, w2, w3⟩, h2⟩ := h
  refine ⟨⟨w1, w2, fun y hy => ?_⟩, fun y hy => ?_⟩
  · simp only [List.mem_append, List.mem_singleton] at hy
    rcases hy with hy | rfl
    · exact w3 y hy
    · exact ⟨hlr, hr, hx, hk⟩
  · simp only [List.mem_append, List.mem_singleton] at hy
    rcases hy with hy | rfl
    · exact h2 y hy
    · exact hm

theorem eqCore_spec {s : Ov} (h : Inv s) {l r : Nat} (hlr : l < r) (hr : r < s.doms.length) :
    Inv (eqCore s l r).2 ∧ (eqCore s l r).1.var < (eqCore s l r).2.enc.nvars ∧
    (eqCore s l r).2.doms = s.doms ∧
    EqMeans (eqCore s l r).2 l r (eqCore s l r).1 ∧
    (∀ α, EncL.Sat α s.enc → Ov.AtMostOneValue α s l → Ov.AtMostOneValue α s r →
      ∃ α', EncL.Sat α' (eqCore s l r).2.enc ∧ ∀ v, v < s.enc.nvars → α' v = α v) ∧
    Refines s.enc (eqCore s l r).2.enc := by
  have hpos : 0 < s.enc.nvars := h.enc.pos
  cases hf : (s.eqs.find? (fun e => e.1 = (l, r))).map (·.2) with
  | some x =>
    rw [eqCore_some hf]
    have hmem := find_entry hf
    refine ⟨h, (h.eq_wf hmem).2.2.1, rfl, h.means hmem, fun α hα _ _ => ⟨α, hα, fun _ _ => rfl⟩,
      Refines.refl _⟩
  | none =>
    cases he : ((s.dom l).filter (fun e => (s.dom r).any (fun f => f.1 == e.1))).isEmpty with
    | true =>
      rw [eqCore_empty hf he]
      refine ⟨h, hpos, rfl, fun α hα ka kb hka hkb => ?_, fun α hα _ _ => ⟨α, hα, fun _ _ => rfl⟩,
        Refines.refl _⟩
      have hfl : α.lit Lit.falseLit = false := Asg.lit_falseLit hα.1
      constructor
      · intro ht; rw [hfl] at ht; cases ht
      · intro hk
        subst hk
        obtain ⟨la, hla, _⟩ := takes_mem hka
        obtain ⟨lb, hlb, _⟩ := takes_mem hkb
        have : (ka, la) ∈ (s.dom l).filter (fun e => (s.dom r).any (fun f => f.1 == e.1)) := by
          simp only [List.mem_filter, List.any_eq_true, beq_iff_eq]
          exact ⟨hla, (ka, lb), hlb, rfl⟩
        rw [List.isEmpty_iff] at he
        rw [he] at this
        cases this
    | false =>
      rw [eqCore_fresh hf he]
      have hll : l < s.doms.length := Nat.lt_trans hlr hr
      obtain ⟨dl1, _, dl3⟩ := h.dom (dom_mem hll)
      obtain ⟨_, _, dr3⟩ := h.dom (dom_mem hr)
      have hE1 : EncL.Inv s.enc.newVar.2 := inv_addVars h.enc 1
      have hn1 : s.enc.newVar.2.nvars = s.enc.nvars + 1 := nvars_addVars s.enc 1
      have hrange : ∀ c ∈ eqClauses (s.dom l) (s.dom r) ⟨s.enc.nvars, true⟩, InRange s.enc.newVar.2 c := by
        intro c hc x hx
        rw [hn1]
        exact eqClauses_range (n := s.enc.nvars + 1) (Nat.lt_succ_self _) (Nat.succ_pos _)
          (fun e he => Nat.lt_succ_of_lt (dl3 e he)) (fun e he => Nat.lt_succ_of_lt (dr3 e he)) c hc x hx
      obtain ⟨ok, hp⟩ := postAll_sat _ hE1 hrange
      generalize (eqClauses (s.dom l) (s.dom r) ⟨s.enc.nvars, true⟩).foldl
        (fun e c => (e.newClause c).2) s.enc.newVar.2 = E2 at hp ⊢
      have href : Refines s.enc E2 :=
        ⟨by rw [hp.nvars, hn1]; exact Nat.le_succ _, fun α hα => (sat_addVars α s.enc 1).1 (hp.ref α hα)⟩
      have hC : ∀ α, EncL.Sat α s.enc → AmoD α (s.dom l) → AmoD α (s.dom r) →
          ∃ b, EncL.Sat (upd α s.enc.nvars b) s.enc.newVar.2 ∧
            (upd α s.enc.nvars b).cnf (eqClauses (s.dom l) (s.dom r) ⟨s.enc.nvars, true⟩) = true :=
        fun α hα ha hb =>
          let ⟨b, hb'⟩ := eqClauses_ext dl1 dl3 dr3 ha hb
          ⟨b, sat_addVars_of_agree h.enc.wf 1 hα (fun x hx => upd_lt α _ hx), hb'⟩
      have hmeans : EqMeans ⟨E2, s.doms, s.eqs⟩ l r ⟨s.enc.nvars, true⟩ := by
        intro α hα ka kb hka hkb
        have ha : AmoD α (s.dom l) := amoD_of_takes (d := s.dom l) hka
        have hb : AmoD α (s.dom r) := amoD_of_takes (d := s.dom r) hkb
        obtain ⟨b, hb1, hb2⟩ := hC α (href.2 α hα) ha hb
        have hcnf := (hp.ans α hα).trans (hp.ans_true hb1 hb2)
        exact eq_iff_of_cnf (dl := s.dom l) (dr := s.dom r) hcnf hka hkb
      have hnv : s.enc.nvars < E2.nvars := by rw [hp.nvars, hn1]; exact Nat.lt_succ_self _
      refine ⟨?_, hnv, rfl, hmeans, fun α hα ha hb => ?_, href⟩
      · refine inv_push_eq (inv_update_nil h hp.inv href) hlr hr hnv ?_ hmeans
        obtain ⟨e, he', f, hf', hfe⟩ := common_of_inter he
        obtain ⟨l1, hl1⟩ := lookupVal_isSome_of_mem he'
        obtain ⟨l2, hl2⟩ := lookupVal_isSome_of_mem hf'
        rw [hfe] at hl2
        exact ⟨e.1, Option.isSome_iff_exists.2 ⟨l1, hl1⟩, Option.isSome_iff_exists.2 ⟨l2, hl2⟩⟩
      · obtain ⟨b, hb1, hb2⟩ := hC α hα ha hb
        exact ⟨_, hp.keep _ hb1 hb2, fun x hx => upd_lt α b hx⟩

theorem eqCore_disjoint {s : Ov} (h : Inv s) {l r : Nat}
    (hd : ∀ e ∈ s.dom l, ∀ f ∈ s.dom r, e.1 ≠ f.1) : eqCore s l r = (Lit.falseLit, s) := by
  cases hf : (s.eqs.find? (fun e => e.1 = (l, r))).map (·.2) with
  | some x =>
    obtain ⟨_, _, _, k, hk1, hk2⟩ := h.eq_wf (find_entry hf)
    obtain ⟨l1, hl1⟩ := Option.isSome_iff_exists.1 hk1
    obtain ⟨l2, hl2⟩ := Option.isSome_iff_exists.1 hk2
    exact absurd rfl (hd (k, l1) (mem_of_lookupBy hl1) (k, l2) (mem_of_lookupBy hl2))
  | none => exact eqCore_empty hf (inter_of_disjoint hd)

theorem eqMeans_symm {s : Ov} {a b : Nat} {x : Lit} (h : EqMeans s a b x) : EqMeans s b a x :=
  fun α hα ka kb hka hkb => (h α hα kb ka hkb hka).trans ⟨Eq.symm, Eq.symm⟩

theorem eq_iff_same (s : Ov) (a b : Nat) (h : Inv s) (ha : a < s.doms.length) (hb : b < s.doms.length)
    (r : Lit × Ov) (hr : s.newEq a b = r) :
    Inv r.2 ∧ r.1.var < r.2.enc.nvars ∧ r.2.doms = s.doms ∧
    EqMeans r.2 a b r.1 ∧
    (∀ α, EncL.Sat α s.enc → Ov.AtMostOneValue α s a → Ov.AtMostOneValue α s b →
       ∃ α', EncL.Sat α' r.2.enc ∧ ∀ v, v < s.enc.nvars → α' v = α v) ∧
    Refines s.enc r.2.enc := by
  rw [newEq_eq] at hr
  by_cases hab : a = b
  · rw [if_pos hab] at hr
    subst hr
    subst hab
    exact ⟨h, h.enc.pos, rfl,
      fun α hα ka kb hka hkb => ⟨fun _ => takes_unique hka hkb, fun _ => Asg.lit_trueLit hα.1⟩,
      fun α hα _ _ => ⟨α, hα, fun _ _ => rfl⟩, Refines.refl _⟩
  · rw [if_neg hab] at hr
    by_cases hgt : a > b
    · rw [if_pos hgt] at hr
      subst hr
      obtain ⟨s1, s2, s3, s4, s5, s6⟩ := eqCore_spec h hgt ha
      exact ⟨s1, s2, s3, eqMeans_symm s4, fun α hα h1 h2 => s5 α hα h2 h1, s6⟩
    · rw [if_neg hgt] at hr
      subst hr
      exact eqCore_spec h (by omega) hb

theorem eq_cache (s : Ov) (a b : Nat) (r : Lit × Ov) (hr : s.newEq a b = r) :
    r.2.newEq a b = r ∧ r.2.newEq b a = r := by
  rw [newEq_eq] at hr
  by_cases hab : a = b
  · rw [if_pos hab] at hr
    subst hr
    subst hab
    rw [newEq_eq, if_pos rfl]
    exact ⟨rfl, rfl⟩
  · rw [if_neg hab] at hr
    by_cases hgt : a > b
    · rw [if_pos hgt] at hr
      subst hr
      constructor
      · rw [newEq_eq, if_neg hab, if_pos hgt]; exact eqCore_idem s b a
      · rw [newEq_eq, if_neg (Ne.symm hab), if_neg (by omega)]; exact eqCore_idem s b a
    · rw [if_neg hgt] at hr
      subst hr
      constructor
      · rw [newEq_eq, if_neg hab, if_neg hgt]; exact eqCore_idem s a b
      · rw [newEq_eq, if_neg (Ne.symm hab), if_pos (by omega)]; exact eqCore_idem s a b

end OvL
end Oratio
