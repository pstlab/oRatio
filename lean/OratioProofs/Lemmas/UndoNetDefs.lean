/-
Definitions needed to READ the statements of Properties/C08Net.lean (property C08 at the level of the
whole network): histories of LRA theory calls, what is "visible" of an LRA state, the part of the
SAT core that `pop` gives back (the shape it relies on, `Sat.Clean` and `Sat.IdsOK`, is in SatCoreDefs.lean),
and conflict-free runs of `Net.propagate`.
-/
import OratioModel

namespace Oratio

/-! ## linear arithmetic: calls between `push` and `pop` -/

namespace Lra

/-- one call of the theory between `push()` and `pop()`: the bound assertions, the propagation of
    an assertion literal, the simplex - each with the SAT state it happens to see -/
inductive LCall where
  | lower (s : Sat) (x : Nat) (v : IR) (p : Lit)
  | upper (s : Sat) (x : Nat) (v : IR) (p : Lit)
  | lit (s : Sat) (p : Lit)
  | check (fuel : Nat)

/-- the theory state a call leaves (a conflicting call leaves the state it reached, as the C++
    does; a `check` that runs out of fuel is skipped) -/
def callStep (t : Lra) : LCall → Lra
  | .lower s x v p => (assertLower s t x v p).th
  | .upper s x v p => (assertUpper s t x v p).th
  | .lit s p => (propagateLit s t p).th
  | .check fuel => match t.check fuel with
    | some (_, t') => t'
    | none => t

def runCalls (t : Lra) (cs : List LCall) : Lra := cs.foldl callStep t

/-- histories with nested levels -/
inductive LEvent where
  | push
  | pop
  | call (c : LCall)

def runEvents (t : Lra) : List LEvent → Lra
  | [] => t
  | .push :: r => runEvents t.push r
  | .pop :: r => runEvents t.pop r
  | .call c :: r => runEvents (callStep t c) r

/-- every `pop` has a matching earlier `push`, every level opened is closed, no theory call outside
    a level (depth `d` = number of levels currently open) -/
def balanced : List LEvent → Nat → Bool
  | [], d => d == 0
  | .push :: r, d => balanced r (d + 1)
  | .pop :: r, d => decide (d > 0) && balanced r (d - 1)
  | .call _ :: r, d => decide (d > 0) && balanced r d

/-- everything of the LRA theory that is visible through the network, except the solution set of
    the tableau (stated separately): all bounds with their reasons, the undo log, the registries
    `exprs`, `s_asrts`, `v_asrts`, the assertion watches `a_watches`, the number of variables -/
structure SameVisible (B u : Lra) : Prop where
  bounds : u.bounds = B.bounds
  layers : u.layers = B.layers
  exprs : u.exprs = B.exprs
  sAsrts : u.sAsrts = B.sAsrts
  vAsrts : u.vAsrts = B.vAsrts
  aWatches : u.aWatches = B.aWatches
  nvars : u.vals.length = B.vals.length

end Lra

/-! ## the SAT core -/

namespace Sat

/-- the part of the SAT core that `assume ; … ; pop` gives back literally -/
structure SameAssignment (B s : Sat) : Prop where
  vals : s.vals = B.vals
  level : s.level = B.level
  reason : s.reason = B.reason
  trail : s.trail = B.trail
  trailLim : s.trailLim = B.trailLim
  decisions : s.decisions = B.decisions
  exprs : s.exprs = B.exprs

end Sat

/-! ## conflict-free propagation -/

namespace Net

/-- the network `assume(p)` starts propagating from: a new level in the SAT core and in every
    theory -/
def pushed (n : Net) (p : Lit) : Net :=
  { n with sat := { n.sat with trailLim := n.sat.trail.length :: n.sat.trailLim, decisions := p :: n.sat.decisions },
           lra := n.lra.push, idl := n.idl.push, rdl := n.rdl.push }

/-- the run of `propagate n fuel` meets NO conflict: no conflicting clause, no conflict reported by
    `th->propagate(p)`, no conflict reported by `lra_theory::check()` - so `analyze_and_backjump` is
    never called (same recursion as `Net.propagate`; theory lemmas may be recorded freely).
    `true` when the fuel runs out (then `propagate` returns `none`). -/
def quiet (n : Net) : Nat → Bool
  | 0 => true
  | fuel + 1 =>
    match n.sat.queue with
    | [] =>
      match n.lra.check fuel with
      | some (some _, _) => false
      | _ => true
    | p :: q =>
      match Sat.visitWatchers { n.sat with queue := q, watches := n.sat.watches.set p.idx [] } p
          (n.sat.watches.getD p.idx []) with
      | (_, some _) => false
      | (s, none) =>
        match theoryPropagate { n with sat := s } p with
        | (none, n') => quiet n' fuel
        | (some _, _) => false

/-- `assume(p)` meets no conflict -/
def quietAssume (n : Net) (p : Lit) (fuel : Nat) : Bool :=
  match (pushed n p).sat.enqueue p none with
  | (false, _) => true
  | (true, s) => quiet { pushed n p with sat := s } fuel

/-- search operations: `assume(p)` and a further `propagate()` (as `check(lits)` issues them) -/
inductive SOp where
  | assume (p : Lit)
  | propagate

/-- a conflict-free search history: every `assume` / `propagate` of the list runs without meeting a
    conflict (`quietAssume` / `quiet`) and within the fuel; `propagate` is admitted above the root
    level only (at root level its consequences are permanent) -/
def runQuiet (fuel : Nat) : Net → List SOp → Option Net
  | n, [] => some n
  | n, .assume p :: r =>
    if quietAssume n p fuel then
      match n.assume p fuel with
      | some (_, n') => runQuiet fuel n' r
      | none => none
    else none
  | n, .propagate :: r =>
    if !n.sat.rootLevel && quiet n fuel then
      match n.propagate fuel with
      | some (_, n') => runQuiet fuel n' r
      | none => none
    else none

end Net

end Oratio
