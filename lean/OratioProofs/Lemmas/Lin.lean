/-
Lemmas about the model of `smt::lin` (`OratioModel/Arith/Lin.lean`), stated with `Lin.evalS`; `Lin.eval`, in which
the properties are stated, is the same function.
-/
import OratioModel
import OratioProofs.Lemmas.Rational
import OratioProofs.Lemmas.ListAux
import Mathlib.Tactic.Ring
import Mathlib.Tactic.Linarith
import Mathlib.Algebra.Order.Field.Rat

namespace Oratio

/-- the value of a (finite) linear expression under a valuation of its variables -/
def Lin.eval (l : Lin) (σ : Nat → Rat) : Rat := (l.vars.map (fun t => t.2.toRat * σ t.1)).sum + l.known.toRat

namespace Lin

/-- keys strictly increasing, as `List.Pairwise` -/
def Sorted (m : List (Nat × R)) : Prop := m.Pairwise (fun a b => a.1 < b.1)
/-- all coefficients canonical and finite -/
def CoefWF (m : List (Nat × R)) : Prop := ∀ t ∈ m, R.FinWF t.2
/-- `Σ cᵢ·σ(xᵢ)` -/
def sumS (σ : Nat → Rat) (m : List (Nat × R)) : Rat := (m.map (fun t => t.2.toRat * σ t.1)).sum
def coeffL (m : List (Nat × R)) (v : Nat) : R := (find m v).getD R.zero
/-- the value of an expression; `Lin.eval` is this function -/
def evalS (l : Lin) (σ : Nat → Rat) : Rat :=
  (l.vars.map (fun t => t.2.toRat * σ t.1)).sum + l.known.toRat
def mapC (f : R → R) (m : List (Nat × R)) : List (Nat × R) := m.map (fun t => (t.1, f t.2))

theorem evalS_eq (l : Lin) (σ : Nat → Rat) : evalS l σ = sumS σ l.vars + l.known.toRat := rfl

theorem sortedKeys_iff (m : List (Nat × R)) : SortedKeys m ↔ Sorted m := by
  induction m with
  | nil => simp [SortedKeys, Sorted]
  | cons a t ih =>
    cases t with
    | nil => simp [SortedKeys, Sorted]
    | cons b t' =>
      obtain ⟨a1, a2⟩ := a
      obtain ⟨b1, b2⟩ := b
      rw [SortedKeys, ih]
      -- the head is below its successor, hence (the tail being sorted) below every later entry
      exact ⟨fun ⟨hab, hs⟩ => List.pairwise_cons.2 ⟨List.forall_mem_cons.2
          ⟨hab, fun x hx => Nat.lt_trans hab ((List.pairwise_cons.1 hs).1 x hx)⟩, hs⟩,
        fun h => ⟨(List.pairwise_cons.1 h).1 _ List.mem_cons_self, (List.pairwise_cons.1 h).2⟩⟩

theorem wf_iff (l : Lin) : l.WF ↔ Sorted l.vars ∧ CoefWF l.vars ∧ R.FinWF l.known := by
  unfold WF
  rw [sortedKeys_iff]
  rfl

theorem wf_nil {k : R} (hk : R.FinWF k) : (⟨[], k⟩ : Lin).WF := ⟨trivial, nofun, hk⟩

theorem wf_one (x : Nat) {c k : R} (hc : R.FinWF c) (hk : R.FinWF k) : (⟨[(x, c)], k⟩ : Lin).WF :=
  ⟨trivial, fun _ ht => List.mem_singleton.1 ht ▸ hc, hk⟩

theorem wf_two {x y : Nat} (hxy : x < y) {c d k : R} (hc : R.FinWF c) (hd : R.FinWF d) (hk : R.FinWF k) :
    (⟨[(x, c), (y, d)], k⟩ : Lin).WF :=
  ⟨⟨hxy, trivial⟩, fun _ ht => (List.mem_cons.1 ht).elim (· ▸ hc) fun h => List.mem_singleton.1 h ▸ hd, hk⟩

@[simp] theorem find_nil (v : Nat) : find [] v = none := rfl
theorem find_cons (k : Nat) (c : R) (t : List (Nat × R)) (v : Nat) :
    find ((k, c) :: t) v = if k = v then some c else find t v := by
  show (if k == v then some c else find t v) = _
  by_cases h : k = v <;> simp [h]

theorem find_eq : ∀ (m : List (Nat × R)) (k : Nat), find m k = ListAux.lookupBy m k
  | [], _ => rfl
  | (_, _) :: t, k => by rw [find, ListAux.lookupBy_cons, find_eq t]

@[simp] theorem insert_nil (v : Nat) (c : R) : insert [] v c = [(v, c)] := rfl
theorem insert_cons (k : Nat) (d : R) (t : List (Nat × R)) (v : Nat) (c : R) :
    insert ((k, d) :: t) v c =
      if v < k then (v, c) :: (k, d) :: t else if v = k then (k, d) :: t else (k, d) :: insert t v c := by
  show (if v < k then (v, c) :: (k, d) :: t else if v == k then (k, d) :: t
    else (k, d) :: insert t v c) = _
  by_cases h : v = k <;> simp [h]

@[simp] theorem set_nil (v : Nat) (c : R) : set [] v c = [] := rfl
theorem set_cons (k : Nat) (d : R) (t : List (Nat × R)) (v : Nat) (c : R) :
    set ((k, d) :: t) v c = if k = v then (k, c) :: t else (k, d) :: set t v c := by
  show (if k == v then (k, c) :: t else (k, d) :: set t v c) = _
  by_cases h : k = v <;> simp [h]

@[simp] theorem erase_nil (v : Nat) : erase [] v = [] := rfl
theorem erase_cons (k : Nat) (d : R) (t : List (Nat × R)) (v : Nat) :
    erase ((k, d) :: t) v = if k = v then t else (k, d) :: erase t v := by
  show (if k == v then t else (k, d) :: erase t v) = _
  by_cases h : k = v <;> simp [h]

@[simp] theorem sumS_nil (σ : Nat → Rat) : sumS σ [] = 0 := rfl
@[simp] theorem sumS_cons (σ : Nat → Rat) (k : Nat) (c : R) (t : List (Nat × R)) :
    sumS σ ((k, c) :: t) = c.toRat * σ k + sumS σ t := by
  simp [sumS]

theorem sumS_append (σ : Nat → Rat) (a b : List (Nat × R)) :
    sumS σ (a ++ b) = sumS σ a + sumS σ b := by
  unfold sumS
  rw [List.map_append, List.sum_append]

theorem sorted_cons {a : Nat × R} {t : List (Nat × R)} :
    Sorted (a :: t) ↔ (∀ x ∈ t, a.1 < x.1) ∧ Sorted t := List.pairwise_cons

theorem coefWF_nil : CoefWF [] := by simp [CoefWF]

theorem coefWF_cons {a : Nat × R} {t : List (Nat × R)} :
    CoefWF (a :: t) ↔ R.FinWF a.2 ∧ CoefWF t := by
  simp [CoefWF]


theorem map_prefix {f : List (Nat × R) → List (Nat × R)} {P : Nat → Prop}
    (hf : ∀ k e t, P k → f ((k, e) :: t) = (k, e) :: f t) {l : List (Nat × R)}
    (r : List (Nat × R)) (hl : ∀ x ∈ l, P x.1) : f (l ++ r) = l ++ f r := by
  induction l with
  | nil => rfl
  | cons a t ih =>
    rw [List.cons_append, hf _ _ _ (hl a List.mem_cons_self),
      ih fun x hx => hl x (List.mem_cons_of_mem _ hx), List.cons_append]

theorem set_append {l : List (Nat × R)} (r : List (Nat × R)) {v : Nat} (c : R)
    (hl : ∀ x ∈ l, x.1 ≠ v) : set (l ++ r) v c = l ++ set r v c :=
  map_prefix (f := (set · v c)) (fun k e t hk => by rw [set_cons, if_neg hk]) r hl

theorem erase_append {l : List (Nat × R)} (r : List (Nat × R)) {v : Nat}
    (hl : ∀ x ∈ l, x.1 ≠ v) : erase (l ++ r) v = l ++ erase r v :=
  map_prefix (f := (erase · v)) (fun k e t hk => by rw [erase_cons, if_neg hk]) r hl

theorem insert_append {l : List (Nat × R)} (r : List (Nat × R)) {v : Nat} (c : R)
    (hl : ∀ x ∈ l, x.1 < v) : insert (l ++ r) v c = l ++ insert r v c :=
  map_prefix (f := (insert · v c))
    (fun k e t (hk : k < v) => by rw [insert_cons, if_neg (by omega), if_neg (by omega)]) r hl

theorem insert_of_lt {m : List (Nat × R)} {v : Nat} (c : R) (h : ∀ x ∈ m, x.1 < v) :
    insert m v c = m ++ [(v, c)] := by
  have e := insert_append [] c h
  rwa [List.append_nil] at e

theorem find_append (l r : List (Nat × R)) (v : Nat) : find (l ++ r) v = (find l v).or (find r v) := by
  simp only [find_eq]
  exact ListAux.lookupBy_append l r v

theorem find_none_iff {m : List (Nat × R)} {v : Nat} : find m v = none ↔ ∀ p ∈ m, p.1 ≠ v :=
  find_eq m v ▸ ListAux.lookupBy_eq_none

theorem find_isSome_iff {m : List (Nat × R)} {v : Nat} : (find m v).isSome = true ↔ ∃ p ∈ m, p.1 = v :=
  find_eq m v ▸ ListAux.lookupBy_isSome

theorem find_split {m : List (Nat × R)} {v : Nat} {d : R} (h : find m v = some d) :
    ∃ l r, m = l ++ (v, d) :: r ∧ ∀ x ∈ l, x.1 ≠ v := by
  induction m with
  | nil => cases h
  | cons a t ih =>
    obtain ⟨k, e⟩ := a
    rw [find_cons] at h
    by_cases hk : k = v
    · rw [if_pos hk] at h
      cases h; subst hk
      exact ⟨[], t, rfl, fun _ hx => nomatch hx⟩
    · rw [if_neg hk] at h
      obtain ⟨l, r, rfl, hl⟩ := ih h
      exact ⟨(k, e) :: l, r, rfl, List.forall_mem_cons.2 ⟨hk, hl⟩⟩

theorem find_mem {m : List (Nat × R)} {v : Nat} {c : R} (h : find m v = some c) : (v, c) ∈ m :=
  ListAux.mem_of_lookupBy (find_eq m v ▸ h)

theorem sorted_mid {l r : List (Nat × R)} {v : Nat} {d : R} (hs : Sorted (l ++ (v, d) :: r)) :
    (∀ x ∈ l, x.1 < v) ∧ ∀ x ∈ r, v < x.1 :=
  have h := List.pairwise_append.1 hs
  ⟨fun x hx => h.2.2 x hx _ List.mem_cons_self, (sorted_cons.1 h.2.1).1⟩

theorem find_of_mem {m : List (Nat × R)} {v : Nat} {c : R} (hs : Sorted m) (h : (v, c) ∈ m) :
    find m v = some c :=
  find_eq m v ▸ ListAux.lookupBy_of_mem (List.Pairwise.map _ (fun _ _ => Nat.ne_of_lt) hs) h

theorem coefWF_find {m : List (Nat × R)} {v : Nat} {c : R} (hw : CoefWF m) (h : find m v = some c) :
    R.FinWF c := hw _ (find_mem h)

theorem insert_eq_insertK (m : List (Nat × R)) (v : Nat) (c : R) :
    insert m v c = ListAux.insertK Prod.fst (· < ·) (v, c) m := by
  induction m with
  | nil => rfl
  | cons e r ih =>
    obtain ⟨k, d⟩ := e
    rw [ListAux.insertK, ← ih, insert_cons]

theorem find_insert {m : List (Nat × R)} {v : Nat} (c : R) (w : Nat) (h : find m v = none) :
    find (insert m v c) w = if w = v then some c else find m w := by
  simp only [find_eq] at h ⊢
  rw [insert_eq_insertK]
  exact ListAux.lookupBy_insertK c w h

theorem sumS_insert {m : List (Nat × R)} {v : Nat} (c : R) (σ : Nat → Rat) (h : find m v = none) :
    sumS σ (insert m v c) = sumS σ m + c.toRat * σ v := by
  obtain ⟨l, r, rfl, hi⟩ := ListAux.insertK_split (key := Prod.fst) (lt := (· < ·)) (v, c) (find_none_iff.1 h)
  rw [insert_eq_insertK, hi, sumS_append, sumS_append, sumS_cons]
  ring

theorem mem_insert {m : List (Nat × R)} {v : Nat} {c : R} {x : Nat × R} (h : x ∈ insert m v c) :
    x ∈ m ∨ x = (v, c) :=
  ListAux.mem_insertK_sub (insert_eq_insertK m v c ▸ h)

theorem sorted_insert {m : List (Nat × R)} (v : Nat) (c : R) (hs : Sorted m) : Sorted (insert m v c) := by
  rw [insert_eq_insertK]
  exact ListAux.sorted_insertK (key := Prod.fst) (lt := (· < ·)) Nat.lt_trans (fun {a b} h1 h2 => by omega) _ hs

theorem coefWF_insert {m : List (Nat × R)} {v : Nat} {c : R} (hw : CoefWF m) (hc : R.FinWF c) :
    CoefWF (insert m v c) := by
  intro x hx
  rcases mem_insert hx with hx | rfl
  · exact hw x hx
  · exact hc

theorem find_set {m : List (Nat × R)} (v : Nat) (c : R) (w : Nat) {d : R} (h : find m v = some d) :
    find (set m v c) w = if w = v then some c else find m w := by
  obtain ⟨l, r, rfl, hl⟩ := find_split h
  rw [set_append _ _ hl, set_cons, if_pos rfl, find_append, find_append, find_cons, find_cons]
  by_cases hw : w = v
  · subst hw
    rw [find_none_iff.2 hl, if_pos rfl, if_pos rfl]
    rfl
  · rw [if_neg hw, if_neg (Ne.symm hw), if_neg (Ne.symm hw)]

theorem sumS_set {m : List (Nat × R)} (v : Nat) (c : R) (σ : Nat → Rat) {d : R} (h : find m v = some d) :
    sumS σ (set m v c) = sumS σ m - d.toRat * σ v + c.toRat * σ v := by
  obtain ⟨l, r, rfl, hl⟩ := find_split h
  rw [set_append _ _ hl, set_cons, if_pos rfl, sumS_append, sumS_append, sumS_cons, sumS_cons]
  ring

theorem mem_set {m : List (Nat × R)} {v : Nat} {c : R} {x : Nat × R} (h : x ∈ set m v c) :
    x ∈ m ∨ x = (v, c) := by
  induction m with
  | nil => cases h
  | cons a t ih =>
    obtain ⟨k, d⟩ := a
    rw [set_cons] at h
    split at h
    · next hk =>
      subst hk
      exact (List.mem_cons.1 h).symm.imp_left (List.mem_cons_of_mem _)
    · rcases List.mem_cons.1 h with h | h
      · exact Or.inl (h ▸ List.mem_cons_self)
      · exact (ih h).imp_left (List.mem_cons_of_mem _)

theorem keys_set (m : List (Nat × R)) (v : Nat) (c : R) :
    (set m v c).map Prod.fst = m.map Prod.fst := by
  induction m with
  | nil => rfl
  | cons a t ih =>
    obtain ⟨k, d⟩ := a
    rw [set_cons]
    split
    · rfl
    · rw [List.map_cons, ih, List.map_cons]

theorem sorted_iff_keys (m : List (Nat × R)) : Sorted m ↔ (m.map Prod.fst).Pairwise (· < ·) := by
  unfold Sorted
  rw [List.pairwise_map]

theorem sorted_set {m : List (Nat × R)} (v : Nat) (c : R) (hs : Sorted m) : Sorted (set m v c) := by
  rw [sorted_iff_keys] at hs ⊢
  rw [keys_set]
  exact hs

theorem coefWF_set {m : List (Nat × R)} {v : Nat} {c : R} (hw : CoefWF m) (hc : R.FinWF c) :
    CoefWF (set m v c) := by
  intro x hx
  rcases mem_set hx with hx | rfl
  · exact hw x hx
  · exact hc

theorem erase_sublist (m : List (Nat × R)) (v : Nat) : (erase m v).Sublist m := by
  induction m with
  | nil => exact List.Sublist.refl _
  | cons a t ih =>
    obtain ⟨k, d⟩ := a
    rw [erase_cons]
    split
    · exact List.sublist_cons_self _ _
    · exact ih.cons_cons _

theorem mem_erase {m : List (Nat × R)} {v : Nat} {x : Nat × R} (h : x ∈ erase m v) : x ∈ m :=
  (erase_sublist m v).subset h

theorem sorted_erase {m : List (Nat × R)} (v : Nat) (hs : Sorted m) : Sorted (erase m v) :=
  List.Pairwise.sublist (erase_sublist m v) hs

theorem coefWF_erase {m : List (Nat × R)} {v : Nat} (hw : CoefWF m) : CoefWF (erase m v) :=
  fun x hx => hw x (mem_erase hx)

theorem erase_of_none {m : List (Nat × R)} {v : Nat} (h : find m v = none) : erase m v = m := by
  have e := erase_append [] (find_none_iff.1 h)
  rwa [List.append_nil, erase_nil, List.append_nil] at e

theorem find_erase {m : List (Nat × R)} (v w : Nat) (hs : Sorted m) :
    find (erase m v) w = if w = v then none else find m w := by
  cases hf : find m v with
  | none =>
    rw [erase_of_none hf]
    split
    · next hw => rw [hw, hf]
    · rfl
  | some d =>
    obtain ⟨l, r, rfl, hl⟩ := find_split hf
    rw [erase_append _ hl, erase_cons, if_pos rfl, find_append, find_append, find_cons]
    by_cases hw : w = v
    · subst hw
      rw [if_pos rfl, find_none_iff.2 hl,
        find_none_iff.2 fun x hx => ((sorted_mid hs).2 x hx).ne']
      rfl
    · rw [if_neg hw, if_neg (Ne.symm hw)]

theorem sumS_erase {m : List (Nat × R)} (v : Nat) (σ : Nat → Rat) {d : R} (h : find m v = some d) :
    sumS σ (erase m v) = sumS σ m - d.toRat * σ v := by
  obtain ⟨l, r, rfl, hl⟩ := find_split h
  rw [erase_append _ hl, erase_cons, if_pos rfl, sumS_append, sumS_append, sumS_cons]
  ring

theorem coeffL_update {m m' : List (Nat × R)} {v : Nat} {new : Option R} {x : Rat}
    (hf : ∀ w, find m' w = if w = v then new else find m w)
    (hx : (new.getD R.zero).toRat = (coeffL m v).toRat + x) (w : Nat) :
    (coeffL m' w).toRat = (coeffL m w).toRat + if w = v then x else 0 := by
  unfold coeffL at *
  rw [hf]
  by_cases hw : w = v
  · rw [if_pos hw, if_pos hw, hw, hx]
  · rw [if_neg hw, if_neg hw, add_zero]

theorem addTerm_spec {m : List (Nat × R)} {t : Nat × R} (hs : Sorted m) (hw : CoefWF m)
    (ht : R.FinWF t.2) :
    Sorted (addTerm m t) ∧ CoefWF (addTerm m t) ∧
    (∀ v, (coeffL (addTerm m t) v).toRat =
      (coeffL m v).toRat + if v = t.1 then t.2.toRat else 0) ∧
    (∀ σ, sumS σ (addTerm m t) = sumS σ m + t.2.toRat * σ t.1) := by
  unfold addTerm
  cases hf : find m t.1 with
  | none =>
    exact ⟨sorted_insert _ _ hs, coefWF_insert hw ht,
      coeffL_update (fun w => find_insert _ w hf) (by simp [coeffL, hf, R.toRat_zero]),
      fun σ => sumS_insert _ σ hf⟩
  | some c =>
    have hc : R.FinWF c := coefWF_find hw hf
    have hsum : (R.addAssign c t.2).toRat = c.toRat + t.2.toRat := R.toRat_addAssign hc ht
    simp only
    split
    · next hz =>
      have h0 : c.toRat + t.2.toRat = 0 := by rw [← hsum, R.eq_iff.1 hz, R.toRat_zero]
      exact ⟨sorted_erase _ hs, coefWF_erase hw,
        coeffL_update (fun w => find_erase _ w hs) (by simp [coeffL, hf, R.toRat_zero, h0]),
        fun σ => by rw [sumS_erase _ σ hf, eq_neg_of_add_eq_zero_right h0]; ring⟩
    · exact ⟨sorted_set _ _ hs, coefWF_set hw (R.finWF_addAssign hc ht),
        coeffL_update (fun w => find_set _ _ w hf) (by simp [coeffL, hf, hsum]),
        fun σ => by rw [sumS_set _ _ σ hf, hsum]; ring⟩

theorem foldl_addTerm_ind {P : List (Nat × R) → Prop} {r m : List (Nat × R)} (hs : Sorted m) (hw : CoefWF m) (hwr : CoefWF r)
    (h0 : P m) (step : ∀ m' t, t ∈ r → Sorted m' → CoefWF m' → P m' → P (addTerm m' t)) : P (r.foldl addTerm m) :=
  (List.foldlRecOn r addTerm (motive := fun m' => Sorted m' ∧ CoefWF m' ∧ P m') ⟨hs, hw, h0⟩ fun m' ⟨a, b, c⟩ t ht =>
    have ⟨s1, s2, _, _⟩ := addTerm_spec (t := t) a b (hwr t ht)
    ⟨s1, s2, step m' t ht a b c⟩).2.2

theorem coeffL_cons_sorted {k : Nat} {c : R} {t : List (Nat × R)} (hs : Sorted ((k, c) :: t)) (v : Nat) :
    (coeffL ((k, c) :: t) v).toRat = (if v = k then c.toRat else 0) + (coeffL t v).toRat := by
  unfold coeffL
  rw [find_cons]
  by_cases hv : v = k
  · subst hv
    rw [if_pos rfl, if_pos rfl, find_none_iff.2 fun x hx => ((sorted_cons.1 hs).1 x hx).ne']
    simp [R.toRat_zero]
  · rw [if_neg (Ne.symm hv), if_neg hv, zero_add]

theorem foldl_addTerm_spec (r : List (Nat × R)) : ∀ m : List (Nat × R),
    Sorted m → CoefWF m → Sorted r → CoefWF r →
    Sorted (r.foldl addTerm m) ∧ CoefWF (r.foldl addTerm m) ∧
    (∀ v, (coeffL (r.foldl addTerm m) v).toRat = (coeffL m v).toRat + (coeffL r v).toRat) ∧
    (∀ σ, sumS σ (r.foldl addTerm m) = sumS σ m + sumS σ r) := by
  induction r with
  | nil =>
    intro m hs hw _ _
    exact ⟨hs, hw, fun v => by simp [coeffL, R.toRat_zero], fun σ => by simp⟩
  | cons a t ih =>
    intro m hs hw hsr hwr
    obtain ⟨k, c⟩ := a
    obtain ⟨h1, h2, h3, h4⟩ := addTerm_spec (t := (k, c)) hs hw (coefWF_cons.1 hwr).1
    obtain ⟨i1, i2, i3, i4⟩ := ih (addTerm m (k, c)) h1 h2 (sorted_cons.1 hsr).2 (coefWF_cons.1 hwr).2
    rw [List.foldl_cons]
    refine ⟨i1, i2, fun v => ?_, fun σ => ?_⟩
    · rw [i3, h3, coeffL_cons_sorted hsr]
      ring
    · rw [i4, h4, sumS_cons]
      ring

theorem find_mapC (f : R → R) (m : List (Nat × R)) (v : Nat) :
    find (mapC f m) v = (find m v).map f := by
  induction m with
  | nil => rfl
  | cons a t ih =>
    obtain ⟨k, c⟩ := a
    show find ((k, f c) :: mapC f t) v = _
    rw [find_cons, find_cons, ih]
    by_cases hk : k = v <;> simp [hk]

theorem sorted_mapC (f : R → R) {m : List (Nat × R)} (hs : Sorted m) : Sorted (mapC f m) := by
  unfold Sorted mapC
  rw [List.pairwise_map]
  exact hs

theorem coefWF_mapC {f : R → R} {m : List (Nat × R)} (hf : ∀ c, R.FinWF c → R.FinWF (f c))
    (hw : CoefWF m) : CoefWF (mapC f m) := by
  intro x hx
  obtain ⟨y, hy, rfl⟩ := List.mem_map.1 hx
  exact hf _ (hw y hy)

theorem sumS_mapC {f : R → R} {m : List (Nat × R)} (a : Rat)
    (hf : ∀ t ∈ m, (f t.2).toRat = t.2.toRat * a) (σ : Nat → Rat) :
    sumS σ (mapC f m) = sumS σ m * a := by
  induction m with
  | nil => simp [mapC]
  | cons x t ih =>
    obtain ⟨k, c⟩ := x
    show sumS σ ((k, f c) :: mapC f t) = _
    rw [sumS_cons, sumS_cons, ih (fun y hy => hf y (List.mem_cons_of_mem _ hy)),
      hf (k, c) List.mem_cons_self]
    ring

theorem coeffL_mapC {f : R → R} {m : List (Nat × R)} (a : Rat)
    (hf : ∀ t ∈ m, (f t.2).toRat = t.2.toRat * a) (v : Nat) :
    (coeffL (mapC f m) v).toRat = (coeffL m v).toRat * a := by
  simp only [coeffL]
  rw [find_mapC]
  cases h : find m v with
  | none => simp [R.toRat_zero]
  | some c => simpa using hf _ (find_mem h)

def negT (t : Nat × R) : Nat × R := (t.1, R.neg t.2)

theorem subTerm_eq (m : List (Nat × R)) (t : Nat × R) : subTerm m t = addTerm m (negT t) := rfl

theorem foldl_subTerm (r m : List (Nat × R)) :
    r.foldl subTerm m = (mapC R.neg r).foldl addTerm m := by
  unfold mapC
  rw [List.foldl_map]
  rfl

theorem foldl_neg_insert (l : List (Nat × R)) : ∀ acc : List (Nat × R), Sorted (acc ++ l) →
    l.foldl (fun m t => insert m t.1 (R.neg t.2)) acc = acc ++ mapC R.neg l := by
  induction l with
  | nil => intro acc _; simp [mapC]
  | cons a t ih =>
    intro acc hs
    have hlt : ∀ x ∈ acc, x.1 < a.1 := fun x hx =>
      (List.pairwise_append.1 hs).2.2 x hx a List.mem_cons_self
    have hs' : Sorted ((acc ++ [(a.1, R.neg a.2)]) ++ t) := by
      rw [sorted_iff_keys] at hs ⊢
      simpa using hs
    rw [List.foldl_cons, insert_of_lt _ hlt, ih _ hs']
    simp [mapC]

theorem neg_vars {l : Lin} (hs : Sorted l.vars) : (neg l).vars = mapC R.neg l.vars := by
  show l.vars.foldl (fun m t => insert m t.1 (R.neg t.2)) [] = _
  rw [foldl_neg_insert l.vars [] (by simpa using hs)]
  rfl

theorem coeff_eq (l : Lin) (v : Nat) : l.coeff v = coeffL l.vars v := rfl

theorem eval_coeff_spec (l : Lin) (hl : l.WF) (σ τ : Nat → Rat)
    (h : ∀ v, (l.coeff v).toRat ≠ 0 → σ v = τ v) : evalS l σ = evalS l τ := by
  obtain ⟨hs, -, -⟩ := (wf_iff l).1 hl
  have hm : ∀ t ∈ l.vars, t.2.toRat * σ t.1 = t.2.toRat * τ t.1 := fun t ht => by
    by_cases hc : t.2.toRat = 0
    · rw [hc, zero_mul, zero_mul]
    · rw [h t.1 (by rwa [coeff_eq, coeffL, find_of_mem hs (show (t.1, t.2) ∈ l.vars from ht)])]
  show (l.vars.map _).sum + _ = (l.vars.map _).sum + _
  rw [List.map_congr_left hm]

theorem add_spec (l r : Lin) (hl : l.WF) (hr : r.WF) :
    (add l r).WF ∧ (∀ v, ((add l r).coeff v).toRat = (l.coeff v).toRat + (r.coeff v).toRat) ∧
    (add l r).known.toRat = l.known.toRat + r.known.toRat ∧
    (∀ σ, evalS (add l r) σ = evalS l σ + evalS r σ) ∧ addAssign l r = add l r := by
  obtain ⟨hs, hw, hk⟩ := (wf_iff l).1 hl
  obtain ⟨hs', hw', hk'⟩ := (wf_iff r).1 hr
  obtain ⟨f1, f2, f3, f4⟩ := foldl_addTerm_spec r.vars l.vars hs hw hs' hw'
  have hkn : (R.addAssign l.known r.known).toRat = l.known.toRat + r.known.toRat :=
    R.toRat_addAssign hk hk'
  refine ⟨(wf_iff _).2 ⟨f1, f2, R.finWF_addAssign hk hk'⟩, f3, hkn, fun σ => ?_, rfl⟩
  show sumS σ (r.vars.foldl addTerm l.vars) + (R.addAssign l.known r.known).toRat = _
  rw [f4, hkn, evalS_eq, evalS_eq]
  ring

theorem mapC_spec {f : R → R} {a : Rat}
    (hf : ∀ c, R.FinWF c → R.FinWF (f c) ∧ (f c).toRat = c.toRat * a) {l : Lin} (hl : l.WF) :
    (⟨mapC f l.vars, f l.known⟩ : Lin).WF ∧
    (∀ v, ((⟨mapC f l.vars, f l.known⟩ : Lin).coeff v).toRat = (l.coeff v).toRat * a) ∧
    (f l.known).toRat = l.known.toRat * a ∧
    ∀ σ, evalS ⟨mapC f l.vars, f l.known⟩ σ = evalS l σ * a := by
  obtain ⟨hs, hw, hk⟩ := (wf_iff l).1 hl
  have hm : ∀ t ∈ l.vars, (f t.2).toRat = t.2.toRat * a := fun t ht => (hf _ (hw t ht)).2
  refine ⟨(wf_iff _).2 ⟨sorted_mapC _ hs, coefWF_mapC (fun c hc => (hf c hc).1) hw, (hf _ hk).1⟩,
    coeffL_mapC a hm, (hf _ hk).2, fun σ => ?_⟩
  show sumS σ (mapC f l.vars) + (f l.known).toRat = _
  rw [sumS_mapC a hm, (hf _ hk).2, evalS_eq]
  ring

theorem neg_fin {c : R} (hc : R.FinWF c) : R.FinWF (R.neg c) ∧ (R.neg c).toRat = c.toRat * (-1) :=
  ⟨R.finWF_neg hc, by rw [R.toRat_neg hc, mul_neg_one]⟩

theorem neg_spec (l : Lin) (hl : l.WF) :
    (neg l).WF ∧ (∀ v, ((neg l).coeff v).toRat = - (l.coeff v).toRat) ∧
    (neg l).known.toRat = - l.known.toRat ∧ (∀ σ, evalS (neg l) σ = - evalS l σ) := by
  have e : neg l = ⟨mapC R.neg l.vars, R.neg l.known⟩ := by
    rw [← neg_vars ((wf_iff l).1 hl).1]; rfl
  rw [e]
  simpa only [mul_neg_one] using mapC_spec (fun _ => neg_fin) hl

theorem sub_eq_add (l r : Lin) : sub l r = add l ⟨mapC R.neg r.vars, R.neg r.known⟩ := by
  unfold sub add
  rw [foldl_subTerm]
  rfl

theorem sub_spec (l r : Lin) (hl : l.WF) (hr : r.WF) :
    (sub l r).WF ∧ (∀ v, ((sub l r).coeff v).toRat = (l.coeff v).toRat - (r.coeff v).toRat) ∧
    (sub l r).known.toRat = l.known.toRat - r.known.toRat ∧
    (∀ σ, evalS (sub l r) σ = evalS l σ - evalS r σ) ∧ subAssign l r = sub l r := by
  obtain ⟨n1, n2, n3, n4⟩ := mapC_spec (fun _ => neg_fin) hr
  obtain ⟨a1, a2, a3, a4, -⟩ := add_spec l _ hl n1
  rw [sub_eq_add]
  exact ⟨a1, fun v => by rw [a2, n2]; ring, by rw [a3, n3]; ring, fun σ => by rw [a4, n4]; ring,
    sub_eq_add l r⟩

theorem mulR_spec (l : Lin) (c : R) (hl : l.WF) (hcf : R.FinWF c) :
    (mulR l c).WF ∧ (∀ v, ((mulR l c).coeff v).toRat = (l.coeff v).toRat * c.toRat) ∧
    (mulR l c).known.toRat = l.known.toRat * c.toRat ∧
    (∀ σ, evalS (mulR l c) σ = evalS l σ * c.toRat) :=
  mapC_spec (f := (R.mulAssign · c))
    (fun _ hx => ⟨R.finWF_mulAssign hx hcf, R.toRat_mulAssign hx hcf⟩) hl

theorem mulAssignR_spec (l : Lin) (c : R) (hl : l.WF) (hcf : R.FinWF c) :
    (mulAssignR l c).WF ∧ (∀ v, ((mulAssignR l c).coeff v).toRat = (l.coeff v).toRat * c.toRat) ∧
    (mulAssignR l c).known.toRat = l.known.toRat * c.toRat ∧
    (∀ σ, evalS (mulAssignR l c) σ = evalS l σ * c.toRat) := by
  unfold mulAssignR
  split
  · -- `*= 0` clears the expression
    next hz =>
    rw [R.eq_iff.1 hz, R.toRat_zero]
    refine ⟨(wf_iff _).2 ⟨List.Pairwise.nil, coefWF_nil, R.finWF_zero⟩, fun v => ?_, ?_, fun σ => ?_⟩
    · exact R.toRat_zero.trans (mul_zero _).symm
    · exact R.toRat_zero.trans (mul_zero _).symm
    · exact (zero_add _).trans (R.toRat_zero.trans (mul_zero _).symm)
  · exact mulR_spec l c hl hcf

theorem scalar_div_spec (l : Lin) (c : R) (hl : l.WF) (hc : c.WF) (fc : c.den ≠ 0) (nz : c.num ≠ 0) :
    (divR l c).WF ∧ (∀ v, ((divR l c).coeff v).toRat = (l.coeff v).toRat / c.toRat) ∧
    (divR l c).known.toRat = l.known.toRat / c.toRat ∧
    (∀ σ, evalS (divR l c) σ = evalS l σ / c.toRat) ∧ divAssignR l c = divR l c := by
  have hcf : R.FinWF c := ⟨hc, fc⟩
  have h := mapC_spec (f := (R.divAssign · c)) (a := c.toRat⁻¹)
    (fun _ hx => ⟨R.finWF_divAssign hx hcf nz, by rw [R.toRat_divAssign hx hcf nz, div_eq_mul_inv]⟩) hl
  simp only [← div_eq_mul_inv] at h
  refine ⟨h.1, h.2.1, h.2.2.1, h.2.2.2, ?_⟩
  unfold divAssignR
  rw [if_neg (by rw [R.isInfinite, beq_iff_eq]; exact fc)]
  rfl

end Lin

namespace Lra
open Lin

theorem sumS_zero (m : List (Nat × R)) : sumS (fun _ => (0 : ℚ)) m = 0 := by
  induction m with
  | nil => rfl
  | cons a m ih =>
    obtain ⟨k, c⟩ := a
    rw [sumS_cons, ih]; ring

theorem sumS_congr {σ τ : Nat → Rat} {m : List (Nat × R)} (h : ∀ p ∈ m, σ p.1 = τ p.1) : sumS σ m = sumS τ m := by
  induction m with
  | nil => rfl
  | cons a m ih =>
    obtain ⟨k, c⟩ := a
    rw [sumS_cons, sumS_cons, h (k, c) List.mem_cons_self, ih (fun p hp => h p (List.mem_cons_of_mem _ hp))]

theorem sumS_add (σ τ : Nat → Rat) (m : List (Nat × R)) :
    sumS (fun x => σ x + τ x) m = sumS σ m + sumS τ m := by
  induction m with
  | nil => simp
  | cons a m ih =>
    obtain ⟨k, c⟩ := a
    simp only [sumS_cons, ih]
    ring

theorem evalS_add (l : Lin) (σ τ : Nat → Rat) :
    Lin.evalS l (fun x => σ x + τ x) = Lin.evalS l σ + Lin.evalS { l with known := R.zero } τ := by
  rw [evalS_eq, evalS_eq, evalS_eq, sumS_add]
  show _ = _ + (sumS τ l.vars + R.zero.toRat)
  rw [R.toRat_zero]
  ring

theorem evalS_zero (l : Lin) : Lin.evalS l (fun _ => 0) = l.known.toRat := by
  simp [Lin.evalS]

end Lra
end Oratio
