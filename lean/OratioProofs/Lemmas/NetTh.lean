/-
The theory level of the network: the product `ThBase` of the three theory invariants with the ghost frames of the
standing `push`es (`ThInv`), and the registries (`ThReg`).  The theory calls of `Net.propagate` keep `ThInv`, return
conflict clauses and record clauses T-entailed by the added clauses, and change the SAT core by well-shaped records
only; `Net.popTo` keeps `ThInv` for any reading of the ghost frames that survives a `pop` (`FramesLe`, `FramesLv`).
-/
import OratioProofs.Lemmas.NetThDl
import OratioProofs.Lemmas.NetThLra
import OratioProofs.Lemmas.NetRound
import OratioProofs.Lemmas.LraGoodMain

namespace Oratio
namespace Net
open Lra Sat

theorem TModel.congr {n n' : Net} (hl : LraSame n.lra n'.lra) (hi : n'.idl.varDists = n.idl.varDists)
    (hr : n'.rdl.varDists = n.rdl.varDists) (α : Asg) : TModel n' α ↔ TModel n α := by
  unfold TModel Dl.Agrees DlR.AgreesR
  rw [hi, hr]
  constructor
  · rintro ⟨σr, σi, σz, σq, a, b, c, d⟩
    exact ⟨σr, σi, σz, σq, (hl.1 σr σi).2 a, (asrtAgrees_congr hl.2.1 α σr σi).1 b, c, d⟩
  · rintro ⟨σr, σi, σz, σq, a, b, c, d⟩
    exact ⟨σr, σi, σz, σq, (hl.1 σr σi).1 a, (asrtAgrees_congr hl.2.1 α σr σi).2 b, c, d⟩

theorem TEntails.congr {n n' : Net} (h : ∀ α, TModel n' α → TModel n α) {F : Cnf} {c : Clause} (he : TEntails n F c) :
    TEntails n' F c := fun α h0 hF hm => he α h0 hF (h α hm)

theorem LraBase.mono {orig : Cnf} {s s' : Sat} {t : Lra} (h : LraBase orig s t) (hs : Dl.SatLe s s') : LraBase orig s' t :=
  ⟨h.inv, h.vals, h.key, h.vars, h.just, h.reasons.mono hs⟩

theorem IdlBase.mono {s s' : Sat} {t : Dl Int} (h : IdlBase s t) (hs : Dl.SatLe s s') : IdlBase s' t :=
  ⟨h.exact, C10X_assign_pathinv s s' t h.path hs, h.sorted⟩

theorem RdlBase.mono {s s' : Sat} {t : Dl IR} (h : RdlBase s t) (hs : Dl.SatLe s s') : RdlBase s' t :=
  ⟨h.exact, h.ok, C10XR_assign_pathinv s s' t h.path hs, h.sorted, h.eps, h.epsC⟩

theorem ThBase.mono {orig : Cnf} {s s' : Sat} {l : Lra} {i : Dl Int} {r : Dl IR} (h : ThBase orig s l i r)
    (hs : Dl.SatLe s s') : ThBase orig s' l i r := ⟨h.lra.mono hs, h.idl.mono hs, h.rdl.mono hs⟩

theorem LraBase.init {orig : Cnf} {s : Sat} (h : s.value Lit.trueLit = some true) : LraBase orig s Lra.init :=
  ⟨Lra.init_inv.1, Lra.init_inv.2, (fun e he => by cases he), (fun e he => by cases he),
    fun α σr σi _ _ _ _ x hx => absurd hx (by show ¬ (Lra.ubIdx x < ([] : List LBound).length); simp), fun _ => ⟨h, h⟩⟩

theorem RdlBase.init (s : Sat) : RdlBase s (Dl.init rdlOps) :=
  ⟨⟨[], C10R_init_exact⟩, (fun c hc => by cases hc), C10XR_init_pathinv _, Undo.sortedK_nil, C10R_epsInt_init,
    (fun c hc => by cases hc)⟩

theorem ThChain.base {orig : Cnf} {s : Sat} {l : Lra} {i : Dl Int} {r : Dl IR} {fr : List Frame}
    (h : ThChain orig s l i r fr) : ThBase orig s l i r := by
  cases fr with
  | nil => exact h
  | cons f fs => exact h.1

/-- the current states are replaced by states reached from them inside the current level -/
theorem ThChain.update {orig : Cnf} {s s' : Sat} {l l' : Lra} {i i' : Dl Int} {r r' : Dl IR} {fr : List Frame}
    (h : ThChain orig s l i r fr) (hb : ThBase orig s' l' i' r') (hs : Dl.SatLe s s')
    (hl : ∀ B, C09PopInv B l → C09PopInv B l') (hsame : LraSame l l')
    (hi : ∀ B, Undo.Lg idlOps B i → Undo.Lg idlOps B i') (hr : ∀ B, Undo.Lg rdlOps B r → Undo.Lg rdlOps B r') :
    ThChain orig s' l' i' r' fr := by
  cases fr with
  | nil => exact hb
  | cons f fs =>
    obtain ⟨_, h2, h3, h4, h5, h6, h7⟩ := h
    exact ⟨hb, hl _ h2, h3.trans hsame, hi _ h4, hr _ h5, Dl.SatLe.trans h6 hs, h7⟩

theorem ThInv.assign {n : Net} {orig : Cnf} {fr : List Frame} (h : ThInv n orig fr) (s' : Sat)
    (hs : Dl.SatLe n.sat s') : ThInv { n with sat := s' } orig fr :=
  ThChain.update h (h.base.mono hs) hs (fun _ hB => hB) (LraSame.refl _) (fun _ hB => hB) (fun _ hB => hB)

theorem TModel.idl {n : Net} {α : Asg} (h : TModel n α) : ∃ σ, Dl.Agrees n.idl σ α :=
  let ⟨_, _, σz, _, _, _, m3, _⟩ := h; ⟨σz, m3⟩

theorem TModel.rdl {n : Net} {α : Asg} (h : TModel n α) : ∃ σ, DlR.AgreesR n.rdl σ α :=
  let ⟨_, _, _, σq, _, _, _, m4⟩ := h; ⟨σq, m4⟩

/-- the outcome `r` of one theory call on `n`: nothing is unassigned, the theory models are those of `n`, what was recorded or
    returned as a conflict is a theory lemma -/
structure ThCall (orig : Cnf) (fr : List Frame) (n : Net) (r : Option (List Lit) × Net) : Prop where
  inv : ThInv r.2 orig fr
  le : Dl.SatLe n.sat r.2.sat
  tm : ∀ α, TModel r.2 α ↔ TModel n α
  log : ∀ c ∈ r.2.sat.log, c ∈ n.sat.log ∨ TEntails r.2 orig c
  cnfl : ∀ cnfl, r.1 = some cnfl → TEntails r.2 orig cnfl ∧ ∀ l ∈ cnfl, r.2.sat.value l = some false

theorem ThCall.conflict {orig : Cnf} {fr : List Frame} {n : Net} (h : ThInv n orig fr) {cl : List Lit}
    (hf : ∀ l ∈ cl, n.sat.value l = some false) (hv : ∀ α, TModel n α → α.clause cl = true) :
    ThCall orig fr n (some cl, n) :=
  ⟨h, Dl.SatLe.refl _, fun _ => Iff.rfl, fun _ hc => Or.inl hc,
    fun _ hc => Option.some.inj hc ▸ ⟨fun α _ _ hm => hv α hm, hf⟩⟩

theorem ThCall.go {orig : Cnf} {fr : List Frame} {n n' : Net} (h' : ThInv n' orig fr) (hle : Dl.SatLe n.sat n'.sat)
    (htm : ∀ α, TModel n' α ↔ TModel n α) {new : List Clause} (hlog : n'.sat.log = n.sat.log ++ new)
    (hv : ∀ cl ∈ new, ∀ α, TModel n α → α.clause cl = true) : ThCall orig fr n (none, n') :=
  ⟨h', hle, htm, fun c hc => (List.mem_append.1 (hlog ▸ hc)).imp_right
    fun hc α _ _ hm => hv c hc α ((htm α).1 hm), nofun⟩

theorem theoryPropagate_call {n : Net} {orig : Cnf} {fr : List Frame} (h : ThInv n orig fr) (p : Lit)
    (hp : n.sat.value p = some true) : ThCall orig fr n (theoryPropagate n p) := by
  have hb := h.base
  unfold theoryPropagate
  split
  · exact .go h (Dl.SatLe.refl _) (fun _ => Iff.rfl) (List.append_nil _).symm nofun
  · obtain ⟨a1, a2, a3, a4, a5, a6⟩ := lra_propagate hb.lra p hp
    have hcongr : ∀ α, TModel { n with sat := (propagateLit n.sat n.lra p).sat, lra := (propagateLit n.sat n.lra p).th } α ↔
        TModel n α := fun α => TModel.congr (n := n) (n' := { n with sat := (propagateLit n.sat n.lra p).sat, lra := (propagateLit n.sat n.lra p).th }) a3 rfl rfl α
    refine ⟨ThChain.update h ⟨a1, hb.idl.mono a2, hb.rdl.mono a2⟩ a2 a4 a3 (fun _ hB => hB) (fun _ hB => hB), a2, hcongr,
      ?_, ?_⟩
    · intro c hc
      by_cases hcl : c ∈ n.sat.log
      · exact Or.inl hcl
      · right
        intro α h0 ho hm
        obtain ⟨σr, σi, _, _, m1, m2, _, _⟩ := (hcongr α).1 hm
        exact ((a6 α σr σi h0 ho m1 m2).2 c hc).resolve_left hcl
    · intro cnfl hc
      refine ⟨?_, a5 cnfl hc⟩
      intro α h0 ho hm
      obtain ⟨σr, σi, _, _, m1, m2, _, _⟩ := (hcongr α).1 hm
      exact (a6 α σr σi h0 ho m1 m2).1 cnfl hc
  · have hi := idl_propagate hb.idl p hp
    cases hres : Dl.propagateLit idlOps n.sat n.idl p with
    | inl cl =>
      rw [hres] at hi
      exact .conflict h hi.1 fun α hm => let ⟨σ, hσ⟩ := hm.idl; hi.2 σ α hσ
    | inr res =>
      obtain ⟨s', t'⟩ := res
      rw [hres] at hi
      obtain ⟨b1, b2, b3, b4, new, b5, b6⟩ := hi
      exact .go (n' := { n with sat := s', idl := t' })
        (ThChain.update h ⟨hb.lra.mono b2, b1, hb.rdl.mono b2⟩ b2 (fun _ hB => hB) (LraSame.refl _) b4 (fun _ hB => hB)) b2
        (TModel.congr (n := n) (n' := { n with sat := s', idl := t' }) (LraSame.refl _) b3 rfl) b5
        fun cl hcl α hm => let ⟨σ, hσ⟩ := hm.idl; b6 cl hcl σ α hσ
  · have hi := rdl_propagate hb.rdl p hp
    cases hres : Dl.propagateLit rdlOps n.sat n.rdl p with
    | inl cl =>
      rw [hres] at hi
      exact .conflict h hi.1 fun α hm => let ⟨σ, hσ⟩ := hm.rdl; hi.2 σ α hσ
    | inr res =>
      obtain ⟨s', t'⟩ := res
      rw [hres] at hi
      obtain ⟨b1, b2, b3, b4, new, b5, b6⟩ := hi
      exact .go (n' := { n with sat := s', rdl := t' })
        (ThChain.update h ⟨hb.lra.mono b2, hb.idl.mono b2, b1⟩ b2 (fun _ hB => hB) (LraSame.refl _) (fun _ hB => hB) b4) b2
        (TModel.congr (n := n) (n' := { n with sat := s', rdl := t' }) (LraSame.refl _) rfl b3) b5
        fun cl hcl α hm => let ⟨σ, hσ⟩ := hm.rdl; b6 cl hcl σ α hσ

theorem theoryPropagate_spec {n : Net} {orig : Cnf} {fr : List Frame} (h : ThInv n orig fr) (p : Lit)
    (hp : n.sat.value p = some true) :
    ThInv (theoryPropagate n p).2 orig fr ∧ Dl.SatLe n.sat (theoryPropagate n p).2.sat ∧
    (∀ α, TModel (theoryPropagate n p).2 α ↔ TModel n α) ∧
    (∀ c ∈ (theoryPropagate n p).2.sat.log, c ∈ n.sat.log ∨ TEntails (theoryPropagate n p).2 orig c) ∧
    (∀ cnfl, (theoryPropagate n p).1 = some cnfl →
      TEntails (theoryPropagate n p).2 orig cnfl ∧ ∀ l ∈ cnfl, (theoryPropagate n p).2.sat.value l = some false) :=
  let r := theoryPropagate_call h p hp
  ⟨r.inv, r.le, r.tm, r.log, r.cnfl⟩

theorem lraCheck_spec {n : Net} {orig : Cnf} {fr : List Frame} (h : ThInv n orig fr) {fuel : Nat}
    {c : Option (List Lit)} {t' : Lra} (hc : n.lra.check fuel = some (c, t')) :
    ThInv { n with lra := t' } orig fr ∧ (∀ α, TModel { n with lra := t' } α ↔ TModel n α) ∧
    ∀ cnfl, c = some cnfl → TEntails { n with lra := t' } orig cnfl ∧ ∀ l ∈ cnfl, n.sat.value l = some false := by
  have hb := h.base
  obtain ⟨a1, a2, a3, a4⟩ := lra_check hb.lra hc
  have hcongr : ∀ α, TModel { n with lra := t' } α ↔ TModel n α := fun α => TModel.congr (n := n) (n' := { n with lra := t' }) a2 rfl rfl α
  refine ⟨ThChain.update h ⟨a1, hb.idl, hb.rdl⟩ (Dl.SatLe.refl _) a3 a2 (fun _ hB => hB) (fun _ hB => hB), hcongr, ?_⟩
  intro cnfl hcn
  refine ⟨?_, (a4 cnfl hcn).1⟩
  intro α h0 ho hm
  obtain ⟨σr, σi, _, _, m1, m2, _, _⟩ := (hcongr α).1 hm
  exact (a4 cnfl hcn).2 α σr σi h0 ho m1 m2

theorem LraBase.push {orig : Cnf} {s : Sat} {t : Lra} (h : LraBase orig s t) : LraBase orig s t.push :=
  ⟨explInv_push h.inv, valsOK_push h.vals, h.key, h.vars, h.just, h.reasons⟩

theorem IdlBase.push {s : Sat} {t : Dl Int} (h : IdlBase s t) : IdlBase s t.push := by
  obtain ⟨K, E, hE, hok⟩ := h.exact
  exact ⟨⟨K, E, (hE.toM.congr_state (t2 := t.push) rfl rfl rfl).ofM, hok⟩, C10X_push_pathinv s t h.path, h.sorted⟩

theorem RdlBase.push {s : Sat} {t : Dl IR} (h : RdlBase s t) : RdlBase s t.push := by
  obtain ⟨E, hE⟩ := h.exact
  exact ⟨⟨E, Dl.ExactR.ofM (hE.toM.congr_state (t2 := t.push) rfl rfl rfl)⟩, h.ok, C10XR_push_pathinv s t h.path,
    h.sorted, h.eps, h.epsC⟩

theorem ThInv.push {n : Net} {orig : Cnf} {fr : List Frame} (h : ThInv n orig fr) (s' : Sat) (hs : Dl.SatLe n.sat s') :
    ThInv { n with sat := s', lra := n.lra.push, idl := n.idl.push, rdl := n.rdl.push } orig
      (⟨n.sat, n.lra, n.idl, n.rdl⟩ :: fr) := by
  have hb := h.base
  exact ⟨⟨hb.lra.push.mono hs, hb.idl.push.mono hs, hb.rdl.push.mono hs⟩, C09_popInv_push n.lra,
    LraSame.of_eq rfl rfl rfl, Undo.Lg_push idlOps n.idl hb.idl.sorted, Undo.Lg_push rdlOps n.rdl hb.rdl.sorted, hs, h⟩

theorem ThChain.pop {orig : Cnf} {s s' : Sat} {l : Lra} {i : Dl Int} {r : Dl IR} {f : Frame} {fr : List Frame}
    (h : ThChain orig s l i r (f :: fr)) (hs : Dl.SatLe f.sat s') : ThChain orig s' l.pop i.pop r.pop fr := by
  obtain ⟨hb, h2, h3, h4, h5, _, h7⟩ := h
  rw [Undo.pop_of_Lg idlOps h4, Undo.pop_of_Lg rdlOps h5]
  have hfb := h7.base
  obtain ⟨p1, p2, p3, p4, p5⟩ := pop_restores h2
  have hw := pop_writes l
  have q4 := hw.kept.vAsrts
  have hsame : LraSame f.lra l.pop := h3.trans (LraSame.of_eq hw.tableau q4 hw.kept.nvars)
  have hlb : LraBase orig s' l.pop := by
    refine ⟨p4 hfb.lra.inv.bok hb.lra.inv, p5 hb.lra.vals, ?_, ?_, ?_, p3 f.sat s' hfb.lra.reasons hs⟩
    · intro e he; rw [q4] at he; exact hb.lra.key e he
    · intro e he; rw [q4] at he; rw [hw.kept.nvars]; exact hb.lra.vars e he
    · exact hfb.lra.just.same hsame (fun α σr σi hj => p2 α σr σi hj)
  refine ThChain.update h7 ⟨hlb, hfb.idl.mono hs, hfb.rdl.mono hs⟩ hs ?_ hsame (fun _ hB => hB) (fun _ hB => hB)
  intro B hB
  exact popInv_congr p1 (C09_pop_of_inv _ _ h2).2 hB

theorem ThInv.pop {n : Net} {orig : Cnf} {f : Frame} {fr : List Frame} (h : ThInv n orig (f :: fr))
    (hs : Dl.SatLe f.sat n.sat.pop) : ThInv n.pop orig fr :=
  ThChain.pop h hs

/-- every frame's SAT state keeps its values when the SAT core pops back to the level it opened -/
def FramesLe : Sat → List Frame → Prop
  | _, [] => True
  | s, f :: fs => Dl.SatLe f.sat s.pop ∧ FramesLe s.pop fs

/-- `F`: any property of SAT core and frames that yields, at each `pop`, "the frame's SAT values are still there" and
    itself for the popped state.  `FramesLe` is one by definition, `WfS ∧ queue = [] ∧ FramesLv` by `FramesLv.pop`. -/
theorem ThInv.popToF {F : Sat → List Frame → Prop}
    (hF : ∀ s f fs, F s (f :: fs) → fs.length + 1 = s.decisionLevel → Dl.SatLe f.sat s.pop ∧ F s.pop fs)
    {n : Net} {orig : Cnf} {fr : List Frame} (h : ThInv n orig fr) (hf : F n.sat fr)
    (hl : fr.length = n.sat.decisionLevel) (lvl : Nat) :
    ∃ fr', ThInv (Net.popTo n lvl) orig fr' ∧ F (Net.popTo n lvl).sat fr' ∧ fr'.length = (Net.popTo n lvl).sat.decisionLevel := by
  refine popTo_go_induct (P := fun n => ∃ fr, ThInv n orig fr ∧ F n.sat fr ∧ fr.length = n.sat.decisionLevel) lvl
    ?_ _ n ⟨fr, h, hf, hl⟩
  rintro n hgt ⟨fr, h, hf, hl⟩
  cases fr with
  | nil => exact absurd (hl ▸ hgt) (Nat.not_lt_zero _)
  | cons f fs =>
    obtain ⟨p1, p2⟩ := hF n.sat f fs hf hl
    refine ⟨fs, h.pop p1, p2, ?_⟩
    show fs.length = n.sat.pop.decisionLevel
    rw [Sat.pop_decisionLevel, ← hl]; rfl

theorem ThInv.popTo {n : Net} {orig : Cnf} {fr : List Frame} (h : ThInv n orig fr) (hf : FramesLe n.sat fr)
    (hl : fr.length = n.sat.decisionLevel) (lvl : Nat) :
    ∃ fr', ThInv (Net.popTo n lvl) orig fr' ∧ FramesLe (Net.popTo n lvl).sat fr' ∧
      fr'.length = (Net.popTo n lvl).sat.decisionLevel :=
  h.popToF (F := FramesLe) (fun _ _ _ hf _ => hf) hf hl lvl

theorem dl_pop_varDists {α : Type} (t : Dl α) : t.pop.varDists = t.varDists := by
  unfold Dl.pop
  split
  · rfl
  · simp only
    rw [Undo.foldl_setP, Undo.foldl_setD]

theorem TModel.pop (n : Net) (α : Asg) : TModel n.pop α ↔ TModel n α := by
  have hw := pop_writes n.lra
  exact TModel.congr (n := n) (n' := n.pop) (LraSame.of_eq hw.tableau hw.kept.vAsrts hw.kept.nvars) (dl_pop_varDists _)
    (dl_pop_varDists _) α

theorem TModel.popTo (n : Net) (lvl : Nat) (α : Asg) : TModel (popTo n lvl) α ↔ TModel n α :=
  popTo_go_induct (P := fun n' => TModel n' α ↔ TModel n α) lvl (fun n' _ h => (TModel.pop n' α).trans h) _ n Iff.rfl

/-- the theories of the result are those of `popTo n bt`: `analyze` pops the trail, not the level marks -/
theorem learnFrom_out {n n' : Net} {cnfl : Clause} (hl : learnFrom n cnfl = some n') :
    ∃ noGood bt s3, n.sat.analyze cnfl = some (noGood, bt, s3) ∧ (s3.decisionLevel = n.sat.decisionLevel →
      n' = { popTo n bt with sat := (s3.popTo bt).record noGood } ∧ ∀ α, TModel n' α ↔ TModel n α) := by
  unfold learnFrom at hl
  split at hl
  · cases hl
  · rename_i noGood bt s3 han
    refine ⟨noGood, bt, s3, han, fun hdl => ?_⟩
    have heq : n' = { popTo n bt with sat := (s3.popTo bt).record noGood } := by
      rw [← Option.some.inj hl, popTo_eq, popTo_eq]
      show Net.mk _ (Nat.repeat Lra.pop (s3.decisionLevel - bt) n.lra) (Nat.repeat Dl.pop (s3.decisionLevel - bt) n.idl)
        (Nat.repeat Dl.pop (s3.decisionLevel - bt) n.rdl) n.bound = _
      rw [hdl]
    exact ⟨heq, fun α => heq ▸ (TModel.congr (n := popTo n bt) (LraSame.refl _) rfl rfl α).trans (TModel.popTo n bt α)⟩

/-- every frame's SAT values are current values, of a level below the frame's -/
def FramesLv : Sat → List Frame → Prop
  | _, [] => True
  | s, f :: fs =>
    (∀ v b, f.sat.vals.getD v none = some b → s.vals.getD v none = some b ∧ s.level.getD v 0 ≤ fs.length) ∧
    FramesLv s fs

theorem FramesLv.keep {s s' : Sat} (hk : AssignedKeep s s') : ∀ fr, FramesLv s fr → FramesLv s' fr
  | [], _ => trivial
  | f :: fs, h => ⟨fun v b hv => by
      obtain ⟨h1, h2⟩ := h.1 v b hv
      obtain ⟨k1, k2⟩ := hk v b h1
      exact ⟨k1, by rw [k2]; exact h2⟩, FramesLv.keep hk fs h.2⟩

theorem FramesLv.popAux {s : Sat} (hw : s.WfS) (hne : s.trailLim ≠ []) : ∀ fr, FramesLv s fr →
    fr.length < s.decisionLevel → FramesLv s.pop fr
  | [], _, _ => trivial
  | f :: fs, h, hl => by
    simp only [List.length_cons] at hl
    refine ⟨fun v b hv => ?_, FramesLv.popAux hw hne fs h.2 (by omega)⟩
    obtain ⟨h1, h2⟩ := h.1 v b hv
    obtain ⟨k1, k2⟩ := pop_keeps hw hne v b h1 (by omega)
    exact ⟨k1, by rw [k2]; exact h2⟩

theorem FramesLv.pop {s : Sat} (hw : s.WfS) {f : Frame} {fs : List Frame} (h : FramesLv s (f :: fs))
    (hl : fs.length + 1 = s.decisionLevel) : Dl.SatLe f.sat s.pop ∧ FramesLv s.pop fs := by
  have hne : s.trailLim ≠ [] := by intro e; simp [decisionLevel, e] at hl
  refine ⟨fun v b hv => ?_, FramesLv.popAux hw hne fs h.2 (by omega)⟩
  obtain ⟨h1, h2⟩ := h.1 v b hv
  exact (pop_keeps hw hne v b h1 (by omega)).1

theorem ThInv.popToLv {n : Net} {orig : Cnf} {fr : List Frame} (h : ThInv n orig fr) (hw : n.sat.WfS) (hq : n.sat.queue = [])
    (hf : FramesLv n.sat fr) (hl : fr.length = n.sat.decisionLevel) (lvl : Nat) :
    ∃ fr', ThInv (Net.popTo n lvl) orig fr' ∧ FramesLv (Net.popTo n lvl).sat fr' ∧
      fr'.length = (Net.popTo n lvl).sat.decisionLevel :=
  have ⟨fr', a, b, c⟩ := h.popToF (F := fun s fr => s.WfS ∧ s.queue = [] ∧ FramesLv s fr)
    (fun s _ _ hf hl => ⟨(hf.2.2.pop hf.1 hl).1, hf.1.pop hf.2.1, (pop_queue s).trans hf.2.1, (hf.2.2.pop hf.1 hl).2⟩)
    ⟨hw, hq, hf⟩ hl lvl
  ⟨fr', a, b.2.2, c⟩

/-- every assertion / distance constraint is controlled by an existing SAT variable (`N` = number of SAT
    variables), and the LRA theory satisfies the invariant `Lra.GoodState` of C09R (no zero
    coefficient in a row, ...) -/
structure ThReg (N : Nat) (l : Lra) (i : Dl Int) (r : Dl IR) : Prop where
  lra : ∀ e ∈ l.vAsrts, e.1 < N
  idl : ∀ c ∈ i.varDists, c.b < N
  rdl : ∀ c ∈ r.varDists, c.b < N
  good : Lra.GoodState l
  aw : ∀ x, ∀ b ∈ l.aWatches.getD x [], b < N
  sa : ∀ e ∈ l.sAsrts, e.2.var < N

def NetReg (n : Net) : Prop := ThReg n.sat.vals.length n.lra n.idl n.rdl

theorem ThReg.congr {N N' : Nat} {l l' : Lra} {i i' : Dl Int} {r r' : Dl IR} (h : ThReg N l i r) (hN : N' = N)
    (hl : l'.vAsrts = l.vAsrts) (hi : i'.varDists = i.varDists) (hr : r'.varDists = r.varDists)
    (hg : Lra.GoodState l') (ha : l'.aWatches = l.aWatches) (hs : l'.sAsrts = l.sAsrts) : ThReg N' l' i' r' :=
  ⟨by rw [hl, hN]; exact h.lra, by rw [hi, hN]; exact h.idl, by rw [hr, hN]; exact h.rdl, hg,
    by rw [ha, hN]; exact h.aw, by rw [hs, hN]; exact h.sa⟩

theorem ThReg.of_len {N N' : Nat} {l : Lra} {i : Dl Int} {r : Dl IR} (h : ThReg N l i r) (e : N' = N) : ThReg N' l i r :=
  e ▸ h

theorem ThReg.mono {N N' : Nat} {l : Lra} {i : Dl Int} {r : Dl IR} (h : ThReg N l i r) (hN : N ≤ N') : ThReg N' l i r :=
  ⟨fun e he => Nat.lt_of_lt_of_le (h.lra e he) hN, fun c hc => Nat.lt_of_lt_of_le (h.idl c hc) hN,
    fun c hc => Nat.lt_of_lt_of_le (h.rdl c hc) hN, h.good, fun x b hb => Nat.lt_of_lt_of_le (h.aw x b hb) hN,
    fun e he => Nat.lt_of_lt_of_le (h.sa e he) hN⟩

theorem ThReg.pop {N : Nat} {l : Lra} {i : Dl Int} {r : Dl IR} (h : ThReg N l i r) : ThReg N l.pop i.pop r.pop :=
  h.congr rfl (Lra.pop_writes l).kept.vAsrts (dl_pop_varDists _) (dl_pop_varDists _) (Lra.pop_good h.good)
    (Lra.pop_writes l).kept.aWatches (Lra.pop_writes l).kept.sAsrts

theorem ThReg.popTo {N : Nat} {n : Net} (h : ThReg N n.lra n.idl n.rdl) (lvl : Nat) :
    ThReg N (Net.popTo n lvl).lra (Net.popTo n lvl).idl (Net.popTo n lvl).rdl :=
  popTo_go_induct (P := fun n => ThReg N n.lra n.idl n.rdl) lvl (fun _ _ h => h.pop) _ n h

theorem theoryPropagate_recs {n : Net} {orig : Cnf} {fr : List Frame} (h : ThInv n orig fr) (hreg : NetReg n) (p : Lit)
    (hp : n.sat.value p = some true) :
    RecBy GoodRec n.sat (theoryPropagate n p).2.sat ∧ (∀ c, (theoryPropagate n p).1 = some c → p.neg ∈ c) ∧
    NetReg (theoryPropagate n p).2 := by
  have hb := h.base
  unfold theoryPropagate
  split
  · exact ⟨.refl _, (fun c hc => by cases hc), hreg⟩
  · obtain ⟨r1, r2⟩ := Lra.propagateLit_RC hb.lra.reasons ⟨hb.lra.inv.tab, hreg.good.nz⟩
      ⟨hreg.lra, hb.lra.key, hb.lra.inv.awatch, hreg.aw, hreg.sa⟩ hb.lra.inv.blen hb.lra.vars hp
    have hk := (Lra.propagateLit_writes n.sat n.lra p).kept
    exact ⟨r1, r2, hreg.congr r1.lenVals hk.vAsrts rfl rfl (Lra.step_good (n.sat, n.lra) (.propagateLit p) hreg.good trivial)
      hk.aWatches hk.sAsrts⟩
  · have r := idl_propagate_recs hb.idl hreg.idl p hp
    cases hres : Dl.propagateLit idlOps n.sat n.idl p with
    | inl cl => exact ⟨.refl _, fun _ hc => Option.some.inj hc ▸ (hres ▸ r :), hreg⟩
    | inr res =>
      rw [hres] at r
      exact ⟨r.1, nofun, hreg.congr r.1.lenVals rfl r.2 rfl hreg.good rfl rfl⟩
  · have r := rdl_propagate_recs hb.rdl hreg.rdl p hp
    cases hres : Dl.propagateLit rdlOps n.sat n.rdl p with
    | inl cl => exact ⟨.refl _, fun _ hc => Option.some.inj hc ▸ (hres ▸ r :), hreg⟩
    | inr res =>
      rw [hres] at r
      exact ⟨r.1, nofun, hreg.congr r.1.lenVals rfl rfl r.2 hreg.good rfl rfl⟩

theorem append_sub {α : Type} (A B C : List α) : ∀ d ∈ A ++ B, d ∈ A ++ (B ++ C) := fun d hd => by
  rw [← List.append_assoc]; exact List.mem_append_left _ hd

theorem append_swap {α : Type} (A B C : List α) : ∀ d ∈ A ++ B ++ C, d ∈ A ++ C ++ B := fun d hd => by
  simp only [List.mem_append] at hd ⊢
  exact hd.elim (fun h => h.elim (fun h => .inl (.inl h)) .inr) (fun h => .inl (.inr h))

theorem TEntails.mono_F {n : Net} {F G : Cnf} {c : Clause} (h : TEntails n F c) (hs : ∀ d ∈ F, d ∈ G) : TEntails n G c :=
  fun α h0 hG hm => h α h0 (Asg.cnf_of_sub hs hG) hm

theorem LraJ.mono {orig orig' : Cnf} {t : Lra} (h : LraJ orig t) (hs : ∀ d ∈ orig, d ∈ orig') : LraJ orig' t :=
  fun α σr σi h0 ho => h α σr σi h0 (Asg.cnf_of_sub hs ho)

theorem ThBase.mono_orig {orig orig' : Cnf} {s : Sat} {l : Lra} {i : Dl Int} {r : Dl IR} (h : ThBase orig s l i r)
    (hs : ∀ d ∈ orig, d ∈ orig') : ThBase orig' s l i r :=
  ⟨⟨h.lra.inv, h.lra.vals, h.lra.key, h.lra.vars, h.lra.just.mono hs, h.lra.reasons⟩, h.idl, h.rdl⟩

theorem ThChain.mono_orig {orig orig' : Cnf} (hs : ∀ d ∈ orig, d ∈ orig') :
    ∀ (fr : List Frame) (s : Sat) (l : Lra) (i : Dl Int) (r : Dl IR), ThChain orig s l i r fr → ThChain orig' s l i r fr
  | [], s, l, i, r, h => ThBase.mono_orig (orig := orig) h hs
  | f :: fs, s, l, i, r, h => by
    obtain ⟨h1, h2, h3, h4, h5, h6, h7⟩ := h
    exact ⟨h1.mono_orig hs, h2, h3, h4, h5, h6, ThChain.mono_orig hs fs _ _ _ _ h7⟩

theorem ThInv.mono_origN {n : Net} {B B' : Cnf} {fr : List Frame} (h : ThInv n B fr) (hs : ∀ d ∈ B, d ∈ B') :
    ThInv n B' fr := ThChain.mono_orig hs fr _ _ _ _ h

theorem TEntails.cut {n : Net} {orig L : Cnf} {c : Clause} (hl : ∀ d ∈ L, TEntails n orig d)
    (h : TEntails n (orig ++ L) c) : TEntails n orig c := by
  intro α h0 ho hm
  refine h α h0 ?_ hm
  rw [Asg.cnf_append, ho, Bool.true_and, Asg.cnf_iff]
  exact fun d hd => hl d hd α h0 ho hm

end Net
end Oratio
