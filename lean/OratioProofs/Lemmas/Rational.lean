/-
The model `R` of `smt::rational` (property C15): a canonical value denotes an extended rational (`toE`, ordered by `key`
in `ExtQ`), a finite one a rational (`toRat`); the comparisons and operators of the model are the exact ones, where
these are defined.
-/
import OratioModel
import Mathlib.Data.Int.GCD
import Mathlib.Data.Rat.Defs
import Mathlib.Algebra.Order.Field.Rat
import Mathlib.Algebra.Order.Field.Basic
import Mathlib.Tactic.Ring
import Mathlib.Tactic.Linarith
import Mathlib.Tactic.FieldSimp

namespace Oratio

abbrev ExtQ := WithBot (WithTop ℚ)

def ERat.toExtQ : ERat → ExtQ
  | .fin q => ((q : WithTop ℚ) : ExtQ)
  | .pinf => ((⊤ : WithTop ℚ) : ExtQ)
  | .ninf => ⊥

theorem ERat.toExtQ_injective : Function.Injective ERat.toExtQ := by
  intro x y h
  cases x <;> cases y <;> simp [ERat.toExtQ] at h <;> simp [h]

theorem ERat.le_iff (x y : ERat) : ERat.le x y = true ↔ x.toExtQ ≤ y.toExtQ := by
  cases x <;> cases y <;> simp [ERat.le, ERat.toExtQ]

namespace R

/-- canonical and finite -/
def FinWF (r : R) : Prop := r.WF ∧ r.den ≠ 0

instance (r : R) : Decidable (FinWF r) := by unfold FinWF; infer_instance

theorem finWF_zero : FinWF zero := ⟨by decide, by decide⟩
theorem toRat_zero : zero.toRat = 0 := by decide

theorem wf_inf {r : R} (h : r.WF) (hd : r.den = 0) : r = pinf ∨ r = ninf := by
  obtain ⟨n, d⟩ := r
  subst hd
  have h2 : n.natAbs = 1 := (Int.gcd_zero_right n).symm.trans h.2
  exact (Int.natAbs_eq_natAbs_iff.1 h2).imp (congrArg (R.mk · 0)) (congrArg (R.mk · 0))

theorem WF.num_ne_zero {a : R} (ha : a.WF) (hd : a.den = 0) : a.num ≠ 0 := by
  rcases wf_inf ha hd with rfl | rfl <;> decide

theorem wf_num_zero {r : R} (h : r.WF) (hn : r.num = 0) : r = zero := by
  obtain ⟨n, d⟩ := r
  subst hn
  have h2 : d.natAbs = 1 := (Int.gcd_zero_left d).symm.trans h.2
  have : d = 1 := (Int.natAbs_of_nonneg h.1).symm.trans (congrArg Nat.cast h2)
  rw [this]; rfl

theorem FinWF.den_pos {r : R} (h : FinWF r) : 0 < r.den :=
  lt_of_le_of_ne h.1.1 (Ne.symm h.2)

theorem FinWF.den_posQ {r : R} (h : FinWF r) : (0 : ℚ) < r.den := Int.cast_pos.2 h.den_pos

theorem toRat_eq {r : R} (h : 0 ≤ r.den) : r.toRat = (r.num : ℚ) / (r.den : ℚ) := by
  unfold toRat
  rw [Rat.mkRat_eq_div, ← Int.cast_natCast r.den.toNat, Int.toNat_of_nonneg h]

theorem FinWF.toE {r : R} (h : FinWF r) : r.toE = ERat.fin r.toRat := by
  unfold R.toE; rw [if_neg h.2]

theorem FinWF.toRat_num_den {r : R} (h : FinWF r) :
    r.toRat.num = r.num ∧ (r.toRat.den : Int) = r.den := by
  have e1 : ((r.den.toNat : Nat) : Int) = r.den := Int.toNat_of_nonneg h.1.1
  have nz : r.den.toNat ≠ 0 := fun h0 => h.2 (by rw [← e1, h0]; rfl)
  have c : r.num.natAbs.Coprime r.den.toNat := by
    rw [Int.natCast_inj.1 (e1.trans (Int.natAbs_of_nonneg h.1.1).symm)]; exact h.1.2
  rw [show r.toRat = ⟨r.num, r.den.toNat, nz, c⟩ from (Rat.mk_eq_mkRat _ _ nz c).symm]
  exact ⟨rfl, e1⟩

theorem FinWF.ext {a b : R} (ha : FinWF a) (hb : FinWF b) (h : a.toRat = b.toRat) : a = b := by
  obtain ⟨a1, a2⟩ := ha.toRat_num_den
  obtain ⟨b1, b2⟩ := hb.toRat_num_den
  rw [h] at a1 a2
  cases a; cases b
  exact congr (congrArg R.mk (a1.symm.trans b1)) (a2.symm.trans b2)

theorem toE_pinf : pinf.toE = ERat.pinf := by decide
theorem toE_ninf : ninf.toE = ERat.ninf := by decide

theorem pinf_wf : pinf.WF := by decide
theorem ninf_wf : ninf.WF := by decide

theorem WF.cases {a : R} (h : a.WF) : a = pinf ∨ a = ninf ∨ FinWF a := by
  by_cases hd : a.den = 0
  · exact (wf_inf h hd).imp_right Or.inl
  · exact Or.inr (Or.inr ⟨h, hd⟩)

theorem FinWF.ne_pinf {a : R} (ha : FinWF a) : a ≠ pinf := fun e => ha.2 (e ▸ rfl)
theorem FinWF.ne_ninf {a : R} (ha : FinWF a) : a ≠ ninf := fun e => ha.2 (e ▸ rfl)

theorem WF_unique {a b : R} (ha : a.WF) (hb : b.WF) (h : a.toE = b.toE) : a = b := by
  rcases ha.cases with rfl | rfl | ha <;> rcases hb.cases with rfl | rfl | hb <;>
    simp only [toE_pinf, toE_ninf, FinWF.toE, ha, hb, reduceCtorEq, ERat.fin.injEq] at h
  · rfl
  · rfl
  · exact FinWF.ext ha hb h

theorem normalize_spec (n d : Int) (h : ¬ (n = 0 ∧ d = 0)) :
    ∃ k : Int, k ≠ 0 ∧ (0 ≤ d → 0 < k) ∧ n = k * (normalize ⟨n, d⟩).num ∧
      d = k * (normalize ⟨n, d⟩).den ∧ (normalize ⟨n, d⟩).WF := by
  by_cases hd1 : d = 1
  · subst hd1
    exact ⟨1, Int.one_ne_zero, fun _ => Int.one_pos, (Int.one_mul n).symm, rfl, Int.one_nonneg,
      Int.gcd_one_right n⟩
  have hg : 0 < Int.gcd n d := Nat.pos_of_ne_zero fun h0 => h (Int.gcd_eq_zero_iff.mp h0)
  obtain ⟨n', d', hc, hn, hd⟩ := Int.exists_gcd_one hg
  have hg0 : (0 : Int) < gcdI n d := Int.natCast_pos.2 hg
  change n = n' * gcdI n d at hn
  change d = d' * gcdI n d at hd
  generalize hgg : gcdI n d = g0 at hn hd hg0
  -- the divisor is `s * g0`, where `s = ±1` is the sign of `d`
  obtain ⟨s, hs, hsa, hsd, hs1, hsg⟩ : ∃ s : Int, s * s = 1 ∧ s.natAbs = 1 ∧ 0 ≤ s * d ∧ (0 ≤ d → s = 1) ∧
      (if d < 0 then -g0 else g0) = s * g0 := by
    by_cases hneg : d < 0
    · exact ⟨-1, rfl, rfl, by rw [Int.neg_one_mul]; exact Int.neg_nonneg_of_nonpos hneg.le,
        fun h0 => absurd hneg (Int.not_lt.2 h0), by rw [if_pos hneg, Int.neg_one_mul]⟩
    · exact ⟨1, rfl, rfl, by rw [Int.one_mul]; exact Int.not_lt.1 hneg, fun _ => rfl,
        by rw [if_neg hneg, Int.one_mul]⟩
  have hgne : s * g0 ≠ 0 := Int.mul_ne_zero (fun h0 => by rw [h0] at hs; cases hs) hg0.ne'
  have hn' : n = s * n' * (s * g0) := by rw [mul_mul_mul_comm, hs, Int.one_mul]; exact hn
  have hd' : d = s * d' * (s * g0) := by rw [mul_mul_mul_comm, hs, Int.one_mul]; exact hd
  have hden : 0 ≤ s * d' := by
    rw [hd, ← Int.mul_assoc] at hsd
    exact (Int.mul_nonneg_iff_of_pos_right hg0).1 hsd
  have hnorm : normalize ⟨n, d⟩ = ⟨s * n', s * d'⟩ := by
    unfold normalize
    dsimp only
    rw [if_pos hd1, hgg, hsg, Int.tdiv_eq_of_eq_mul_left hgne hn',
      Int.tdiv_eq_of_eq_mul_left hgne hd', if_neg (Int.not_lt.2 hden)]
  rw [hnorm]
  refine ⟨s * g0, hgne, fun h0 => ?_, ?_, ?_, hden, ?_⟩
  · rw [hs1 h0, Int.one_mul]; exact hg0
  · rw [Int.mul_comm]; exact hn'
  · rw [Int.mul_comm]; exact hd'
  · show Int.gcd (s * n') (s * d') = 1
    rw [Int.gcd_mul_left, hc, hsa]

theorem mk2_fin (n d : Int) (hd : d ≠ 0) :
    FinWF (mk2 n d) ∧ (mk2 n d).toRat = (n : ℚ) / (d : ℚ) := by
  unfold mk2
  obtain ⟨k, hk, _, hn, hdd, hwf⟩ := normalize_spec n d (fun h => hd h.2)
  have hden : (normalize ⟨n, d⟩).den ≠ 0 := fun h0 => hd (by rw [hdd, h0, Int.mul_zero])
  refine ⟨⟨hwf, hden⟩, ?_⟩
  rw [toRat_eq hwf.1]
  generalize (normalize ⟨n, d⟩).num = n' at *
  generalize (normalize ⟨n, d⟩).den = d' at *
  rw [hn, hdd, Int.cast_mul, Int.cast_mul, mul_div_mul_left _ _ (Int.cast_ne_zero.2 hk)]

def cmpWith (p : Int → Int → Bool) (a b : R) : Bool :=
  if a.den == b.den then p a.num b.num else p (a.num * b.den) (a.den * b.num)

theorem cmpWith_swap {p q : Int → Int → Bool} (f : Bool → Bool) (h : ∀ x y, p x y = f (q y x))
    (a b : R) : cmpWith p a b = f (cmpWith q b a) := by
  unfold cmpWith
  by_cases hd : a.den = b.den
  · rw [if_pos (beq_iff_eq.2 hd), if_pos (beq_iff_eq.2 hd.symm), h]
  · rw [if_neg (mt beq_iff_eq.1 hd), if_neg (mt beq_iff_eq.1 (Ne.symm hd)), h,
      Int.mul_comm b.num, Int.mul_comm b.den]

theorem cmpWith_ofInt (p : Int → Int → Bool) (a : R) (i : Int) :
    cmpWith p a (ofInt i) = p a.num (a.den * i) := by
  unfold cmpWith ofInt
  by_cases h : a.den = 1 <;> simp [h]

theorem lt_eq_not_le (a b : R) : R.lt a b = !(R.le b a) :=
  cmpWith_swap (p := (· < ·)) (q := (· ≤ ·)) not
    (fun _ _ => by rw [← decide_not]; exact decide_eq_decide.2 Int.not_le.symm) a b

theorem ge_eq_le (a b : R) : R.ge a b = R.le b a :=
  cmpWith_swap (p := (· ≥ ·)) (q := (· ≤ ·)) id (fun _ _ => rfl) a b

theorem gt_eq_lt (a b : R) : R.gt a b = R.lt b a :=
  cmpWith_swap (p := (· > ·)) (q := (· < ·)) id (fun _ _ => rfl) a b

theorem ERat.le_pinf_fin (q : ℚ) : ERat.le .pinf (.fin q) = false := rfl
theorem ERat.le_ninf_fin (q : ℚ) : ERat.le .ninf (.fin q) = true := rfl
theorem ERat.le_fin_pinf (q : ℚ) : ERat.le (.fin q) .pinf = true := rfl
theorem ERat.le_fin_ninf (q : ℚ) : ERat.le (.fin q) .ninf = false := rfl
theorem ERat.le_fin_fin (p q : ℚ) : ERat.le (.fin p) (.fin q) = decide (p ≤ q) := rfl

theorem le_of_den_ne {a b : R} (h : a.den ≠ b.den) :
    R.le a b = decide (a.num * b.den ≤ a.den * b.num) := if_neg (mt beq_iff_eq.1 h)

theorem le_fin {a b : R} (ha : FinWF a) (hb : FinWF b) :
    R.le a b = decide (a.toRat ≤ b.toRat) := by
  rw [Bool.eq_iff_iff, decide_eq_true_iff, toRat_eq ha.1.1, toRat_eq hb.1.1,
    div_le_div_iff₀ ha.den_posQ hb.den_posQ, ← Int.cast_mul, ← Int.cast_mul, Int.cast_le]
  by_cases h : a.den = b.den
  · unfold R.le
    rw [if_pos (beq_iff_eq.2 h), h, decide_eq_true_iff]
    exact (Int.mul_le_mul_right hb.den_pos).symm
  · rw [le_of_den_ne h, decide_eq_true_iff, Int.mul_comm a.den]

theorem lt_fin {a b : R} (ha : FinWF a) (hb : FinWF b) :
    R.lt a b = decide (a.toRat < b.toRat) := by
  rw [lt_eq_not_le, le_fin hb ha, ← decide_not]; exact decide_eq_decide.2 not_le


theorem FinWF.pinf_le {a : R} (ha : FinWF a) : R.le pinf a = false := by
  rw [le_of_den_ne (Ne.symm ha.2)]
  show decide (1 * a.den ≤ 0 * a.num) = false
  rw [Int.one_mul, Int.zero_mul]; exact decide_eq_false (Int.not_le.2 ha.den_pos)

theorem FinWF.ninf_le {a : R} (ha : FinWF a) : R.le ninf a = true := by
  rw [le_of_den_ne (Ne.symm ha.2)]
  show decide (-1 * a.den ≤ 0 * a.num) = true
  rw [Int.neg_one_mul, Int.zero_mul]; exact decide_eq_true (Int.neg_nonpos_of_nonneg ha.den_pos.le)

theorem FinWF.le_pinf {a : R} (ha : FinWF a) : R.le a pinf = true := by
  rw [le_of_den_ne ha.2]
  show decide (a.num * 0 ≤ a.den * 1) = true
  rw [Int.mul_zero, Int.mul_one]; exact decide_eq_true ha.den_pos.le

theorem FinWF.le_ninf {a : R} (ha : FinWF a) : R.le a ninf = false := by
  rw [le_of_den_ne ha.2]
  show decide (a.num * 0 ≤ a.den * -1) = false
  rw [Int.mul_zero, Int.mul_neg_one]; exact decide_eq_false (Int.not_le.2 (Int.neg_neg_of_pos ha.den_pos))

theorem FinWF.lt_pinf {a : R} (ha : FinWF a) : R.lt a pinf = true := by
  rw [lt_eq_not_le, ha.pinf_le]; rfl

theorem FinWF.ninf_lt {a : R} (ha : FinWF a) : R.lt ninf a = true := by
  rw [lt_eq_not_le, ha.le_ninf]; rfl

theorem FinWF.pinf_lt {a : R} (ha : FinWF a) : R.lt pinf a = false := by
  rw [lt_eq_not_le, ha.le_pinf]; rfl

theorem FinWF.lt_ninf {a : R} (ha : FinWF a) : R.lt a ninf = false := by
  rw [lt_eq_not_le, ha.ninf_le]; rfl

theorem le_spec {a b : R} (ha : a.WF) (hb : b.WF) : R.le a b = ERat.le a.toE b.toE := by
  rcases ha.cases with rfl | rfl | ha <;> rcases hb.cases with rfl | rfl | hb
  · decide
  · decide
  · rw [hb.pinf_le, hb.toE]; rfl
  · decide
  · decide
  · rw [hb.ninf_le, hb.toE]; rfl
  · rw [ha.le_pinf, ha.toE]; rfl
  · rw [ha.le_ninf, ha.toE]; rfl
  · rw [ha.toE, hb.toE, le_fin ha hb]; rfl

theorem lt_spec {a b : R} (ha : a.WF) (hb : b.WF) : R.lt a b = ERat.lt a.toE b.toE := by
  rw [lt_eq_not_le, le_spec hb ha]; rfl


theorem WF.le_pinf {a : R} (ha : a.WF) : R.le a pinf = true := by
  rw [le_spec ha pinf_wf, toE_pinf]; cases a.toE <;> rfl

theorem WF.ninf_le {a : R} (ha : a.WF) : R.le ninf a = true := by
  rw [le_spec ninf_wf ha, toE_ninf]; rfl

theorem WF.pinf_lt {a : R} (ha : a.WF) : R.lt pinf a = false := by
  rw [lt_eq_not_le, ha.le_pinf]; rfl

theorem eq_eq_decide (a b : R) : R.eq a b = decide (a = b) := by
  obtain ⟨n, d⟩ := a; obtain ⟨n', d'⟩ := b
  rw [Bool.eq_iff_iff]; simp [R.eq]

theorem eq_iff {a b : R} : R.eq a b = true ↔ a = b := by
  rw [eq_eq_decide, decide_eq_true_iff]

theorem eq_false_of_ne {a b : R} (h : a ≠ b) : R.eq a b = false := by
  rw [eq_eq_decide, decide_eq_false h]

theorem eq_fin {a b : R} (ha : FinWF a) (hb : FinWF b) :
    R.eq a b = decide (a.toRat = b.toRat) := by
  rw [eq_eq_decide]; exact decide_eq_decide.2 ⟨congrArg _, FinWF.ext ha hb⟩

theorem ne_eq_not_eq (a b : R) : R.ne a b = !(R.eq a b) := by
  rw [Bool.eq_iff_iff]; simp [R.ne, R.eq]

theorem eq_spec {a b : R} (ha : a.WF) (hb : b.WF) : R.eq a b = decide (a.toE = b.toE) := by
  rw [eq_eq_decide]; exact decide_eq_decide.2 ⟨congrArg _, WF_unique ha hb⟩

def key (a : R) : ExtQ := a.toE.toExtQ

theorem le_iff_key {a b : R} (ha : a.WF) (hb : b.WF) : R.le a b = true ↔ a.key ≤ b.key := by
  rw [le_spec ha hb, Oratio.ERat.le_iff]; rfl

theorem lt_iff_key {a b : R} (ha : a.WF) (hb : b.WF) : R.lt a b = true ↔ a.key < b.key := by
  rw [lt_eq_not_le, Bool.not_eq_true', ← Bool.not_eq_true, le_iff_key hb ha, not_le]

theorem key_inj {a b : R} (ha : a.WF) (hb : b.WF) : a.key = b.key ↔ a = b :=
  ⟨fun h => WF_unique ha hb (ERat.toExtQ_injective h), fun h => h ▸ rfl⟩

theorem eq_iff_key {a b : R} (ha : a.WF) (hb : b.WF) : R.eq a b = true ↔ a.key = b.key := by
  rw [eq_iff, key_inj ha hb]

theorem wf_ofInt (i : Int) : (ofInt i).WF := by
  constructor
  · show (0 : Int) ≤ 1
    decide
  · show Int.gcd i 1 = 1
    simp

theorem finWF_ofInt (i : Int) : FinWF (ofInt i) := ⟨wf_ofInt i, by show (1 : Int) ≠ 0; decide⟩

theorem toRat_ofInt (i : Int) : (ofInt i).toRat = (i : ℚ) := by
  rw [toRat_eq (wf_ofInt i).1]; simp [ofInt]

theorem toRat_den_one {a : R} (h : a.den = 1) : a.toRat = a.num := by
  rw [toRat_eq (h ▸ Int.one_nonneg), h, Int.cast_one, div_one]

theorem leI_eq (a : R) (i : Int) : R.leI a i = R.le a (ofInt i) := (cmpWith_ofInt (· ≤ ·) a i).symm
theorem ltI_eq (a : R) (i : Int) : R.ltI a i = R.lt a (ofInt i) := (cmpWith_ofInt (· < ·) a i).symm
theorem geI_eq (a : R) (i : Int) : R.geI a i = R.ge a (ofInt i) := (cmpWith_ofInt (· ≥ ·) a i).symm
theorem gtI_eq (a : R) (i : Int) : R.gtI a i = R.gt a (ofInt i) := (cmpWith_ofInt (· > ·) a i).symm

theorem eqI_eq (a : R) (i : Int) : R.eqI a i = R.eq a (ofInt i) := rfl

theorem neI_eq (a : R) (i : Int) : R.neI a i = R.ne a (ofInt i) := rfl


theorem toRat_pos_iff {a : R} (ha : FinWF a) : 0 < a.toRat ↔ 0 < a.num := by
  rw [toRat_eq ha.1.1, div_pos_iff_of_pos_right ha.den_posQ]; exact Int.cast_pos

theorem toRat_neg_iff {a : R} (ha : FinWF a) : a.toRat < 0 ↔ a.num < 0 := by
  rw [toRat_eq ha.1.1, div_lt_iff₀ ha.den_posQ, zero_mul]; exact Int.cast_lt_zero

theorem toRat_eq_zero_iff {a : R} (ha : FinWF a) : a.toRat = 0 ↔ a.num = 0 := by
  rw [toRat_eq ha.1.1, div_eq_zero_iff, or_iff_left ha.den_posQ.ne']; exact Int.cast_eq_zero


theorem isPositive_iff (a : R) : a.isPositive = true ↔ 0 < a.num := decide_eq_true_iff
theorem isNegative_iff (a : R) : a.isNegative = true ↔ a.num < 0 := decide_eq_true_iff
theorem isZero_iff (a : R) : a.isZero = true ↔ a.num = 0 := beq_iff_eq

theorem FinWF.isPositive_iff {a : R} (ha : FinWF a) : a.isPositive = true ↔ 0 < a.toRat :=
  (R.isPositive_iff a).trans (toRat_pos_iff ha).symm

theorem FinWF.isNegative_iff {a : R} (ha : FinWF a) : a.isNegative = true ↔ a.toRat < 0 :=
  (R.isNegative_iff a).trans (toRat_neg_iff ha).symm

theorem wf_neg {a : R} (ha : a.WF) : (neg a).WF :=
  ⟨ha.1, by show Int.gcd (-a.num) a.den = 1; rw [Int.neg_gcd]; exact ha.2⟩

theorem finWF_neg {a : R} (ha : FinWF a) : FinWF (neg a) := ⟨wf_neg ha.1, ha.2⟩

theorem toRat_neg {a : R} (ha : FinWF a) : (neg a).toRat = - a.toRat := by
  rw [toRat_eq (finWF_neg ha).1.1, toRat_eq ha.1.1]
  show (((-a.num : Int)) : ℚ) / (a.den : ℚ) = _
  rw [Int.cast_neg, neg_div]

theorem neg_spec {a : R} (ha : a.WF) : (neg a).WF ∧ (neg a).toE = ERat.neg a.toE := by
  refine ⟨wf_neg ha, ?_⟩
  rcases ha.cases with rfl | rfl | ha
  · decide
  · decide
  · rw [ha.toE, (finWF_neg ha).toE, toRat_neg ha]; rfl

theorem addAssign_eq_add (a b : R) : addAssign a b = add a b := by
  unfold addAssign add
  refine ite_congr rfl (fun _ => rfl) fun _ => ite_congr rfl (fun _ => rfl) fun _ =>
    ite_congr rfl (fun h => ?_) fun _ => rfl
  rw [ofInt, beq_iff_eq.1 (Bool.and_eq_true_iff.1 h).1]

theorem subAssign_eq_sub (a b : R) : subAssign a b = sub a b := addAssign_eq_add a (neg b)

def addCore (a b : R) : R :=
  let f := gcdI a.num b.num
  let g := gcdI a.den b.den
  let res := mk2 (a.num.tdiv f * b.den.tdiv g + b.num.tdiv f * a.den.tdiv g) (lcmI a.den b.den)
  ⟨res.num * f, res.den⟩

theorem gcdI_mul_lcmI {x y : Int} (hx : 0 < x) (hy : 0 < y) : gcdI x y * lcmI x y = x * y := by
  unfold gcdI lcmI
  rw [← Int.natCast_mul, Int.gcd_mul_lcm, Int.natCast_mul, Int.natAbs_of_nonneg hx.le,
    Int.natAbs_of_nonneg hy.le]

theorem add_scaled_val {an bn ad bd f g : ℚ} (hg : g ≠ 0) (had : ad ≠ 0) (hbd : bd ≠ 0) :
    (an * bd + bn * ad) / (ad * g * bd) * f = an * f / (ad * g) + bn * f / (bd * g) := by
  rw [div_add_div _ _ (mul_ne_zero had hg) (mul_ne_zero hbd hg), div_mul_eq_mul_div,
    div_eq_div_iff (mul_ne_zero (mul_ne_zero had hg) hbd)
      (mul_ne_zero (mul_ne_zero had hg) (mul_ne_zero hbd hg))]
  ring

theorem add_scaled {a b : R} {an bn ad bd f g L : Int} (ha : FinWF a) (hb : FinWF b)
    (h1 : an * f = a.num) (h2 : bn * f = b.num) (h3 : ad * g = a.den) (h4 : bd * g = b.den)
    (hgl : g * L = a.den * b.den) (hc : Nat.Coprime f.natAbs L.natAbs) :
    FinWF ⟨(mk2 (an * bd + bn * ad) L).num * f, (mk2 (an * bd + bn * ad) L).den⟩ ∧
    (⟨(mk2 (an * bd + bn * ad) L).num * f, (mk2 (an * bd + bn * ad) L).den⟩ : R).toRat =
      a.toRat + b.toRat := by
  obtain ⟨hg, hL⟩ := Int.mul_ne_zero_iff.1 (hgl ▸ Int.mul_ne_zero ha.2 hb.2)
  have had := (Int.mul_ne_zero_iff.1 (h3 ▸ ha.2)).1
  have hbd := (Int.mul_ne_zero_iff.1 (h4 ▸ hb.2)).1
  have hLe : L = ad * g * bd := Int.eq_of_mul_eq_mul_left hg (by
    rw [hgl, ← h3, ← h4]; ring)
  obtain ⟨k, -, -, -, hdd, -⟩ := normalize_spec (an * bd + bn * ad) L (fun h => hL h.2)
  change L = k * (mk2 (an * bd + bn * ad) L).den at hdd
  obtain ⟨hres, hval⟩ := mk2_fin (an * bd + bn * ad) L hL
  generalize mk2 (an * bd + bn * ad) L = res at hres hval hdd ⊢
  have hw : FinWF ⟨res.num * f, res.den⟩ := by
    refine ⟨⟨hres.1.1, ?_⟩, hres.2⟩
    show Nat.gcd (res.num * f).natAbs res.den.natAbs = 1
    rw [Int.natAbs_mul]
    exact Nat.Coprime.mul_left hres.1.2
      (hc.coprime_dvd_right (Int.natAbs_dvd_natAbs.2 ⟨k, by rw [hdd, Int.mul_comm]⟩))
  refine ⟨hw, ?_⟩
  rw [toRat_eq hw.1.1, toRat_eq ha.1.1, toRat_eq hb.1.1]
  rw [toRat_eq hres.1.1] at hval
  show ((res.num * f : Int) : ℚ) / (res.den : ℚ) = _
  rw [Int.cast_mul, mul_div_right_comm, hval, ← h1, ← h2, ← h3, ← h4, hLe]
  simp only [Int.cast_mul, Int.cast_add]
  exact add_scaled_val (Int.cast_ne_zero.2 hg) (Int.cast_ne_zero.2 had) (Int.cast_ne_zero.2 hbd)

theorem add_general {a b : R} (ha : FinWF a) (hb : FinWF b) :
    FinWF (addCore a b) ∧ (addCore a b).toRat = a.toRat + b.toRat := by
  have c1 : Nat.Coprime (Int.gcd a.num b.num) a.den.natAbs :=
    Nat.Coprime.coprime_dvd_left (Nat.gcd_dvd_left _ _) ha.1.2
  have c2 : Nat.Coprime (Int.gcd a.num b.num) b.den.natAbs :=
    Nat.Coprime.coprime_dvd_left (Nat.gcd_dvd_right _ _) hb.1.2
  exact add_scaled ha hb (Int.tdiv_mul_cancel (Int.gcd_dvd_left _ _))
    (Int.tdiv_mul_cancel (Int.gcd_dvd_right _ _)) (Int.tdiv_mul_cancel (Int.gcd_dvd_left _ _))
    (Int.tdiv_mul_cancel (Int.gcd_dvd_right _ _)) (gcdI_mul_lcmI ha.den_pos hb.den_pos)
    (by
      show Nat.Coprime (Int.natAbs (Int.gcd a.num b.num : Nat)) (Int.natAbs (Int.lcm a.den b.den : Nat))
      rw [Int.natAbs_natCast, Int.natAbs_natCast]
      exact Nat.Coprime.coprime_dvd_right (Nat.lcm_dvd_mul _ _) (c1.mul_right c2))

theorem FinWF.not_inf {a : R} (ha : FinWF a) : a.isInfinite = false := by
  unfold isInfinite; simp [ha.2]

theorem add_fin {a b : R} (ha : FinWF a) (hb : FinWF b) :
    FinWF (add a b) ∧ (add a b).toRat = a.toRat + b.toRat := by
  unfold add
  rw [hb.not_inf, ha.not_inf, Bool.or_false, Bool.or_false]
  by_cases h1 : (a.num == 0) = true
  · rw [if_pos h1, wf_num_zero ha.1 (beq_iff_eq.1 h1), toRat_zero, zero_add]; exact ⟨hb, rfl⟩
  by_cases h2 : (b.num == 0) = true
  · rw [if_neg h1, if_pos h2, wf_num_zero hb.1 (beq_iff_eq.1 h2), toRat_zero, add_zero]; exact ⟨ha, rfl⟩
  by_cases h3 : (a.den == 1 && b.den == 1) = true
  · rw [if_neg h1, if_neg h2, if_pos h3, toRat_ofInt, Int.cast_add]
    rw [Bool.and_eq_true, beq_iff_eq, beq_iff_eq] at h3
    rw [toRat_den_one h3.1, toRat_den_one h3.2]
    exact ⟨finWF_ofInt _, rfl⟩
  · rw [if_neg h1, if_neg h2, if_neg h3]; exact add_general ha hb

theorem ERat.add_fin_fin (p q : ℚ) : ERat.add (.fin p) (.fin q) = some (.fin (p + q)) := rfl


theorem add_infinite_right {a b : R} (hb : b.den = 0) : add a b = b := by
  unfold add; rw [if_pos]; simp [isInfinite, hb]

theorem add_infinite_left {a b : R} (ha : a.WF) (hda : a.den = 0) (hb : b.den ≠ 0) :
    add a b = a := by
  unfold add; simp [isInfinite, hda, hb, ha.num_ne_zero hda]

theorem addAssign_infinite_right {a b : R} (hb : b.den = 0) : addAssign a b = b :=
  (addAssign_eq_add a b).trans (add_infinite_right hb)

theorem addAssign_infinite_left {a b : R} (ha : a.WF) (hda : a.den = 0) (hb : b.den ≠ 0) :
    addAssign a b = a :=
  (addAssign_eq_add a b).trans (add_infinite_left ha hda hb)

theorem add_spec {a b : R} (ha : a.WF) (hb : b.WF) (hd : addDefined a b) :
    (add a b).WF ∧ ERat.add a.toE b.toE = some (add a b).toE := by
  rcases ha.cases with rfl | rfl | ha <;> rcases hb.cases with rfl | rfl | hb
  · decide
  · exact absurd ⟨rfl, rfl, by decide⟩ hd
  · rw [add_infinite_left pinf_wf rfl hb.2, hb.toE]; exact ⟨pinf_wf, rfl⟩
  · exact absurd ⟨rfl, rfl, by decide⟩ hd
  · decide
  · rw [add_infinite_left ninf_wf rfl hb.2, hb.toE]; exact ⟨ninf_wf, rfl⟩
  · rw [add_infinite_right rfl, ha.toE]; exact ⟨pinf_wf, rfl⟩
  · rw [add_infinite_right rfl, ha.toE]; exact ⟨ninf_wf, rfl⟩
  · obtain ⟨h1, h2⟩ := add_fin ha hb
    exact ⟨h1.1, by rw [ha.toE, hb.toE, h1.toE, h2]; rfl⟩

theorem finWF_addAssign {a b : R} (ha : FinWF a) (hb : FinWF b) : FinWF (addAssign a b) :=
  addAssign_eq_add a b ▸ (add_fin ha hb).1

theorem toRat_addAssign {a b : R} (ha : FinWF a) (hb : FinWF b) :
    (addAssign a b).toRat = a.toRat + b.toRat :=
  addAssign_eq_add a b ▸ (add_fin ha hb).2

theorem finWF_subAssign {a b : R} (ha : FinWF a) (hb : FinWF b) : FinWF (subAssign a b) :=
  finWF_addAssign ha (finWF_neg hb)

theorem toRat_subAssign {a b : R} (ha : FinWF a) (hb : FinWF b) :
    (subAssign a b).toRat = a.toRat - b.toRat := by
  show (addAssign a (neg b)).toRat = _
  rw [toRat_addAssign ha (finWF_neg hb), toRat_neg hb]; ring

theorem infSign_cases (x y : Int) : infSign x y = 1 ∨ infSign x y = -1 := by
  unfold infSign; split
  · left; rfl
  · right; rfl

theorem mulAssign_eq_mul (a b : R) : mulAssign a b = mul a b := by
  unfold mulAssign mul
  refine ite_congr rfl (fun _ => rfl) fun _ => ite_congr rfl (fun _ => rfl) fun _ =>
    ite_congr rfl (fun h3 => ?_) fun _ => ite_congr rfl (fun _ => ?_) fun _ => rfl
  · rw [ofInt, (beq_iff_eq.1 (Bool.and_eq_true_iff.1 h3).1)]
  · rcases infSign_cases a.num b.num with h | h <;> rw [h] <;> rfl

theorem toRat_one : one.toRat = 1 := by decide

def mulCore (a b : R) : R :=
  let c := mk2 a.num b.den
  let d := mk2 b.num a.den
  mk2 (c.num * d.num) (c.den * d.den)

theorem mulCore_fin {a b : R} (ha : FinWF a) (hb : FinWF b) :
    FinWF (mulCore a b) ∧ (mulCore a b).toRat = a.toRat * b.toRat := by
  obtain ⟨hc, hcv⟩ := mk2_fin a.num b.den hb.2
  obtain ⟨hd, hdv⟩ := mk2_fin b.num a.den ha.2
  obtain ⟨hr, hrv⟩ := mk2_fin ((mk2 a.num b.den).num * (mk2 b.num a.den).num) _
    (Int.mul_ne_zero hc.2 hd.2)
  refine ⟨hr, ?_⟩
  rw [toRat_eq hc.1.1] at hcv
  rw [toRat_eq hd.1.1] at hdv
  show (mk2 _ _).toRat = _
  rw [hrv, toRat_eq ha.1.1, toRat_eq hb.1.1, Int.cast_mul, Int.cast_mul, mul_div_mul_comm, hcv, hdv,
    div_mul_div_comm, div_mul_div_comm, mul_comm (b.den : ℚ)]

theorem mul_fin {a b : R} (ha : FinWF a) (hb : FinWF b) :
    FinWF (mul a b) ∧ (mul a b).toRat = a.toRat * b.toRat := by
  unfold mul
  by_cases h1 : R.eq b one = true
  · rw [if_pos h1, eq_iff.1 h1, toRat_one, mul_one]; exact ⟨ha, rfl⟩
  by_cases h2 : R.eq a one = true
  · rw [if_neg h1, if_pos h2, eq_iff.1 h2, toRat_one, one_mul]; exact ⟨hb, rfl⟩
  by_cases h3 : (a.den == 1 && b.den == 1) = true
  · rw [if_neg h1, if_neg h2, if_pos h3, toRat_ofInt, Int.cast_mul]
    rw [Bool.and_eq_true, beq_iff_eq, beq_iff_eq] at h3
    rw [toRat_den_one h3.1, toRat_den_one h3.2]
    exact ⟨finWF_ofInt _, rfl⟩
  · rw [if_neg h1, if_neg h2, if_neg h3, hb.not_inf, ha.not_inf, if_neg (by decide)]
    exact mulCore_fin ha hb

theorem infSign_comm (x y : Int) : infSign x y = infSign y x := by
  simp only [infSign, Bool.and_comm]

theorem infSign_eq_sign {x y : Int} (hx : x ≠ 0) (hy : y ≠ 0) : infSign x y = x.sign * y.sign := by
  have hc : ((x ≥ 0 && y ≥ 0) || (x ≤ 0 && y ≤ 0)) = true ↔ 0 ≤ x * y := by
    simp only [Bool.or_eq_true, Bool.and_eq_true, decide_eq_true_iff, ge_iff_le]
    exact mul_nonneg_iff.symm
  unfold infSign
  rw [← Int.sign_mul]
  rcases Int.lt_or_gt_of_ne (Int.mul_ne_zero hx hy) with h | h
  · rw [if_neg (mt hc.1 (Int.not_le.2 h)), Int.sign_eq_neg_one_of_neg h]
  · rw [if_pos (hc.2 h.le), Int.sign_eq_one_of_pos h]

theorem mul_inf {a b : R} (ha : a.WF) (hb : b.WF) (h : a.den = 0 ∨ b.den = 0) :
    mul a b = if infSign a.num b.num = 1 then pinf else ninf := by
  by_cases hb1 : b = one
  · subst hb1
    have hda : a.den = 0 := by rcases h with h | h; exact h; exact absurd h (by decide)
    rcases wf_inf ha hda with rfl | rfl <;> decide
  by_cases ha1 : a = one
  · subst ha1
    have hdb : b.den = 0 := by rcases h with h | h; exact absurd h (by decide); exact h
    rcases wf_inf hb hdb with rfl | rfl <;> decide
  unfold mul
  rw [if_neg (fun h => hb1 (eq_iff.1 h)), if_neg (fun h => ha1 (eq_iff.1 h)),
    if_neg (by simp only [Bool.and_eq_true, beq_iff_eq]; omega),
    if_pos (by simp only [isInfinite, Bool.or_eq_true, beq_iff_eq]; exact h)]

theorem mul_inf_comm {a b : R} (ha : a.WF) (hb : b.WF) (h : a.den = 0 ∨ b.den = 0) :
    mul a b = mul b a := by
  rw [mul_inf ha hb h, mul_inf hb ha h.symm, infSign_comm]


theorem mul_inf_pos {a c : R} (ha : a.WF) (hd : a.den = 0) (hc : c.WF) (hp : 0 < c.num) :
    mul a c = a := by
  rw [mul_inf ha hc (Or.inl hd), infSign_eq_sign (ha.num_ne_zero hd) hp.ne',
    Int.sign_eq_one_of_pos hp, Int.mul_one]
  rcases wf_inf ha hd with rfl | rfl <;> rfl

theorem mul_inf_neg {a c : R} (ha : a.WF) (hd : a.den = 0) (hc : c.WF) (hn : c.num < 0) :
    mul a c = neg a := by
  rw [mul_inf ha hc (Or.inl hd), infSign_eq_sign (ha.num_ne_zero hd) hn.ne,
    Int.sign_eq_neg_one_of_neg hn]
  rcases wf_inf ha hd with rfl | rfl <;> rfl

theorem ERat.mul_of_inf (x y : ERat) (h : ¬ ((∃ p, x = .fin p) ∧ (∃ q, y = .fin q))) :
    ERat.mul x y = if ERat.sgn x * ERat.sgn y = 0 then none
      else if ERat.sgn x * ERat.sgn y > 0 then some .pinf else some .ninf := by
  cases x <;> cases y <;> first | rfl | (exfalso; exact h ⟨⟨_, rfl⟩, ⟨_, rfl⟩⟩)

theorem toE_ne_fin {a : R} (hd : a.den = 0) (q : ℚ) : a.toE ≠ .fin q := by
  unfold toE; rw [if_pos hd]; split <;> exact ERat.noConfusion

theorem sgn_toE {a : R} (ha : a.WF) : ERat.sgn a.toE = a.num.sign := by
  rcases ha.cases with rfl | rfl | haf
  · decide
  · decide
  · rw [haf.toE]
    show (if a.toRat > 0 then 1 else if a.toRat < 0 then -1 else 0) = _
    simp only [gt_iff_lt, toRat_pos_iff haf, toRat_neg_iff haf]
    rcases Int.lt_trichotomy a.num 0 with h | h | h
    · rw [if_neg (Int.lt_asymm h), if_pos h, Int.sign_eq_neg_one_of_neg h]
    · rw [h]; rfl
    · rw [if_pos h, Int.sign_eq_one_of_pos h]

theorem mul_spec {a b : R} (ha : a.WF) (hb : b.WF) (hd : mulDefined a b) :
    (mul a b).WF ∧ ERat.mul a.toE b.toE = some (mul a b).toE := by
  by_cases hinf : a.den = 0 ∨ b.den = 0
  · have hna : a.num ≠ 0 := fun h0 => hinf.elim (ha.num_ne_zero · h0) (fun h => hd.1 ⟨h0, h⟩)
    have hnb : b.num ≠ 0 := fun h0 => hinf.elim (fun h => hd.2 ⟨h, h0⟩) (hb.num_ne_zero · h0)
    have hnf : ¬ ((∃ p, a.toE = .fin p) ∧ (∃ q, b.toE = .fin q)) := fun ⟨⟨p, hp⟩, ⟨q, hq⟩⟩ =>
      hinf.elim (toE_ne_fin · p hp) (toE_ne_fin · q hq)
    -- both sides are determined by the product of the two signs, which is `±1`
    rw [mul_inf ha hb hinf, ERat.mul_of_inf _ _ hnf, sgn_toE ha, sgn_toE hb,
      ← infSign_eq_sign hna hnb]
    rcases infSign_cases a.num b.num with h | h <;> rw [h] <;> decide
  · have haf : FinWF a := ⟨ha, fun h => hinf (Or.inl h)⟩
    have hbf : FinWF b := ⟨hb, fun h => hinf (Or.inr h)⟩
    obtain ⟨h1, h2⟩ := mul_fin haf hbf
    exact ⟨h1.1, by rw [haf.toE, hbf.toE, h1.toE, h2]; rfl⟩

theorem recip_fin {b : R} (hb : FinWF b) (nz : b.num ≠ 0) :
    FinWF (recip b) ∧ (recip b).toRat = b.toRat⁻¹ := by
  unfold recip
  by_cases hpos : b.num ≥ 0
  · have hw : FinWF (⟨b.den, b.num⟩ : R) :=
      ⟨⟨hpos, (Int.gcd_comm _ _).trans hb.1.2⟩, nz⟩
    rw [if_pos hpos]
    exact ⟨hw, by rw [toRat_eq hw.1.1, toRat_eq hb.1.1, inv_div]⟩
  · have hw : FinWF (⟨-b.den, -b.num⟩ : R) :=
      ⟨⟨Int.neg_nonneg_of_nonpos (Int.not_le.1 hpos).le,
        (Int.neg_gcd.trans (Int.gcd_neg.trans (Int.gcd_comm _ _))).trans hb.1.2⟩, Int.neg_ne_zero.2 nz⟩
    rw [if_neg hpos]
    refine ⟨hw, ?_⟩
    rw [toRat_eq hw.1.1, toRat_eq hb.1.1, inv_div]
    show ((-b.den : Int) : ℚ) / ((-b.num : Int) : ℚ) = _
    rw [Int.cast_neg, Int.cast_neg, neg_div_neg_eq]

theorem recip_spec {b : R} (hb : b.WF) : (recip b).WF ∧ (recip b).toE = ERat.inv b.toE := by
  rcases hb.cases with rfl | rfl | hbf
  · decide
  · decide
  by_cases hn : b.num = 0
  · rw [wf_num_zero hb hn]; decide
  · obtain ⟨h1, h2⟩ := recip_fin hbf hn
    refine ⟨h1.1, ?_⟩
    rw [h1.toE, hbf.toE, h2]
    exact (if_neg (mt (toRat_eq_zero_iff hbf).1 hn)).symm

theorem div_fin {a b : R} (ha : FinWF a) (hb : FinWF b) (nz : b.num ≠ 0) :
    FinWF (div a b) ∧ (div a b).toRat = a.toRat / b.toRat := by
  obtain ⟨h1, h2⟩ := recip_fin hb nz
  obtain ⟨h3, h4⟩ := mul_fin ha h1
  exact ⟨h3, by unfold div; rw [h4, h2, div_eq_mul_inv]⟩

theorem divAssign_eq_div (a b : R) : divAssign a b = div a b := mulAssign_eq_mul a (recip b)

theorem finWF_mulAssign {a b : R} (ha : FinWF a) (hb : FinWF b) : FinWF (mulAssign a b) :=
  mulAssign_eq_mul a b ▸ (mul_fin ha hb).1

theorem toRat_mulAssign {a b : R} (ha : FinWF a) (hb : FinWF b) :
    (mulAssign a b).toRat = a.toRat * b.toRat :=
  mulAssign_eq_mul a b ▸ (mul_fin ha hb).2

theorem finWF_divAssign {a b : R} (ha : FinWF a) (hb : FinWF b) (nz : b.num ≠ 0) :
    FinWF (divAssign a b) :=
  divAssign_eq_div a b ▸ (div_fin ha hb nz).1

theorem toRat_divAssign {a b : R} (ha : FinWF a) (hb : FinWF b) (nz : b.num ≠ 0) :
    (divAssign a b).toRat = a.toRat / b.toRat :=
  divAssign_eq_div a b ▸ (div_fin ha hb nz).2

theorem addI_eq_add {a : R} (ha : a.WF) (i : Int) : addI a i = add a (ofInt i) := by
  unfold addI add
  refine ite_congr (congrArg (· = true) (Bool.or_false _).symm) (fun _ => rfl) fun _ =>
    ite_congr rfl (fun _ => rfl) fun h1 =>
    ite_congr (congrArg (· = true) (Bool.and_true _).symm) (fun _ => rfl) fun _ => ?_
  have hd : a.den ≠ 0 := fun h0 => h1 (by rw [isInfinite, h0]; exact Bool.or_true _)
  have hw : FinWF (⟨a.num + i * a.den, a.den⟩ : R) :=
    ⟨⟨ha.1, by show Int.gcd (a.num + i * a.den) a.den = 1; rw [Int.gcd_add_mul_right_left]; exact ha.2⟩, hd⟩
  obtain ⟨h3, h4⟩ := add_general ⟨ha, hd⟩ (finWF_ofInt i)
  apply FinWF.ext hw h3
  have : (a.den : ℚ) ≠ 0 := Int.cast_ne_zero.2 hd
  rw [h4, toRat_ofInt, toRat_eq hw.1.1, toRat_eq ha.1]
  show ((a.num + i * a.den : Int) : ℚ) / a.den = _
  rw [Int.cast_add, Int.cast_mul, add_div, mul_div_cancel_right₀ _ this]

theorem addAssignI_eq_addI {a : R} (ha : a.WF) (i : Int) : addAssignI a i = addI a i := by
  unfold addAssignI addI
  refine ite_congr rfl (fun h => ?_) fun _ => ite_congr rfl (fun _ => rfl) fun _ =>
    ite_congr rfl (fun h => ?_) fun _ => rfl
  · rw [wf_num_zero ha (beq_iff_eq.1 h)]; rfl
  · rw [beq_iff_eq.1 h]; rfl

theorem mulI_eq_mul {a : R} (ha : a.WF) (i : Int) : mulI a i = mul a (ofInt i) := by
  unfold mulI mul
  refine ite_congr (congrArg (· = true) (Bool.and_true (i == 1)).symm) (fun _ => rfl) fun _ =>
    ite_congr rfl (fun _ => rfl) fun _ =>
    ite_congr (congrArg (· = true) (Bool.and_true _).symm) (fun _ => rfl) fun _ =>
    ite_congr (congrArg (· = true) (Bool.or_false _).symm) (fun _ => rfl) fun h3 => ?_
  have hd : a.den ≠ 0 := fun h0 => h3 (by rw [isInfinite, h0]; rfl)
  obtain ⟨h4, h5⟩ := mulCore_fin ⟨ha, hd⟩ (finWF_ofInt i)
  obtain ⟨h6, h7⟩ := mk2_fin (a.num * i) a.den hd
  apply FinWF.ext h6 h4
  rw [h5, h7, toRat_ofInt, toRat_eq ha.1, Int.cast_mul, mul_div_right_comm]

theorem mulAssignI_eq_mulI (a : R) (i : Int) : mulAssignI a i = mulI a i := by
  unfold mulAssignI mulI
  refine ite_congr rfl (fun _ => rfl) fun _ => ite_congr rfl (fun h => ?_) fun _ => ?_
  · rw [eq_iff.1 h]; rfl
  by_cases h2 : a.den = 1
  · rw [if_pos (beq_iff_eq.2 h2), if_neg (by rw [isInfinite, h2]; decide), if_neg (not_not.2 h2), ofInt, h2]
  · rw [if_neg (mt beq_iff_eq.1 h2), if_pos h2]
    refine ite_congr rfl (fun h3 => ?_) fun _ => rfl
    rw [isInfinite, beq_iff_eq] at h3
    rw [h3]
    rcases infSign_cases a.num i with h | h <;> rw [h] <;> rfl

theorem finWF_one : FinWF one := ⟨by decide, by decide⟩

theorem toRat_ne_zero {c : R} (hc : FinWF c) (hn : c.num ≠ 0) : c.toRat ≠ 0 :=
  mt (toRat_eq_zero_iff hc).1 hn

theorem num_ne_zero_of_toRat {c : R} (h : c.toRat ≠ 0) : c.num ≠ 0 := fun h0 =>
  h (by rw [toRat, h0, Rat.zero_mkRat])

theorem mul_num_ne_zero {a b : R} (ha : FinWF a) (hb : FinWF b) (hna : a.num ≠ 0) (hnb : b.num ≠ 0) :
    (mul a b).num ≠ 0 :=
  num_ne_zero_of_toRat (by rw [(mul_fin ha hb).2]; exact mul_ne_zero (toRat_ne_zero ha hna) (toRat_ne_zero hb hnb))

theorem div_num_ne_zero {a b : R} (ha : FinWF a) (hb : FinWF b) (hna : a.num ≠ 0) (hnb : b.num ≠ 0) :
    (div a b).num ≠ 0 :=
  num_ne_zero_of_toRat (by rw [(div_fin ha hb hnb).2]; exact div_ne_zero (toRat_ne_zero ha hna) (toRat_ne_zero hb hnb))

theorem neg_num_ne_zero {a : R} (hna : a.num ≠ 0) : (neg a).num ≠ 0 := Int.neg_ne_zero.2 hna

theorem sub_fin {a b : R} (ha : FinWF a) (hb : FinWF b) : FinWF (sub a b) ∧ (sub a b).toRat = a.toRat - b.toRat :=
  subAssign_eq_sub a b ▸ ⟨finWF_subAssign ha hb, toRat_subAssign ha hb⟩

theorem sub_add_cancel' {a b : R} (ha : FinWF a) (hb : FinWF b) : sub (addAssign a b) a = b := by
  obtain ⟨h1, h2⟩ := sub_fin (finWF_addAssign ha hb) ha
  exact FinWF.ext h1 hb (by rw [h2, toRat_addAssign ha hb]; ring)

theorem add_mul_div_cancel {b v c : R} (hb : FinWF b) (hv : FinWF v) (hc : FinWF c) (hn : c.num ≠ 0) :
    addAssign b (mul c (div (sub v b) c)) = v := by
  have hs := sub_fin hv hb
  obtain ⟨d1, d2⟩ := div_fin hs.1 hc hn
  obtain ⟨m1, m2⟩ := mul_fin hc d1
  refine FinWF.ext (finWF_addAssign hb m1) hv ?_
  rw [toRat_addAssign hb m1, m2, d2, hs.2]
  field_simp [toRat_ne_zero hc hn]
  ring

end R
end Oratio
