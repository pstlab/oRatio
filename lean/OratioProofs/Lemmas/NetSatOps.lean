/-
C07N: the SAT-level steps of the API calls under the weak invariant `SInv`.
-/
import OratioProofs.Lemmas.NetSatRecs

namespace Oratio
namespace Sat

theorem SInv.newVar {orig K : Cnf} {s : Sat} (h : SInv orig K s) : SInv orig K s.newVar.2 :=
  ⟨h.wf.newVar, h.ent.newVar, fun m => (h.dec m).newVar⟩

theorem newVar_keep (s : Sat) : AssignedKeep s s.newVar.2 := by
  intro v b hv
  refine ⟨by show (s.vals ++ [none]).getD v none = some b; rw [ListAux.getD_append_default]; exact hv, ?_⟩
  show (s.level ++ [0]).getD v 0 = s.level.getD v 0
  rw [ListAux.getD_append_default]

/-- `assume(p)` up to the call of `propagate` -/
theorem pushEnq_wfs {orig K : Cnf} {s : Sat} (hw : s.WfS) (he : s.Ent orig K) (hq : s.queue = []) {p : Lit}
    (hv : s.value p = none) (hp : p.var < s.vals.length) :
    ((s.pushLevel p).enq p none).WfS ∧ ((s.pushLevel p).enq p none).Ent orig K ∧
      AssignedKeep s ((s.pushLevel p).enq p none) := by
  have hw1 := hw.pushLevel hq p
  have hv' : (s.pushLevel p).value p = none := hv
  have hlt' : p.var < (s.pushLevel p).vals.length := hp
  have hw2 : ((s.pushLevel p).enq p none).WfS := by
    refine hw1.enq hv' hlt' (fun _ => Or.inr ?_) (fun id e => by cases e)
    intro x hx
    have := hw.a.lvl_le hx
    show s.lvl x < (s.trail.length :: s.trailLim).length
    simp only [List.length_cons]
    exact Nat.lt_succ_of_le this
  exact ⟨hw2, (he.pushLevel hw.a p).enq hw1.a hv' hlt' (Ents.of_mem (by
      apply List.mem_append_right
      simp [units, Sat.pushLevel])), (ext_enq (s.pushLevel p) p none hv').keep⟩

theorem SInv.pop {orig K : Cnf} {s : Sat} (h : SInv orig K s) (hq : s.queue = []) : SInv orig K s.pop :=
  ⟨h.wf.pop hq, h.ent.pop h.wf.a, fun m => (h.dec m).pop h.wf.a⟩

theorem newClause_sinv {orig K : Cnf} {s : Sat} (h : SInv orig K s)
    (hroot : s.trailLim = []) (c : List Lit) (hr : ∀ l ∈ c, l.var < s.vals.length) :
    SInv (orig ++ [c]) (K ++ [c]) (s.newClause c).2 ∧ AssignedKeep s (s.newClause c).2 ∧
      (s.newClause c).2.trailLim = [] ∧ ((s.newClause c).1 = false → (s.newClause c).2.dead = true) ∧
      ((s.newClause c).1 = true → (s.newClause c).2.dead = s.dead) ∧ (s.newClause c).2.log = s.log ∧
      (s.newClause c).2.exprs = s.exprs ∧ (s.newClause c).2.vals.length = s.vals.length ∧
      (s.newClause c).2.decisions = s.decisions := by
  have ha := h.wf.a
  have hs := fun m => newClause_sem ha h.ent (h.dec m) hroot c hr
  obtain ⟨f1, f⟩ := newClause_frame s c
  have hw : (s.newClause c).2.WfS ∧ AssignedKeep s (s.newClause c).2 := by
    rcases newClause_outcome s c with ⟨e, -⟩ | ⟨r, h1, -, -, e⟩ <;> rw [e]
    · exact ⟨h.wf, .refl s⟩
    · match r, h1 with
      | [], _ => exact ⟨h.wf.of_eq rfl rfl rfl rfl rfl rfl rfl rfl rfl rfl rfl, .refl s⟩
      | [l], h1 =>
        obtain ⟨hlc, hv⟩ := h1 l (List.mem_singleton.2 rfl)
        simp only [enqueue_none _ hv]
        exact ⟨h.wf.enq hv (hr l hlc) (fun _ => .inl (by simp [decisionLevel, hroot])) (fun id e => by cases e),
          (ext_enq s l none hv).keep⟩
      | l0 :: l1 :: rest, h1 => exact ⟨h.wf.addClause (fun l hl => hr l (h1 l hl).1), (ext_addClause s _).keep⟩
  exact ⟨⟨hw.1, (hs 0).2.1, fun m => (hs m).2.2⟩, hw.2, f1.trans hroot, f⟩

theorem nextStart_sinv {orig K : Cnf} {s : Sat} (h : SInv orig K s) (hq : s.queue = []) (hne : s.trailLim ≠ []) :
    SInv (orig ++ [s.decisions.map Lit.neg]) (K ++ [s.decisions.map Lit.neg]) (s.pop.record (s.decisions.map Lit.neg)) ∧
    AssignedKeep s.pop (s.pop.record (s.decisions.map Lit.neg)) ∧
    (s.pop.record (s.decisions.map Lit.neg)).trailLim = s.pop.trailLim ∧
    (s.pop.record (s.decisions.map Lit.neg)).vals.length = s.vals.length ∧
    (s.pop.record (s.decisions.map Lit.neg)).dead = s.dead := by
  have ha := h.wf.a
  obtain ⟨d, ds, hD, hv, hlt, hrest, h0, _⟩ := next_ready ha h.dec hne
  rw [hD]
  simp only [List.map_cons]
  have hsub : ∀ c ∈ orig, c ∈ orig ++ [d.neg :: ds.map Lit.neg] := fun c hc => List.mem_append_left _ hc
  have hpop : SInv (orig ++ [d.neg :: ds.map Lit.neg]) K s.pop := (h.mono_orig hsub).pop hq
  have hrec := fun m => record_wfs_keeps (m := m) hpop.wf hpop.ent (hpop.dec m) d.neg (ds.map Lit.neg) hv hlt
    (fun x hx => .inl (hrest x hx)) h0 (Ents.of_mem (List.mem_append_right _ (List.mem_singleton.2 rfl)))
  obtain ⟨w, e, _, rr⟩ := hrec 0
  exact ⟨⟨w, e, fun m => (hrec m).2.2.1⟩, (ext_record _ _).keep,
    rr.trailLim, by rw [rr.lenVals, pop_lenVals s], by rw [rr.dead, pop_dead s]⟩

end Sat
end Oratio
