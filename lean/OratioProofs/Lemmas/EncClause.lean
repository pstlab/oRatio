/-
Lemmas for property C13: the filtering loop (`scanJunct`; `scanClause` is the instance
`absorbing = true`), `newClause`, posting lists of clauses, and the step "fresh variable defined by
clauses" (`Cons.freshDef`) shared by the reified constructors.
-/
import OratioProofs.Lemmas.EncSort
import OratioProofs.Lemmas.ConsCases

namespace Oratio
namespace EncL
open Enc

theorem scanClause_eq (s : Enc) : ∀ (rest : List Lit) (p : Option Lit) (acc : List Lit),
    scanClause s rest p acc = scanJunct s true rest p acc
  | [], _, _ => rfl
  | l :: rest, p, acc => by simp [scanClause, scanJunct, scanClause_eq s rest]

theorem bool_eq_or_eq_not (x a : Bool) : x = a ∨ x = !a := by cases x <;> cases a <;> simp

/-- `ls'`: the accumulator, then the undecided literals kept from `rest`; a dropped one repeats a kept one or has root value `b` -/
def Kept (s : Enc) (b : Bool) (rest acc ls' : List Lit) : Prop :=
  ∃ kept, ls' = acc.reverse ++ kept ∧ kept.Sublist rest ∧ (∀ l ∈ kept, s.value l = none) ∧
    ∀ l ∈ rest, l ∈ ls' ∨ s.value l = some b

theorem Kept.nil (s : Enc) (b : Bool) (acc : List Lit) : Kept s b [] acc acc.reverse :=
  ⟨[], by simp, List.Sublist.refl _, nofun, nofun⟩

theorem Kept.keep {s : Enc} {b : Bool} {l : Lit} {rest acc ls' : List Lit} (hl : s.value l = none)
    (h : Kept s b rest (l :: acc) ls') : Kept s b (l :: rest) acc ls' := by
  obtain ⟨kept, rfl, h2, h3, h4⟩ := h
  refine ⟨l :: kept, by simp, h2.cons_cons l, fun x hx => ?_, fun x hx => ?_⟩
  · rcases List.mem_cons.1 hx with rfl | hx
    · exact hl
    · exact h3 x hx
  · rcases List.mem_cons.1 hx with rfl | hx
    · exact Or.inl (by simp)
    · exact h4 x hx

theorem Kept.skip {s : Enc} {b : Bool} {l : Lit} {rest acc ls' : List Lit}
    (hl : l ∈ acc ∨ s.value l = some b) (h : Kept s b rest acc ls') : Kept s b (l :: rest) acc ls' := by
  obtain ⟨kept, rfl, h2, h3, h4⟩ := h
  refine ⟨kept, rfl, h2.cons l, h3, fun x hx => ?_⟩
  rcases List.mem_cons.1 hx with rfl | hx
  · exact hl.imp (fun h => by simp [h]) id
  · exact h4 x hx

/-- what the loop answers on `rest` from `acc`: the kept literals, or `none` (an argument has the absorbing
    value at root level, or the complement of an undecided argument follows it) -/
def ScanOut (s : Enc) (abs : Bool) (rest acc : List Lit) : Option (List Lit) → Prop
  | some ls' => Kept s (!abs) rest acc ls'
  | none => (∃ l ∈ rest, s.value l = some abs) ∨
      ∃ q, (q ∈ acc ∨ q ∈ rest ∧ s.value q = none) ∧ q.neg ∈ rest

theorem ScanOut.keep {s : Enc} {abs : Bool} {l : Lit} {rest acc : List Lit} {r : Option (List Lit)}
    (hl : s.value l = none) (h : ScanOut s abs rest (l :: acc) r) : ScanOut s abs (l :: rest) acc r := by
  cases r with
  | some ls' => exact Kept.keep hl h
  | none =>
    refine h.imp (fun ⟨x, hx, hv⟩ => ⟨x, List.mem_cons_of_mem _ hx, hv⟩) fun ⟨q, hq, hn⟩ =>
      ⟨q, ?_, List.mem_cons_of_mem _ hn⟩
    rcases hq with hq | ⟨hq, hv⟩
    · rcases List.mem_cons.1 hq with rfl | hq
      · exact Or.inr ⟨List.mem_cons_self, hl⟩
      · exact Or.inl hq
    · exact Or.inr ⟨List.mem_cons_of_mem _ hq, hv⟩

theorem ScanOut.skip {s : Enc} {abs : Bool} {l : Lit} {rest acc : List Lit} {r : Option (List Lit)}
    (hl : l ∈ acc ∨ s.value l = some (!abs)) (h : ScanOut s abs rest acc r) :
    ScanOut s abs (l :: rest) acc r := by
  cases r with
  | some ls' => exact Kept.skip hl h
  | none =>
    exact h.imp (fun ⟨x, hx, hv⟩ => ⟨x, List.mem_cons_of_mem _ hx, hv⟩) fun ⟨q, hq, hn⟩ =>
      ⟨q, hq.imp id (fun ⟨hq, hv⟩ => ⟨List.mem_cons_of_mem _ hq, hv⟩), List.mem_cons_of_mem _ hn⟩

/-- `p` is the literal kept last -/
theorem scanJunct_out {s : Enc} {abs : Bool} : ∀ (rest : List Lit) (p : Option Lit) (acc : List Lit),
    p = acc.head? → ScanOut s abs rest acc (scanJunct s abs rest p acc)
  | [], _, acc, _ => Kept.nil s _ acc
  | l :: rest, p, acc, hp => by
    simp only [scanJunct]
    split
    · next hc =>
      simp only [Bool.or_eq_true, decide_eq_true_eq] at hc
      rcases hc with hc | hc
      · exact Or.inl ⟨l, List.mem_cons_self, hc⟩
      · obtain ⟨q, rfl, rfl⟩ := Option.map_eq_some_iff.1 hc
        exact Or.inr ⟨q, Or.inl (List.mem_of_mem_head? hp.symm), List.mem_cons_self⟩
    · next hc1 =>
      simp only [Bool.or_eq_true, decide_eq_true_eq, not_or] at hc1
      split
      · next hc2 =>
        simp only [Bool.and_eq_true, ne_eq, decide_eq_true_eq] at hc2
        refine (scanJunct_out rest (some l) (l :: acc) rfl).keep ?_
        cases hv : s.value l with
        | none => rfl
        | some b => exact ((bool_eq_or_eq_not b abs).elim (fun e => hc1.1 (e ▸ hv)) fun e => hc2.1 (e ▸ hv)).elim
      · next hc2 =>
        simp only [Bool.and_eq_true, ne_eq, decide_eq_true_eq, not_and, Decidable.not_not] at hc2
        refine (scanJunct_out rest p acc hp).skip ?_
        by_cases hv : s.value l = some (!abs)
        · exact Or.inr hv
        · exact Or.inl (List.mem_of_mem_head? (hp ▸ hc2 hv))

theorem scan_some {s : Enc} {abs : Bool} {ls ls' : List Lit} (h : scanJunct s abs ls none [] = some ls') :
    ls'.Sublist ls ∧ (∀ l ∈ ls', s.value l = none) ∧ ∀ l ∈ ls, l ∈ ls' ∨ s.value l = some (!abs) := by
  have := scanJunct_out (s := s) (abs := abs) ls none [] rfl
  rw [h] at this
  obtain ⟨kept, rfl, h2, h3, h4⟩ := this
  exact ⟨h2, h3, h4⟩

theorem scan_none {s : Enc} {abs : Bool} {ls : List Lit} (h : scanJunct s abs ls none [] = none) :
    (∃ l ∈ ls, s.value l = some abs) ∨ ∃ q ∈ ls, s.value q = none ∧ q.neg ∈ ls := by
  have := scanJunct_out (s := s) (abs := abs) ls none [] rfl
  rw [h] at this
  exact this.imp id fun ⟨q, hq, hn⟩ => ⟨q, (hq.resolve_left nofun).1, (hq.resolve_left nofun).2, hn⟩

theorem scan_some_val {s : Enc} {abs : Bool} {ls ls' : List Lit} {f : Lit → Bool}
    (hf : ∀ l b, s.value l = some b → f l = b) (h : scanJunct s abs ls none [] = some ls') :
    (∃ l ∈ ls', f l = abs) ↔ ∃ l ∈ ls, f l = abs := by
  obtain ⟨h1, _, h3⟩ := scan_some h
  refine ⟨fun ⟨l, hl, e⟩ => ⟨l, h1.subset hl, e⟩, fun ⟨l, hl, e⟩ => ?_⟩
  rcases h3 l hl with hm | hv
  · exact ⟨l, hm, e⟩
  · have := hf l _ hv
    rw [e] at this
    cases abs <;> cases this

theorem scan_none_val {s : Enc} {abs : Bool} {ls : List Lit} {f : Lit → Bool}
    (hf : ∀ l b, s.value l = some b → f l = b) (hneg : ∀ l ∈ ls, f l.neg = !f l)
    (h : scanJunct s abs ls none [] = none) : ∃ l ∈ ls, f l = abs := by
  rcases scan_none h with ⟨l, hl, hv⟩ | ⟨q, hq, _, hn⟩
  · exact ⟨l, hl, hf l _ hv⟩
  · rcases bool_eq_or_eq_not (f q) abs with e | e
    · exact ⟨q, hq, e⟩
    · exact ⟨q.neg, hn, by rw [hneg q hq, e, Bool.not_not]⟩

theorem exists_sorted {f : Lit → Bool} {ls : List Lit} {b : Bool} :
    (∃ l ∈ sortByVar ls, f l = b) ↔ ∃ l ∈ ls, f l = b :=
  ⟨fun ⟨l, hl, h⟩ => ⟨l, mem_sortByVar.1 hl, h⟩, fun ⟨l, hl, h⟩ => ⟨l, mem_sortByVar.2 hl, h⟩⟩

theorem cnf_cons (α : Asg) (c : List Lit) (cs : List (List Lit)) :
    α.cnf (c :: cs) = (α.clause c && α.cnf cs) := rfl

theorem cnf_singleton (α : Asg) (c : List Lit) : α.cnf [c] = α.clause c := Bool.and_true _

/-- `s'` is `s` after posting `cs` with answer `b`: the truth value of `cs` in every model that is left -/
structure Posted (s : Enc) (cs : List (List Lit)) (b : Bool) (s' : Enc) : Prop where
  inv : Inv s'
  exprs : s'.exprs = s.exprs
  nvars : s'.nvars = s.nvars
  ref : ∀ α, Sat α s' → Sat α s
  keep : ∀ α, Sat α s → α.cnf cs = true → Sat α s'
  ans : ∀ α, Sat α s' → α.cnf cs = b

theorem Posted.nil {s : Enc} (h : Inv s) : Posted s [] true s :=
  ⟨h, rfl, rfl, fun _ h => h, fun _ h _ => h, fun _ _ => rfl⟩

theorem Posted.keep1 {s s' : Enc} {c : List Lit} {b : Bool} (h : Posted s [c] b s') {α : Asg} (hα : Sat α s)
    (hc : α.clause c = true) : Sat α s' := h.keep α hα ((cnf_singleton α c).trans hc)

theorem Posted.ans1 {s s' : Enc} {c : List Lit} {b : Bool} (h : Posted s [c] b s') {α : Asg} (hα : Sat α s') :
    α.clause c = b := (cnf_singleton α c).symm.trans (h.ans α hα)

theorem Posted.cons {s s1 s2 : Enc} {c : List Lit} {cs : List (List Lit)} {b1 b2 : Bool}
    (h1 : Posted s [c] b1 s1) (h2 : Posted s1 cs b2 s2) : Posted s (c :: cs) (b1 && b2) s2 := by
  refine ⟨h2.inv, h2.exprs.trans h1.exprs, h2.nvars.trans h1.nvars, fun α hα => h1.ref α (h2.ref α hα),
    fun α hα hc => ?_, fun α hα => by rw [cnf_cons, h1.ans1 (h2.ref α hα), h2.ans α hα]⟩
  rw [cnf_cons, Bool.and_eq_true] at hc
  exact h2.keep α (h1.keep1 hα hc.1) hc.2

theorem Posted.fail {s s1 : Enc} {c : List Lit} (cs : List (List Lit)) (h1 : Posted s [c] false s1) :
    Posted s (c :: cs) false s1 := by
  refine ⟨h1.inv, h1.exprs, h1.nvars, h1.ref, fun α hα hc => ?_, fun α hα => by rw [cnf_cons, h1.ans1 hα]; rfl⟩
  rw [cnf_cons, Bool.and_eq_true] at hc
  exact h1.keep1 hα hc.1

theorem Posted.ans_true {s s' : Enc} {cs : List (List Lit)} {b : Bool} (h : Posted s cs b s') {β : Asg}
    (hβ : Sat β s) (hc : β.cnf cs = true) : b = true := by
  rw [← h.ans β (h.keep β hβ hc), hc]

theorem Posted.of_models {s s' : Enc} (h : Inv s) {c : List Lit} (hw : WF s') (he : s'.exprs = s.exprs)
    (hn : s'.nvars = s.nvars) (hm : ∀ α, Models α s' ↔ (Models α s ∧ α.clause c = true)) : Posted s [c] true s' :=
  have hr : ∀ α, Sat α s' → Sat α s := fun α hα => ⟨hα.1, ((hm α).1 hα.2).1⟩
  ⟨inv_of_refines h hw he hr, he, hn, hr,
    fun α hα hcl => ⟨hα.1, (hm α).2 ⟨hα.2, (cnf_singleton α c).symm.trans hcl⟩⟩,
    fun α hα => (cnf_singleton α c).trans ((hm α).1 hα.2).2⟩

theorem newClause_sat {s : Enc} (h : Inv s) {c : List Lit} (hc : InRange s c) :
    Posted s [c] (s.newClause c).1 (s.newClause c).2 := by
  have hw := h.1
  unfold Enc.newClause
  rw [scanClause_eq]
  cases hsc : scanJunct s true (sortByVar c) none [] with
  | none =>
    refine .of_models h hw rfl rfl fun α => ⟨fun hα => ⟨hα, ?_⟩, fun hα => hα.1⟩
    obtain ⟨l, hl, hl2⟩ := scan_none_val (fun _ _ => value_sound hα) (fun l _ => Asg.lit_neg α l) hsc
    exact Asg.clause_iff.2 ⟨l, mem_sortByVar.1 hl, hl2⟩
  | some ls' =>
    obtain ⟨j1, j2, _⟩ := scan_some hsc
    have hcl : ∀ α, Models α s → (α.clause c = true ↔ ∃ l ∈ ls', α.lit l = true) := fun α hα => by
      rw [Asg.clause_iff, scan_some_val (fun _ _ => value_sound hα) hsc, exists_sorted]
    have hrange : ∀ l ∈ ls', l.var < s.nvars := fun l hl => hc l (mem_sortByVar.1 (j1.subset hl))
    match ls', hcl, j2, hrange with
    | [], hcl, _, _ =>
      have hf : ∀ α, Sat α s → α.cnf [c] = false := fun α hα => by
        rw [cnf_singleton]
        cases hcc : α.clause c with
        | false => rfl
        | true => obtain ⟨l, hl, _⟩ := (hcl α hα.2).1 hcc; cases hl
      exact ⟨h, rfl, rfl, fun _ hα => hα, fun α hα hcc => (by rw [hf α hα] at hcc; cases hcc), hf⟩
    | [l], hcl, j2, hrange =>
      have hn : s.value l = none := j2 l (by simp)
      simp only [Enc.enqueue, hn]
      refine .of_models h (wf_set hw hn) rfl (by simp [Enc.nvars]) fun α => ?_
      rw [models_set (hrange l (by simp)) hn]
      exact and_congr_right fun hα => by rw [hcl α hα]; simp
    | l1 :: l2 :: t, hcl, _, hrange =>
      refine .of_models h ⟨hw.1, fun c' hc' => ?_, hw.2.2⟩ rfl rfl fun α => ?_
      · rcases List.mem_append.1 hc' with hc' | hc'
        · exact hw.2.1 c' hc'
        · rw [List.mem_singleton.1 hc']; exact hrange
      · rw [models_clause]
        exact and_congr_right fun hα => by rw [hcl α hα, Asg.clause_iff]

theorem newClauses_sat : ∀ (cs : List (List Lit)) {s : Enc}, Inv s → (∀ c ∈ cs, InRange s c) →
    Posted s cs (s.newClauses cs).1 (s.newClauses cs).2
  | [], _, h, _ => .nil h
  | c :: cs, s, h, hc => by
    have h1 := newClause_sat h (hc c (by simp))
    simp only [Enc.newClauses]
    generalize s.newClause c = r at h1
    obtain ⟨b, s1⟩ := r
    cases b with
    | false => exact h1.fail cs
    | true =>
      exact h1.cons (newClauses_sat cs h1.inv fun c' hc' l hl => by
        rw [h1.nvars]; exact hc c' (by simp [hc']) l hl)

/-- the loop of `ov_theory::new_eq`: every clause is posted, whatever the answers -/
theorem postAll_sat : ∀ (cs : List (List Lit)) {s : Enc}, Inv s → (∀ c ∈ cs, InRange s c) →
    ∃ b, Posted s cs b (cs.foldl (fun e c => (e.newClause c).2) s)
  | [], _, h, _ => ⟨true, .nil h⟩
  | c :: cs, s, h, hc => by
    have h1 := newClause_sat h (hc c (by simp))
    obtain ⟨b, h2⟩ := postAll_sat cs h1.inv fun c' hc' l hl => by
      rw [h1.nvars]; exact hc c' (by simp [hc']) l hl
    exact ⟨_, h1.cons h2⟩

/-- what `Cons.freshDef Enc.prim s k cs` (the common tail of `newEq / newConj / newDisj / amoCore` (pairwise)
    `/ newExctOne`) answers -/
structure FreshDef (s : Enc) (k : Key) (cs : Lit → List (List Lit)) (r : Lit × Enc) : Prop where
  step : Step s r
  sem : ∀ α, Sat α r.2 → KeySem α k r.1
  ext : ∀ α b, Sat α s → (upd α s.nvars b).cnf (cs ⟨s.nvars, true⟩) = true →
    Sat (upd α s.nvars b) r.2 ∧ (upd α s.nvars b).lit r.1 = b
  exprs : ∀ e ∈ r.2.exprs, e ∈ s.exprs ∨ e = (k, ⟨s.nvars, true⟩)

/-- `hext`: over every model of `s` the clauses can be satisfied by a value of the fresh variable
    (they define it); then they cannot fail, and `hsem` gives the meaning of the cache entry -/
theorem freshDef_spec {s : Enc} (h : Inv s) (k : Key) (cs : Lit → List (List Lit))
    (hk : ∀ x ∈ keyLits k, x.var < s.nvars)
    (hcs : ∀ c ∈ cs ⟨s.nvars, true⟩, ∀ l ∈ c, l.var < s.nvars + 1)
    (hext : ∀ α, Sat α s → ∃ b, (upd α s.nvars b).cnf (cs ⟨s.nvars, true⟩) = true)
    (hsem : ∀ α, Sat α s → α.cnf (cs ⟨s.nvars, true⟩) = true → KeySem α k ⟨s.nvars, true⟩) :
    FreshDef s k cs (Cons.freshDef Enc.prim s k cs) := by
  have hp := newClauses_sat (s := s.newVar.2) (cs ⟨s.nvars, true⟩) (inv_addVars h 1) fun c hc l hl => by
    rw [show s.newVar.2.nvars = s.nvars + 1 from nvars_addVars s 1]; exact hcs c hc l hl
  rw [Cons_enc_freshDef]
  generalize s.newVar.2.newClauses (cs ⟨s.nvars, true⟩) = p at hp ⊢
  obtain ⟨b, s2⟩ := p
  dsimp only at hp
  have hnv : s2.nvars = s.nvars + 1 := hp.nvars.trans (nvars_addVars s 1)
  have href : Refines s s2 := ⟨by omega, fun α hα => (sat_addVars α s 1).1 (hp.ref α hα)⟩
  have hup : ∀ α b', Sat α s → (upd α s.nvars b').cnf (cs ⟨s.nvars, true⟩) = true →
      Sat (upd α s.nvars b') s2 := fun α b' hα hb =>
    hp.keep _ (sat_addVars_of_agree h.1 1 hα fun v hv => upd_lt α b' hv) hb
  have hex : Extends s s2 := fun α hα =>
    let ⟨b', hb⟩ := hext α hα; ⟨_, hup α b' hα hb, fun v hv => upd_lt α b' hv⟩
  cases b with
  | false =>
    have hno : ∀ α, ¬ Sat α s2 := fun α hα => by
      obtain ⟨b', hb⟩ := hext α (href.2 α hα)
      have := hp.ans _ (hup α b' (href.2 α hα) hb)
      rw [hb] at this; cases this
    exact ⟨⟨hp.inv, Nat.lt_of_lt_of_le h.pos href.1, hex, href⟩, fun α hα => absurd hα (hno α),
      fun α b' hα hb => absurd (hup α b' hα hb) (hno _), fun e he => Or.inl (hp.exprs ▸ he)⟩
  | true =>
    have hsem' : ∀ α, Sat α s2 → KeySem α k ⟨s.nvars, true⟩ := fun α hα =>
      hsem α (href.2 α hα) (hp.ans α hα)
    refine ⟨⟨inv_remember hp.inv (by simp only [hnv]; omega) (fun x hx => by have := hk x hx; omega) hsem',
      by show s.nvars < s2.nvars; omega, hex, href⟩, hsem',
      fun α b' hα hb => ⟨hup α b' hα hb, by simp [Asg.lit_mk_true]⟩, fun e he => ?_⟩
    rcases List.mem_append.1 he with he | he
    · exact Or.inl (hp.exprs ▸ he)
    · exact Or.inr (List.mem_singleton.1 he)

theorem scanClause_allFalse (e : Enc) : ∀ (ls acc : List Lit), (∀ l ∈ ls, e.value l = some false) →
    Enc.scanClause e ls none acc = some acc.reverse
  | [], _, _ => rfl
  | l :: rest, acc, h => by
    have hl := h l List.mem_cons_self
    rw [Enc.scanClause]
    simp only [hl, Option.map_none, reduceCtorEq, Bool.false_eq_true, if_false, ne_eq, not_true_eq_false,
      decide_false, Bool.false_and]
    exact scanClause_allFalse e rest acc fun x hx => h x (List.mem_cons_of_mem _ hx)

end EncL
end Oratio
