/-
Lemmas about the token primitives of the parser model (property C16, parser part): `adv`, `dotIds`, `qid`,
`castLook`, the operator table, and the conditions on the token that follows a printed expression.
-/
import OratioProofs.Lemmas.ParserPrint

namespace Oratio.Riddle

@[simp] theorem ok_bind {ε α β : Type} (a : α) (f : α → Except ε β) : (Except.ok a >>= f) = f a := rfl
@[simp] theorem err_bind {ε α β : Type} (e : ε) (f : α → Except ε β) : (Except.error e >>= f) = Except.error e := rfl
@[simp] theorem pure_eq_ok {ε α : Type} (a : α) : (pure a : Except ε α) = Except.ok a := rfl

@[simp] theorem adv_cons2 (a b : Tok) (r : List Tok) : adv (a :: b :: r) = .ok (b :: r) := rfl

theorem adv_cons (a : Tok) {r : List Tok} (h : r ≠ []) : adv (a :: r) = .ok r := by
  cases r with
  | nil => exact absurd rfl h
  | cons b r => rfl

theorem isSym_self (s : Sym) (r : List Tok) : isSym s (.sym s :: r) = true := beq_self_eq_true s

theorem expectSym_self (s : Sym) (m : String) {r : List Tok} (hr : r ≠ []) : expectSym s m (.sym s :: r) = .ok r := by
  rw [expectSym, isSym_self, if_pos rfl, adv_cons _ hr]

theorem matchSym_self (s : Sym) {r : List Tok} (hr : r ≠ []) : matchSym s (.sym s :: r) = .ok (true, r) := by
  rw [matchSym, isSym_self, if_pos rfl, adv_cons _ hr]; rfl

theorem matchSym_of_not {s : Sym} {toks : List Tok} (h : isSym s toks = false) : matchSym s toks = .ok (false, toks) := by
  rw [matchSym, h]; rfl

theorem dotIds_stop (t : Tok) (r : List Tok) (ht : t ≠ .sym .DOT) : dotIds (t :: r) = .ok ([], t :: r) := by
  unfold dotIds
  split <;> simp_all

theorem dotIds_dotToks (ns : List Name) (t : Tok) (r : List Tok) (ht : t ≠ .sym .DOT) :
    dotIds (dotToks ns ++ t :: r) = .ok (ns, t :: r) := by
  induction ns with
  | nil => simpa [dotToks] using dotIds_stop t r ht
  | cons n ns ih =>
    cases ns with
    | nil =>
      simp only [dotToks, List.cons_append, List.nil_append] at ih ⊢
      rw [dotIds, ih]; rfl
    | cons m ms =>
      simp only [dotToks, List.cons_append] at ih ⊢
      rw [dotIds, ih]; rfl

theorem dotToks_append_ne_nil (ns : List Name) (t : Tok) (r : List Tok) : dotToks ns ++ t :: r ≠ [] := by
  cases ns <;> simp [dotToks]

theorem qid_qidToks (q : QId) (hq : q ≠ []) (t : Tok) (r : List Tok) (ht : t ≠ .sym .DOT) :
    qid (qidToks q ++ t :: r) = .ok (q, t :: r) := by
  cases q with
  | nil => exact absurd rfl hq
  | cons n ns =>
    simp [qid, qidToks, expectId, adv_cons _ (dotToks_append_ne_nil ns t r), dotIds_dotToks ns t r ht]

theorem splitLast_concat (n : Name) (ns : List Name) (ids : QId) (fn : Name) (h : n :: ns = ids ++ [fn]) :
    splitLast n ns = (ids, fn) := by
  unfold splitLast
  rw [h]
  simp

theorem castLook_ids_other (n : Name) (ns : List Name) (t : Tok) (r : List Tok)
    (h1 : t ≠ .sym .DOT) (h2 : t ≠ .sym .RPAREN) :
    castLook (.id n :: (dotToks ns ++ t :: r)) = .ok false := by
  induction ns generalizing n with
  | nil => exact castLook.eq_5 n t r h1 h2
  | cons m ms ih =>
    simp only [dotToks, List.cons_append]
    rw [castLook.eq_2]
    exact ih m

theorem castLook_ids_rparen (n : Name) (ns : List Name) (t : Tok) (r : List Tok) :
    castLook (.id n :: (dotToks ns ++ .sym .RPAREN :: t :: r)) = .ok (operandStart (t :: r)) := by
  induction ns generalizing n with
  | nil => exact castLook.eq_4 n t r
  | cons m ms ih =>
    simp only [dotToks, List.cons_append]
    rw [castLook.eq_2]
    exact ih m

theorem castLook_not_id (toks : List Tok) (h : ∀ n r, toks ≠ .id n :: r) : castLook toks = .ok false := by
  unfold castLook
  split
  · exact absurd rfl (h _ _)
  · exact absurd rfl (h _ _)
  · rfl

theorem opInfo_nary (s : Sym) (op : NOp) (l : Nat) (h : opInfo s = some (.nary op, l)) : s = op.sym ∧ l = op.level := by
  cases s <;> simp [opInfo] at h <;> (obtain ⟨h1, h2⟩ := h; subst h1; subst h2; exact ⟨rfl, rfl⟩)

theorem opInfo_bin (s : Sym) (op : BOp) (l : Nat) (h : opInfo s = some (.bin op, l)) : s = op.sym ∧ l = op.level := by
  cases s <;> simp [opInfo] at h <;> (obtain ⟨h1, h2⟩ := h; subst h1; subst h2; exact ⟨rfl, rfl⟩)

theorem BOp.sym_ne_dot (op : BOp) : op.sym ≠ .DOT := by cases op <;> decide
theorem BOp.sym_ne_lparen (op : BOp) : op.sym ≠ .LPAREN := by cases op <;> decide
theorem BOp.sym_ne_rparen (op : BOp) : op.sym ≠ .RPAREN := by cases op <;> decide
theorem NOp.sym_ne_dot (op : NOp) : op.sym ≠ .DOT := by cases op <;> decide
theorem NOp.sym_ne_lparen (op : NOp) : op.sym ≠ .LPAREN := by cases op <;> decide
theorem NOp.sym_ne_rparen (op : NOp) : op.sym ≠ .RPAREN := by cases op <;> decide
theorem BOp.level_le (op : BOp) : op.level ≤ 1 := by cases op <;> decide
theorem NOp.level_le (op : NOp) : op.level ≤ 3 := by cases op <;> decide

theorem opInfo_level_le (s : Sym) (k : OpKind) (l : Nat) (h : opInfo s = some (k, l)) : l ≤ 3 := by
  cases k with
  | bin op => exact (opInfo_bin s op l h).2 ▸ Nat.le_trans op.level_le (by decide)
  | nary op => exact (opInfo_nary s op l h).2 ▸ op.level_le

/-- `rest` can follow an operand parsed by `_expression(p)`: there is a token, it is not an
    operator that `_expression(p)` would take (level `≥ p`), and it is neither `.` nor `(`
    (which would extend a trailing identifier). -/
def stopsAt (p : Nat) : List Tok → Bool
  | [] => false
  | .sym s :: _ =>
    s != .DOT && s != .LPAREN && (match opInfo s with | some (_, l) => decide (l < p) | none => true)
  | _ :: _ => true

/-- `rest` can follow the unparenthesised print of `e` where the enclosing loop continues:
    there is a token, neither `.` nor `(`; if it is an operator then `e` is not a cast, the
    operator does not bind tighter than the top operator of `e` (it would capture the last
    operand) and is not the n-ary operator of `e` itself (it would be merged). -/
def follows (e : Expr) : List Tok → Bool
  | [] => false
  | .sym s :: _ =>
    s != .DOT && s != .LPAREN &&
      (match opInfo s with
       | some (k, l) => decide (l ≤ e.level) && !e.isCast && (match k with | .nary op => !e.isNary op | .bin _ => true)
       | none => true)
  | _ :: _ => true

theorem stopsAt_ne_nil {p : Nat} {rest : List Tok} (h : stopsAt p rest = true) : rest ≠ [] := by
  cases rest <;> simp_all [stopsAt]

theorem follows_ne_nil {e : Expr} {rest : List Tok} (h : follows e rest = true) : rest ≠ [] := by
  cases rest <;> simp_all [follows]

theorem isNary_level {e : Expr} {op : NOp} (h : e.isNary op = true) : e.level = op.level := by
  cases e <;> simp_all [Expr.isNary, Expr.level]

theorem isCast_level {e : Expr} (h : e.isCast = true) : e.level = 0 := by
  cases e <;> simp_all [Expr.isCast, Expr.level]

theorem follows_of_stopsAt {p : Nat} {e : Expr} {rest : List Tok} (hp : p ≤ e.level) (h : stopsAt p rest = true) :
    follows e rest = true := by
  cases rest with
  | nil => simp [stopsAt] at h
  | cons t r =>
    cases t with
    | sym s =>
      simp only [stopsAt, Bool.and_eq_true] at h
      simp only [follows, Bool.and_eq_true]
      refine ⟨h.1, ?_⟩
      cases hs : opInfo s with
      | none => rfl
      | some kl =>
        obtain ⟨k, l⟩ := kl
        have hl : l < p := by simpa [hs] using h.2
        simp only [Bool.and_eq_true, decide_eq_true_eq, Bool.not_eq_true']
        refine ⟨⟨by omega, ?_⟩, ?_⟩
        · cases hc : e.isCast with
          | false => rfl
          | true => have := isCast_level hc; omega
        · cases k with
          | bin _ => rfl
          | nary op =>
            cases hn : e.isNary op with
            | false => simp [hn]
            | true =>
              have h1 := isNary_level hn
              have h2 := (opInfo_nary s op l hs).2
              omega
    | _ => rfl

/-- `p` above the level of `e`, or above every operator; for a cast any `p` (no operator may follow) -/
theorem stopsAt_of_follows {e : Expr} {rest : List Tok} {p : Nat} (h : follows e rest = true)
    (hp : e.isCast = false → e.level < p ∨ 3 < p) : stopsAt p rest = true := by
  cases rest with
  | nil => exact h
  | cons t r =>
    cases t with
    | sym s =>
      simp only [follows, Bool.and_eq_true] at h
      simp only [stopsAt, Bool.and_eq_true]
      refine ⟨h.1, ?_⟩
      cases hs : opInfo s with
      | none => rfl
      | some kl =>
        obtain ⟨k, l⟩ := kl
        have h2 := h.2
        simp only [hs, Bool.and_eq_true, decide_eq_true_eq, Bool.not_eq_true'] at h2
        have := opInfo_level_le s k l hs
        have := hp h2.1.2
        exact decide_eq_true (by omega)
    | _ => rfl

theorem follows_sym {e : Expr} {s : Sym} {k : OpKind} {l : Nat} {tl : List Tok} (hs : opInfo s = some (k, l))
    (hd : s ≠ .DOT) (hp : s ≠ .LPAREN) :
    follows e (.sym s :: tl) = true ↔ l ≤ e.level ∧ e.isCast = false ∧ ∀ op, k = .nary op → e.isNary op = false := by
  cases k <;> simp [follows, hs, hd, hp, and_assoc]

theorem stopsAt_dot_false {p : Nat} {t : Tok} {r : List Tok} (h : stopsAt p (t :: r) = true) : t ≠ .sym .DOT := by
  intro ht; subst ht; simp [stopsAt] at h

theorem follows_head {e : Expr} {t : Tok} {r : List Tok} (h : follows e (t :: r) = true) :
    t ≠ .sym .DOT ∧ t ≠ .sym .LPAREN := by
  constructor <;> (intro ht; subst ht; simp [follows] at h)

end Oratio.Riddle
