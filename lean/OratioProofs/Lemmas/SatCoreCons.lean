/-
C07: the generic constructors `Cons.*` commute with any projection of primitive records that is a simulation
(instantiated at `Sat.toEnc`).
-/
import OratioModel
import OratioProofs.Lemmas.ConsCases

namespace Oratio

def pm {α σ τ : Type} (π : σ → τ) (x : α × σ) : α × τ := (x.1, π x.2)

@[simp] theorem pm_mk {α σ τ : Type} (π : σ → τ) (a : α) (s : σ) : pm π (a, s) = (a, π s) := rfl

structure PrimSim {σ τ : Type} (P : Prim σ) (Q : Prim τ) (π : σ → τ) : Prop where
  value : ∀ s l, P.value s l = Q.value (π s) l
  newVar : ∀ s, pm π (P.newVar s) = Q.newVar (π s)
  newClause : ∀ s c, pm π (P.newClause s c) = Q.newClause (π s) c
  lookup : ∀ s k, P.lookup s k = Q.lookup (π s) k
  remember : ∀ s k l, π (P.remember s k l) = Q.remember (π s) k l

namespace PrimSim
variable {σ τ : Type} {P : Prim σ} {Q : Prim τ} {π : σ → τ} (h : PrimSim P Q π)
include h

theorem newVar' (s : σ) : Q.newVar (π s) = ((P.newVar s).1, π (P.newVar s).2) := (h.newVar s).symm
theorem newClause' (s : σ) (c) : Q.newClause (π s) c = ((P.newClause s c).1, π (P.newClause s c).2) :=
  (h.newClause s c).symm

theorem newClauses (s : σ) (cs : List (List Lit)) :
    pm π (Cons.newClauses P s cs) = Cons.newClauses Q (π s) cs := by
  induction cs generalizing s with
  | nil => rfl
  | cons c cs ih =>
    simp only [Cons.newClauses, h.newClause']
    rcases hp : P.newClause s c with ⟨b, s'⟩
    cases b <;> simp [ih]

theorem newClauses' (s : σ) (cs) :
    Cons.newClauses Q (π s) cs = ((Cons.newClauses P s cs).1, π (Cons.newClauses P s cs).2) :=
  (h.newClauses s cs).symm

theorem scanJunct (s : σ) (ab : Bool) (ls : List Lit) (p : Option Lit) (acc : List Lit) :
    Cons.scanJunct P s ab ls p acc = Cons.scanJunct Q (π s) ab ls p acc := by
  induction ls generalizing p acc with
  | nil => rfl
  | cons l ls ih => simp only [Cons.scanJunct, h.value, ih]

theorem scanAfterTrue (s : σ) (ls : List Lit) (p : Option Lit) (acc : List Lit) :
    Cons.scanAfterTrue P s ls p acc = Cons.scanAfterTrue Q (π s) ls p acc := by
  induction ls generalizing p acc with
  | nil => rfl
  | cons l ls ih => simp only [Cons.scanAfterTrue, h.value, ih]

theorem scanCard (s : σ) (ls : List Lit) (p : Option Lit) (acc : List Lit) :
    Cons.scanCard P s ls p acc = Cons.scanCard Q (π s) ls p acc := by
  induction ls generalizing p acc with
  | nil => rfl
  | cons l ls ih => simp only [Cons.scanCard, h.value, ih, h.scanAfterTrue]

theorem newVars (s : σ) (n : Nat) : pm π (Cons.newVars P s n) = Cons.newVars Q (π s) n := by
  induction n generalizing s with
  | zero => rfl
  | succ n ih =>
    simp only [Cons.newVars, h.newVar']
    rw [← ih]
    rfl

theorem newEq (s : σ) (a b : Lit) : pm π (Cons.newEq P s a b) = Cons.newEq Q (π s) a b := by
  simp only [Cons.newEq, ← h.value, ← h.lookup, h.newVar', h.newClauses']
  split <;> try rfl
  split <;> try rfl
  split <;> simp_all [pm, h.remember]

theorem newConj (s : σ) (ls : List Lit) : pm π (Cons.newConj P s ls) = Cons.newConj Q (π s) ls := by
  simp only [Cons.newConj, ← h.scanJunct, ← h.lookup, h.newVar', h.newClauses']
  split <;> try rfl
  split <;> try rfl
  split <;> simp_all [pm, h.remember]

theorem newConj' (s : σ) (ls) :
    Cons.newConj Q (π s) ls = ((Cons.newConj P s ls).1, π (Cons.newConj P s ls).2) :=
  (h.newConj s ls).symm

theorem newDisj (s : σ) (ls : List Lit) : pm π (Cons.newDisj P s ls) = Cons.newDisj Q (π s) ls := by
  simp only [Cons.newDisj, ← h.scanJunct, ← h.lookup, h.newVar', h.newClauses']
  split <;> try rfl
  split <;> try rfl
  split <;> simp_all [pm, h.remember]

theorem guardDef (s : σ) (k : Key) (ctr : Lit) (cls : List (List Lit)) :
    pm π (Cons.guardDef P s k ctr cls) = Cons.guardDef Q (π s) k ctr cls := by
  simp only [Cons.guardDef, h.newClauses']
  rcases Cons.newClauses P s cls with ⟨b, s2⟩
  cases b
  · rfl
  · exact congrArg (Prod.mk ctr) (h.remember s2 k ctr)

theorem freshDef (s : σ) (k : Key) (cs : Lit → List (List Lit)) :
    pm π (Cons.freshDef P s k cs) = Cons.freshDef Q (π s) k cs := by
  simp only [Cons.freshDef, h.newVar']
  exact h.guardDef _ k _ _

/-- both sides are rewritten by the same branch equation; in the product encoding the five intermediate results
    of `Q` are the projections of those of `P` -/
theorem amoCore : ∀ (fuel : Nat) (s : σ) (ls : List Lit),
    pm π (Cons.amoCore P fuel s ls) = Cons.amoCore Q fuel (π s) ls := by
  refine Cons.amoCore_cases P (M := fun fuel s ls r => pm π r = Cons.amoCore Q fuel (π s) ls)
    (fun fuel s ls h1 => (Cons.amoCore_small Q fuel (π s) ls h1).symm)
    (fun fuel s ls l h1 h2 => (Cons.amoCore_hit Q fuel (π s) ls h1 ((h.lookup s _).symm.trans h2)).symm)
    (fun fuel s ls h1 h2 h4 => by
      rw [Cons.amoCore_pair Q fuel (π s) ls h1 ((h.lookup s _).symm.trans h2) h4]; exact h.freshDef s _ _)
    (fun s ls h2 h4 => (Cons.amoCore_zero Q (π s) ls ((h.lookup s _).symm.trans h2) h4).symm)
    (fun fuel s ls h2 h4 ih => ?_)
  rcases e1 : Cons.newVars P s (Enc.ceilSqrt ls.length) with ⟨u, s1⟩
  rcases e2 : Cons.newVars P s1 (Enc.ceilDiv ls.length (Enc.ceilSqrt ls.length)) with ⟨w, s2⟩
  rcases e3 : Cons.amoCore P fuel s2 u with ⟨cu, s3⟩
  rcases e4 : Cons.amoCore P fuel s3 w with ⟨cw, s4⟩
  rcases e5 : Cons.newConj P s4 [cu, cw] with ⟨ctr, s5⟩
  rw [Cons.amoCore_succ P fuel s ls h2 h4 rfl rfl e1 e2 e3 e4 e5,
    Cons.amoCore_succ Q fuel (π s) ls ((h.lookup s _).symm.trans h2) h4 rfl rfl (u := u) (w := w) (s1 := π s1)
      (s2 := π s2) (s3 := π s3) (s4 := π s4) (s5 := π s5) (cu := cu) (cw := cw) (ctr := ctr)
      (by rw [← h.newVars, e1]; rfl) (by rw [← h.newVars, e2]; rfl) (by rw [← ih, e3]; rfl)
      (by rw [← ih, e4]; rfl) (by rw [← h.newConj, e5]; rfl)]
  exact h.guardDef s5 _ ctr _

theorem amoCore' (fuel : Nat) (s : σ) (ls) :
    Cons.amoCore Q fuel (π s) ls = ((Cons.amoCore P fuel s ls).1, π (Cons.amoCore P fuel s ls).2) :=
  (h.amoCore fuel s ls).symm

theorem newAtMostOne (s : σ) (ls : List Lit) :
    pm π (Cons.newAtMostOne P s ls) = Cons.newAtMostOne Q (π s) ls := by
  simp only [Cons.newAtMostOne, ← h.scanCard, h.newConj', h.amoCore']
  split <;> rfl

theorem newExctOne (s : σ) (ls : List Lit) :
    pm π (Cons.newExctOne P s ls) = Cons.newExctOne Q (π s) ls := by
  simp only [Cons.newExctOne, ← h.scanCard, h.newConj', h.amoCore', ← h.lookup, h.newVar',
    h.newClauses']
  split <;> try rfl
  split; · rfl
  split; · rfl
  split <;> simp_all [pm, h.remember]

end PrimSim

@[simp] theorem Enc.prim_value : Enc.prim.value = Enc.value := rfl
@[simp] theorem Enc.prim_newVar : Enc.prim.newVar = Enc.newVar := rfl
@[simp] theorem Enc.prim_newVar2 (s : Enc) : Enc.prim.2 s = Enc.newVar s := rfl
@[simp] theorem Enc.prim_newClause : Enc.prim.newClause = Enc.newClause := rfl
@[simp] theorem Enc.prim_lookup : Enc.prim.lookup = Enc.lookup := rfl
@[simp] theorem Enc.prim_remember : Enc.prim.remember = Enc.remember := rfl

theorem exists_of_any {α : Type} {o : Option α} {p : α → Bool} (h : o.any p = true) :
    ∃ r, o = some r ∧ p r = true := by
  cases o with
  | none => simp at h
  | some r => exact ⟨r, rfl, by simpa using h⟩

theorem Sat.toEnc_enqueue (s : Sat) (l : Lit) (c) : pm Sat.toEnc (s.enqueue l c) = s.toEnc.enqueue l := by
  unfold Sat.enqueue Enc.enqueue
  show pm Sat.toEnc (match litValue s.vals l with | some b => _ | none => _) =
    (match litValue s.vals l with | some b => _ | none => _)
  split <;> rfl

theorem Sat.toEnc_watch (s : Sat) (l id) : (s.watch l id).toEnc = s.toEnc := rfl

theorem Sat.toEnc_newClause (s : Sat) (c : List Lit) : pm Sat.toEnc (s.newClause c) = s.toEnc.newClause c := by
  unfold Sat.newClause Enc.newClause
  generalize s.toEnc.scanClause (Enc.sortByVar c) none [] = r
  match r with
  | none => rfl
  | some [] => rfl
  | some [l] => exact Sat.toEnc_enqueue _ _ _
  | some (a :: b :: t) => simp [Sat.addClause, pm, Sat.toEnc, Sat.watch]

theorem Sat.primSim : PrimSim Sat.prim Enc.prim Sat.toEnc where
  value _ _ := rfl
  newVar _ := rfl
  newClause := Sat.toEnc_newClause
  lookup _ _ := rfl
  remember _ _ _ := rfl

end Oratio
