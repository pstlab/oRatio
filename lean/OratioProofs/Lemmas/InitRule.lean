/-
For property C06: what the two INIT_STRING texts (`Gen.initLA`, `Gen.initDL`) lex and parse to.

The AST types (`Expr`, `Stmt`, …) carry no `DecidableEq` (nested inductives; the deriving handler does
not apply), so `decide +kernel` cannot state `parse txt = some unit`.  The equation is closed by
`Eq.refl` instead, with the definitional-equality check left to the KERNEL (`kernel_rfl` below: the
elaborator's own unifier does not get through the lexer/parser evaluation); the kernel evaluates the
lexer and the parser models on the ~250 characters.  A wrong literal is rejected by the kernel when
the auxiliary lemma is added to the environment.
-/
import OratioModel
import Gen.Init
import Lean

namespace Oratio
namespace InitRule
open Riddle

open Lean Elab Tactic Meta in
/-- close `a = b` by `Eq.refl a`; the definitional-equality check is done by the kernel only
    (the proof term is added as an auxiliary lemma, which the kernel type-checks) -/
elab "kernel_rfl" : tactic => do
  let g ← getMainGoal
  let t ← instantiateMVars (← g.getType)
  if t.hasMVar || t.hasFVar then throwError "kernel_rfl: the goal must be closed"
  let some (_, lhs, _) := t.eq? | throwError "kernel_rfl: not an equation"
  let pf ← mkEqRefl lhs
  let lem ← mkAuxLemma [] t pf
  g.assign (mkConst lem)

def v (s : String) : Expr := .id [strInts s]
def cmp (op : BOp) (l r : Expr) : Stmt := .expr (.bin op l r)

/-- `predicate Impulse(<tp> at) { at >= origin; at <= horizon; }` -/
def impulse (tp : String) : PredDecl :=
  { name := strInts "Impulse", pars := [⟨[strInts tp], strInts "at"⟩], supers := [],
    body := [cmp .geq (v "at") (v "origin"), cmp .leq (v "at") (v "horizon")] }

/-- `predicate Interval(real start, real end, real duration)
      { start >= origin; end <= horizon; duration == end - start; duration >= 0.0; }` -/
def intervalLA : PredDecl :=
  { name := strInts "Interval",
    pars := [⟨[strInts "real"], strInts "start"⟩, ⟨[strInts "real"], strInts "end"⟩,
             ⟨[strInts "real"], strInts "duration"⟩],
    supers := [],
    body := [cmp .geq (v "start") (v "origin"), cmp .leq (v "end") (v "horizon"),
             cmp .eq (v "duration") (.nary .sub [v "end", v "start"]),
             cmp .geq (v "duration") (.real ⟨0, 1⟩)] }

/-- `predicate Interval(tp start, tp end) { start >= origin; start <= end; end <= horizon; }` -/
def intervalDL : PredDecl :=
  { name := strInts "Interval",
    pars := [⟨[strInts "tp"], strInts "start"⟩, ⟨[strInts "tp"], strInts "end"⟩],
    supers := [],
    body := [cmp .geq (v "start") (v "origin"), cmp .leq (v "start") (v "end"),
             cmp .leq (v "end") (v "horizon")] }

/-- `<tp> origin; <tp> horizon; origin >= 0.0; origin <= horizon;` -/
def topStmts (tp : String) : List Stmt :=
  [.localField [strInts tp] [(strInts "origin", none)], .localField [strInts tp] [(strInts "horizon", none)],
   cmp .geq (v "origin") (.real ⟨0, 1⟩), cmp .leq (v "origin") (v "horizon")]

def laUnit : CompUnit :=
  { methods := [], preds := [impulse "real", intervalLA], types := [], stmts := topStmts "real" }
def dlUnit : CompUnit :=
  { methods := [], preds := [impulse "tp", intervalDL], types := [], stmts := topStmts "tp" }

/-- lex, then parse (the expression used in the statements of C06) -/
def parse (txt : String) : Option CompUnit :=
  (lex (strInts txt)).toOption.bind (fun ts => (parseUnit ts).toOption)

/- The characters of the two texts.  The kernel reads a string literal as `String.ofList` of its
   characters, which makes `initLA_eq` / `initDL_eq` immediate; the other way round, `String.toList` of
   a literal (UTF-8 decoding of a byte array) takes the kernel time quadratic in the length, many times
   what lexing and parsing take.  So the texts are lexed from these lists. -/
def charsLA : List Char :=
  ['p', 'r', 'e', 'd', 'i', 'c', 'a', 't', 'e', ' ', 'I', 'm', 'p', 'u', 'l', 's', 'e', '(', 'r', 'e', 'a', 'l', ' ', 'a',
   't', ')', ' ', '{', ' ', 'a', 't', ' ', '>', '=', ' ', 'o', 'r', 'i', 'g', 'i', 'n', ';', ' ', 'a', 't', ' ', '<', '=',
   ' ', 'h', 'o', 'r', 'i', 'z', 'o', 'n', ';', ' ', '}', ' ', 'p', 'r', 'e', 'd', 'i', 'c', 'a', 't', 'e', ' ', 'I', 'n',
   't', 'e', 'r', 'v', 'a', 'l', '(', 'r', 'e', 'a', 'l', ' ', 's', 't', 'a', 'r', 't', ',', ' ', 'r', 'e', 'a', 'l', ' ',
   'e', 'n', 'd', ',', ' ', 'r', 'e', 'a', 'l', ' ', 'd', 'u', 'r', 'a', 't', 'i', 'o', 'n', ')', ' ', '{', ' ', 's', 't',
   'a', 'r', 't', ' ', '>', '=', ' ', 'o', 'r', 'i', 'g', 'i', 'n', ';', ' ', 'e', 'n', 'd', ' ', '<', '=', ' ', 'h', 'o',
   'r', 'i', 'z', 'o', 'n', ';', ' ', 'd', 'u', 'r', 'a', 't', 'i', 'o', 'n', ' ', '=', '=', ' ', 'e', 'n', 'd', ' ', '-',
   ' ', 's', 't', 'a', 'r', 't', ';', ' ', 'd', 'u', 'r', 'a', 't', 'i', 'o', 'n', ' ', '>', '=', ' ', '0', '.', '0', ';',
   ' ', '}', ' ', 'r', 'e', 'a', 'l', ' ', 'o', 'r', 'i', 'g', 'i', 'n', ';', ' ', 'r', 'e', 'a', 'l', ' ', 'h', 'o', 'r',
   'i', 'z', 'o', 'n', ';', ' ', 'o', 'r', 'i', 'g', 'i', 'n', ' ', '>', '=', ' ', '0', '.', '0', ';', ' ', 'o', 'r', 'i',
   'g', 'i', 'n', ' ', '<', '=', ' ', 'h', 'o', 'r', 'i', 'z', 'o', 'n', ';']
def charsDL : List Char :=
  ['p', 'r', 'e', 'd', 'i', 'c', 'a', 't', 'e', ' ', 'I', 'm', 'p', 'u', 'l', 's', 'e', '(', 't', 'p', ' ', 'a', 't', ')',
   ' ', '{', ' ', 'a', 't', ' ', '>', '=', ' ', 'o', 'r', 'i', 'g', 'i', 'n', ';', ' ', 'a', 't', ' ', '<', '=', ' ', 'h',
   'o', 'r', 'i', 'z', 'o', 'n', ';', ' ', '}', ' ', 'p', 'r', 'e', 'd', 'i', 'c', 'a', 't', 'e', ' ', 'I', 'n', 't', 'e',
   'r', 'v', 'a', 'l', '(', 't', 'p', ' ', 's', 't', 'a', 'r', 't', ',', ' ', 't', 'p', ' ', 'e', 'n', 'd', ')', ' ', '{',
   ' ', 's', 't', 'a', 'r', 't', ' ', '>', '=', ' ', 'o', 'r', 'i', 'g', 'i', 'n', ';', ' ', 's', 't', 'a', 'r', 't', ' ',
   '<', '=', ' ', 'e', 'n', 'd', ';', ' ', 'e', 'n', 'd', ' ', '<', '=', ' ', 'h', 'o', 'r', 'i', 'z', 'o', 'n', ';', ' ',
   '}', ' ', 't', 'p', ' ', 'o', 'r', 'i', 'g', 'i', 'n', ';', ' ', 't', 'p', ' ', 'h', 'o', 'r', 'i', 'z', 'o', 'n', ';',
   ' ', 'o', 'r', 'i', 'g', 'i', 'n', ' ', '>', '=', ' ', '0', '.', '0', ';', ' ', 'o', 'r', 'i', 'g', 'i', 'n', ' ', '<',
   '=', ' ', 'h', 'o', 'r', 'i', 'z', 'o', 'n', ';']

theorem initLA_eq : Gen.initLA = String.ofList charsLA := by kernel_rfl
theorem initDL_eq : Gen.initDL = String.ofList charsDL := by kernel_rfl

theorem strInts_ofList (l : List Char) : strInts (String.ofList l) = l.map ch := by
  rw [strInts, String.toList_ofList]

theorem parse_LA : parse Gen.initLA = some laUnit := by
  rw [parse, initLA_eq, strInts_ofList]; kernel_rfl
theorem parse_DL : parse Gen.initDL = some dlUnit := by
  rw [parse, initDL_eq, strInts_ofList]; kernel_rfl

theorem unit_eq {txt : String} {u₀ u : CompUnit} (h : parse txt = some u₀)
    (hu : (lex (strInts txt)).toOption.bind (fun ts => (parseUnit ts).toOption) = some u) : u = u₀ :=
  Option.some.inj (hu.symm.trans h)

theorem impulse_ne_interval : strInts "Impulse" ≠ strInts "Interval" := by decide +kernel

theorem pred_eq {p p₁ p₂ : PredDecl} (hp : p ∈ [p₁, p₂]) (hne : p₁.name ≠ p₂.name) :
    (p.name = p₁.name → p = p₁) ∧ (p.name = p₂.name → p = p₂) := by
  simp only [List.mem_cons, List.not_mem_nil, or_false] at hp
  rcases hp with rfl | rfl
  · exact ⟨fun _ => rfl, fun h => absurd h hne⟩
  · exact ⟨fun h => absurd h.symm hne, fun _ => rfl⟩

theorem zero_toRat : (R.mk 0 1).toRat = 0 := by
  simp [R.toRat]

end InitRule
end Oratio
