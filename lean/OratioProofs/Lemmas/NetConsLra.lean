/-
The requests of the LRA theory at root level keep the network invariant, and every T-model of the new network is one
of the old.  All go through `NetInv.lraStep`: old assertions, solutions and bounds are kept, and every other bound
carries the reason TRUE and is justified.  The one case with such bounds to justify is `new_var(lin)` WHEN IT CREATES A
SLACK VARIABLE, bounded by `lb(lin)`, `ub(lin)`: at root level the reason of every current bound is entailed by
`orig ++ L`, so the bounds of the variables of the expression hold (`LraJ`), hence so does its interval bound.
-/
import OratioProofs.Lemmas.NetRoot
import OratioProofs.Lemmas.LraExplKept
import OratioProofs.Lemmas.LraGoodMain

set_option linter.unusedVariables false

namespace Oratio
namespace Net
open Sat

theorem reason_getD_append {l : List LBound} {a b : LBound} (ha : a.reason = Lit.trueLit) (hb : b.reason = Lit.trueLit)
    {i : Nat} (hi : l.length ≤ i) : ((l ++ [a, b]).getD i ⟨IR.ofR R.zero, Lit.trueLit⟩).reason = Lit.trueLit := by
  rw [List.getD_eq_getElem?_getD, List.getElem?_append_right hi]
  rcases i - l.length with _ | _ | k
  · exact ha
  · exact hb
  · rfl

theorem lra_newVar_bnd_cases (t : Lra) (i : Nat) : (i < t.bounds.length ∧ t.newVar.2.bnd i = t.bnd i) ∨
    (t.bounds.length ≤ i ∧ (t.newVar.2.bnd i).reason = Lit.trueLit) :=
  (Nat.lt_or_ge i t.bounds.length).imp (fun hi => ⟨hi, Lra.getD_append_left _ _ _ _ hi⟩)
    fun hi => ⟨hi, reason_getD_append rfl rfl hi⟩

theorem bnd_same {t t' : Lra} (h : t'.bounds = t.bounds) (i : Nat) :
    (i < t.bounds.length ∧ t'.bnd i = t.bnd i) ∨ (t.bounds.length ≤ i ∧ (t'.bnd i).reason = Lit.trueLit) :=
  (Nat.lt_or_ge i t.bounds.length).imp (fun hi => ⟨hi, Lra.bnd_eq_of_bounds h i⟩) fun hi => ⟨hi, by
    unfold Lra.bnd; rw [h, List.getD_eq_getElem?_getD, List.getElem?_eq_none hi]; rfl⟩

theorem NetInv.lraReg {n : Net} {orig L : Cnf} {fr : List Frame} (h : NetInv n orig L fr) : Lra.Reg n.sat.vals.length n.lra :=
  ⟨h.reg.lra, h.th.base.lra.key, h.th.base.lra.inv.awatch, h.reg.aw, h.reg.sa⟩

/-- What a root-level request hands to `NetInv.rootStep`: the C09X components of `LraBase` are read off `GoodState` and
    the registries; the old bounds are untouched, so they stay justified; every other bound has the reason TRUE and is
    justified by `hnew`. -/
theorem lraRoot {orig : Cnf} {s s' : Sat} {t t' : Lra} (hb : LraBase orig s t) (hle : Dl.SatLe s s')
    (htrue : s'.value Lit.trueLit = some true) (g : Lra.GoodState t') (r : Lra.Reg s'.vals.length t')
    (hsub : ∀ e ∈ t.vAsrts, e ∈ t'.vAsrts) (hsolv : ∀ σr σi, Lra.Solves t' σr σi → Lra.Solves t σr σi)
    (hbnd : ∀ i, (i < t.bounds.length ∧ t'.bnd i = t.bnd i) ∨ (t.bounds.length ≤ i ∧ (t'.bnd i).reason = Lit.trueLit))
    (hnew : ∀ (α : Asg) σr σi, α 0 = false → α.cnf orig = true → Lra.Solves t' σr σi → Lra.BoundsJust α σr σi t →
      ∀ x, t.vals.length ≤ x → x < t'.vals.length →
        Lra.BLe (t'.lb x) (Lra.nu σr σi x) ∧ Lra.VLe (Lra.nu σr σi x) (t'.ub x)) :
    LraBase orig s' t' ∧ LraReg s'.vals.length t' := by
  have hB : t.bounds.length = 2 * t.vals.length := hb.inv.blen
  have hold : ∀ i, i < t.bounds.length → t'.bnd i = t.bnd i := fun i hi =>
    (hbnd i).elim And.right fun e => absurd hi (Nat.not_lt.2 e.1)
  refine ⟨⟨g.toGoodCore.explInv r.awatch, g.toGoodCore.valsOK, r.key, g.toGoodCore.asrtVars, ?_, fun x => ?_⟩,
    r.lt, g, r.aw, r.sa⟩
  · intro α σr σi h0 ho hsol hag x hx
    have hj := hb.just α σr σi h0 ho (hsolv σr σi hsol) fun e he => hag e (hsub e he)
    by_cases hxo : x < t.vals.length
    · have := hj x (by rw [hB]; unfold Lra.ubIdx; omega)
      unfold Lra.lbReason Lra.ubReason Lra.lb Lra.ub at this ⊢
      rw [hold _ (by rw [hB]; unfold Lra.lbIdx; omega), hold _ (by rw [hB]; unfold Lra.ubIdx; omega)]
      exact this
    · have hx' : x < t'.vals.length := by rw [g.blen] at hx; unfold Lra.ubIdx at hx; omega
      have := hnew α σr σi h0 ho hsol hj x (Nat.le_of_not_lt hxo) hx'
      exact ⟨fun _ => this.1, fun _ => this.2⟩
  · unfold Lra.lbReason Lra.ubReason
    exact ⟨(hbnd (Lra.lbIdx x)).elim (fun e => e.2 ▸ (hb.reasons.mono hle x).1) (fun e => e.2 ▸ htrue),
      (hbnd (Lra.ubIdx x)).elim (fun e => e.2 ▸ (hb.reasons.mono hle x).2) (fun e => e.2 ▸ htrue)⟩

theorem NetInv.lraStep {n : Net} {orig L : Cnf} {fr : List Frame} (h : NetInv n orig L fr) (hroot : n.sat.trailLim = [])
    {s' : Sat} {t' : Lra} (bd : List (Nat × Th)) (hs : SInv (orig ++ L) orig s') (hle : Dl.SatLe n.sat s')
    (hroot' : s'.trailLim = []) (hlen : n.sat.vals.length ≤ s'.vals.length)
    (g : Lra.GoodState t') (r : Lra.Reg s'.vals.length t')
    (hsub : ∀ e ∈ n.lra.vAsrts, e ∈ t'.vAsrts) (hsolv : ∀ σr σi, Lra.Solves t' σr σi → Lra.Solves n.lra σr σi)
    (hbnd : ∀ i, (i < n.lra.bounds.length ∧ t'.bnd i = n.lra.bnd i) ∨
      (n.lra.bounds.length ≤ i ∧ (t'.bnd i).reason = Lit.trueLit))
    (hnew : ∀ (α : Asg) σr σi, α 0 = false → α.cnf (orig ++ L) = true → Lra.Solves t' σr σi →
      Lra.BoundsJust α σr σi n.lra → ∀ x, n.lra.vals.length ≤ x → x < t'.vals.length →
        Lra.BLe (t'.lb x) (Lra.nu σr σi x) ∧ Lra.VLe (Lra.nu σr σi x) (t'.ub x)) :
    NetInv { n with sat := s', lra := t', bound := bd } orig L [] ∧
      ∀ α, TModel { n with sat := s', lra := t', bound := bd } α → TModel n α := by
  obtain rfl := h.root_frames hroot
  have hmono : ∀ α, TModel { n with sat := s', lra := t', bound := bd } α → TModel n α :=
    fun α ⟨σr, σi, σz, σq, a, b, c, d⟩ => ⟨σr, σi, σz, σq, hsolv σr σi a, fun e he => b e (hsub e he), c, d⟩
  exact ⟨h.rootStep (n' := { n with sat := s', lra := t', bound := bd }) (fun _ hd => hd) hs hroot' hle hlen hmono
    (.inr (lraRoot h.th.base.lra hle (hs.wf.a.value_true.2 (.inr rfl)) g r hsub hsolv hbnd hnew)) (.inl rfl) (.inl rfl), hmono⟩

/-- no new variable: the hypothesis `hnew` of `lraStep` is void -/
theorem no_new {t t' : Lra} (h : t'.vals.length = t.vals.length) {P : Nat → Prop} :
    ∀ x, t.vals.length ≤ x → x < t'.vals.length → P x := fun x h1 h2 => absurd (h ▸ h2) (Nat.not_lt.2 h1)

theorem NetInv.at_lraNewVar {n : Net} {orig L : Cnf} {fr : List Frame} (h : NetInv n orig L fr) (hroot : n.sat.trailLim = []) :
    NetInv (lraNewVar n).2 orig L [] ∧ ∀ α, TModel (lraNewVar n).2 α ↔ TModel n α := by
  have hB : n.lra.bounds.length = 2 * n.lra.vals.length := h.th.base.lra.inv.blen
  refine ⟨(h.lraStep hroot n.bound h.sat (Dl.SatLe.refl _) hroot (Nat.le_refl _) (Lra.newVar_good h.reg.good)
    h.lraReg.newVar (fun _ he => he) (fun _ _ hs => hs) (lra_newVar_bnd_cases n.lra)
    fun α σr σi _ _ _ _ x h1 h2 => ?_).1, fun _ => Iff.rfl⟩
  obtain rfl : x = n.lra.vals.length := by
    have : x < (n.lra.vals ++ [IR.ofR R.zero]).length := h2
    rw [List.length_append] at this; simp at this; omega
  obtain ⟨e1, e2⟩ := Lra.lb_ub_new (u := n.lra.newVar.2) hB rfl
  rw [e1, e2]
  exact ⟨Lra.ble_ninf _, Lra.vle_pinf _⟩

theorem NetInv.at_exprs {n : Net} {orig L : Cnf} {fr : List Frame} (h : NetInv n orig L fr) (hroot : n.sat.trailLim = [])
    (ex : List (String × Nat)) (bd : List (Nat × Th)) (hg : Lra.GoodState { n.lra with exprs := ex }) :
    NetInv { n with lra := { n.lra with exprs := ex }, bound := bd } orig L [] ∧
      ∀ α, TModel { n with lra := { n.lra with exprs := ex }, bound := bd } α → TModel n α :=
  h.lraStep hroot bd h.sat (Dl.SatLe.refl _) hroot (Nat.le_refl _) hg (h.lraReg.exprs ex) (fun _ he => he)
    (fun _ _ hs => hs) (bnd_same rfl) fun _ _ _ _ _ _ _ => no_new rfl

theorem NetInv.at_relReg {n : Net} {orig L : Cnf} {fr : List Frame} (h : NetInv n orig L fr) (hroot : n.sat.trailLim = [])
    (up : Bool) (slack : Nat) (c : IR) (bd : List (Nat × Th))
    (hg : Lra.GoodState (Lra.relReg n.lra up slack c n.sat.nvars)) :
    NetInv { n with sat := n.sat.newVar.2, lra := Lra.relReg n.lra up slack c n.sat.nvars, bound := bd } orig L [] ∧
      ∀ α, TModel { n with sat := n.sat.newVar.2, lra := Lra.relReg n.lra up slack c n.sat.nvars, bound := bd } α →
        TModel n α :=
  have hN : n.sat.newVar.2.vals.length = n.sat.vals.length + 1 := List.length_append
  h.lraStep hroot bd h.sat.newVar (newVar_keep _).le (show n.sat.newVar.2.trailLim = [] from hroot) (by omega) hg
    (hN ▸ h.lraReg.relReg up slack c) (fun _ he => List.mem_append_left _ he) (fun _ _ hs => hs) (bnd_same rfl)
    fun _ _ _ _ _ _ _ => no_new rfl

theorem newVarLin_noSlack {s : Sat} {t : Lra} {l : Lin} {slack : Nat} {t1 : Lra}
    (h : Lra.newVarLin s t l = some (slack, t1)) (hlen : t1.vals.length = t.vals.length) :
    ∃ ex, t1 = { t with exprs := ex } := by
  rcases (Lra.newVarLin_nf h).2.found_or_created with ⟨_, ex, e, _⟩ | ⟨_, e⟩
  · exact ⟨ex, e⟩
  · rw [e, Lra.withSlack_vals_length] at hlen; omega

theorem lraNewVarLin_eq_some {n : Net} {l : Lin} {v : Nat} {n' : Net} (he : lraNewVarLin n l = some (v, n')) :
    ∃ t1, Lra.newVarLin n.sat n.lra l = some (v, t1) ∧ n' = { n with lra := t1 } := by
  unfold lraNewVarLin at he
  rw [Option.map_eq_some_iff] at he
  obtain ⟨⟨v0, t1⟩, hv, e⟩ := he
  obtain ⟨rfl, rfl⟩ := Prod.mk.inj e
  exact ⟨t1, hv, rfl⟩

theorem lraNewRel_eq_some {n : Net} {r : LRel} {a b : Lin} {l : Lit} {n' : Net} (he : lraNewRel n r a b = some (l, n')) :
    ∃ s' t' bs, Lra.newRel n.sat n.lra r a b = some (l, s', t', bs) ∧
      n' = { n with sat := s', lra := t', bound := n.bound ++ bs.toList.map (fun v => (v, Th.lra)) } := by
  unfold lraNewRel at he
  rw [Option.map_eq_some_iff] at he
  obtain ⟨⟨l0, s', t', bs⟩, hv, e⟩ := he
  obtain ⟨rfl, rfl⟩ := Prod.mk.inj e
  exact ⟨s', t', bs, hv, rfl⟩

theorem lraNewVarLin_tableau {n : Net} {l : Lin} {v : Nat} {n' : Net}
    (he : lraNewVarLin n l = some (v, n')) (hns : n'.lra.vals.length = n.lra.vals.length) :
    n'.lra.tableau = n.lra.tableau := by
  obtain ⟨t1, hv, rfl⟩ := lraNewVarLin_eq_some he
  obtain ⟨ex, rfl⟩ := newVarLin_noSlack hv hns
  rfl

theorem lraNewRel_tableau {n : Net} {r : LRel} {a b : Lin} {l : Lit} {n' : Net}
    (he : lraNewRel n r a b = some (l, n')) (hns : n'.lra.vals.length = n.lra.vals.length) :
    n'.lra.tableau = n.lra.tableau := by
  obtain ⟨s', t', bs, hv, rfl⟩ := lraNewRel_eq_some he
  have key := (Lra.newRel_outcome hv).induct
    (P := fun _ u => n.lra.vals.length ≤ u.vals.length ∧ (u.vals.length = n.lra.vals.length → u.tableau = n.lra.tableau))
    ⟨Nat.le_refl _, fun _ => rfl⟩
    (fun _ t1 h1 => by
      rcases (Lra.newVarLin_nf h1).2.found_or_created with ⟨_, ex, e, _⟩ | ⟨_, e⟩
      · rw [e]; exact ⟨Nat.le_refl _, fun _ => rfl⟩
      · rw [e, Lra.withSlack_vals_length]; exact ⟨Nat.le_succ _, fun h => absurd h (Nat.succ_ne_self _)⟩)
    (fun _ _ _ hp => hp)
  exact key.2 hns

theorem withSlack_bnd_cases (t : Lra) (e : Lin) (ex : List (String × Nat)) (hB : t.bounds.length = 2 * t.vals.length)
    (i : Nat) : (i < t.bounds.length ∧ (Lra.withSlack t e ex).bnd i = t.bnd i) ∨
      (t.bounds.length ≤ i ∧ ((Lra.withSlack t e ex).bnd i).reason = Lit.trueLit) := by
  by_cases hi : i < t.bounds.length
  · exact .inl ⟨hi, Lra.withSlack_bnd t e ex (Nat.le_of_eq hB) hi⟩
  · refine .inr ⟨Nat.le_of_not_lt hi, ?_⟩
    unfold Lra.bnd
    rw [show (Lra.withSlack t e ex).bounds = _ from Lra.newRow_bounds _ _ _]
    show ((((t.bounds ++ [_, _]).set _ _).set _ _).getD i _).reason = _
    rw [Lra.getD_set, Lra.getD_set]
    split
    · rfl
    · split
      · rfl
      · exact reason_getD_append rfl rfl (Nat.le_of_not_lt hi)

theorem NetInv.at_newSlack {n : Net} {orig L : Cnf} {fr : List Frame} (h : NetInv n orig L fr) (hroot : n.sat.trailLim = [])
    {l : Lin} (hl : Lra.LinOK n.lra l) {slack : Nat} {t1 : Lra} (hv : Lra.newVarLin n.sat n.lra l = some (slack, t1))
    (hnew : t1.vals.length = n.lra.vals.length + 1) (bd : List (Nat × Th)) :
    NetInv { n with lra := t1, bound := bd } orig L [] ∧ ∀ α, TModel { n with lra := t1, bound := bd } α → TModel n α := by
  have g := h.reg.good
  have hb := h.th.base.lra
  have hB : n.lra.bounds.length = 2 * n.lra.vals.length := hb.inv.blen
  obtain ⟨he1, he2⟩ := Lra.linOK_substBasic g.tab g.nz hl
  have hev : ∀ p ∈ (Lra.substBasic n.lra l).vars, p.1 < n.lra.vals.length := fun p hp => (he2 p hp).1
  have hmem : ∀ e, e ∈ t1.tableau ↔ e ∈ n.lra.tableau ∨ e = (slack, Lra.substBasic n.lra l) := by
    rcases Lra.newVarLin_sound g.tab hl.1 (fun p hp => (hl.2 p hp).1) hv with ⟨_, _, h3⟩ | ⟨_, _, _, h4, _⟩
    · rw [h3] at hnew; omega
    · exact h4
  have hg := (Lra.newVarLin_good g hl hv).1
  obtain ⟨rfl, rfl⟩ : slack = n.lra.vals.length ∧
      t1 = Lra.withSlack n.lra (Lra.substBasic n.lra l) (Lra.slackExprs n.lra l) := by
    rcases (Lra.newVarLin_nf hv).2.found_or_created with ⟨_, ex, e, _⟩ | hc
    · rw [e] at hnew; exact absurd hnew (Nat.ne_of_lt (Nat.lt_succ_self _))
    · exact hc
  obtain ⟨hlb, hub, -⟩ := Lra.withSlack_new n.lra (Lra.substBasic n.lra l) (Lra.slackExprs n.lra l) hB hev
  refine h.lraStep hroot bd h.sat (Dl.SatLe.refl _) hroot (Nat.le_refl _) hg (h.lraReg.withSlack _ _)
    (fun e he => (Lra.withSlack_vAsrts ..).symm ▸ he)
    (fun σr σi hs => ⟨fun e he => hs.1 e ((hmem e).2 (.inl he)), fun e he => hs.2 e ((hmem e).2 (.inl he))⟩)
    (withSlack_bnd_cases _ _ _ hB) fun α σr σi h0 ho hsol hj x h1 h2 => ?_
  -- at root level the reasons of the old bounds are entailed, so the valuation is within the old bounds,
  -- hence its value on the row is within the interval bounds of the row
  obtain rfl : x = n.lra.vals.length := by rw [Lra.withSlack_vals_length] at h2; omega
  rw [hsol.row ((hmem _).2 (.inr rfl)), hlb, hub]
  exact Lra.lbLin_ubLin_holds he1 (fun p hp => (he2 p hp).2)
    (fun p hp => ⟨Lra.lbOk_of_lowerOK (g.bwf _ (hev p hp)).1, Lra.ubOk_of_upperOK (g.bwf _ (hev p hp)).2.1⟩)
    fun p hp =>
      have hyj := hj p.1 (by have := hev p hp; rw [hB]; unfold Lra.ubIdx; omega)
      ⟨hyj.1 (root_true h.sat hroot (hb.reasons p.1).1 α h0 ho), hyj.2 (root_true h.sat hroot (hb.reasons p.1).2 α h0 ho)⟩

theorem NetInv.newVarLinStep {n : Net} {orig L : Cnf} {fr : List Frame} (h : NetInv n orig L fr) (hroot : n.sat.trailLim = [])
    {l : Lin} (hl : Lra.LinOK n.lra l) {slack : Nat} {t1 : Lra} (hv : Lra.newVarLin n.sat n.lra l = some (slack, t1))
    (bd : List (Nat × Th)) :
    NetInv { n with lra := t1, bound := bd } orig L [] ∧ ∀ α, TModel { n with lra := t1, bound := bd } α → TModel n α := by
  rcases (Lra.newVarLin_nf hv).2.found_or_created with ⟨_, ex, rfl, _⟩ | ⟨_, e⟩
  · exact h.at_exprs hroot ex bd (Lra.newVarLin_good h.reg.good hl hv).1
  · exact h.at_newSlack hroot hl hv (by rw [e, Lra.withSlack_vals_length]) bd

theorem NetInv.at_lraNewVarLinG {n : Net} {orig L : Cnf} {fr : List Frame} (h : NetInv n orig L fr)
    (hroot : n.sat.trailLim = []) {l : Lin} (hl : Lra.LinOK n.lra l) {v : Nat} {n' : Net}
    (he : lraNewVarLin n l = some (v, n')) :
    NetInv n' orig L [] ∧ (∀ α, TModel n' α → TModel n α) ∧ n'.sat = n.sat := by
  obtain ⟨t1, hv, rfl⟩ := lraNewVarLin_eq_some he
  obtain ⟨k1, k2⟩ := h.newVarLinStep hroot hl hv n.bound
  exact ⟨k1, k2, rfl⟩

/-- at most one `new_var(lin)`, then at most one new assertion with a fresh controlling variable -/
theorem NetInv.at_lraNewRelG {n : Net} {orig L : Cnf} {fr : List Frame} (h : NetInv n orig L fr) (hroot : n.sat.trailLim = [])
    {r : LRel} {a b : Lin} (ha : Lra.LinOK n.lra a) (hb : Lra.LinOK n.lra b) {l : Lit} {n' : Net}
    (he : lraNewRel n r a b = some (l, n')) :
    NetInv n' orig L [] ∧ (∀ α, TModel n' α → TModel n α) ∧ n'.sat.trailLim = [] ∧ n'.sat.dead = n.sat.dead ∧
      n'.sat.queue = n.sat.queue := by
  obtain ⟨s', t', bs, hv, rfl⟩ := lraNewRel_eq_some he
  obtain rfl := h.root_frames hroot
  have hle := Lra.linOK_relE h.reg.good ha hb
  exact (Lra.newRel_outcome hv).induct
    (P := fun s' t' => ∀ bd, NetInv { n with sat := s', lra := t', bound := bd } orig L [] ∧
      (∀ α, TModel { n with sat := s', lra := t', bound := bd } α → TModel n α) ∧ s'.trailLim = [] ∧
      s'.dead = n.sat.dead ∧ s'.queue = n.sat.queue)
    (fun bd => ⟨h.congrN rfl rfl rfl rfl, fun α hm => (TModel.congrN rfl rfl rfl α).1 hm, hroot, rfl, rfl⟩)
    (fun _ t1 h1 bd => ⟨(h.newVarLinStep hroot hle h1 bd).1, (h.newVarLinStep hroot hle h1 bd).2, hroot, rfl, rfl⟩)
    (fun slack t1 h1 hp bd => by
      obtain ⟨j1, j2, _⟩ := hp n.bound
      obtain ⟨k1, k2⟩ := j1.at_relReg hroot (Lra.relUp r) slack (Lra.relC n.lra r a b) bd
        (Lra.relReg_good j1.reg.good (Lra.relUp r) (Lra.newVarLin_good h.reg.good hle h1).2.1
          (Lra.finIR_relC h.reg.good r ha hb) n.sat.nvars)
      exact ⟨k1, fun α hm => j2 α (k2 α hm), hroot, rfl, rfl⟩) _

theorem NetInv.at_lraNewVarLin {n : Net} {orig L : Cnf} {fr : List Frame} (h : NetInv n orig L fr) (hroot : n.sat.trailLim = [])
    {l : Lin} (hl : Lra.LinOK n.lra l) {v : Nat} {n' : Net} (he : lraNewVarLin n l = some (v, n'))
    (hns : n'.lra.vals.length = n.lra.vals.length) :
    NetInv n' orig L [] ∧ (∀ α, TModel n' α → TModel n α) ∧ n'.sat = n.sat :=
  h.at_lraNewVarLinG hroot hl he

theorem NetInv.at_lraNewRel {n : Net} {orig L : Cnf} {fr : List Frame} (h : NetInv n orig L fr) (hroot : n.sat.trailLim = [])
    {r : LRel} {a b : Lin} (ha : Lra.LinOK n.lra a) (hb : Lra.LinOK n.lra b) {l : Lit} {n' : Net}
    (he : lraNewRel n r a b = some (l, n')) (hns : n'.lra.vals.length = n.lra.vals.length) :
    NetInv n' orig L [] ∧ (∀ α, TModel n' α → TModel n α) ∧ n'.sat.trailLim = [] ∧ n'.sat.dead = n.sat.dead ∧
      n'.sat.queue = n.sat.queue :=
  h.at_lraNewRelG hroot ha hb he

theorem lraNewRel_lit {n : Net} {orig L : Cnf} {fr : List Frame} (h : NetInv n orig L fr)
    {r : LRel} {a b : Lin} (ha : Lra.LinOK n.lra a) (hb : Lra.LinOK n.lra b) {l : Lit} {n' : Net}
    (he : lraNewRel n r a b = some (l, n')) :
    l.var < n'.sat.vals.length ∧ n.lra.vals.length ≤ n'.lra.vals.length ∧ n.sat.vals.length ≤ n'.sat.vals.length := by
  obtain ⟨s', t', bs, hv, rfl⟩ := lraNewRel_eq_some he
  have hpos := h.sat.wf.zero_lt
  have hconst : ∀ {x : Lit}, (x = Lit.trueLit ∨ x = Lit.falseLit) → x.var < n.sat.vals.length := fun hx => by
    rcases hx with rfl | rfl <;> exact hpos
  have hN : n.sat.nvars < n.sat.newVar.2.vals.length := by
    show n.sat.vals.length < (n.sat.vals ++ [none]).length
    rw [List.length_append]; exact Nat.lt_succ_self _
  refine ⟨?_, (Lra.newRel_good h.reg.good ha hb hv).2, ?_⟩
  · show l.var < s'.vals.length
    cases Lra.newRel_outcome hv with
    | decidedExpr h0 hs ht hb' => rw [hs]; exact hconst (Lra.relSat_const h0)
    | decidedSlack slack h0 hvl h1 hs hb' => rw [hs]; exact hconst (Lra.relSat_const h1)
    | cached slack h0 hvl h1 hf hs hb' =>
      rw [hs]
      have he := Lra.mem_of_findKey hf
      rw [(Lra.newVarLin_spec hvl).1] at he
      exact h.reg.sa _ he
    | fresh slack t1 h0 hvl h1 hf hl hs ht hb' => rw [hs, hl]; exact hN
  · exact (Lra.newRel_outcome hv).induct (P := fun s' _ => n.sat.vals.length ≤ s'.vals.length) (Nat.le_refl _)
      (fun _ _ _ => Nat.le_refl _) fun _ _ _ _ => Nat.le_of_lt hN

theorem NetInv.at_lraNewEq {n : Net} {orig L : Cnf} {fr : List Frame} (h : NetInv n orig L fr) (hroot : n.sat.trailLim = [])
    (hd : n.sat.dead = false) {a b : Lin} (ha : Lra.LinOK n.lra a) (hb : Lra.LinOK n.lra b) {l : Lit} {n' : Net}
    (he : lraNewEq n a b = some (l, n')) :
    NetInv n' (orig ++ n'.sat.toEnc.cnf) L [] ∧ (∀ α, TModel n' α → TModel n α) := by
  unfold lraNewEq at he
  rw [Option.map_eq_some_iff] at he
  obtain ⟨⟨l0, s', t', bs⟩, hv, e⟩ := he
  obtain ⟨rfl, rfl⟩ := Prod.mk.inj e
  obtain ⟨l1, s1, t1, b1, l2, s2, b2, h1, h2, hc, _⟩ := Lra.newEq_nf hv
  have e1 : lraNewRel n .geq a b = some (l1, { n with sat := s1, lra := t1, bound := n.bound ++ b1.toList.map (fun v => (v, Th.lra)) }) := by
    simp [lraNewRel, h1]
  obtain ⟨i1, m1, r1, d1, _⟩ := h.at_lraNewRelG hroot ha hb e1
  obtain ⟨lit1, len1, _⟩ := lraNewRel_lit h ha hb e1
  have ha1 := ha.mono len1
  have hb1 := hb.mono len1
  have e2 : lraNewRel { n with sat := s1, lra := t1, bound := n.bound ++ b1.toList.map (fun v => (v, Th.lra)) } .leq a b =
      some (l2, { n with sat := s2, lra := t', bound := (n.bound ++ b1.toList.map (fun v => (v, Th.lra))) ++ b2.toList.map (fun v => (v, Th.lra)) }) := by
    simp [lraNewRel, h2]
  obtain ⟨i2, m2, r2, d2, _⟩ := i1.at_lraNewRelG r1 ha1 hb1 e2
  obtain ⟨lit2, _, hle12⟩ := lraNewRel_lit i1 ha1 hb1 e2
  have i3 := i2.newConj (ls := [l1, l2]) (d2.trans (d1.trans hd))
    (List.forall_mem_cons.2 ⟨Nat.lt_of_lt_of_le lit1 hle12, List.forall_mem_cons.2 ⟨lit2, fun _ hx => nomatch hx⟩⟩)
  rw [show (Sat.newConj s2 [l1, l2]).2 = s' from (congrArg Prod.snd hc).symm] at i3
  exact ⟨i3.congrN rfl rfl rfl rfl, fun α hm => m1 α (m2 α ((TModel.congrN rfl rfl rfl α).1 hm))⟩

end Net
end Oratio
