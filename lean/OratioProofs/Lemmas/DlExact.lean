/-
The vocabulary of Properties/C10.lean (which imports this file), body for body.  `ExactM` is
`DlG.Exact` at the integer laws plus the no-overflow range: `range` gives room for one relaxation
(`lawsFor`), `bounded` comes back from exactness by `DlW.sharp`.
-/
import OratioProofs.Lemmas.DlIdl
import OratioProofs.Lemmas.DlExactG

namespace Oratio
namespace Dl

abbrev REdge := Nat × Nat × Int

/-- the body of `IEdge.holds` -/
def rholds (σ : Nat → Int) (e : REdge) : Prop := σ e.2.1 - σ e.1 ≤ e.2.2
/-- the body of `Dl.dist?` -/
def distOpt (t : Dl Int) (i j : Nat) : Option Int :=
  let x := Dl.d idlOps t i j; if x = idlInf then none else some x

/-- the body of `Dl.Exact` -/
structure ExactM (K : Int) (E : List REdge) (t : Dl Int) : Prop where
  size_ok : 1 ≤ t.nVars ∧ t.nVars ≤ t.dists.length ∧ (∀ r ∈ t.dists, r.length = t.dists.length) ∧
    t.preds.length = t.dists.length ∧ (∀ r ∈ t.preds, r.length = t.dists.length)
  fresh : ∀ i j, i < t.dists.length → j < t.dists.length → (t.nVars ≤ i ∨ t.nVars ≤ j) →
    Dl.d idlOps t i j = if i = j then 0 else idlInf
  range : 0 ≤ K ∧ 4 * ((t.nVars : Int) + 1) * K < idlInf
  bounded : ∀ i j, i < t.nVars → j < t.nVars → ∀ x, distOpt t i j = some x → -((t.nVars : Int)) * K ≤ x ∧ x ≤ (t.nVars : Int) * K
  edges_in : ∀ e ∈ E, e.1 < t.nVars ∧ e.2.1 < t.nVars ∧ -K ≤ e.2.2 ∧ e.2.2 ≤ K
  diag : ∀ i, i < t.nVars → distOpt t i i = some 0
  respects : ∀ e ∈ E, ∃ x, distOpt t e.1 e.2.1 = some x ∧ x ≤ e.2.2
  closed : ∀ i j k, i < t.nVars → j < t.nVars → k < t.nVars →
    ∀ a b, distOpt t i k = some a → distOpt t k j = some b → ∃ c, distOpt t i j = some c ∧ c ≤ a + b
  implied : ∀ i j, i < t.nVars → j < t.nVars → ∀ x, distOpt t i j = some x →
    ∀ σ : Nat → Int, (∀ e ∈ E, rholds σ e) → σ j - σ i ≤ x

theorem distOpt_some {t : Dl Int} {i j : Nat} {x : Int} : distOpt t i j = some x ↔ (d idlOps t i j = x ∧ x ≠ idlInf) := by
  unfold distOpt
  dsimp only
  split
  · rename_i h; constructor
    · intro h'; cases h'
    · rintro ⟨h1, h2⟩; exact absurd (h1 ▸ h) h2
  · rename_i h; constructor
    · intro h'; cases h'; exact ⟨rfl, h⟩
    · rintro ⟨h1, _⟩; rw [h1]

theorem distOpt_none {t : Dl Int} {i j : Nat} : distOpt t i j = none ↔ d idlOps t i j = idlInf := by
  unfold distOpt
  dsimp only
  split
  · rename_i h; exact ⟨fun _ => h, fun _ => rfl⟩
  · rename_i h; constructor
    · intro h'; cases h'
    · intro h'; exact absurd h' h

theorem distOpt_of_fin {t : Dl Int} {i j : Nat} (h : d idlOps t i j ≠ idlInf) : distOpt t i j = some (d idlOps t i j) :=
  distOpt_some.mpr ⟨rfl, h⟩

theorem sat_iff (σ : Nat → Int) (E : List REdge) : (∀ e ∈ E, rholds σ e) ↔ DlM.Sat σ E := Iff.rfl

theorem distOpt_iden {t : Dl Int} {i j : Nat} {x : Int} :
    distOpt t i j = some x ↔ iden (d idlOps t i j) = (x : WithTop Int) := Iff.rfl

theorem mulK (n : Nat) (K : Int) : 4 * ((n : Int) + 1) * K = 4 * ((n : Int) * K) + 4 * K := by ring

theorem ExactM.bnd {K : Int} {E : List REdge} {t : Dl Int} (h : ExactM K E t) (i j : Nat) (hi : i < t.nVars)
    (hj : j < t.nVars) :
    d idlOps t i j = idlInf ∨ (-((t.nVars : Int) * K) ≤ d idlOps t i j ∧ d idlOps t i j ≤ (t.nVars : Int) * K) :=
  (em (d idlOps t i j = idlInf)).imp_right fun hf => Int.neg_mul _ _ ▸ h.bounded i j hi hj _ (distOpt_of_fin hf)

theorem ExactM.nK_nonneg {K : Int} {E : List REdge} {t : Dl Int} (h : ExactM K E t) : 0 ≤ (t.nVars : Int) * K :=
  Int.mul_nonneg (by omega) h.range.1

theorem idlOps_zero : idlOps.zero = 0 := rfl
theorem idlOps_inf : idlOps.inf = idlInf := rfl

/-- `R = 2nK + K` bounds a candidate `d a f + w + d g b` of entries within `±nK` (`bounded`) and a weight within `±K`;
    `idlLaws` asks `2R + K = 4nK + 3K < idlInf`, which `4(n+1)K < idlInf` gives. -/
def lawsFor (n : Nat) (K : Int) (hr : 0 ≤ K ∧ 4 * ((n : Int) + 1) * K < idlInf) : DLaws idlOps Int :=
  idlLaws (2 * ((n : Int) * K) + K) K hr.1
    (by have := Int.mul_nonneg (Int.natCast_nonneg n) hr.1; omega)
    (by have := Int.mul_nonneg (Int.natCast_nonneg n) hr.1; have := hr.2; rw [mulK] at this; omega)

theorem ExactM.toG {K : Int} {E : List REdge} {t : Dl Int} (h : ExactM K E t) :
    DlG.Exact (lawsFor t.nVars K h.range) E t := by
  refine ⟨(sizeOk_iff t).mp h.size_ok, h.fresh, ?_, fun e he => (h.edges_in e he).2.2,
    (DlG.weak_iff_opt (M := imat (d idlOps t)) _ fun e he => ⟨(h.edges_in e he).1, (h.edges_in e he).2.1⟩).mpr
      ⟨h.diag, h.respects, h.closed, h.implied⟩⟩
  intro i j hi hj
  have hnK := h.nK_nonneg
  have hK := h.range.1
  exact (h.bnd i j hi hj).imp_right (fun hb => ⟨by omega, by omega⟩)

theorem ExactM.ofG {R K : Int} {hK : 0 ≤ K} {hKR : K ≤ R} {hR : 2 * R + K < idlInf} {E : List REdge} {t : Dl Int}
    (hr : 0 ≤ K ∧ 4 * ((t.nVars : Int) + 1) * K < idlInf) (h : DlG.Exact (idlLaws R K hK hKR hR) E t) :
    ExactM K E t := by
  have hin := fun (e : REdge) he => h.weak.edges_in (e.1, e.2.1, e.2.2) (List.mem_map.mpr ⟨e, he, rfl⟩)
  obtain ⟨h1, h2, h3, h4⟩ := (DlG.weak_iff_opt (M := imat (d idlOps t)) _ hin).mp h.weak
  refine ⟨(sizeOk_iff t).mpr h.size, h.fresh, hr, fun i j hi hj x hx => ?_,
    fun e he => ⟨(hin e he).1, (hin e he).2, (h.wts e he).1, (h.wts e he).2⟩, h1, h2, h3, h4⟩
  have := DlW.sharp h.weak hr.1 (by
    intro e he
    obtain ⟨e0, he0, rfl⟩ := List.mem_map.mp he
    exact h.wts e0 he0) i j hi hj x hx
  rw [Int.neg_mul]; exact this

theorem ExactM.room {K : Int} {E : List REdge} {t : Dl Int} (h : ExactM K E t) {f g : Nat} {w : Int}
    (hf : f < t.nVars) (hg : g < t.nVars) (hw : -K ≤ w ∧ w ≤ K) : DlG.Room (lawsFor t.nVars K h.range) t f g w :=
  fun a b ha hb => goodV_upd (h.bnd a f ha hf) (h.bnd g b hg hb) (h.bnd a b ha hb) hw

theorem ExactM.congr_state {K : Int} {E : List REdge} {t t2 : Dl Int} (h : ExactM K E t)
    (h1 : t2.nVars = t.nVars) (h2 : t2.dists = t.dists) (h3 : t2.preds = t.preds) : ExactM K E t2 :=
  ExactM.ofG (by rw [h1]; exact h.range) (DlG.Exact.congr_state _ h.toG h1 h2 h3)

end Dl
end Oratio
