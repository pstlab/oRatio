/-
The root level.  There the invariant has no ghost frames, and a request changes the SAT core and at most one theory:
all root-level requests go through `NetInv.rootStep`.  The reified SAT constructors are its instance with all theories
untouched (`consSat`: C07's `ConsClosed` with the weak invariant as the "good" predicate; the ghost set grows by the
CNF of the resulting SAT core, as in C07's `Run.step`).
-/
import OratioProofs.Lemmas.NetInv
import OratioProofs.Lemmas.NetSatOps

set_option linter.unusedVariables false

namespace Oratio
namespace Sat

theorem SInv.remember {orig K : Cnf} {s : Sat} (h : SInv orig K s) (k : Key) (l : Lit) (hl : l.var < s.vals.length) :
    SInv orig K (s.remember k l) :=
  ⟨⟨h.wf.a.remember k l hl, h.wf.lvl0, h.wf.idlt, h.wf.ids, h.wf.rng, h.wf.r, h.wf.w⟩,
    h.ent.of_eq rfl rfl rfl rfl rfl rfl, h.dec⟩

/-- `Sat.Good` (SatCoreMain) for the network: a root-level state under `SInv` (the weak `WfS`) -/
def GoodN (s : Sat) : Prop := (∃ B K, SInv B K s) ∧ s.trailLim = []

theorem goodN_closed : ConsClosed GoodN where
  newVar := fun s ⟨⟨B, K, h⟩, hr⟩ => ⟨⟨B, K, h.newVar⟩, hr⟩
  newClause := fun s c ⟨⟨B, K, h⟩, hr⟩ hc =>
    ⟨⟨_, _, (newClause_sinv h hr c hc).1⟩, (newClause_sinv h hr c hc).2.2.1⟩
  remember := fun s k l ⟨⟨B, K, h⟩, hr⟩ hl => ⟨⟨B, K, h.remember k l hl⟩, hr⟩
  cache := fun s ⟨⟨B, K, h⟩, _⟩ => h.wf.a.exprsRange
  val0 := fun s ⟨⟨B, K, h⟩, _⟩ => h.wf.a.val0

theorem satLe_of_trail {s s' : Sat} (ha : s.WfA) (ha' : s'.WfA) (ht : ∀ l ∈ s.trail, l ∈ s'.trail) : Dl.SatLe s s' := by
  intro v b hv
  rcases ha.valTrail v b hv with rfl | hm
  · rw [ha.val0] at hv; rw [ha'.val0]; exact hv
  · exact (ha'.trailVal _ (ht _ hm)).1

end Sat

namespace Net
open Sat

theorem NetInv.root_frames {n : Net} {orig L : Cnf} {fr : List Frame} (h : NetInv n orig L fr) (hroot : n.sat.trailLim = []) :
    fr = [] := by
  have := h.flen
  simp only [decisionLevel, hroot, List.length_nil] at this
  exact List.eq_nil_of_length_eq_zero this

theorem root_of_inv {n : Net} {orig L : Cnf} (h : NetInv n orig L []) : n.sat.trailLim = [] := by
  have := h.flen
  simp only [List.length_nil, decisionLevel] at this
  exact List.eq_nil_of_length_eq_zero this.symm

/-- the LRA share of `ThReg` -/
structure LraReg (N : Nat) (l : Lra) : Prop where
  lra : ∀ e ∈ l.vAsrts, e.1 < N
  good : Lra.GoodState l
  aw : ∀ x, ∀ b ∈ l.aWatches.getD x [], b < N
  sa : ∀ e ∈ l.sAsrts, e.2.var < N

/-- `hl`, `hi`, `hr`: each theory is either untouched or comes with its own invariant and registry bound -/
theorem NetInv.rootStep {n n' : Net} {orig orig' L : Cnf} (h : NetInv n orig L [])
    (hsub : ∀ d ∈ orig, d ∈ orig') (hs : SInv (orig' ++ L) orig' n'.sat) (hroot : n'.sat.trailLim = [])
    (hle : Dl.SatLe n.sat n'.sat) (hlen : n.sat.vals.length ≤ n'.sat.vals.length)
    (htm : ∀ α, TModel n' α → TModel n α)
    (hl : n'.lra = n.lra ∨ LraBase (orig' ++ L) n'.sat n'.lra ∧ LraReg n'.sat.vals.length n'.lra)
    (hi : n'.idl = n.idl ∨ IdlBase n'.sat n'.idl ∧ ∀ c ∈ n'.idl.varDists, c.b < n'.sat.vals.length)
    (hr : n'.rdl = n.rdl ∨ RdlBase n'.sat n'.rdl ∧ ∀ c ∈ n'.rdl.varDists, c.b < n'.sat.vals.length) :
    NetInv n' orig' L [] := by
  have hb : ThBase (orig' ++ L) n'.sat n.lra n.idl n.rdl :=
    (ThBase.mono_orig (orig := orig ++ L) h.th fun d hd => (List.mem_append.1 hd).elim
      (fun e => List.mem_append_left _ (hsub d e)) (List.mem_append_right _)).mono hle
  have hg := ThReg.mono h.reg hlen
  refine ⟨hs, fun c hc => TEntails.congr htm ((h.lemmas c hc).mono_F hsub), (⟨?_, ?_, ?_⟩ : ThBase _ _ _ _ _), trivial,
    by simp [decisionLevel, hroot], ⟨?_, ?_, ?_, ?_, ?_, ?_⟩⟩
  · exact hl.elim (fun e => e ▸ hb.lra) (·.1)
  · exact hi.elim (fun e => e ▸ hb.idl) (·.1)
  · exact hr.elim (fun e => e ▸ hb.rdl) (·.1)
  · exact hl.elim (fun e => e ▸ hg.lra) (·.2.lra)
  · exact hi.elim (fun e => e ▸ hg.idl) (·.2)
  · exact hr.elim (fun e => e ▸ hg.rdl) (·.2)
  · exact hl.elim (fun e => e ▸ hg.good) (·.2.good)
  · exact hl.elim (fun e => e ▸ hg.aw) (·.2.aw)
  · exact hl.elim (fun e => e ▸ hg.sa) (·.2.sa)

theorem NetInv.congrN {n n' : Net} {orig L : Cnf} {fr : List Frame} (h : NetInv n orig L fr) (e1 : n'.sat = n.sat)
    (e2 : n'.lra = n.lra) (e3 : n'.idl = n.idl) (e4 : n'.rdl = n.rdl) : NetInv n' orig L fr := by
  obtain ⟨s, l, i, r, bd⟩ := n
  obtain ⟨s', l', i', r', bd'⟩ := n'
  simp only at e1 e2 e3 e4
  subst e1; subst e2; subst e3; subst e4
  exact ⟨h.sat, h.lemmas, h.th, h.flv, h.flen, h.reg⟩

theorem TModel.congrN {n n' : Net} (e2 : n'.lra = n.lra) (e3 : n'.idl = n.idl) (e4 : n'.rdl = n.rdl) (α : Asg) :
    TModel n' α ↔ TModel n α := by
  unfold TModel; rw [e2, e3, e4]

theorem TModel.of_more {n n' : Net} (hl : LraSame n.lra n'.lra) (hi : ∀ c ∈ n.idl.varDists, c ∈ n'.idl.varDists)
    (hr : ∀ c ∈ n.rdl.varDists, c ∈ n'.rdl.varDists) {α : Asg} (h : TModel n' α) : TModel n α := by
  obtain ⟨σr, σi, σz, σq, a, b, c, d⟩ := h
  exact ⟨σr, σi, σz, σq, (hl.1 σr σi).2 a, (asrtAgrees_congr hl.2.1 α σr σi).1 b, fun x hx => c x (hi x hx),
    fun x hx => d x (hr x hx)⟩

theorem NetInv.consSat {n : Net} {orig L : Cnf} {fr : List Frame} (h : NetInv n orig L fr) (hroot : n.sat.trailLim = [])
    (hd : n.sat.dead = false) {s' : Sat} (hg : GoodN s') (hf : ConsFrame n.sat s') :
    NetInv { n with sat := s' } (orig ++ s'.toEnc.cnf) L [] := by
  obtain rfl := h.root_frames hroot
  obtain ⟨⟨B, K, hs'⟩, hroot'⟩ := hg
  exact h.rootStep (n' := { n with sat := s' }) (fun _ => List.mem_append_left _)
    ⟨hs'.wf, (ent_of_cons hs'.wf.a hroot' h.sat.ent hf hd).mono_orig (append_swap orig L _), hs'.dec⟩ hroot'
    (satLe_of_trail h.sat.wf.a hs'.wf.a hf.trail) hf.nvars (fun _ hm => hm) (.inl rfl) (.inl rfl) (.inl rfl)

theorem NetInv.withCnf {n : Net} {orig L : Cnf} (h : NetInv n orig L []) (hd : n.sat.dead = false) :
    NetInv n (orig ++ n.sat.toEnc.cnf) L [] :=
  h.consSat (root_of_inv h) hd ⟨⟨_, _, h.sat⟩, root_of_inv h⟩ (Sat.ConsFrame.refl _)

theorem NetInv.newConj {n : Net} {orig L : Cnf} (h : NetInv n orig L []) (hd : n.sat.dead = false) {ls : List Lit}
    (hr : ∀ x ∈ ls, x.var < n.sat.nvars) :
    NetInv { n with sat := (n.sat.newConj ls).2 } (orig ++ (n.sat.newConj ls).2.toEnc.cnf) L [] :=
  have ⟨g1, g2, _⟩ := Sat.newConj_good goodN_closed n.sat ⟨⟨_, _, h.sat⟩, root_of_inv h⟩ ls hr
  h.consSat (root_of_inv h) hd g1 g2

theorem root_true {orig L : Cnf} {s : Sat} (h : SInv (orig ++ L) orig s) (hroot : s.trailLim = []) {p : Lit}
    (hp : s.value p = some true) (α : Asg) (h0 : α 0 = false) (ho : α.cnf (orig ++ L) = true) : α.lit p = true := by
  rcases h.wf.a.value_true.1 hp with ht | rfl
  · have hl : s.lvl p = 0 := by
      have := h.wf.a.lvl_le ht
      simp only [decisionLevel, hroot, List.length_nil] at this
      omega
    have := ent_lvl0K h.ent ht hl α h0 ho
    rwa [Asg.clause_singleton] at this
  · exact Asg.lit_trueLit h0

end Net
end Oratio
