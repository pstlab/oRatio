/-
C07N, non-vacuity of the history theorem: the IDL cycle of C10X decided through the network's own `assume`
(`assume b1`, `assume ¬b2`; the IDL theory records the lemma `[¬b3, b2, ¬b1]` in the middle of propagation).
The run is described at the example of Properties/C07Net.lean that uses it.
-/
import OratioProofs.Lemmas.NetHistory
import OratioProofs.Lemmas.NetSoundExample

namespace Oratio
namespace NetEx
open C10XExample Net Sat

def rootOps : List Sat.Op := [.newVar, .newVar, .newVar]
def rootS : Sat × Cnf := (runL 100 (Sat.init, []) rootOps).getD (Sat.init, [])

theorem rootS_run : runL 100 (Sat.init, []) rootOps = some rootS := ListAux.eq_some_getD _ (by decide)

theorem rootS_invB : Sat.InvB [] rootS.1 := by
  have := runL_inv 100 rootOps (Sat.init, []) rootS Sat.init_invB rootS_run
  rw [show rootS.2 = [] by decide] at this
  exact this

/-- the root-level network: three SAT variables bound to three IDL constraints over `x1, x2, x3` -/
def rootNet : Net := ⟨rootS.1, Lra.init, r3.2.2, Dl.init rdlOps, [(1, .idl), (2, .idl), (3, .idl)]⟩

theorem rootNet_inv : NetInv rootNet [] [] [] := by
  have q3 := r3_inv
  have hle : Dl.SatLe r3.2.1 rootS.1 := Sat.satLe_of_vals (by decide)
  have hv : r3.2.2.varDists = [c1, c2, c3] := by decide
  have hidl : IdlBase rootS.1 r3.2.2 := by
    refine ⟨⟨10, [], q3.1, ?_⟩, C10X_assign_pathinv _ _ _ q3.2 hle, by
      rw [show r3.2.2.distConstr = [] by decide]; exact Undo.sortedK_nil⟩
    intro c hc
    rw [hv] at hc
    simp only [List.mem_cons, List.not_mem_nil, or_false] at hc
    rcases hc with rfl | rfl | rfl <;> decide
  refine ⟨rootS_invB.toS (by decide), (fun c hc => by cases hc), ?_, trivial, by decide, ?_⟩
  · exact ⟨LraBase.init (by decide), hidl, RdlBase.init _⟩
  · refine ⟨(fun e he => by cases he), ?_, (fun c hc => by cases hc), Lra.init_good, (fun x b hb => by cases hb), (fun e he => by cases he)⟩
    intro c hc
    show c.b < rootS.1.vals.length
    have hc' : c ∈ r3.2.2.varDists := hc
    rw [hv] at hc'
    simp only [List.mem_cons, List.not_mem_nil, or_false] at hc'
    rcases hc' with rfl | rfl | rfl <;> decide

def exHist : List NetOp := [.assume ⟨1, true⟩, .assume ⟨2, false⟩]
def exFinal : NetRun := (NetRun.steps 100 ⟨rootNet, []⟩ exHist).getD ⟨rootNet, []⟩

theorem exFinal_run : NetRun.steps 100 ⟨rootNet, []⟩ exHist = some exFinal := ListAux.eq_some_getD _ (by decide)

/-- the history runs, the second `assume` records the theory lemma `[¬b3, b2, ¬b1]` and propagates `¬b3`,
    and the theorem applies: the final network satisfies the invariant -/
theorem exFinal_ok : NetOK exFinal ∧ exFinal.n.sat.log = [[⟨3, false⟩, ⟨2, true⟩, ⟨1, false⟩]] ∧
    exFinal.n.sat.decisionLevel = 2 ∧ exFinal.n.sat.value ⟨3, true⟩ = some false :=
  ⟨(steps_ok exHist ⟨rootNet, []⟩ exFinal ⟨⟨[], [], rootNet_inv⟩, Or.inl (by decide)⟩ (guards_noRows exHist _ (by decide) ⟨trivial, fun _ _ _ => ⟨trivial, fun _ _ _ => trivial⟩⟩)
    ⟨trivial, fun _ _ _ => ⟨trivial, fun _ _ _ => trivial⟩⟩ exFinal_run).1, by decide, by decide, by decide⟩

end NetEx
end Oratio
