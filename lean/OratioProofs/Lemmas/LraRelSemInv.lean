/-
C11S: the semantic invariant `SemInv` of the caches `exprs` / `s_asrts` is kept by the operations that add to them, and
by every operation that keeps the caches and does not enlarge the set of solutions of the tableau (`SemInv.of_sols`:
`pivot`, `check`).  Of printing only the injectivity of `Lin.toStr` and of `relKey` is used (Lemmas/LraPrint.lean);
here they are the hypotheses `LinInj`, `KeyInj`.
-/
import OratioModel
import OratioProofs.Lemmas.LraRelMeaning

namespace Oratio
namespace Lra
open Lin

def LinInj : Prop := ∀ a b : Lin, a.WF → b.WF → Lin.toStr a = Lin.toStr b → a = b
def KeyInj : Prop := ∀ (up up' : Bool) (x x' : Nat) (c c' : IR), SimpleC c → SimpleC c' →
  relKey up x c = relKey up' x' c' → up = up' ∧ x = x' ∧ c = c'
/-- the name `new_var()` gives to a variable is the print-out of `1·x` -/
def VarName : Prop := ∀ v : Nat, Lin.toStr ⟨[(v, R.one)], R.zero⟩ = "x" ++ toString v

theorem varLin_wf (v : Nat) : (⟨[(v, R.one)], R.zero⟩ : Lin).WF := by
  have h1 : R.one.WF ∧ R.one.den ≠ 0 := ⟨by decide, by decide⟩
  have h0 : R.zero.WF ∧ R.zero.den ≠ 0 := ⟨by decide, by decide⟩
  refine ⟨trivial, ?_, h0.1, h0.2⟩
  intro p hp
  rw [List.mem_singleton] at hp
  subst hp
  exact h1

theorem varLin_eval (v : Nat) (σ : Nat → Rat) : Lin.evalS ⟨[(v, R.one)], R.zero⟩ σ = σ v := by
  simp [Lin.evalS, R.toRat_one, R.toRat_zero]

theorem SemInv.init : SemInv Lra.init :=
  ⟨fun _ he => absurd he List.not_mem_nil, fun _ he => absurd he List.not_mem_nil⟩

theorem SemInv.of_sols {t u : Lra} (si : SemInv t) (h1 : u.exprs = t.exprs) (h2 : u.sAsrts = t.sAsrts)
    (h3 : u.vAsrts = t.vAsrts) (h4 : ∀ σ, RowsS u σ → RowsS t σ) : SemInv u := by
  refine ⟨?_, ?_⟩
  · intro e he l hl hk σ hσ
    exact si.exprs_sem e (h1 ▸ he) l hl hk σ (h4 σ hσ)
  · intro e he up x c hc hk
    exact (asrtOf_eq_of_vAsrts h3 _).trans (si.sAsrts_sem e (h2 ▸ he) up x c hc hk)

theorem SemInv.newVar (hL : LinInj) (hN : VarName) {t : Lra} (si : SemInv t) : SemInv t.newVar.2 := by
  refine ⟨?_, ?_⟩
  · intro e he l hl hk σ hσ
    rcases mem_emplaceKey (show e ∈ emplaceKey t.exprs _ _ from he) with he | he
    · exact si.exprs_sem e he l hl hk σ hσ
    · subst he
      have : l = ⟨[(t.vals.length, R.one)], R.zero⟩ := hL _ _ hl (varLin_wf _) (hk.trans (hN _).symm)
      rw [this, varLin_eval]
  · intro e he up x c hc hk
    exact si.sAsrts_sem e he up x c hc hk

theorem newVarLin_exprs_mem {s : Sat} {t : Lra} {l : Lin} {slack : Nat} {t1 : Lra}
    (h : newVarLin s t l = some (slack, t1)) :
    ∀ e ∈ t1.exprs, e ∈ t.exprs ∨ (e.2 = slack ∧
      (e.1 = Lin.toStr l ∨ e.1 = Lin.toStr (substBasic t l) ∨ e.1 = "x" ++ toString slack)) := by
  cases (newVarLin_nf h).2 with
  | found hf ht1 => subst ht1; exact fun e he => Or.inl he
  | foundRewritten h0 hf ht1 =>
    subst ht1
    exact fun e he => (mem_emplaceKey he).imp id fun he => by rw [he]; exact ⟨rfl, Or.inl rfl⟩
  | created h0 h1 hroot hs ht1 =>
    subst hs ht1
    rw [withSlack_exprs]
    intro e he
    rcases mem_emplaceKey he with he | he
    · rcases mem_emplaceKey he with he | he
      · rcases mem_emplaceKey (show e ∈ emplaceKey t.exprs _ _ from he) with he | he
        · exact Or.inl he
        · exact Or.inr (by rw [he]; exact ⟨rfl, Or.inr (Or.inr rfl)⟩)
      · exact Or.inr (by rw [he]; exact ⟨rfl, Or.inl rfl⟩)
    · exact Or.inr (by rw [he]; exact ⟨rfl, Or.inr (Or.inl rfl)⟩)

theorem SemInv.newVarLin (hL : LinInj) (hN : VarName) {s : Sat} {t : Lra} (ht : TabWF t) (si : SemInv t)
    {l : Lin} (hl : l.WF) (hlv : ∀ p ∈ l.vars, p.1 < t.vals.length) {slack : Nat} {t1 : Lra}
    (h : newVarLin s t l = some (slack, t1)) : SemInv t1 := by
  obtain ⟨n1, -⟩ := newVarLin_sem ht si hl hlv h
  obtain ⟨s1, s2⟩ := substBasic_holds (t := t) ht.rows hl
  obtain ⟨hsa, hva, -⟩ := newVarLin_spec h
  refine ⟨?_, ?_⟩
  · intro e he l' hl' hk σ hσ
    obtain ⟨hσt, hsl⟩ := n1 σ hσ
    rcases newVarLin_exprs_mem h e he with he | ⟨h2, h1 | h1 | h1⟩
    · exact si.exprs_sem e he l' hl' hk σ hσt
    · rw [hL _ _ hl' hl (hk.trans h1), h2]; exact hsl
    · rw [hL _ _ hl' s1 (hk.trans h1), h2, s2 σ hσt]; exact hsl
    · rw [hL _ _ hl' (varLin_wf slack) ((hk.trans h1).trans (hN _).symm), varLin_eval, h2]
  · intro e he up x c hc hk
    exact (asrtOf_eq_of_vAsrts hva _).trans (si.sAsrts_sem e (hsa ▸ he) up x c hc hk)

theorem SemInv.relReg (hK : KeyInj) {t : Lra} (si : SemInv t) (up : Bool) (slack : Nat) {c : IR}
    (hc : SimpleC c) {ctr : Nat} (hlt : ∀ e ∈ t.vAsrts, e.1 < ctr) : SemInv (relReg t up slack c ctr) := by
  refine ⟨?_, ?_⟩
  · intro e he l hl hk σ hσ
    exact si.exprs_sem e he l hl hk σ hσ
  · intro e he up' x' c' hc' hk
    rcases mem_emplaceKey (show e ∈ emplaceKey t.sAsrts _ _ from he) with he | he
    · exact asrtOf_append_old (si.sAsrts_sem e he up' x' c' hc' hk)
    · subst he
      obtain ⟨rfl, rfl, rfl⟩ := hK _ _ _ _ _ _ hc' hc hk
      exact find_append_new hlt

theorem SemInv.newRel (hL : LinInj) (hK : KeyInj) (hN : VarName) {s : Sat} {t : Lra} {r : LRel}
    {left right : Lin} {l : Lit} {s' : Sat} {t' : Lra} {b : Option Nat} (ht : TabWF t) (ri : RelInv s t)
    (si : SemInv t) (hl : left.WF) (hr : right.WF)
    (hlv : ∀ p ∈ left.vars, p.1 < t.vals.length) (hrv : ∀ p ∈ right.vars, p.1 < t.vals.length)
    (h : newRel s t r left right = some (l, s', t', b)) : SemInv t' := by
  obtain ⟨e1, e2, e3, -⟩ := relE_spec ht hl hr hlv hrv
  exact (newRel_outcome h).induct (P := fun _ u => SemInv u) si (fun slack t1 hv => si.newVarLin hL hN ht e1 e2 hv)
    (fun slack t1 hv h1 => h1.relReg hK _ _ (relC_simple r e3)
      (fun e he => ri.vAsrts_lt e ((newVarLin_spec hv).2.1 ▸ he)))

end Lra

end Oratio
