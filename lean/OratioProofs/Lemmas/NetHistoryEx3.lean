/-
C07N, non-vacuity of the history theorem WITH A TABLEAU ROW: `lraNewRel .leq (y0 + y1) 3` creates a slack variable
and its row; under two decisions `lra.check` finds a conflict ABOVE ROOT LEVEL that cites a literal of the current level
(the side condition `ConflictsCurrent`, established by evaluation).  The run is described at the example of
Properties/C07Net.lean that uses it.
-/
import OratioProofs.Lemmas.NetHistory

namespace Oratio
namespace NetEx3
open Net Sat

def y01 : Lin := ⟨[(0, R.one), (1, R.one)], R.zero⟩
def y0 : Lin := Lin.var 0 R.one
def y1 : Lin := Lin.var 1 R.one
def c3 : Lin := Lin.const (R.ofInt 3)
def c2 : Lin := Lin.const (R.ofInt 2)

def hist : List NetOp := [.lraNewVar, .lraNewVar, .lraNewRel .leq y01 c3, .lraNewRel .geq y0 c2, .lraNewRel .geq y1 c2,
  .lraNewEq y0 c2, .clause [⟨1, true⟩], .propagate, .assume ⟨2, true⟩, .assume ⟨3, true⟩]

def st (k : Nat) : NetRun := (NetRun.steps 100 ⟨Net.init, []⟩ (hist.take k)).getD ⟨Net.init, []⟩

-- the elaborator must not run the model (its evaluator is slow); the kernel does, once, in `evals`
attribute [local irreducible] NetRun.steps ccB ConflictsCurrent

theorem evals :
    (NetRun.steps 100 ⟨Net.init, []⟩ hist).isSome = true ∧
    (NetRun.step 100 (st 9) (.assume ⟨3, true⟩)).map (·.2) = some true ∧
    ((st 2).n.lra.vals.length = 2 ∧ (st 3).n.lra.vals.length = 3 ∧ (st 4).n.lra.vals.length = 3 ∧
      (st 5).n.lra.vals.length = 3) ∧
    (ccB (st 7).n 100 = true ∧ ccB (assumeStart (st 8).n ⟨2, true⟩) 100 = true ∧
      ccB (assumeStart (st 9).n ⟨3, true⟩) 100 = true) ∧
    ((st 10).n.sat.log = [[⟨3, false⟩, ⟨2, false⟩]] ∧ (st 10).n.lra.tableau.length = 1 ∧
      (st 10).n.lra.vals.length = 3 ∧ (st 10).n.sat.decisionLevel = 1 ∧ (st 10).n.sat.value ⟨3, true⟩ = some false ∧
      (st 10).n.sat.dead = false ∧ (st 10).n.lra.vAsrts.map (·.1) = [1, 2, 3, 4]) := by
  decide +kernel

theorem run_all : NetRun.steps 100 ⟨Net.init, []⟩ hist = some (st 10) :=
  steps_eq_after (d := ⟨Net.init, []⟩) evals.1

theorem step9 : NetRun.step 100 (st 9) (.assume ⟨3, true⟩) = some (st 10, true) :=
  step_after_eq (d := ⟨Net.init, []⟩) evals.1 (k := 9) (by decide) evals.2.1

theorem linOK_y01 {t : Lra} (h : 2 ≤ t.vals.length) : Lra.LinOK t y01 := by
  refine ⟨⟨⟨by decide, trivial⟩, fun p hp => ?_, by decide, by decide⟩, fun p hp => ?_⟩
  · simp only [y01, List.mem_cons, List.not_mem_nil, or_false] at hp
    rcases hp with rfl | rfl <;> exact R.finWF_one
  · simp only [y01, List.mem_cons, List.not_mem_nil, or_false] at hp
    rcases hp with rfl | rfl
    · exact ⟨by show 0 < t.vals.length; omega, by decide⟩
    · exact ⟨by show 1 < t.vals.length; omega, by decide⟩

theorem hist_rooms : NetRun.rooms 100 ⟨Net.init, []⟩ hist :=
  rooms_of_after (d := ⟨Net.init, []⟩) fun k hk =>
    have ⟨l2, l3, l4, l5⟩ := evals.2.2.1
    match k, hk with
    | 0, _ | 1, _ | 6, _ | 7, _ | 8, _ | 9, _ => trivial
    | 2, _ => ⟨linOK_y01 (Nat.le_of_eq l2.symm), linOK_const _ ⟨by decide, by decide⟩⟩
    | 3, _ => ⟨linOK_var (v := 0) (Nat.lt_of_lt_of_eq (by decide) l3.symm) R.finWF_one (by decide), linOK_const _ ⟨by decide, by decide⟩⟩
    | 4, _ => ⟨linOK_var (v := 1) (Nat.lt_of_lt_of_eq (by decide) l4.symm) R.finWF_one (by decide), linOK_const _ ⟨by decide, by decide⟩⟩
    | 5, _ => ⟨linOK_var (v := 0) (Nat.lt_of_lt_of_eq (by decide) l5.symm) R.finWF_one (by decide), linOK_const _ ⟨by decide, by decide⟩⟩
    | k + 10, hk => absurd hk (Nat.not_lt.2 (Nat.le_add_left 10 k))

/-- the side condition: the conflict of `lra.check` during `assume b3` (level 2) cites `b3` -/
theorem hist_guards : NetRun.guards 100 ⟨Net.init, []⟩ hist :=
  guards_of_after (d := ⟨Net.init, []⟩) fun k hk =>
    match k, hk with
    | 0, _ | 1, _ | 2, _ | 3, _ | 4, _ | 5, _ | 6, _ => trivial
    | 7, _ => guard_propagate evals.2.2.2.1.1
    | 8, _ => guard_assume evals.2.2.2.1.2.1
    | 9, _ => guard_assume evals.2.2.2.1.2.2
    | k + 10, hk => absurd hk (Nat.not_lt.2 (Nat.le_add_left 10 k))

/-- the history runs from `Net.init`, its side conditions `rooms` and `guards` hold, and by the theorem the final
    network satisfies the invariant; concretely: the tableau has one row (the slack y2 = y0 + y1), the clause
    `[¬b3, ¬b2]` was learnt from the conflict of `lra.check`, the network backjumped from level 2 to level 1 and
    `¬b3` is assigned -/
theorem final_ok : NetOK (st 10) ∧ (st 10).n.sat.log = [[⟨3, false⟩, ⟨2, false⟩]] ∧ (st 10).n.lra.tableau.length = 1 ∧
    (st 10).n.lra.vals.length = 3 ∧ (st 10).n.sat.decisionLevel = 1 ∧ (st 10).n.sat.value ⟨3, true⟩ = some false ∧
    (st 10).n.sat.dead = false ∧ (st 10).n.lra.vAsrts.map (·.1) = [1, 2, 3, 4] :=
  ⟨(steps_ok hist ⟨Net.init, []⟩ (st 10) netOK_init hist_guards hist_rooms run_all).1, evals.2.2.2.2⟩

end NetEx3
end Oratio
