/-
C07: `simplify_db()` keeps the invariants.
-/
import OratioProofs.Lemmas.SatCoreRoot

set_option linter.unusedSimpArgs false

namespace Oratio
namespace Sat

theorem getD_map_none {α} (l : List (Option α)) (f : Option α → Option α) (hf : f none = none) (i : Nat) :
    (l.map f).getD i none = f (l.getD i none) := by
  simp only [List.getD_eq_getElem?_getD, List.getElem?_map]
  cases l[i]? <;> simp [hf]

theorem WfA.mapReason {s t : Sat} (h : s.WfA) (hroot : s.trailLim = []) (f : Option Nat → Option Nat)
    (hv : t.vals = s.vals) (hl : t.level = s.level)
    (hr : t.reason = s.reason.map f) (ht : t.trail = s.trail) (hlim : t.trailLim = s.trailLim)
    (hd : t.decisions = s.decisions) (hq : t.queue = s.queue) (he : t.exprs = s.exprs) : t.WfA := by
  have hrl := fun l hl => h.root_lvl hroot (l := l) hl
  cases s; cases t; simp only at hv hl hr ht hlim hd hq he hroot; subst_vars
  obtain ⟨a1, a2, a3, a4, a5, a6, a7, a8, a9, a10, a11, a12, a13⟩ := h
  refine ⟨a1, ?_, a3, a4, a5, a6, a7, a8, a9, a10, a11, ?_, a13⟩
  · simpa using a2
  · intro l b hs _
    exact Or.inl (hrl l (hs.subset (List.mem_cons_self ..)))

section
variable {t : Sat} {id : Nat} {l0 l1 : Lit} {r : List Lit}

theorem removeClause_watches (hc : t.WfC) (hw : t.WfW) (hm : (id, l0 :: l1 :: r) ∈ t.cls) (i : Nat) :
    (t.removeClause id (l0 :: l1 :: r)).watches.getD i [] = (t.watches.getD i []).erase id := by
  have h0 : l0.neg.idx < t.watches.length := by
    rw [hw.lenWatches]; exact Lit.idx_lt (hc.clsRange _ hm l0 (by simp))
  have h1 : l1.neg.idx < t.watches.length := by
    rw [hw.lenWatches]; exact Lit.idx_lt (hc.clsRange _ hm l1 (by simp))
  have hne : l0.neg.idx ≠ l1.neg.idx := by
    apply Lit.neg_idx_ne
    have hnd := hc.clsNodup _ hm
    simp only [List.map_cons, List.nodup_cons, List.mem_cons, not_or] at hnd
    exact hnd.1.1
  show ((t.watches.set l0.neg.idx ((t.watches.getD l0.neg.idx []).erase id)).set l1.neg.idx
    (((t.watches.set l0.neg.idx ((t.watches.getD l0.neg.idx []).erase id)).getD l1.neg.idx []).erase id)).getD i [] = _
  by_cases e1 : l1.neg.idx = i
  · subst e1
    rw [ListAux.getD_set_self _ _ _ _ (by simpa using h1), ListAux.getD_set_ne _ _ _ _ _ hne]
  · rw [ListAux.getD_set_ne _ _ _ _ _ e1]
    by_cases e0 : l0.neg.idx = i
    · subst e0
      rw [ListAux.getD_set_self _ _ _ _ h0]
    · rw [ListAux.getD_set_ne _ _ _ _ _ e0]
      symm
      apply List.erase_of_not_mem
      intro hmem
      exact ((hw.mem_iff_of_mem hc hm).1 hmem).elim e0 e1

theorem removeClause_mem_watches (hc : t.WfC) (hw : t.WfW) (hm : (id, l0 :: l1 :: r) ∈ t.cls) (i x : Nat) :
    x ∈ (t.removeClause id (l0 :: l1 :: r)).watches.getD i [] ↔ x ≠ id ∧ x ∈ t.watches.getD i [] := by
  rw [removeClause_watches hc hw hm]
  exact (hw.nodup i).mem_erase_iff

theorem removeClause_cls : (t.removeClause id (l0 :: l1 :: r)).cls = t.cls.filter (fun e => e.1 != id) := rfl

theorem mem_removeClause {e : Nat × Clause} :
    e ∈ (t.removeClause id (l0 :: l1 :: r)).cls ↔ e ∈ t.cls ∧ e.1 ≠ id := by
  rw [removeClause_cls, List.mem_filter]; simp

theorem removeClause_reason (v : Nat) :
    (t.removeClause id (l0 :: l1 :: r)).reason.getD v none =
      (if t.reason.getD v none = some id then none else t.reason.getD v none) := by
  show (t.reason.map (fun r => if r = some id then none else r)).getD v none = _
  rw [getD_map_none _ _ (by simp)]

theorem WfA.removeClause (h : t.WfA) (hroot : t.trailLim = []) : (t.removeClause id (l0 :: l1 :: r)).WfA :=
  h.mapReason hroot (fun r => if r = some id then none else r) rfl rfl rfl rfl rfl rfl rfl rfl

theorem WfC.removeClause (h : t.WfC) : (t.removeClause id (l0 :: l1 :: r)).WfC := by
  have hsub : ∀ e, e ∈ (t.removeClause id (l0 :: l1 :: r)).cls → e ∈ t.cls := fun e he => (mem_removeClause.1 he).1
  refine ⟨fun e he => h.clsId e (hsub e he), ?_, fun e he => h.clsLen e (hsub e he),
    fun e he => h.clsNodup e (hsub e he), fun e he => h.clsRange e (hsub e he), fun e he => h.clsVar0 e (hsub e he)⟩
  rw [removeClause_cls]
  exact h.clsIdNodup.sublist ((List.filter_sublist).map _)

theorem WfR.removeClause (h : t.WfR) : (t.removeClause id (l0 :: l1 :: r)).WfR := by
  intro l b hs id' hr
  rw [removeClause_reason] at hr
  split at hr
  · cases hr
  · rename_i hne
    obtain ⟨rest, hmr, hb⟩ := h l b hs id' hr
    refine ⟨rest, mem_removeClause.2 ⟨hmr, ?_⟩, hb⟩
    intro e; subst e; exact hne hr

theorem WfW.removeClause (hc : t.WfC) (h : t.WfW) (hm : (id, l0 :: l1 :: r) ∈ t.cls) :
    (t.removeClause id (l0 :: l1 :: r)).WfW := by
  refine h.change id ?_ ?_ (fun e he => mem_removeClause.trans (and_iff_left he))
    (fun i id' hne => (removeClause_mem_watches hc h hm i id').trans (and_iff_right hne)) (fun i => ?_)
  · show (List.set (List.set _ _ _) _ _).length = _
    simp only [List.length_set]; exact h.lenWatches
  · intro i
    rw [removeClause_watches hc h hm]
    exact (h.nodup i).erase _
  · refine iff_of_false (fun hi => ((removeClause_mem_watches hc h hm i id).1 hi).1 rfl) ?_
    rintro ⟨a, b, r', hm', _⟩
    exact (mem_removeClause.1 hm').2 rfl

theorem W2.removeClause {P : Nat → Lit → Prop} (h : t.W2 P) : (t.removeClause id (l0 :: l1 :: r)).W2 P := by
  intro id' a b r' hm'
  exact h id' a b r' (mem_removeClause.1 hm').1

theorem Ent.removeClause {orig K : Cnf} (ha : t.WfA) (hc : t.WfC) (h : t.Ent orig K) (hroot : t.trailLim = [])
    (hm : (id, l0 :: l1 :: r) ∈ t.cls) {x : Lit} (hx : x ∈ l0 :: l1 :: r) (hv : t.value x = some true) :
    (t.removeClause id (l0 :: l1 :: r)).Ent orig K := by
  refine ⟨fun e he => h.clauses e (mem_removeClause.1 he).1, h.trail, h.log, h.dead, ?_⟩
  intro hd α h0 hcl hroots
  apply h.keeps hd α h0 _ hroots
  simp only [Asg.cnf_iff, List.forall_mem_map] at hcl ⊢
  intro e he
  by_cases hid : e.1 = id
  · have e2 : e.2 = l0 :: l1 :: r := mem_unique hc (by rw [← hid]; exact he) hm
    rw [e2]
    exact Asg.clause_iff.2 ⟨x, hx, root_true ha hroot h0 hroots hv⟩
  · exact hcl e (mem_removeClause.2 ⟨he, hid⟩)

theorem InvC.removeClause {orig K : Cnf} {m : Nat} (h : InvC orig m (fun _ _ => False) t K) (hroot : t.trailLim = [])
    (hm : (id, l0 :: l1 :: r) ∈ t.cls) {x : Lit} (hx : x ∈ l0 :: l1 :: r) (hv : t.value x = some true) :
    InvC orig m (fun _ _ => False) (t.removeClause id (l0 :: l1 :: r)) K :=
  ⟨⟨h.wf.a.removeClause hroot, h.wf.c.removeClause, h.wf.r.removeClause, h.wf.w.removeClause h.wf.c hm⟩,
    h.ent.removeClause h.wf.a h.wf.c hroot hm hx hv, h.dec, fun hd => (h.w2 hd).removeClause⟩

end

section
variable {t : Sat} {id : Nat} {l0 l1 : Lit} {r r' : List Lit}

theorem Ent.setClause_sub {orig K : Cnf} (ha : t.WfA) (hc : t.WfC) (h : t.Ent orig K) (hroot : t.trailLim = [])
    {c c' : Clause} (hm : (id, c) ∈ t.cls) (hs : ∀ l ∈ c', l ∈ c)
    (hf : ∀ l ∈ c, l ∈ c' ∨ t.value l = some false) : (t.setClause id c').Ent orig K :=
  h.setClause_of hc.clsIdNodup hm (ents_drop_false ha h hroot (h.clauses _ hm) hf) (fun α hc' => by
    rw [Asg.clause_iff] at hc' ⊢
    exact hc'.imp fun l hl => ⟨hs l hl.1, hl.2⟩)

theorem InvC.shrinkClause {orig K : Cnf} {m : Nat} (h : InvC orig m (fun _ _ => False) t K) (hroot : t.trailLim = [])
    (hd : t.dead = false) (hm : (id, l0 :: l1 :: r) ∈ t.cls) (hnt : ∀ x ∈ l0 :: l1 :: r, t.value x ≠ some true) :
    (l0 :: l1 :: r).filter (fun l => t.value l = none) = l0 :: l1 :: r.filter (fun l => t.value l = none) ∧
    InvC orig m (fun _ _ => False) (t.setClause id (l0 :: l1 :: r.filter (fun l => t.value l = none))) K := by
  obtain ⟨w0, w1⟩ := h.w2 hd id l0 l1 r hm
  have hv0 : t.value l0 = none := by
    cases hv : t.value l0 with
    | none => rfl
    | some b =>
      cases b with
      | true => exact absurd hv (hnt l0 (by simp))
      | false =>
        rcases w0 hv with f | ⟨ht, _⟩
        · exact f.elim
        · exact absurd ht (hnt l1 (by simp))
  have hv1 : t.value l1 = none := by
    cases hv : t.value l1 with
    | none => rfl
    | some b =>
      cases b with
      | true => exact absurd hv (hnt l1 (by simp))
      | false =>
        rcases w1 hv with f | ⟨ht, _⟩
        · exact f.elim
        · exact absurd ht (hnt l0 (by simp))
  have hfilt : (l0 :: l1 :: r).filter (fun l => t.value l = none) = l0 :: l1 :: r.filter (fun l => t.value l = none) := by
    simp [List.filter_cons, hv0, hv1]
  refine ⟨hfilt, ⟨⟨h.wf.a.setClause _ _, ?_, ?_, h.wf.w.setClause_pair h.wf.c hm (.inl ⟨rfl, rfl⟩)⟩, ?_, h.dec,
    fun hd' => (h.w2 hd).setClause_pair hm (.inl ⟨rfl, rfl⟩)⟩⟩
  · have hsub : (l0 :: l1 :: r.filter (fun l => t.value l = none)).Sublist (l0 :: l1 :: r) :=
      ((List.filter_sublist).cons_cons l1).cons_cons l0
    exact h.wf.c.setClause_of hm (by simp) ((h.wf.c.clsNodup _ hm).sublist (hsub.map _)) (fun _ hl => hsub.subset hl)
  · apply h.wf.r.setClause h.wf.c hm
    intro l rr e hl
    exfalso
    simp only [List.cons.injEq] at e
    obtain ⟨e1, _⟩ := e
    subst e1
    exact hnt l0 (by simp) (h.wf.a.value_true.2 (Or.inl hl))
  · apply h.ent.setClause_sub h.wf.a h.wf.c hroot hm
    · intro l hl
      rw [← hfilt] at hl
      exact (List.mem_filter.1 hl).1
    · intro l hl
      rw [← hfilt]
      cases hv : t.value l with
      | none => left; exact List.mem_filter.2 ⟨hl, by simp [hv]⟩
      | some b =>
        cases b with
        | true => exact absurd hv (hnt l hl)
        | false => right; rfl

end

/-- the body of the loop over the constraints -/
def simpStep (s : Sat) (e : Nat × Clause) : Sat :=
  match simplifyClause s e.2 with
  | none => s.removeClause e.1 e.2
  | some c' => s.setClause e.1 c'

theorem simpStep_spec {orig K : Cnf} {m : Nat} {t : Sat} (h : InvC orig m (fun _ _ => False) t K)
    (hroot : t.trailLim = []) (hd : t.dead = false) {e : Nat × Clause} (hm : e ∈ t.cls) :
    InvC orig m (fun _ _ => False) (simpStep t e) K ∧ (simpStep t e).queue = t.queue ∧
      (simpStep t e).trailLim = t.trailLim ∧ (simpStep t e).dead = t.dead ∧ (simpStep t e).vals = t.vals ∧
      (simpStep t e).log = t.log ∧ (simpStep t e).exprs = t.exprs ∧
      (∀ e' ∈ (simpStep t e).cls, (e' ∈ t.cls ∧ e'.1 ≠ e.1) ∨ ∀ x ∈ e'.2, t.value x = none) ∧
      (∀ e' ∈ t.cls, e'.1 ≠ e.1 → e' ∈ (simpStep t e).cls) := by
  obtain ⟨id, c⟩ := e
  have hlen := h.wf.c.clsLen _ hm
  match c, hm, hlen with
  | [], _, hlen => simp at hlen
  | [_], _, hlen => simp at hlen
  | l0 :: l1 :: r, hm, _ =>
    by_cases hany : ∃ x ∈ l0 :: l1 :: r, t.value x = some true
    · have hs : simpStep t (id, l0 :: l1 :: r) = t.removeClause id (l0 :: l1 :: r) := by
        unfold simpStep simplifyClause
        rw [if_pos (by simpa using hany)]
      obtain ⟨x, hx, hv⟩ := hany
      rw [hs]
      refine ⟨h.removeClause hroot hm hx hv, rfl, rfl, rfl, rfl, rfl, rfl, ?_, ?_⟩
      · intro e' he'
        exact Or.inl (mem_removeClause.1 he')
      · intro e' he' hne
        exact mem_removeClause.2 ⟨he', hne⟩
    · have hs : simpStep t (id, l0 :: l1 :: r) =
          t.setClause id ((l0 :: l1 :: r).filter (fun l => t.value l = none)) := by
        unfold simpStep simplifyClause
        rw [if_neg (by simpa using hany)]
      simp only [not_exists, not_and] at hany
      obtain ⟨hfilt, hinv⟩ := h.shrinkClause hroot hd hm hany
      rw [hs, hfilt]
      refine ⟨hinv, rfl, rfl, rfl, rfl, rfl, rfl, ?_, ?_⟩
      · intro e' he'
        rcases (mem_setClause' hm).1 he' with h1 | rfl
        · exact Or.inl h1
        · right
          intro x hx
          rw [← hfilt] at hx
          simpa using (List.mem_filter.1 hx).2
      · intro e' he' hne
        exact (mem_setClause' hm).2 (Or.inl ⟨he', hne⟩)

theorem simpFold_spec {orig K : Cnf} {m : Nat} : ∀ (l : List (Nat × Clause)) (t : Sat),
    InvC orig m (fun _ _ => False) t K → t.trailLim = [] → t.dead = false → t.queue = [] →
    (l.map (·.1)).Nodup → (∀ e ∈ l, e ∈ t.cls) →
    InvC orig m (fun _ _ => False) (l.foldl simpStep t) K ∧ (l.foldl simpStep t).queue = [] ∧
      (l.foldl simpStep t).trailLim = [] ∧ (l.foldl simpStep t).dead = false ∧
      (l.foldl simpStep t).vals = t.vals ∧ (l.foldl simpStep t).log = t.log ∧
      (l.foldl simpStep t).exprs = t.exprs ∧
      ∀ e' ∈ (l.foldl simpStep t).cls, (e' ∈ t.cls ∧ e'.1 ∉ l.map (·.1)) ∨ ∀ x ∈ e'.2, t.value x = none
  | [], t, h, hroot, hd, hq, _, _ => by
    refine ⟨h, hq, hroot, hd, rfl, rfl, rfl, ?_⟩
    intro e' he'
    exact Or.inl ⟨he', by simp⟩
  | e :: rest, t, h, hroot, hd, hq, hnd, hsub => by
    simp only [List.map_cons, List.nodup_cons] at hnd
    obtain ⟨s1, s2, s3, s4, s5, s6, s7, s8, s9⟩ := simpStep_spec h hroot hd (hsub e (List.mem_cons_self ..))
    have hsub' : ∀ e' ∈ rest, e' ∈ (simpStep t e).cls := by
      intro e' he'
      apply s9 e' (hsub e' (List.mem_cons_of_mem _ he'))
      intro heq
      exact hnd.1 (heq ▸ List.mem_map.2 ⟨e', he', rfl⟩)
    obtain ⟨f1, f2, f3, f4, f5, f6, f7, f8⟩ :=
      simpFold_spec rest (simpStep t e) s1 (s3.trans hroot) (s4.trans hd) (s2.trans hq) hnd.2 hsub'
    rw [List.foldl_cons]
    refine ⟨f1, f2, f3, f4, f5.trans s5, f6.trans s6, f7.trans s7, ?_⟩
    have hval : ∀ x, (simpStep t e).value x = t.value x := fun x => value_congr (by rw [s5])
    intro e' he'
    rcases f8 e' he' with ⟨g1, g2⟩ | g
    · rcases s8 e' g1 with ⟨k1, k2⟩ | k
      · left
        refine ⟨k1, ?_⟩
        simp only [List.map_cons, List.mem_cons, not_or]
        exact ⟨k2, g2⟩
      · exact Or.inr k
    · right
      intro x hx
      rw [← hval]; exact g x hx

theorem simplifyDb_spec {orig : Cnf} {m : Nat} {s : Sat} (h : InvC orig m (fun _ x => x ∈ s.queue) s)
    (hroot : s.trailLim = []) (hd : s.dead = false) (fuel : Nat) (b : Bool) (s' : Sat)
    (he : s.simplifyDb fuel = some (b, s')) :
    InvC orig m (fun _ x => x ∈ s'.queue) s' ∧ s'.queue = [] ∧ s'.trailLim = [] ∧ s'.dead = (!b) ∧
      s.log <+: s'.log ∧ s'.vals.length = s.vals.length ∧ s'.exprs = s.exprs ∧
      (b = true → ∀ e ∈ s'.cls, ∀ l ∈ e.2, s'.value l = none) := by
  unfold simplifyDb at he
  cases hp : s.propagate fuel with
  | none => rw [hp] at he; cases he
  | some p =>
    obtain ⟨b1, s1⟩ := p
    obtain ⟨p1, p2, p3, p4, p5⟩ := propagate_spec fuel s h hd b1 s1 hp
    have hroot1 : s1.trailLim = [] := by
      have h1 : s.decisions = [] := by
        have := h.wf.a.decLen; rw [hroot] at this; simpa using this
      have h2 : s1.decisions = [] := by
        have := p5.decs; rw [h1] at this; simpa using this
      have := p1.wf.a.decLen; rw [h2] at this
      exact List.eq_nil_of_length_eq_zero this.symm
    rw [hp] at he
    cases b1 with
    | false =>
      simp only [Option.some.injEq, Prod.mk.injEq] at he
      obtain ⟨rfl, rfl⟩ := he
      exact ⟨p1, p2, hroot1, p3, p5.log, p5.lenVals, p5.exprs, fun e => by cases e⟩
    | true =>
      simp only [Option.some.injEq, Prod.mk.injEq] at he
      obtain ⟨rfl, he2⟩ := he
      have he3 : s' = s1.cls.foldl simpStep s1 := he2.symm
      subst he3
      have hd1 : s1.dead = false := by simpa using p3
      have p1' : InvC orig m (fun _ _ => False) s1 :=
        ⟨p1.wf, p1.ent, p1.dec, fun hd' => (p1.w2 hd').mono (fun _ x hx => by rw [p2] at hx; cases hx)⟩
      obtain ⟨f1, f2, f3, f4, f5, f6, f7, f8⟩ :=
        simpFold_spec s1.cls s1 p1' hroot1 hd1 p2 p1.wf.c.clsIdNodup (fun e he => he)
      refine ⟨⟨f1.wf, f1.ent, f1.dec, fun hd' => (f1.w2 hd').mono (fun _ _ hx => hx.elim)⟩, f2, f3, by simpa using f4,
        ?_, ?_, ?_, ?_⟩
      · rw [f6]; exact p5.log
      · rw [f5]; exact p5.lenVals
      · rw [f7]; exact p5.exprs
      · intro _ e he l hl
        rw [value_congr (s := s1) (by rw [f5])]
        rcases f8 e he with ⟨g1, g2⟩ | g
        · exact absurd (List.mem_map.2 ⟨e, g1, rfl⟩) g2
        · exact g l hl

end Sat
end Oratio
