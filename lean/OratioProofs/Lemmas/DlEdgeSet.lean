/-
C08N: on exact states the distance matrix of a difference-logic theory is antitone in the SET of
enforced edges (`Exact.anti`) and so a function of it: two histories that end with the same enforced
constraints have the same distances (IDL: the same entries; RDL: the same denotations).
-/
import OratioProofs.Lemmas.DlExact
import OratioProofs.Lemmas.DlRdlExact

namespace Oratio

namespace DlG
open Dl
variable {α G : Type} [AddCommGroup G] [LinearOrder G] [IsOrderedAddMonoid G] {O : DOps α} {L₁ L₂ : DLaws O G}
  {E₁ E₂ : List (GEdge α)} {t₁ t₂ : Dl α} (h₁ : Exact L₁ E₁ t₁) (h₂ : Exact L₂ E₂ t₂) (hv : ∀ w, L₁.val w = L₂.val w)
  (hn : t₁.nVars = t₂.nVars) {i j : Nat} (hi : i < t₁.nVars) (hj : j < t₁.nVars)
include h₁ h₂ hv hn hi hj

theorem Exact.anti (hE : ∀ e, e ∈ E₁ → e ∈ E₂) : dn L₂ t₂ i j ≤ dn L₁ t₁ i j :=
  h₁.weak.anti h₂.weak L₁.unit_pos (fun σ hσ => (sat_iff L₁ σ E₁).mp fun e he =>
    le_of_le_of_eq ((sat_iff L₂ σ E₂).mpr hσ e (hE e he)) (hv e.2.2).symm) hi hj (hn ▸ hi) (hn ▸ hj)

theorem Exact.determined (hE : ∀ e, e ∈ E₁ ↔ e ∈ E₂) : dn L₁ t₁ i j = dn L₂ t₂ i j :=
  le_antisymm (Exact.anti h₂ h₁ (fun w => (hv w).symm) hn.symm (hn ▸ hi) (hn ▸ hj) fun e => (hE e).2)
    (Exact.anti h₁ h₂ hv hn hi hj fun e => (hE e).1)

end DlG

namespace Dl

section
variable {K₁ K₂ : Int} {E₁ E₂ : List REdge} {t₁ t₂ : Dl Int} (h₁ : ExactM K₁ E₁ t₁) (h₂ : ExactM K₂ E₂ t₂)
include h₁ h₂

theorem distOpt_mono (hE : ∀ e, e ∈ E₁ → e ∈ E₂) (hn : t₁.nVars = t₂.nVars) {i j : Nat} (hi : i < t₁.nVars)
    (hj : j < t₁.nVars) {x : Int} (hx : distOpt t₁ i j = some x) : ∃ y, distOpt t₂ i j = some y ∧ y ≤ x :=
  WithTop.le_coe_iff.mp ((DlG.Exact.anti h₁.toG h₂.toG (fun _ => rfl) hn hi hj hE).trans_eq (distOpt_iden.mp hx))

theorem d_determined (hE : ∀ e, e ∈ E₁ ↔ e ∈ E₂) (hn : t₁.nVars = t₂.nVars) {i j : Nat} (hi : i < t₁.nVars)
    (hj : j < t₁.nVars) : d idlOps t₁ i j = d idlOps t₂ i j :=
  iden_inj (DlG.Exact.determined h₁.toG h₂.toG (fun _ => rfl) hn hi hj hE)

end

/-- with the same capacity: the whole matrix (entries outside the used block are as the constructor
    / `resize` leave them) -/
theorem d_determined_all {K₁ K₂ : Int} {E₁ E₂ : List REdge} {t₁ t₂ : Dl Int} (h₁ : ExactM K₁ E₁ t₁)
    (h₂ : ExactM K₂ E₂ t₂) (hE : ∀ e, e ∈ E₁ ↔ e ∈ E₂) (hn : t₁.nVars = t₂.nVars)
    (hc : t₁.dists.length = t₂.dists.length) (i j : Nat) : d idlOps t₁ i j = d idlOps t₂ i j := by
  by_cases hin : i < t₁.nVars ∧ j < t₁.nVars
  · exact d_determined h₁ h₂ hE hn hin.1 hin.2
  · have hout : t₁.nVars ≤ i ∨ t₁.nVars ≤ j := by omega
    by_cases hr : i < t₁.dists.length ∧ j < t₁.dists.length
    · rw [h₁.fresh i j hr.1 hr.2 hout, h₂.fresh i j (hc ▸ hr.1) (hc ▸ hr.2) (hn ▸ hout)]
    · -- outside the allocated matrix both reads give the default
      have out : ∀ (t : Dl Int), (∀ r ∈ t.dists, r.length = t.dists.length) →
          ¬ (i < t.dists.length ∧ j < t.dists.length) → d idlOps t i j = idlInf := by
        intro t hsq hr'
        rw [d_eq]
        by_cases hi' : i < t.dists.length
        · have hj' : t.dists.length ≤ j := by omega
          have hlen : (t.dists.getD i []).length = t.dists.length := by
            rw [List.getD_eq_getElem?_getD, List.getElem?_eq_getElem hi', Option.getD_some]
            exact hsq _ (List.getElem_mem hi')
          rw [List.getD_eq_getElem?_getD (l := t.dists.getD i []), List.getElem?_eq_none (by omega)]
          rfl
        · have : t.dists.getD i [] = [] := by
            rw [List.getD_eq_getElem?_getD, List.getElem?_eq_none (by omega)]; rfl
          rw [this]; rfl
      rw [out t₁ h₁.size_ok.2.2.1 hr, out t₂ h₂.size_ok.2.2.1 (hc ▸ hr)]

end Dl

namespace DlR

section
variable {E₁ E₂ : List QEdge} {t₁ t₂ : Dl IR} (h₁ : ExactM E₁ t₁) (h₂ : ExactM E₂ t₂)
include h₁ h₂

theorem distOpt_mono (hE : ∀ e, e ∈ E₁ → e ∈ E₂) (hn : t₁.nVars = t₂.nVars) {i j : Nat} (hi : i < t₁.nVars)
    (hj : j < t₁.nVars) {x : QV} (hx : distOpt t₁ i j = some x) : ∃ y, distOpt t₂ i j = some y ∧ y ≤ x :=
  WithTop.le_coe_iff.mp ((DlG.Exact.anti h₁.toG h₂.toG (fun _ => rfl) hn hi hj hE).trans_eq (distOpt_some.mp hx))

end

end DlR

end Oratio
