/-
C07N (the combined network only infers what is entailed MODULO THE THEORIES): vocabulary.

`Net.TModel n α`   the boolean assignment `α` is consistent with the theories of `n`: there are
                   valuations agreeing with `α` on every registered theory atom (`v_asrts` of LRA
                   over a solution of the tableau, `var_dists` of IDL and RDL).
`Net.TEntails n F c` every `α` with `α 0 = false`, `α ⊨ F` and `TModel n α` satisfies `c`.
`Net.NetSound n orig` what the network stores / reports is T-entailed by the added clauses.
`Net.ThInv n orig fr` the invariants of the three theories (those of C09X / C10X / C10XR), together
                   with the ghost list `fr` of the states at the standing `push`es (one `Frame`
                   per decision level, newest first) which backtracking needs.
-/
import OratioModel
import OratioProofs.Lemmas.SatCoreCons
import OratioProofs.Lemmas.SatCoreMain
import OratioProofs.Lemmas.UndoDl
import OratioProofs.Properties.C10Explain
import OratioProofs.Lemmas.LraExplFarkas
import OratioProofs.Lemmas.LraExplKept
import OratioProofs.Lemmas.LraGoodAssert
import OratioProofs.Lemmas.LraGoodNew
import OratioProofs.Lemmas.LraNewRel

namespace Oratio
namespace Net

/-- `α` is consistent with the theories: some ε-rational solution of the LRA tableau, some integer
    valuation of the IDL time points and some ε-rational valuation of the RDL time points agree
    with `α` on the meaning of every registered theory atom -/
def TModel (n : Net) (α : Asg) : Prop :=
  ∃ (σr σi : Nat → Rat) (σz : Nat → Int) (σq : Nat → QV),
    Lra.Solves n.lra σr σi ∧ Lra.AsrtAgrees α σr σi n.lra ∧ Dl.Agrees n.idl σz α ∧ DlR.AgreesR n.rdl σq α

/-- entailment modulo the theories of `n` -/
def TEntails (n : Net) (F : Cnf) (c : Clause) : Prop :=
  ∀ α : Asg, α 0 = false → α.cnf F = true → TModel n α → α.clause c = true

/-- unsatisfiability modulo the theories of `n` -/
def TUnsat (n : Net) (F : Cnf) : Prop := ∀ α : Asg, α 0 = false → TModel n α → α.cnf F = false

/-- what the network reports is sound modulo the theories -/
structure NetSound (n : Net) (orig : Cnf) : Prop where
  /-- every stored clause (problem, learnt, theory lemma) is T-entailed by the added clauses -/
  clauses : ∀ e ∈ n.sat.cls, TEntails n orig e.2
  /-- every clause ever recorded (learnt clauses and theory lemmas) is T-entailed -/
  log : ∀ c ∈ n.sat.log, TEntails n orig c
  /-- every assigned literal is T-entailed by the added clauses and the standing decisions -/
  trail : ∀ l ∈ n.sat.trail, TEntails n (orig ++ units n.sat.decisions) [l]
  /-- an inconsistency reported at root level: no T-consistent assignment satisfies the added clauses -/
  dead : n.sat.dead = true → TUnsat n orig

/-! ### the invariants of the theories -/

/-- ghost: the SAT core and the theories at a `push` -/
structure Frame where
  sat : Sat
  lra : Lra
  idl : Dl Int
  rdl : Dl IR

/-- every bound of the LRA theory holds of every solution of the tableau that agrees, on the
    assertion literals, with an assignment satisfying the added clauses and making the reason of
    the bound true.  (Relative to `orig`: a slack variable created at root level gets the bounds
    `lb(lin)`, `ub(lin)` with reason TRUE, computed from bounds whose reasons are root-level
    literals - facts that hold in the models of `orig` only.) -/
def LraJ (orig : Cnf) (t : Lra) : Prop :=
  ∀ (α : Asg) (σr σi : Nat → Rat), α 0 = false → α.cnf orig = true →
    Lra.Solves t σr σi → Lra.AsrtAgrees α σr σi t → Lra.BoundsJust α σr σi t

/-- the LRA invariants of C09X, `LraJ`, and "the reason of every bound is true in the SAT core" -/
structure LraBase (orig : Cnf) (s : Sat) (t : Lra) : Prop where
  inv : Lra.ExplInv t
  vals : Lra.ValsOK t
  key : Lra.AsrtKey t
  vars : Lra.AsrtVars t
  just : LraJ orig t
  reasons : Lra.ReasonsTrue s t

/-- the IDL invariants of C10 / C10X -/
structure IdlBase (s : Sat) (t : Dl Int) : Prop where
  exact : ∃ K E, t.Exact K E ∧ Dl.ConstrsOk K t
  path : Dl.PathInv s t
  sorted : Undo.SortedK t.distConstr

/-- the RDL invariants of C10R / C10XR (with the integrality of the ε parts) -/
structure RdlBase (s : Sat) (t : Dl IR) : Prop where
  exact : ∃ E, t.ExactR E
  ok : DlR.ConstrsOkR t
  path : DlR.PathInvR s t
  sorted : Undo.SortedK t.distConstr
  eps : Dl.EpsInt t
  epsC : ∀ c ∈ t.varDists, c.dist.inf.den = 1

structure ThBase (orig : Cnf) (s : Sat) (l : Lra) (i : Dl Int) (r : Dl IR) : Prop where
  lra : LraBase orig s l
  idl : IdlBase s i
  rdl : RdlBase s r

/-- the two LRA states have the same solutions and the same assertions -/
def LraSame (B l : Lra) : Prop :=
  (∀ σr σi, Lra.Solves B σr σi ↔ Lra.Solves l σr σi) ∧ l.vAsrts = B.vAsrts ∧ l.vals.length = B.vals.length

/-- the invariants hold now, and for every standing `push` the state saved then satisfied them,
    the current theories were reached from it by `push` + propagation (so that `pop` restores it:
    `C09PopInv`, `Undo.Lg`), and the SAT core still has the values it had then -/
def ThChain (orig : Cnf) : Sat → Lra → Dl Int → Dl IR → List Frame → Prop
  | s, l, i, r, [] => ThBase orig s l i r
  | s, l, i, r, f :: fs =>
    ThBase orig s l i r ∧ Lra.C09PopInv f.lra l ∧ LraSame f.lra l ∧
    Undo.Lg idlOps f.idl i ∧ Undo.Lg rdlOps f.rdl r ∧ Dl.SatLe f.sat s ∧
    ThChain orig f.sat f.lra f.idl f.rdl fs

/-- the theory invariants of the network `n`, with the ghost frames `fr` of its decision levels -/
def ThInv (n : Net) (orig : Cnf) (fr : List Frame) : Prop := ThChain orig n.sat n.lra n.idl n.rdl fr

end Net
end Oratio
