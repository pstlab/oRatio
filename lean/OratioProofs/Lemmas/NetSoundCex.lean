/-
C07N, counterexample: a theory lemma recorded by LRA bound propagation that is NOT a pure theory
lemma and that contains FALSE_lit (variable 0), along a run of the network's own API.

  x0 ≥ 1 (b1), x1 ≥ 1 (b2), x2 ≥ -10 (b3) added as unit clauses and propagated at root level;
  b4 : x0 + x1 ≤ 5 creates the slack variable x3 = x0 + x1 with lower bound 2 and reason TRUE;
  b5 : x0 + x1 ≥ 4;  b6 : x2 - x0 - x1 ≥ 0 (slack x4);  b7 : x2 ≤ 1.
  `assume b5` makes `check` pivot x3 against x0; `pop`; `assume b7`: bound propagation through the
  row x4 = x2 - x3 derives x4 ≤ 1 - 2 and records `[¬b6, ¬b7, FALSE_lit]`: the explanation cites
  `¬TRUE` for the bound x3 ≥ 2, which depends on the root-level literals b1, b2.
-/
import OratioProofs.Lemmas.NetTh
import OratioProofs.Lemmas.LraExplExample
import OratioProofs.Lemmas.LraExplFarkas
import OratioProofs.Lemmas.LraNewRel

namespace Oratio
namespace NetCex
open Net

def lv (v : Nat) : Lin := ⟨[(v, ⟨1, 1⟩)], ⟨0, 1⟩⟩
def lc (k : Int) : Lin := ⟨[], ⟨k, 1⟩⟩
def yz : Lin := ⟨[(0, ⟨1, 1⟩), (1, ⟨1, 1⟩)], ⟨0, 1⟩⟩
def wyz : Lin := ⟨[(0, ⟨-1, 1⟩), (1, ⟨-1, 1⟩), (2, ⟨1, 1⟩)], ⟨0, 1⟩⟩
def getN (x : Option (Lit × Net)) (d : Net) : Lit × Net := x.getD (⟨0, true⟩, d)
def getP (x : Option (Bool × Net)) (d : Net) : Bool × Net := x.getD (false, d)

def m0 : Net := (lraNewVar (lraNewVar (lraNewVar Net.init).2).2).2
def a1 := getN (lraNewRel m0 .geq (lv 0) (lc 1)) m0
def a2 := getN (lraNewRel a1.2 .geq (lv 1) (lc 1)) a1.2
def a3 := getN (lraNewRel a2.2 .geq (lv 2) (lc (-10))) a2.2
def m1 : Net := { a3.2 with sat := (((a3.2.sat.newClause [a1.1]).2.newClause [a2.1]).2.newClause [a3.1]).2 }
def m2 := getP (m1.propagate 50) m1
def a4 := getN (lraNewRel m2.2 .leq yz (lc 5)) m2.2
def a5 := getN (lraNewRel a4.2 .geq yz (lc 4)) a4.2
def a6 := getN (lraNewRel a5.2 .geq wyz (lc 0)) a5.2
def a7 := getN (lraNewRel a6.2 .leq (lv 2) (lc 1)) a6.2
def m3 := getP (a7.2.assume a5.1 50) a7.2
def m4 : Net := m3.2.pop
def m5 := getP (m4.assume a7.1 50) m4

def cexClause : List Lit := [⟨6, false⟩, ⟨7, false⟩, ⟨0, true⟩]

/-- every call succeeds, the literals are b1 … b7, and the last `assume` records (and stores as
    clause 0) the theory lemma `[¬b6, ¬b7, FALSE_lit]`; the tableau and the registries at the end -/
theorem run_facts :
    [a1.1, a2.1, a3.1, a4.1, a5.1, a6.1, a7.1] = [⟨1, true⟩, ⟨2, true⟩, ⟨3, true⟩, ⟨4, true⟩, ⟨5, true⟩, ⟨6, true⟩, ⟨7, true⟩] ∧
    m2.1 = true ∧ m3.1 = true ∧ m5.1 = true ∧
    m4.sat.log = [] ∧ m5.2.sat.log = [cexClause] ∧ m5.2.sat.cls = [(0, cexClause)] ∧
    (m4.lra.bnd (Lra.lbIdx 3)).reason = Lit.trueLit ∧ m4.lra.lb 3 = IR.ofR ⟨2, 1⟩ ∧
    m5.2.lra.tableau = [(0, ⟨[(1, ⟨-1, 1⟩), (3, ⟨1, 1⟩)], ⟨0, 1⟩⟩), (4, ⟨[(2, ⟨1, 1⟩), (3, ⟨-1, 1⟩)], ⟨0, 1⟩⟩)] ∧
    m5.2.lra.vAsrts =
      [(1, ⟨.geq, ⟨1, true⟩, 0, IR.ofR ⟨1, 1⟩⟩), (2, ⟨.geq, ⟨2, true⟩, 1, IR.ofR ⟨1, 1⟩⟩),
       (3, ⟨.geq, ⟨3, true⟩, 2, IR.ofR ⟨-10, 1⟩⟩), (4, ⟨.leq, ⟨4, true⟩, 3, IR.ofR ⟨5, 1⟩⟩),
       (5, ⟨.geq, ⟨5, true⟩, 3, IR.ofR ⟨4, 1⟩⟩), (6, ⟨.geq, ⟨6, true⟩, 4, IR.ofR ⟨0, 1⟩⟩),
       (7, ⟨.leq, ⟨7, true⟩, 2, IR.ofR ⟨1, 1⟩⟩)] ∧
    m5.2.idl.varDists = [] ∧ m5.2.rdl.varDists = [] := by
  decide +kernel

/-- the SAT-level structural invariant of C07 does not survive: a stored clause contains variable 0 -/
theorem wf_broken : ¬ m5.2.sat.Wf := by
  intro h
  have hm : ((0, cexClause) : Nat × Clause) ∈ m5.2.sat.cls := by rw [run_facts.2.2.2.2.2.2.1]; exact List.mem_singleton.2 rfl
  exact h.c.clsVar0 _ hm ⟨0, true⟩ (by decide) rfl

/-- b3, b4, b6, b7 true; b1, b2, b5 false -/
def cexAlpha : Asg := fun v => v == 3 || v == 4 || v == 6 || v == 7

theorem le_true (k : R) (hk : k.toRat ≤ 0) : IR.val (IR.ofR k) ≤ Lra.nu (fun _ => 0) (fun _ => 0) 0 := by
  show (toLex (k.toRat, (R.zero).toRat) : QV) ≤ toLex (0, 0)
  rw [QV.le_iff]
  rcases lt_or_eq_of_le hk with h | h
  · exact Or.inl h
  · exact Or.inr ⟨h, by norm_num [R.toRat, R.zero]⟩

theorem ge_true (k : R) (hk : 0 ≤ k.toRat) : Lra.nu (fun _ => 0) (fun _ => 0) 0 ≤ IR.val (IR.ofR k) := by
  show (toLex (0, 0) : QV) ≤ toLex (k.toRat, (R.zero).toRat)
  rw [QV.le_iff]
  rcases lt_or_eq_of_le hk with h | h
  · exact Or.inl h
  · exact Or.inr ⟨h, by norm_num [R.toRat, R.zero]⟩

theorem ge_false (k : R) (hk : 0 < k.toRat) : Lra.nu (fun _ => 0) (fun _ => 0) 0 ≤ IR.val (IR.ofR k) - QV.eps := by
  have h1 : (toLex (0, 0) : QV) + QV.eps ≤ toLex (k.toRat, (R.zero).toRat) := by
    show (toLex ((0 : ℚ) + 0, (0 : ℚ) + 1) : QV) ≤ _
    rw [QV.le_iff]; left; simpa using hk
  exact le_sub_iff_add_le.2 h1

theorem cex_tmodel : TModel m5.2 cexAlpha := by
  refine ⟨fun _ => 0, fun _ => 0, fun _ => 0, fun _ => 0, ?_, ?_, ?_, ?_⟩
  · unfold Lra.Solves
    rw [run_facts.2.2.2.2.2.2.2.2.2.1]
    constructor
    · intro e he
      simp only [List.mem_cons, List.not_mem_nil, or_false] at he
      rcases he with rfl | rfl <;> norm_num [Lin.evalS, R.toRat]
    · intro e he
      simp only [List.mem_cons, List.not_mem_nil, or_false] at he
      rcases he with rfl | rfl <;> norm_num [Lin.evalS, R.toRat, R.zero]
  · unfold Lra.AsrtAgrees
    rw [run_facts.2.2.2.2.2.2.2.2.2.2.1]
    intro e he
    simp only [List.mem_cons, List.not_mem_nil, or_false] at he
    rcases he with rfl | rfl | rfl | rfl | rfl | rfl | rfl <;> simp only
    · exact ⟨fun h => absurd h (by decide), fun _ => ge_false _ (by norm_num [R.toRat])⟩
    · exact ⟨fun h => absurd h (by decide), fun _ => ge_false _ (by norm_num [R.toRat])⟩
    · exact ⟨fun _ => le_true _ (by norm_num [R.toRat]), fun h => absurd h (by decide)⟩
    · exact ⟨fun _ => ge_true _ (by norm_num [R.toRat]), fun h => absurd h (by decide)⟩
    · exact ⟨fun h => absurd h (by decide), fun _ => ge_false _ (by norm_num [R.toRat])⟩
    · exact ⟨fun _ => le_true _ (by norm_num [R.toRat]), fun h => absurd h (by decide)⟩
    · exact ⟨fun _ => ge_true _ (by norm_num [R.toRat]), fun h => absurd h (by decide)⟩
  · unfold Dl.Agrees
    rw [run_facts.2.2.2.2.2.2.2.2.2.2.2.1]
    intro c hc; cases hc
  · unfold DlR.AgreesR
    rw [run_facts.2.2.2.2.2.2.2.2.2.2.2.2]
    intro c hc; cases hc

/-- the recorded clause is NOT T-entailed by the empty clause set: `cexAlpha` (b1, b2 false) is
    T-consistent (all variables 0) and falsifies it -/
theorem not_pure : ¬ TEntails m5.2 [] cexClause := by
  intro h
  have := h cexAlpha (by decide) (by decide) cex_tmodel
  revert this
  decide

end NetCex
end Oratio
