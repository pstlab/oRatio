/-
C09X: `ExplInv`, `ValsOK` and `C09PopInv` hold initially and are kept by the operations of the theory (`new_var(lin)`:
Properties/C09Explain.lean); backtracking restores `BoundsJust`; real solutions embed into ε-rational ones.
-/
import OratioModel
import OratioProofs.Lemmas.LraExplAssert
import OratioProofs.Lemmas.LraGoodVals
import OratioProofs.Lemmas.LraUndoLog

namespace Oratio
namespace Lra
open IR Lin

theorem valsOK_congr {t u : Lra} (h1 : u.vals = t.vals) (h2 : u.tableau = t.tableau) (hv : ValsOK t) : ValsOK u := by
  have hra : u.ratAssign = t.ratAssign := by funext x; unfold ratAssign; rw [value_eq_of_vals h1]
  have hia : u.infAssign = t.infAssign := by funext x; unfold infAssign; rw [value_eq_of_vals h1]
  refine ⟨fun x => by rw [value_eq_of_vals h1]; exact hv.1 x, ?_⟩
  unfold Solves
  rw [hra, hia, h2]
  exact hv.2

theorem valsOK_update {t : Lra} (ht : TabWF t) (hv : ValsOK t) {xi : Nat} (hnb : t.isBasic xi = false)
    (hxi : xi < t.vals.length) {v : IR} (hvf : IR.Fin v) : ValsOK (t.update xi v) :=
  (valsOK_iff _).2 (((valsOK_iff _).1 hv).update ht ((isBasic_false_iff t xi).1 hnb) hxi hvf)

theorem valsOK_as (d : Side) {t : Lra} (ht : TabWF t) (hv : ValsOK t) {xi : Nat} (hxi : xi < t.vals.length) {val : IR}
    (hval : IR.Fin val) (p : Lit) : ValsOK (asState d t xi val p) :=
  have hm : ValsOK (stored t (d.idx xi) ⟨val, p⟩) := valsOK_congr rfl rfl hv
  asState_ind d t xi val p hm fun _ hb =>
    valsOK_update (t := stored t (d.idx xi) ⟨val, p⟩) (tabWF_congr (t := t) rfl rfl rfl ht) hm hb hxi hval

theorem valsOK_assertS (d : Side) {t : Lra} (ht : TabWF t) (hv : ValsOK t) (s : Sat) {xi : Nat} (hxi : xi < t.vals.length)
    {val : IR} (hval : IR.Fin val) (p : Lit) : ValsOK (assertS d s t xi val p).th :=
  assertS_th_ind d s t xi val p hv (valsOK_as d ht hv hxi hval p)

theorem explInv_assertS (d : Side) {t : Lra} (inv : ExplInv t) (s : Sat) (xi : Nat) {val : IR} (hval : IR.Fin val)
    (p : Lit) : ExplInv (assertS d s t xi val p).th :=
  assertS_th_ind d s t xi val p inv (explInv_set (boundSet_as d t xi val p) hval inv)

theorem explInv_assertLower {t : Lra} (inv : ExplInv t) (s : Sat) (xi : Nat) {val : IR} (hval : IR.Fin val) (p : Lit) :
    ExplInv (assertLower s t xi val p).th := by
  rw [assertLower_eq]; exact explInv_assertS .lo inv s xi hval p

theorem valsOK_assertLower {t : Lra} (ht : TabWF t) (hv : ValsOK t) (s : Sat) {xi : Nat} (hxi : xi < t.vals.length)
    {val : IR} (hval : IR.Fin val) (p : Lit) : ValsOK (assertLower s t xi val p).th := by
  rw [assertLower_eq]; exact valsOK_assertS .lo ht hv s hxi hval p

theorem valsOK_propagateLit {t : Lra} (ht : TabWF t) (hv : ValsOK t) (hao : AsrtOK t) (hvars : AsrtVars t)
    (s : Sat) (p : Lit) : ValsOK (propagateLit s t p).th :=
  propagateLit_th_ind s t p hv fun _ d _ hab hf _ _ =>
    valsOK_as d ht hv (hvars _ (mem_of_asrtOf hab)) (hf (hao _ (mem_of_asrtOf hab))) p

theorem explInv_propagateLit {t : Lra} (inv : ExplInv t) (s : Sat) (p : Lit) :
    ExplInv (propagateLit s t p).th :=
  propagateLit_th_ind s t p inv fun a d val hab hf _ _ =>
    explInv_set (boundSet_as d t a.x val p) (hf (inv.aok _ (mem_of_asrtOf hab))) inv

theorem propagateLit_writes (s : Sat) (t : Lra) (p : Lit) : OnlyBLV t (propagateLit s t p).th :=
  propagateLit_th_ind s t p (.refl t) fun a d val _ _ _ _ => asState_writes d t a.x val p

theorem explInv_check {t t' : Lra} (inv : ExplInv t) {fuel : Nat} {c : Option (List Lit)}
    (h : t.check fuel = some (c, t')) : ExplInv t' := by
  have hw := check_writes h
  refine inv.congr (sameSol_check fuel t t' c inv.tab h).1 (boundsOK_congr hw.bounds inv.bok) ?_ hw.kept.vAsrts
    (fun x => by rw [hw.kept.aWatches])
  unfold BoundsLen
  rw [hw.bounds, hw.kept.nvars]
  exact inv.blen

theorem boundsOK_extend {t u : Lra} (hl : BoundsLen t) {a b : LBound} (hb : u.bounds = t.bounds ++ [a, b])
    (ha : LbOk a.value) (hbb : UbOk b.value) (h : BoundsOK t) : BoundsOK u := fun x => by
  rcases Nat.lt_trichotomy x t.vals.length with hx | rfl | hx
  · rw [(lb_ub_append hl hb hx).1, (lb_ub_append hl hb hx).2]; exact h x
  · rw [(lb_ub_new hl hb).1, (lb_ub_new hl hb).2]; exact ⟨ha, hbb⟩
  · unfold lb ub bnd lbIdx ubIdx
    have hl' : u.bounds.length = 2 * t.vals.length + 2 := by rw [hb, List.length_append, hl]; rfl
    rw [List.getD_eq_getElem?_getD, List.getD_eq_getElem?_getD, List.getElem?_eq_none (by omega),
      List.getElem?_eq_none (by omega)]
    exact ⟨Or.inl finIR_zero, Or.inl finIR_zero⟩

theorem explInv_newVar {t : Lra} (inv : ExplInv t) : ExplInv t.newVar.2 :=
  inv.congr (tabWF_newVar inv.tab) (boundsOK_extend inv.blen rfl (Or.inr rfl) (Or.inr rfl) inv.bok)
    (by have := inv.blen; unfold BoundsLen at this ⊢
        show (t.bounds ++ [_, _]).length = 2 * (t.vals ++ [_]).length
        rw [List.length_append, List.length_append, this]; rfl) rfl (ListAux.getD_append_default t.aWatches · [])

theorem lbOk_of_lowerOK {b : IR} (h : LowerOK b) : LbOk b := (lowerOK_iff.1 h).1
theorem ubOk_of_upperOK {b : IR} (h : UpperOK b) : UbOk b := (upperOK_iff.1 h).1

theorem GoodCore.boundsOK {t : Lra} (g : GoodCore t) : BoundsOK t := fun x => by
  rcases Nat.lt_or_ge x t.vals.length with hx | hx
  · exact ⟨lbOk_of_lowerOK (g.bwf x hx).1, ubOk_of_upperOK (g.bwf x hx).2.1⟩
  · rw [(lb_ub_ge g.blen hx).1, (lb_ub_ge g.blen hx).2]; exact ⟨Or.inl finIR_zero, Or.inl finIR_zero⟩

theorem GoodCore.valsOK {t : Lra} (g : GoodCore t) : ValsOK t := (valsOK_iff t).2 g.gvals
theorem GoodCore.asrtVars {t : Lra} (g : GoodCore t) : AsrtVars t := fun e he => (g.asrts e he).1
theorem GoodCore.asrtOK {t : Lra} (g : GoodCore t) : AsrtOK t := fun e he => (g.asrts e he).2

/-- `ExplInv` is `GoodCore` less the order facts, plus the assertion watches -/
theorem GoodCore.explInv {t : Lra} (g : GoodCore t) (aw : AWatchOK t) : ExplInv t :=
  ⟨g.tab, g.boundsOK, g.blen, g.asrtOK, aw⟩

theorem valsOK_newVar {t : Lra} (hv : ValsOK t) : ValsOK t.newVar.2 := by
  have hval : ∀ x, t.newVar.2.value x = t.value x := fun x => getD_append_default t.vals x _
  have hra : t.newVar.2.ratAssign = t.ratAssign := by funext x; unfold ratAssign; rw [hval]
  have hia : t.newVar.2.infAssign = t.infAssign := by funext x; unfold infAssign; rw [hval]
  refine ⟨fun x => by rw [hval]; exact hv.1 x, ?_⟩
  rw [hra, hia]
  exact hv.2

theorem explInv_push {t : Lra} (inv : ExplInv t) : ExplInv t.push :=
  ⟨tabWF_congr (t := t) (u := t.push) rfl rfl rfl inv.tab, inv.bok, inv.blen, inv.aok, inv.awatch⟩
theorem valsOK_push {t : Lra} (hv : ValsOK t) : ValsOK t.push := valsOK_congr (t := t) (u := t.push) rfl rfl hv

theorem popInv_congr {B t u : Lra} (h1 : u.bounds = t.bounds) (h2 : u.layers = t.layers) (h : C09PopInv B t) :
    C09PopInv B u :=
  c09PopInv_iff.2 ⟨popInvW_congr h1 h2 (c09PopInv_iff.1 h).1, fun l hl => (c09PopInv_iff.1 h).2 l (h2 ▸ hl)⟩

theorem popInv_as (d : Side) {B t : Lra} (h : C09PopInv B t) {xi : Nat} (hxi : ubIdx xi < B.bounds.length)
    (val : IR) (p : Lit) : C09PopInv B (asState d t xi val p) := by
  have hm : C09PopInv B (stored t (d.idx xi) ⟨val, p⟩) := by
    have := C09_popInv_step B t (d.idx xi) ⟨val, p⟩ (Side.idx_lt_of_ub hxi d) h
    rwa [saveBound_setBound] at this
  exact asState_ind d t xi val p hm fun _ _ =>
    popInv_congr (update_writes _ xi val).bounds (update_writes _ xi val).layers hm

theorem popInv_assertS (d : Side) {B t : Lra} (h : C09PopInv B t) (s : Sat) {xi : Nat} (hxi : ubIdx xi < B.bounds.length)
    (val : IR) (p : Lit) : C09PopInv B (assertS d s t xi val p).th :=
  assertS_th_ind d s t xi val p h (popInv_as d h hxi val p)

theorem popInv_propagateLit {B t : Lra} (h : C09PopInv B t) (hr : ∀ e ∈ t.vAsrts, ubIdx e.2.x < B.bounds.length)
    (s : Sat) (p : Lit) : C09PopInv B (propagateLit s t p).th :=
  propagateLit_th_ind s t p h fun _ d val hab _ _ _ => popInv_as d h (hr _ (mem_of_asrtOf hab)) val p

theorem popInv_check {B t t' : Lra} (h : C09PopInv B t) {fuel : Nat} {c : Option (List Lit)}
    (hc : t.check fuel = some (c, t')) : C09PopInv B t' := by
  exact popInv_congr (check_writes hc).bounds (check_writes hc).layers h

theorem pop_restores {B cur : Lra} (h : C09PopInv B cur) :
    cur.pop.bounds = B.bounds ∧
    (∀ (α : Asg) (σr σi : Nat → Rat), BoundsJust α σr σi B → BoundsJust α σr σi cur.pop) ∧
    (∀ sB s', ReasonsTrue sB B → Dl.SatLe sB s' → ReasonsTrue s' cur.pop) ∧
    (BoundsOK B → ExplInv cur → ExplInv cur.pop) ∧ (ValsOK cur → ValsOK cur.pop) := by
  have hb := (C09_pop_of_inv B cur h).1
  have hw := pop_writes cur
  have p3 := pop_vals cur
  refine ⟨hb, fun α σr σi hj => boundsJust_congr hb hj, ?_, ?_, fun hv => valsOK_congr p3 hw.tableau hv⟩
  · intro sB s' hr hle x
    rw [lbReason_eq_of_bounds hb, ubReason_eq_of_bounds hb]
    exact (hr.mono hle) x
  · intro hbok inv
    refine inv.congr (tabWF_congr hw.tableau hw.tWatches hw.kept.nvars inv.tab) (boundsOK_congr hb hbok) ?_ hw.kept.vAsrts
      (fun x => by rw [hw.kept.aWatches])
    obtain ⟨l, _, hlen, _, _⟩ := h
    unfold BoundsLen
    rw [hb, p3, ← hlen]
    exact inv.blen

/-- `α` agrees with the real valuation `ρ` in the ordinary sense: a true literal means the
    constraint holds at `ρ` (the ε part of the bound read as a strictness flag: `x ≤ r - ε` is
    `x < r`), a false one that it does not -/
def RealAgrees (α : Asg) (ρ : Nat → Rat) (t : Lra) : Prop :=
  ∀ e ∈ t.vAsrts,
    match e.2.o with
    | .leq => (α.lit e.2.b = true → (toLex (ρ e.2.x, 0) : QV) ≤ IR.val e.2.v) ∧
              (α.lit e.2.b = false → ¬ (toLex (ρ e.2.x, 0) : QV) ≤ IR.val e.2.v)
    | .geq => (α.lit e.2.b = true → IR.val e.2.v ≤ (toLex (ρ e.2.x, 0) : QV)) ∧
              (α.lit e.2.b = false → ¬ IR.val e.2.v ≤ (toLex (ρ e.2.x, 0) : QV))

theorem real_solves {t : Lra} {ρ : Nat → Rat} (h : ∀ e ∈ t.tableau, ρ e.1 = Lin.evalS e.2 ρ) :
    Solves t ρ (fun _ => 0) := by
  refine ⟨h, fun e _ => ?_⟩
  rw [evalS_eq, sumS_zero]
  show (0 : ℚ) = 0 + R.zero.toRat
  rw [R.toRat_zero, add_zero]

theorem init_inv : ExplInv Lra.init ∧ ValsOK Lra.init := by
  refine ⟨⟨tabWF_init, fun _ => ⟨Or.inl finIR_zero, Or.inl finIR_zero⟩, rfl, fun e he => (by cases he), ?_⟩,
    fun _ => finIR_zero, fun e he => (by cases he), fun e he => (by cases he)⟩
  intro x b hb
  cases hb

theorem lbLin_ubLin_sok {u : Lra} (hb : BoundsOK u) {l : Lin} (hl : l.WF) (hnz : ∀ p ∈ l.vars, p.2.num ≠ 0) :
    LbOk (u.lbLin l) ∧ UbOk (u.ubLin l) :=
  ⟨(Side.lin .lo hl hnz fun p _ => hb p.1).1, (Side.lin .hi hl hnz fun p _ => (hb p.1).symm).1⟩

end Lra

end Oratio
