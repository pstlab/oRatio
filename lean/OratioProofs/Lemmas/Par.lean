/-
Lemmas for property C20 (model: OratioModel/Par/Pivot.lean): a step touches the slice of its owner only, so a
run is determined by its per-owner projections; the invariant of the thread pool.
-/
import OratioModel

namespace Oratio.Par

variable {α : Type}

theorem Shared.run_nil (σ : Shared α) : σ.run [] = σ := rfl

theorem Shared.run_cons (σ : Shared α) (s : Step α) (l : List (Step α)) :
    σ.run (s :: l) = (σ.apply s).run l := rfl

/-- what the shared state holds for row `r`: the row itself and its membership in every watch list -/
def Shared.slice (σ : Shared α) (r : Nat) : Option (Row α) × (Nat → Bool) := (σ.rows r, fun v => σ.watch v r)

theorem Shared.slice_apply_of_ne (σ : Shared α) (s : Step α) (r : Nat) (h : s.owner ≠ r) :
    (σ.apply s).slice r = σ.slice r := by
  have h' : r ≠ s.owner := Ne.symm h
  cases s <;> simp_all [Shared.apply, Shared.slice, Step.owner]

theorem Shared.slice_apply_congr (σ σ' : Shared α) (s : Step α) (r : Nat) (h : σ.slice r = σ'.slice r) :
    (σ.apply s).slice r = (σ'.apply s).slice r := by
  have h1 : σ.rows r = σ'.rows r := (Prod.mk.inj h).1
  have h2 : ∀ v, σ.watch v r = σ'.watch v r := congrFun (Prod.mk.inj h).2
  cases s <;> simp [Shared.apply, Shared.slice, h1, h2]

theorem Shared.slice_run_filter (l : List (Step α)) (r : Nat) : ∀ (σ σ' : Shared α), σ.slice r = σ'.slice r →
    (σ.run l).slice r = (σ'.run (l.filter (fun s => s.owner == r))).slice r := by
  induction l with
  | nil => exact fun _ _ h => h
  | cons s l ih =>
    intro σ σ' h
    rw [List.filter_cons]
    split
    · exact ih _ _ (slice_apply_congr σ σ' s r h)
    · rename_i hs
      exact ih _ _ ((slice_apply_of_ne σ s r fun e => hs (beq_iff_eq.2 e)).trans h)

theorem Shared.ext_slice {σ σ' : Shared α} (h : ∀ r, σ.slice r = σ'.slice r) : σ = σ' := by
  cases σ; cases σ'
  simp only [Shared.mk.injEq]
  exact ⟨funext fun r => (Prod.mk.inj (h r)).1, funext fun v => funext fun r => congrFun (Prod.mk.inj (h r)).2 v⟩

theorem filter_owner_eq_self (l : List (Step α)) (r : Nat) (h : ∀ s ∈ l, s.owner = r) :
    l.filter (fun s => s.owner == r) = l := by
  apply List.filter_eq_self.2
  intro s hs; simp [h s hs]

theorem filter_owner_eq_nil (l : List (Step α)) (r : Nat) (h : ∀ s ∈ l, s.owner ≠ r) :
    l.filter (fun s => s.owner == r) = [] := by
  apply List.filter_eq_nil_iff.2
  intro s hs; simp [h s hs]

theorem filter_owner_of_not_mem (tasks : List (Nat × List (Step α))) (l : List (Step α))
    (hall : ∀ s ∈ l, ∃ t ∈ tasks, s.owner = t.1) (r : Nat) (hr : r ∉ tasks.map (·.1)) :
    l.filter (fun s => s.owner == r) = [] := by
  apply filter_owner_eq_nil
  intro s hs e
  obtain ⟨t, ht, hst⟩ := hall s hs
  exact hr (e ▸ hst ▸ List.mem_map.2 ⟨t, ht, rfl⟩)

theorem owner_of_mem_flatMap {tasks : List (Nat × List (Step α))} (hown : ∀ t ∈ tasks, ∀ s ∈ t.2, s.owner = t.1) :
    ∀ s ∈ tasks.flatMap (·.2), ∃ t ∈ tasks, s.owner = t.1 :=
  fun s hs => let ⟨t, ht, hst⟩ := List.mem_flatMap.1 hs; ⟨t, ht, hown t ht s hst⟩

/-- the projection of the sequential schedule on a task's id is that task's step list -/
theorem filter_flatMap_of_mem (tasks : List (Nat × List (Step α)))
    (hown : ∀ t ∈ tasks, ∀ s ∈ t.2, s.owner = t.1) (hdist : (tasks.map (·.1)).Nodup) :
    ∀ t ∈ tasks, (tasks.flatMap (·.2)).filter (fun s => s.owner == t.1) = t.2 := by
  induction tasks with
  | nil => intro t ht; cases ht
  | cons a rest ih =>
    intro t ht
    have hown' : ∀ t ∈ rest, ∀ s ∈ t.2, s.owner = t.1 := fun t ht => hown t (List.mem_cons_of_mem _ ht)
    rw [List.map_cons, List.nodup_cons] at hdist
    rw [List.flatMap_cons, List.filter_append]
    rcases List.mem_cons.1 ht with rfl | ht'
    · rw [filter_owner_eq_self _ _ (hown t (List.mem_cons_self ..)),
        filter_owner_of_not_mem rest _ (owner_of_mem_flatMap hown') t.1 hdist.1, List.append_nil]
    · have hne : a.1 ≠ t.1 := by
        intro e
        apply hdist.1
        rw [e]
        exact List.mem_map.2 ⟨t, ht', rfl⟩
      rw [filter_owner_eq_nil a.2 t.1 (fun s hs e => hne ((hown a (List.mem_cons_self ..) s hs).symm.trans e)),
        List.nil_append]
      exact ih hown' hdist.2 t ht'

theorem ite_ind {β : Type} {P : β → Prop} {c : Prop} [Decidable c] {a b : β} (ha : P a) (hb : P b) :
    P (if c then a else b) := by
  split <;> assumption

def Pool.Inv (p : Pool) : Prop := List.Perm p.enqueued (p.queue ++ p.running ++ p.done)

theorem Pool.inv_step (p : Pool) (s : PoolStep) (h : p.Inv) : (p.step s).Inv := by
  unfold Pool.Inv at *
  rw [List.perm_iff_count] at h ⊢
  intro a
  have := h a
  cases s with
  | enqueue t =>
    simp only [Pool.step, List.count_append] at *
    omega
  | take =>
    simp only [Pool.step]
    split
    · exact this
    · rename_i t q hq
      simp only [hq, List.count_append, List.count_cons, List.count_nil] at *
      omega
  | finish t =>
    simp only [Pool.step]
    split
    · rename_i hc
      have hp := (List.perm_cons_erase (show t ∈ p.running by simpa using hc)).count_eq a
      simp only [List.count_append, List.count_cons, List.count_nil] at *
      omega
    · exact this

end Oratio.Par
