/-
What the operations of the difference-logic model `OratioModel/Net/Dl.lean` do, before any reading of the
numbers (an arbitrary `O : DOps α`): the two loops of `propagate(from, to, dist)` as a sequence of writes of one
cell, `propagate(lit)` as two tests on the edge the literal stands for, the scan of the updated pairs.
-/
import OratioModel.Net.Dl
import OratioProofs.Lemmas.ListAux

namespace Oratio
namespace Dl

theorem getD_getD_set {β : Type} (D : List (List β)) (i j : Nat) (x dflt : β) (a b : Nat)
    (hi : i < D.length) (hj : j < (D.getD i []).length) :
    ((D.set i ((D.getD i []).set j x)).getD a []).getD b dflt =
      if a = i ∧ b = j then x else (D.getD a []).getD b dflt := by
  have h := Undo.cell_setM D i j a b x
  unfold Undo.cell Undo.setM at h
  rw [List.getD_eq_getElem?_getD (l := (D.set i _).getD a []), h, List.getD_eq_getElem?_getD (l := D.getD a [])]
  split
  · rename_i hab
    rw [hab.1, hab.2, List.getElem?_eq_getElem hj]; rfl
  · rfl

theorem range_of_lengths {β : Type} {D : List (List β)} {n : Nat} (h1 : n ≤ (D.map List.length).length)
    (h2 : ∀ l ∈ D.map List.length, n ≤ l) {i j : Nat} (hi : i < n) (hj : j < n) :
    i < D.length ∧ j < (D.getD i []).length := by
  have hi' : i < D.length := by simp at h1; omega
  refine ⟨hi', ?_⟩
  have : (D.getD i []).length ∈ D.map List.length := by
    simp only [List.mem_map]
    refine ⟨D[i], List.getElem_mem hi', ?_⟩
    simp [List.getD_eq_getElem?_getD, hi']
  have := h2 _ this
  omega

variable {α : Type} {O : DOps α}

def shape (t : Dl α) : List Nat × List Nat := (t.dists.map List.length, t.preds.map List.length)

def Fits (n : Nat) (shp : List Nat × List Nat) : Prop := n ≤ shp.1.length ∧ ∀ l ∈ shp.1, n ≤ l

def FitsP (n : Nat) (shp : List Nat × List Nat) : Prop := n ≤ shp.2.length ∧ ∀ l ∈ shp.2, n ≤ l

theorem setDist_same (t : Dl α) (i j : Nat) (x : α) :
    (setDist O t i j x).nVars = t.nVars ∧ (setDist O t i j x).dists = (setD t i j x).dists ∧
      (setDist O t i j x).preds = t.preds := by
  unfold setDist
  cases t.layers with
  | nil => exact ⟨rfl, rfl, rfl⟩
  | cons l ls => dsimp only; split <;> exact ⟨rfl, rfl, rfl⟩

theorem setPred_same (t : Dl α) (i j : Nat) (x : Nat) :
    (setPred t i j x).nVars = t.nVars ∧ (setPred t i j x).dists = t.dists ∧
      (setPred t i j x).preds = (setP t i j x).preds := by
  unfold setPred
  cases t.layers with
  | nil => exact ⟨rfl, rfl, rfl⟩
  | cons l ls => dsimp only; split <;> exact ⟨rfl, rfl, rfl⟩

theorem d_eq (t : Dl α) (a b : Nat) : d O t a b = (t.dists.getD a []).getD b O.inf := rfl

theorem p_eq (t : Dl α) (a b : Nat) : p t a b = (t.preds.getD a []).getD b noPred := rfl

theorem d_congr {t1 t2 : Dl α} (h : t1.dists = t2.dists) (a b : Nat) : d O t1 a b = d O t2 a b := by
  simp only [d_eq, h]

theorem p_congr {t1 t2 : Dl α} (h : t1.preds = t2.preds) (a b : Nat) : p t1 a b = p t2 a b := by
  simp only [p_eq, h]

theorem d_setD (t : Dl α) (i j : Nat) (x : α) (a b : Nat)
    (hi : i < t.dists.length) (hj : j < (t.dists.getD i []).length) :
    d O (setD t i j x) a b = if a = i ∧ b = j then x else d O t a b :=
  getD_getD_set t.dists i j x O.inf a b hi hj

/-- one matrix write as the C++ does it: `set_dist` followed by `set_pred` -/
def wr (O : DOps α) (t : Dl α) (i j : Nat) (x : α) (y : Nat) : Dl α := setPred (setDist O t i j x) i j y

theorem nVars_wr (t : Dl α) (i j : Nat) (x : α) (y : Nat) : (wr O t i j x y).nVars = t.nVars := by
  rw [wr, (setPred_same _ _ _ _).1, (setDist_same _ _ _ _).1]

theorem dists_wr (t : Dl α) (i j : Nat) (x : α) (y : Nat) : (wr O t i j x y).dists = (setD t i j x).dists := by
  rw [wr, (setPred_same _ _ _ _).2.1, (setDist_same _ _ _ _).2.1]

theorem preds_wr (t : Dl α) (i j : Nat) (x : α) (y : Nat) : (wr O t i j x y).preds = (setP t i j y).preds := by
  rw [wr, (setPred_same _ _ _ _).2.2]
  simp only [setP, (setDist_same _ _ _ _).2.2]

theorem shape_wr (t : Dl α) (i j : Nat) (x : α) (y : Nat) : shape (wr O t i j x y) = shape t := by
  simp only [shape, dists_wr, preds_wr, setD, setP]
  exact Prod.ext (Undo.shape_setM _ i j x) (Undo.shape_setM _ i j y)

theorem d_wr {t : Dl α} {n : Nat} (h : Fits n (shape t)) {i j : Nat} (hi : i < n) (hj : j < n) (x : α) (y : Nat)
    (a b : Nat) : d O (wr O t i j x y) a b = if a = i ∧ b = j then x else d O t a b := by
  obtain ⟨h1, h2⟩ := range_of_lengths h.1 h.2 hi hj
  rw [d_congr (dists_wr _ _ _ _ _), d_setD _ _ _ _ _ _ h1 h2]

theorem p_wr {t : Dl α} {n : Nat} (h : FitsP n (shape t)) {i j : Nat} (hi : i < n) (hj : j < n) (x : α) (y : Nat)
    (a b : Nat) : p (wr O t i j x y) a b = if a = i ∧ b = j then y else p t a b := by
  obtain ⟨h1, h2⟩ := range_of_lengths h.1 h.2 hi hj
  rw [p_congr (preds_wr _ _ _ _ _)]
  exact getD_getD_set t.preds i j y noPred a b h1 h2

theorem wr_tables (t : Dl α) (i j : Nat) (x : α) (y : Nat) :
    (wr O t i j x y).distConstr = t.distConstr ∧ (wr O t i j x y).varDists = t.varDists := by
  have h1 : ∀ t : Dl α, (setDist O t i j x).distConstr = t.distConstr ∧ (setDist O t i j x).varDists = t.varDists := by
    intro t
    unfold setDist
    cases t.layers with
    | nil => exact ⟨rfl, rfl⟩
    | cons l ls => dsimp only; split <;> exact ⟨rfl, rfl⟩
  have h2 : ∀ t : Dl α, (setPred t i j y).distConstr = t.distConstr ∧ (setPred t i j y).varDists = t.varDists := by
    intro t
    unfold setPred
    cases t.layers with
    | nil => exact ⟨rfl, rfl⟩
    | cons l ls => dsimp only; split <;> exact ⟨rfl, rfl⟩
  exact ⟨(h2 _).1.trans (h1 t).1, (h2 _).2.trans (h1 t).2⟩

/-! ### the two loops of `propagate(from, to, dist)` as a sequence of writes -/

def Written (O : DOps α) (w : α) (t : Dl α) (x : α) : Prop :=
  x = w ∨ ∃ a b, x = O.add (d O t a b) w ∨ ∃ c e, x = O.add (d O t a b) (d O t c e)

section writes
variable (O) (P : Dl α → Prop) (w : α) (hW : ∀ t i j x y, P t → Written O w t x → P (wr O t i j x y))
include hW

theorem phase1_writes (f g : Nat) : ∀ (n : Nat) (t0 : Dl α) (u : Nat) (acc : Dl α × List Nat × List Nat × List (Nat × Nat)),
    P acc.1 → P (phase1 O t0 f g w n u acc).1
  | 0, _, _, acc, h => by unfold phase1; exact h
  | n + 1, t0, u, (t, si, sj, ups), h => by
    have e1 := fun t => hW t u g (O.add (d O t u f) w) f
    have e2 := fun t y => hW t f u (O.add (d O t g u) w) y
    unfold phase1
    dsimp only
    -- the two updates of a round: each is done or not
    split
    · have h1 := e1 t h (.inr ⟨u, f, .inl rfl⟩)
      split
      · exact phase1_writes f g n _ _ _ (e2 _ _ h1 (.inr ⟨g, u, .inl rfl⟩))
      · exact phase1_writes f g n _ _ _ h1
    · split
      · exact phase1_writes f g n _ _ _ (e2 _ _ h (.inr ⟨g, u, .inl rfl⟩))
      · exact phase1_writes f g n _ _ _ h

theorem phase2_writes (t : Dl α) (g : Nat) (si sj : List Nat) (ups : List (Nat × Nat)) (h : P t) :
    P (phase2 O t g si sj ups).1 := by
  unfold phase2
  refine ListAux.foldl_inv (fun acc : Dl α × List (Nat × Nat) => P acc.1) _ (fun acc i hacc => ?_) si (t, ups) h
  refine ListAux.foldl_inv (fun acc : Dl α × List (Nat × Nat) => P acc.1) _ (fun acc j hacc => ?_) sj acc hacc
  obtain ⟨t, ups⟩ := acc
  simp only
  split
  · exact hW t i j _ _ hacc (.inr ⟨i, g, .inr ⟨g, j, rfl⟩⟩)
  · exact hacc

theorem propagateEdge_writes (s : Sat) (t : Dl α) (f g : Nat) (h : P t) : P (propagateEdge O s t f g w).2 :=
  phase2_writes O P w hW _ g _ _ _
    (phase1_writes O P w hW f g _ _ 0 (wr O t f g w f, [], [], [(f, g), (g, f)]) (hW t f g w f h (.inl rfl)))

end writes

/-- the predecessor `propagate(f, g, _)` writes for an improved entry with column `b` -/
def newp (P0 : Nat → Nat → Nat) (f g b : Nat) : Nat := if b = g then f else P0 g b

def SizeOk (nv : Nat) (shp : List Nat × List Nat) : Prop :=
  1 ≤ nv ∧ nv ≤ shp.1.length ∧ (∀ l ∈ shp.1, l = shp.1.length) ∧ shp.2.length = shp.1.length ∧ (∀ l ∈ shp.2, l = shp.1.length)

theorem sizeOk_iff (t : Dl α) :
    (1 ≤ t.nVars ∧ t.nVars ≤ t.dists.length ∧ (∀ r ∈ t.dists, r.length = t.dists.length) ∧
      t.preds.length = t.dists.length ∧ (∀ r ∈ t.preds, r.length = t.dists.length)) ↔ SizeOk t.nVars (shape t) := by
  simp [SizeOk, shape]

theorem SizeOk.fits {nv : Nat} {shp : List Nat × List Nat} (h : SizeOk nv shp) : Fits nv shp := by
  obtain ⟨_, h2, h3, _, _⟩ := h
  exact ⟨h2, fun l hl => by rw [h3 l hl]; exact h2⟩

theorem SizeOk.fitsP {nv : Nat} {shp : List Nat × List Nat} (h : SizeOk nv shp) : FitsP nv shp := by
  obtain ⟨_, h2, _, h4, h5⟩ := h
  exact ⟨by rw [h4]; exact h2, fun l hl => by rw [h5 l hl]; exact h2⟩

theorem sizeOk_resize (t : Dl α) (N nv : Nat) (h1 : 1 ≤ nv) (h2 : nv ≤ N) :
    SizeOk nv (shape (resize O t N)) := by
  simp [SizeOk, shape, resize, h1, h2]

theorem newVar_same (O : DOps α) (t : Dl α) : (newVar O t).1 = t.nVars ∧ (newVar O t).2.nVars = t.nVars + 1 ∧
    (newVar O t).2.varDists = t.varDists ∧ (newVar O t).2.distConstr = t.distConstr ∧
    (newVar O t).2.layers = t.layers := by
  unfold newVar
  dsimp only
  split <;> exact ⟨rfl, rfl, rfl, rfl, rfl⟩

theorem sizeOk_newVar {t : Dl α} (h : SizeOk t.nVars (shape t)) :
    SizeOk (newVar O t).2.nVars (shape (newVar O t).2) := by
  obtain ⟨s1, s2, s3, s4, s5⟩ := (sizeOk_iff t).mpr h
  unfold newVar
  dsimp only
  split
  · rename_i hlen
    have hlen' : t.dists.length = t.nVars := hlen
    exact sizeOk_resize _ _ (t.nVars + 1) (Nat.le_add_left 1 _) (by omega)
  · rename_i hlen
    exact (sizeOk_iff { t with nVars := t.nVars + 1 }).mp
      ⟨Nat.le_add_left 1 _, Nat.lt_of_le_of_ne s2 (Ne.symm hlen), s3, s4, s5⟩

theorem sizeOk_init (n : Nat) (hn : 1 ≤ n) : SizeOk 1 (shape (init O n)) := by
  simp [SizeOk, shape, init, initDists, initPreds, hn]

/-- the state on which `propagate(lit)` runs the matrix update -/
def armed (t : Dl α) (k : Nat × Nat) (b : Nat) : Dl α :=
  { saveConstr t k with distConstr := assignPair (saveConstr t k).distConstr k b }

theorem saveConstr_same (t : Dl α) (k : Nat × Nat) :
    (saveConstr t k).nVars = t.nVars ∧ (saveConstr t k).dists = t.dists ∧ (saveConstr t k).preds = t.preds := by
  unfold saveConstr
  cases t.layers with
  | nil => exact ⟨rfl, rfl, rfl⟩
  | cons l ls => dsimp only; split <;> exact ⟨rfl, rfl, rfl⟩

theorem armed_same (t : Dl α) (k : Nat × Nat) (b : Nat) :
    (armed t k b).nVars = t.nVars ∧ (armed t k b).dists = t.dists ∧ (armed t k b).preds = t.preds :=
  saveConstr_same t k

/-- the edge `(from, to, weight)` the literal `⟨c.b, b⟩` stands for, with the weight as stored -/
def litEdge (O : DOps α) (c : DConstr α) (b : Bool) : Nat × Nat × α :=
  if b then (c.src, c.dst, c.dist) else (c.dst, c.src, O.negStrict c.dist)

/-- the test by which the matrix refutes the literal `⟨c.b, b⟩`: its edge would close a negative cycle -/
def cnfTest (O : DOps α) (t : Dl α) (c : DConstr α) (b : Bool) : Bool :=
  if b then O.lt (d O t c.dst c.src) (O.neg c.dist) else O.le (d O t c.src c.dst) c.dist

/-- the test by which the edge of the literal `⟨c.b, b⟩` improves its entry -/
def impTest (O : DOps α) (t : Dl α) (c : DConstr α) (b : Bool) : Bool :=
  if b then O.lt c.dist (d O t c.src c.dst) else O.le (O.neg c.dist) (d O t c.dst c.src)

theorem armed_tables (t : Dl α) (k : Nat × Nat) (b : Nat) :
    (armed t k b).distConstr = assignPair t.distConstr k b ∧ (armed t k b).varDists = t.varDists := by
  unfold armed saveConstr
  cases t.layers with
  | nil => exact ⟨rfl, rfl⟩
  | cons l ls => dsimp only; split <;> exact ⟨rfl, rfl⟩

theorem constrOf_spec {t : Dl α} {bb : Nat} {c : DConstr α} (h : constrOf t bb = some c) :
    c ∈ t.varDists ∧ c.b = bb := by
  unfold constrOf at h
  refine ⟨List.mem_of_find?_eq_some h, ?_⟩
  have := List.find?_some h
  simpa using this

end Dl

namespace DlG
open Dl
variable {α : Type} {O : DOps α}

theorem d_init (n i j : Nat) (hi : i < n) (hj : j < n) :
    d O (init O n) i j = if i = j then O.zero else O.inf := by
  rw [d_eq]
  simp [init, initDists, List.getD_eq_getElem?_getD, hi, hj]

theorem d_resize (t : Dl α) (N a b : Nat) (ha : a < N) (hb : b < N) :
    d O (resize O t N) a b =
      if a < t.dists.length ∧ b < t.dists.length then d O t a b else if a = b then O.zero else O.inf := by
  rw [d_eq]
  simp [resize, List.getD_eq_getElem?_getD, ha, hb]

theorem p_resize (O : DOps α) (t : Dl α) (N a b : Nat) (ha : a < N) (hb : b < N) :
    p (resize O t N) a b =
      if a < t.dists.length ∧ b < t.dists.length then p t a b
      else if a = b ∧ t.dists.length ≤ a then noPred else a := by
  rw [p_eq]
  simp [resize, List.getD_eq_getElem?_getD, ha, hb]

/-- `new_var()` on the matrices: the block of the old time points is kept, and everything around it is in the
    initial state — `resize` has just put it there, or nothing was ever written outside the used block -/
theorem newVar_cells {t : Dl α} (hsize : t.nVars ≤ t.dists.length)
    (hfresh : ∀ i j, i < t.dists.length → j < t.dists.length → (t.nVars ≤ i ∨ t.nVars ≤ j) →
      d O t i j = if i = j then O.zero else O.inf) :
    t.nVars + 1 ≤ (newVar O t).2.dists.length ∧
    (∀ a b, a < t.nVars → b < t.nVars → d O (newVar O t).2 a b = d O t a b ∧ p (newVar O t).2 a b = p t a b) ∧
    (∀ i j, i < (newVar O t).2.dists.length → j < (newVar O t).2.dists.length → (t.nVars ≤ i ∨ t.nVars ≤ j) →
      d O (newVar O t).2 i j = if i = j then O.zero else O.inf) := by
  unfold newVar
  dsimp only
  split
  · rename_i hlen
    have hlen' : t.dists.length = t.nVars := hlen
    have hN : t.nVars + 1 ≤ t.dists.length * 3 / 2 + 1 := by omega
    rw [show (resize O { t with nVars := t.nVars + 1 } (t.dists.length * 3 / 2 + 1)).dists.length =
      t.dists.length * 3 / 2 + 1 by simp [resize]]
    refine ⟨hN, fun a b ha hb => ?_, fun i j hi hj hout => ?_⟩
    · have ha' := Nat.lt_of_lt_of_le (Nat.lt_succ_of_lt ha) hN
      have hb' := Nat.lt_of_lt_of_le (Nat.lt_succ_of_lt hb) hN
      have hin : a < t.dists.length ∧ b < t.dists.length := hlen' ▸ ⟨ha, hb⟩
      rw [d_resize _ _ a b ha' hb', p_resize _ _ _ a b ha' hb', if_pos hin, if_pos hin]
      exact ⟨rfl, rfl⟩
    · have hnin : ¬ (i < t.dists.length ∧ j < t.dists.length) := fun h =>
        hout.elim (fun h' => Nat.lt_irrefl _ (Nat.lt_of_lt_of_le (hlen' ▸ h.1) h'))
          (fun h' => Nat.lt_irrefl _ (Nat.lt_of_lt_of_le (hlen' ▸ h.2) h'))
      rw [d_resize _ _ i j hi hj, if_neg hnin]
  · rename_i hlen
    exact ⟨Nat.lt_of_le_of_ne hsize (Ne.symm hlen), fun _ _ _ _ => ⟨rfl, rfl⟩, hfresh⟩

section
variable (O)

theorem propagateLit_none {s : Sat} {t : Dl α} {pl : Lit} (h : t.constrOf pl.var = none) :
    propagateLit O s t pl = .inr (s, t) := by
  unfold propagateLit
  rw [h]

theorem propagateLit_undef {s : Sat} {t : Dl α} {pl : Lit} {c : DConstr α} (hc : t.constrOf pl.var = some c)
    (hv : s.value ⟨c.b, true⟩ = none) : propagateLit O s t pl = .inr (s, t) := by
  simp only [propagateLit, hc, hv]

theorem propagateLit_eq {s : Sat} {t : Dl α} {pl : Lit} {c : DConstr α} (hc : t.constrOf pl.var = some c) {b : Bool}
    (hv : s.value ⟨c.b, true⟩ = some b) :
    propagateLit O s t pl =
      if cnfTest O t c b = true then
        .inl (walk s t (litEdge O c b).2.1 t.nVars (litEdge O c b).1 [] ++ [pl.neg])
      else if impTest O t c b = true then
        .inr (propagateEdge O s (armed t ((litEdge O c b).1, (litEdge O c b).2.1) c.b)
          (litEdge O c b).1 (litEdge O c b).2.1 (litEdge O c b).2.2)
      else .inr (s, t) := by
  cases b <;> simp only [propagateLit, hc, hv] <;> rfl

theorem propagateLit_cases (s : Sat) (t : Dl α) (pl : Lit) :
    propagateLit O s t pl = .inr (s, t) ∨ ∃ c b f g w, t.constrOf pl.var = some c ∧ s.value ⟨c.b, true⟩ = some b ∧
      litEdge O c b = (f, g, w) ∧
      (propagateLit O s t pl = .inl (walk s t g t.nVars f [] ++ [pl.neg]) ∨
       propagateLit O s t pl = .inr (propagateEdge O s (armed t (f, g) c.b) f g w)) := by
  cases hc : t.constrOf pl.var with
  | none => exact .inl (propagateLit_none O hc)
  | some c =>
    cases hv : s.value ⟨c.b, true⟩ with
    | none => exact .inl (propagateLit_undef O hc hv)
    | some b =>
      rw [propagateLit_eq O hc hv]
      split
      · exact .inr ⟨c, b, _, _, _, rfl, hv, rfl, .inl rfl⟩
      · split
        · exact .inr ⟨c, b, _, _, _, rfl, hv, rfl, .inr rfl⟩
        · exact .inl rfl

theorem propagateLit_run {s s' : Sat} {t t' : Dl α} {pl : Lit} (he : propagateLit O s t pl = .inr (s', t')) :
    (s', t') = (s, t) ∨ ∃ c b f g w, t.constrOf pl.var = some c ∧ litEdge O c b = (f, g, w) ∧
      propagateEdge O s (armed t (f, g) c.b) f g w = (s', t') := by
  rcases propagateLit_cases O s t pl with e | ⟨c, b, f, g, w, hc, -, hfg, e | e⟩ <;> rw [e] at he
  · exact .inl (Sum.inr.inj he).symm
  · cases he
  · exact .inr ⟨c, b, f, g, w, hc, hfg, Sum.inr.inj he⟩

theorem propagateLit_inl_mem {s : Sat} {t : Dl α} {pl : Lit} {cl : List Lit}
    (he : propagateLit O s t pl = .inl cl) : pl.neg ∈ cl := by
  rcases propagateLit_cases O s t pl with e | ⟨c, b, f, g, w, -, -, -, e | e⟩ <;> rw [e] at he <;> cases he
  simp

theorem propagateEdge_tables (s : Sat) (t : Dl α) (f g : Nat) (w : α) :
    (propagateEdge O s t f g w).2.distConstr = t.distConstr ∧ (propagateEdge O s t f g w).2.varDists = t.varDists ∧
    (propagateEdge O s t f g w).2.nVars = t.nVars :=
  propagateEdge_writes O (fun t' => t'.distConstr = t.distConstr ∧ t'.varDists = t.varDists ∧ t'.nVars = t.nVars) w
    (fun t' i j x y h _ => ⟨(wr_tables t' i j x y).1.trans h.1, (wr_tables t' i j x y).2.trans h.2.1,
      (nVars_wr t' i j x y).trans h.2.2⟩) s t f g ⟨rfl, rfl, rfl⟩

theorem propagateEdge_armed_tables (s : Sat) (t : Dl α) (k : Nat × Nat) (f g : Nat) (w : α) (cb : Nat) :
    (propagateEdge O s (armed t k cb) f g w).2.distConstr = assignPair t.distConstr k cb ∧
    (propagateEdge O s (armed t k cb) f g w).2.varDists = t.varDists ∧
    (propagateEdge O s (armed t k cb) f g w).2.nVars = t.nVars := by
  obtain ⟨fr1, fr2, fr3⟩ := propagateEdge_tables O s (armed t k cb) f g w
  exact ⟨fr1.trans (armed_tables t k cb).1, fr2.trans (armed_tables t k cb).2, fr3.trans (armed_same t k cb).1⟩

theorem propagateLit_varDists (s s' : Sat) (t t' : Dl α) (pl : Lit)
    (he : propagateLit O s t pl = .inr (s', t')) : t'.varDists = t.varDists := by
  rcases propagateLit_run O he with e | ⟨c, b, f, g, w, -, -, e⟩
  · cases e; rfl
  · exact (congrArg (·.2.varDists) e).symm.trans (propagateEdge_armed_tables O s t _ _ _ _ c.b).2.1

theorem newDistance_same (s : Sat) (t : Dl α) (f g : Nat) (w : α) :
    (newDistance O s t f g w).2.2.nVars = t.nVars ∧ (newDistance O s t f g w).2.2.dists = t.dists ∧
    (newDistance O s t f g w).2.2.preds = t.preds := by
  unfold newDistance
  split
  · exact ⟨rfl, rfl, rfl⟩
  · split <;> exact ⟨rfl, rfl, rfl⟩

def scanStep (t : Dl α) (s : Sat) (b : Nat) : Sat :=
  match constrOf t b with
  | none => s
  | some c =>
    if s.value ⟨c.b, true⟩ ≠ none then s
    else if O.lt (d O t c.dst c.src) (O.neg c.dist) then
      s.record (walk s t c.dst t.nVars c.src [⟨c.b, false⟩])
    else if O.le (d O t c.src c.dst) c.dist then
      s.record (walk s t c.src t.nVars c.dst [⟨c.b, true⟩])
    else s

theorem scanUpdates_cons (s : Sat) (t : Dl α) (pr : Nat × Nat) (rest : List (Nat × Nat)) :
    scanUpdates O s t (pr :: rest) =
      scanUpdates O (((lookupPair t.distConstrs pr).getD []).foldl (scanStep O t) s) t rest := by
  rw [scanUpdates]
  rfl

theorem scan_inv (t : Dl α) (Q : Sat → Prop) (hQ : ∀ s b, Q s → Q (scanStep O t s b)) :
    ∀ (ups : List (Nat × Nat)) (s : Sat), Q s → Q (scanUpdates O s t ups) := by
  intro ups
  induction ups with
  | nil => intro s h; exact h
  | cons pr rest ih =>
    intro s h
    rw [scanUpdates_cons]
    exact ih _ (ListAux.foldl_inv Q (scanStep O t) hQ _ s h)

theorem scanStep_cases (t : Dl α) (s : Sat) (b : Nat) :
    scanStep O t s b = s ∨ ∃ c p f g w, constrOf t b = some c ∧ s.value ⟨c.b, true⟩ = none ∧ litEdge O c p = (f, g, w) ∧
      cnfTest O t c p = true ∧ scanStep O t s b = s.record (walk s t g t.nVars f [⟨c.b, !p⟩]) := by
  unfold scanStep
  split
  · exact Or.inl rfl
  · next c hc =>
    split
    · exact Or.inl rfl
    · next hv =>
      have hn : s.value ⟨c.b, true⟩ = none := Classical.not_not.mp hv
      split
      · next h1 => exact Or.inr ⟨c, true, _, _, _, hc, hn, rfl, h1, rfl⟩
      · split
        · next h2 => exact Or.inr ⟨c, false, _, _, _, hc, hn, rfl, h2, rfl⟩
        · exact Or.inl rfl

end

end DlG
end Oratio
