/-
C10X: the path invariant `DlG.PathInv L` (`Dl.PathInv` / `DlR.PathInvR` over the denoted matrix) is
kept by an update that is `DlW.upd` on the denoted entries and writes the predecessors `Dl.newp` on
the improved ones: all that is used of `propagate(from, to, dist)`.
-/
import OratioProofs.Lemmas.DlGen
import OratioProofs.Lemmas.DlPathDefs
import OratioProofs.Lemmas.SatCoreDefs
import OratioProofs.Lemmas.Undo
import Mathlib.Data.Finset.Card
import Mathlib.Logic.Function.Iterate

namespace Oratio

namespace Dl

theorem value_mono {s s' : Sat} (hs : SatLe s s') (l : Lit) (b : Bool) (h : s.value l = some b) : s'.value l = some b := by
  unfold Sat.value litValue at h ⊢
  cases hv : s.vals.getD l.var none with
  | none => rw [hv] at h; cases h
  | some b0 =>
    rw [hv] at h
    rw [hs _ _ hv]
    exact h

theorem SatLe.refl (s : Sat) : SatLe s s := fun _ _ h => h
theorem SatLe.trans {a b c : Sat} (h1 : SatLe a b) (h2 : SatLe b c) : SatLe a c := fun v x h => h2 v x (h1 v x h)

theorem ChainN.transfer {α : Type} {t t' : Dl α} {i : Nat} (Q : Nat → Prop)
    (hQ : ∀ j, Q j → j ≠ i → Q (p t i j) ∧ p t' i j = p t i j) :
    ∀ {m j : Nat}, ChainN t i m j → Q j → ChainN t' i m j := by
  intro m j h
  induction h with
  | root => intro _; exact ChainN.root
  | step hne hch ih =>
    intro hq
    obtain ⟨q1, q2⟩ := hQ _ hq hne
    exact ChainN.step hne (by rw [q2]; exact ih q1)

theorem ChainN.iterate {α : Type} {t : Dl α} {i m j : Nat} (h : ChainN t i m j) :
    (p t i)^[m] j = i ∧ ∀ r, r < m → (p t i)^[r] j ≠ i := by
  induction h with
  | root => exact ⟨rfl, fun r hr => absurd hr (Nat.not_lt_zero r)⟩
  | step hne hch ih =>
    obtain ⟨a, b⟩ := ih
    refine ⟨by rw [Function.iterate_succ_apply]; exact a, ?_⟩
    intro r hr
    cases r with
    | zero => exact hne
    | succ r => rw [Function.iterate_succ_apply]; exact b r (by omega)

/-- pigeonhole: a chain through nodes `< n` has fewer than `n` steps -/
theorem ChainN.lt_of_nodes {α : Type} {t : Dl α} {i m j n : Nat} (Q : Nat → Prop)
    (hQ : ∀ x, Q x → x ≠ i → Q (p t i x)) (hQn : ∀ x, Q x → x < n)
    (h : ChainN t i m j) (hj : Q j) : m < n := by
  obtain ⟨hend, hne⟩ := h.iterate
  have hQx : ∀ r, r ≤ m → Q ((p t i)^[r] j) := by
    intro r
    induction r with
    | zero => intro _; exact hj
    | succ r ih =>
      intro hr
      rw [Function.iterate_succ_apply']
      exact hQ _ (ih (by omega)) (hne r (by omega))
  have hlt : ∀ a b, a < b → b ≤ m → (p t i)^[a] j ≠ (p t i)^[b] j := by
    intro a b hab hb heq
    have h1 : (p t i)^[(m - b) + a] j = i := by
      rw [Function.iterate_add_apply, heq, ← Function.iterate_add_apply]
      have : m - b + b = m := by omega
      rw [this]; exact hend
    exact hne _ (by omega) h1
  have hcard := Finset.card_le_card_of_injOn (s := Finset.range (m + 1)) (t := Finset.range n)
    (fun r => (p t i)^[r] j)
    (by
      intro r hr
      simp only [Finset.coe_range, Set.mem_Iio] at hr ⊢
      exact hQn _ (hQx r (by omega)))
    (by
      intro a ha b hb heq
      simp only [Finset.coe_range, Set.mem_Iio] at ha hb
      by_contra hne'
      rcases Nat.lt_or_gt_of_ne hne' with hlt' | hlt'
      · exact hlt a b hlt' (by omega) heq
      · exact hlt b a hlt' (by omega) heq.symm)
  simp only [Finset.card_range] at hcard
  omega

end Dl

namespace DlG
open Dl
variable {α G : Type} [AddCommGroup G] [LinearOrder G] [IsOrderedAddMonoid G] {O : DOps α} (L : DLaws O G)

/-- constraint `bb`, as assigned in `s`, is the edge `k → j` of weight `w`: a true literal stands
    for `src → dst` with weight `dist`, a false literal for the reversed strict edge `dst → src`
    with weight `-dist - unit` (this is how `propagate(lit)` stores it) -/
def Asserts (s : Sat) (t : Dl α) (bb k j : Nat) (w : G) : Prop :=
  ∃ c, constrOf t bb = some c ∧
    ((s.value ⟨bb, true⟩ = some true ∧ c.src = k ∧ c.dst = j ∧ w = L.val c.dist) ∨
     (s.value ⟨bb, true⟩ = some false ∧ c.dst = k ∧ c.src = j ∧ w = -L.val c.dist - L.unit))

def Just (s : Sat) (t : Dl α) (k j bb : Nat) (w : G) : Prop :=
  lookupPair t.distConstr (k, j) = some bb ∧ Asserts L s t bb k j w

structure PathInv (s : Sat) (t : Dl α) : Prop where
  dc : ∀ k j bb, lookupPair t.distConstr (k, j) = some bb →
    k < t.nVars ∧ j < t.nVars ∧ k ≠ j ∧ ∃ w : G, Just L s t k j bb w ∧ dn L t k j ≤ (w : WithTop G)
  tree : ∀ i j, i < t.nVars → j < t.nVars → i ≠ j → dn L t i j ≠ ⊤ →
    p t i j < t.nVars ∧ p t i j ≠ j ∧ dn L t i (p t i j) ≠ ⊤ ∧
    ∃ (bb : Nat) (w : G), Just L s t (p t i j) j bb w ∧ dn L t i (p t i j) + (w : WithTop G) ≤ dn L t i j
  chain : ∀ i j, i < t.nVars → j < t.nVars → dn L t i j ≠ ⊤ → ∃ n, n < t.nVars ∧ ChainN t i n j

variable {L}

theorem Asserts.unique {s : Sat} {t : Dl α} {bb k j : Nat} {w w' : G}
    (h1 : Asserts L s t bb k j w) (h2 : Asserts L s t bb k j w') : w = w' := by
  obtain ⟨c1, hc1, r1⟩ := h1
  obtain ⟨c2, hc2, r2⟩ := h2
  rw [hc1] at hc2
  cases Option.some.inj hc2
  rcases r1 with ⟨v1, _, _, e1⟩ | ⟨v1, _, _, e1⟩ <;> rcases r2 with ⟨v2, _, _, e2⟩ | ⟨v2, _, _, e2⟩
  · rw [e1, e2]
  · rw [v1] at v2; cases v2
  · rw [v1] at v2; cases v2
  · rw [e1, e2]

theorem Asserts.transfer {s s' : Sat} {t t' : Dl α} {bb k j : Nat} {w : G}
    (hc : ∀ b c, constrOf t b = some c → constrOf t' b = some c) (hs : SatLe s s')
    (h : Asserts L s t bb k j w) : Asserts L s' t' bb k j w := by
  obtain ⟨c1, hc1, r1⟩ := h
  refine ⟨c1, hc _ _ hc1, ?_⟩
  rcases r1 with ⟨v1, a⟩ | ⟨v1, a⟩
  · exact Or.inl ⟨value_mono hs _ _ v1, a⟩
  · exact Or.inr ⟨value_mono hs _ _ v1, a⟩

theorem Just.unique {s : Sat} {t : Dl α} {k j bb bb' : Nat} {w w' : G}
    (h1 : Just L s t k j bb w) (h2 : Just L s t k j bb' w') : bb = bb' ∧ w = w' := by
  have hb : bb = bb' := Option.some.inj (h1.1.symm.trans h2.1)
  subst hb
  exact ⟨rfl, h1.2.unique h2.2⟩

theorem Just.transfer {s s' : Sat} {t t' : Dl α} {k j bb : Nat} {w : G}
    (hl : lookupPair t'.distConstr (k, j) = lookupPair t.distConstr (k, j))
    (hc : ∀ b c, constrOf t b = some c → constrOf t' b = some c) (hs : SatLe s s')
    (h : Just L s t k j bb w) : Just L s' t' k j bb w :=
  ⟨hl.trans h.1, h.2.transfer hc hs⟩

theorem PathInv.pred {s : Sat} {t : Dl α} (hP : PathInv L s t) {i j : Nat} (hi : i < t.nVars) (hj : j < t.nVars)
    (hij : i ≠ j) (hfin : dn L t i j ≠ ⊤) :
    p t i j < t.nVars ∧ p t i j ≠ j ∧ dn L t i (p t i j) ≠ ⊤ ∧
    ∃ (bb : Nat) (w : G), Just L s t (p t i j) j bb w ∧ dn L t (p t i j) j ≤ (w : WithTop G) ∧
      dn L t i (p t i j) + (w : WithTop G) ≤ dn L t i j := by
  obtain ⟨t1, t2, t3, bb, w, t4, t5⟩ := hP.tree i j hi hj hij hfin
  obtain ⟨_, _, _, w1, q1, q3⟩ := hP.dc _ _ bb t4.1
  rw [← (t4.unique q1).2] at q3
  exact ⟨t1, t2, t3, bb, w, t4, q3, t5⟩

theorem PathInv.transport {s s' : Sat} {t t' : Dl α} (h : PathInv L s t) (hs : SatLe s s') (hn : t.nVars ≤ t'.nVars)
    (hold : ∀ a b, a < t.nVars → b < t.nVars → dn L t' a b = dn L t a b ∧ p t' a b = p t a b)
    (hnew : ∀ a b, a < t'.nVars → b < t'.nVars → a ≠ b → dn L t' a b ≠ ⊤ → a < t.nVars ∧ b < t.nVars)
    (hdc : t'.distConstr = t.distConstr)
    (hc : ∀ b c, constrOf t b = some c → constrOf t' b = some c) : PathInv L s' t' := by
  have hj : ∀ k j bb w, Just L s t k j bb w → Just L s' t' k j bb w :=
    fun k j bb w hh => hh.transfer (by rw [hdc]) hc hs
  refine ⟨?_, ?_, ?_⟩
  · intro k j bb hl
    rw [hdc] at hl
    obtain ⟨h1, h2, h3, w, h4, h5⟩ := h.dc k j bb hl
    rw [(hold k j h1 h2).1]
    exact ⟨by omega, by omega, h3, w, hj _ _ _ _ h4, h5⟩
  · intro i j hi hjn hij hfin
    obtain ⟨hi', hj'⟩ := hnew i j hi hjn hij hfin
    rw [(hold i j hi' hj').1] at hfin
    obtain ⟨h1, h2, h3, bb, w, h4, h5⟩ := h.tree i j hi' hj' hij hfin
    rw [(hold i j hi' hj').2, (hold i j hi' hj').1, (hold i _ hi' h1).1]
    exact ⟨by omega, h2, h3, bb, w, hj _ _ _ _ h4, h5⟩
  · intro i j hi hjn hfin
    by_cases hij : i = j
    · subst hij
      exact ⟨0, by omega, ChainN.root⟩
    · obtain ⟨hi', hj'⟩ := hnew i j hi hjn hij hfin
      rw [(hold i j hi' hj').1] at hfin
      obtain ⟨m, hm, hch⟩ := h.chain i j hi' hj' hfin
      refine ⟨m, by omega, ChainN.transfer (fun x => x < t.nVars ∧ dn L t i x ≠ ⊤) ?_ hch ⟨hj', hfin⟩⟩
      intro x ⟨x1, x2⟩ hxi
      obtain ⟨h1, _, h3, _⟩ := h.tree i x hi' x1 (Ne.symm hxi) x2
      exact ⟨⟨h1, h3⟩, (hold i x hi' x1).2⟩

theorem PathInv.mono {s s' : Sat} {t t' : Dl α} (h : PathInv L s t) (hs : SatLe s s')
    (hn : t'.nVars = t.nVars) (hd : t'.dists = t.dists) (hp : t'.preds = t.preds) (hdc : t'.distConstr = t.distConstr)
    (hc : ∀ b c, constrOf t b = some c → constrOf t' b = some c) : PathInv L s' t' :=
  h.transport hs (le_of_eq hn.symm) (fun a b _ _ => ⟨dn_congr L hd a b, p_congr hp a b⟩)
    (fun _ _ ha hb _ _ => ⟨hn ▸ ha, hn ▸ hb⟩) hdc hc

theorem PathInv.extend {s : Sat} {t t' : Dl α} (h : PathInv L s t) (hn : t'.nVars = t.nVars + 1)
    (hold : ∀ a b, a < t.nVars → b < t.nVars → dn L t' a b = dn L t a b ∧ p t' a b = p t a b)
    (hnew : ∀ a b, a < t.nVars + 1 → b < t.nVars + 1 → (a = t.nVars ∨ b = t.nVars) → a ≠ b → dn L t' a b = ⊤)
    (hdc : t'.distConstr = t.distConstr) (hvd : t'.varDists = t.varDists) : PathInv L s t' := by
  refine h.transport (SatLe.refl s) (by omega) hold (fun a b ha hb hne hfin => ?_) hdc
    (fun b c hc => by unfold constrOf at hc ⊢; rw [hvd]; exact hc)
  rw [hn] at ha hb
  by_contra hcon
  exact hfin (hnew a b ha hb (by omega) hne)

theorem PathInv.assign {s s' : Sat} {t : Dl α} (h : PathInv L s t) (hs : SatLe s s') : PathInv L s' t :=
  h.mono hs rfl rfl rfl rfl (fun _ _ h => h)

theorem chain_lt {t : Dl α}
    (htree : ∀ i j, i < t.nVars → j < t.nVars → i ≠ j → dn L t i j ≠ ⊤ →
      p t i j < t.nVars ∧ dn L t i (p t i j) ≠ ⊤)
    {i m j : Nat} (hi : i < t.nVars) (hj : j < t.nVars) (hf : dn L t i j ≠ ⊤) (h : ChainN t i m j) : m < t.nVars :=
  ChainN.lt_of_nodes (fun x => x < t.nVars ∧ dn L t i x ≠ ⊤)
    (fun x hx hxi => htree i x hi hx.1 (Ne.symm hxi) hx.2) (fun _ hx => hx.1) h ⟨hj, hf⟩

/-- what is used of `propagate(from, to, dist)`, run from `t` (where `dist_constr[(f, g)]` has just been set to
    `cb`) to `t'`; `pred` is silent on the entries that stay infinite: in the real-valued instance they may get a
    junk predecessor -/
structure Update (L : DLaws O G) (s : Sat) (t t' : Dl α) (f g : Nat) (w : G) (cb : Nat) : Prop where
  hyp : DlW.UpdHyp t.nVars (dn L t) f g w
  nVars : t'.nVars = t.nVars
  mat : ∀ a b, a < t.nVars → b < t.nVars → dn L t' a b = DlW.upd (dn L t) f g w a b
  pred : ∀ a b, a < t.nVars → b < t.nVars →
    (DlW.Imp (dn L t) f g w a b → p t' a b = newp (p t) f g b) ∧
    (¬ DlW.Imp (dn L t) f g w a b → dn L t a b ≠ ⊤ → p t' a b = p t a b)
  distConstr : t'.distConstr = assignPair t.distConstr (f, g) cb
  varDists : t'.varDists = t.varDists
  asserts : Asserts L s t cb f g w

section Update
variable {s : Sat} {t t' : Dl α} {f g : Nat} {w : G} {cb : Nat} (hU : Update L s t t' f g w cb) (hP : PathInv L s t)
include hU

theorem Update.just_old {k j bb : Nat} {w0 : G} (hh : Just L s t k j bb w0) (hne : (k, j) ≠ (f, g)) :
    Just L s t' k j bb w0 := by
  refine hh.transfer ?_ (fun b c h => by unfold constrOf at h ⊢; rw [hU.varDists]; exact h) (SatLe.refl s)
  rw [hU.distConstr, Undo.lookup_assign, if_neg (Ne.symm hne)]

theorem Update.just_new : Just L s t' f g cb w := by
  obtain ⟨c, hc, hr⟩ := hU.asserts
  exact ⟨by rw [hU.distConstr, Undo.lookup_assign, if_pos rfl], c,
    by unfold constrOf at hc ⊢; rw [hU.varDists]; exact hc, hr⟩

include hP

theorem Update.tree (i j : Nat) (hi : i < t'.nVars) (hjn : j < t'.nVars) (hij : i ≠ j) (hfin : dn L t' i j ≠ ⊤) :
    p t' i j < t'.nVars ∧ p t' i j ≠ j ∧ dn L t' i (p t' i j) ≠ ⊤ ∧
    ∃ (bb : Nat) (w0 : G), Just L s t' (p t' i j) j bb w0 ∧ dn L t' i (p t' i j) + (w0 : WithTop G) ≤ dn L t' i j := by
  have hy := hU.hyp; have hd := hU.mat
  have hf := hy.hf; have hg := hy.hg
  rw [hU.nVars] at hi hjn ⊢
  rw [hd i j hi hjn] at hfin ⊢
  by_cases himp : DlW.Imp (dn L t) f g w i j
  · -- improved: the predecessor is that of the path through the new edge
    rw [(hU.pred i j hi hjn).1 himp, DlW.upd_of_imp himp]
    obtain ⟨m1, m2⟩ := himp.fin
    by_cases hjg : j = g
    · subst hjg
      rw [show newp (p t) f j j = f from if_pos rfl, hd i f hi hf, DlW.upd_of_nimp (hy.not_imp_f i),
        hy.diag j hg, add_zero]
      exact ⟨hf, hy.hfg, m1, cb, w, hU.just_new, le_rfl⟩
    · rw [show newp (p t) f g j = p t g j from if_neg hjg]
      obtain ⟨t1, t2, t3, bb, w0, t4, t5⟩ := hP.tree g j hg hjn (Ne.symm hjg) m2
      rw [hd i _ hi t1]
      have hcand := DlW.upd_le_cand (dn L t) f g w i (p t g j)
      have hcfin : dn L t i f + (w : WithTop G) + dn L t g (p t g j) ≠ ⊤ :=
        WithTop.add_ne_top.mpr ⟨WithTop.add_ne_top.mpr ⟨m1, WithTop.coe_ne_top⟩, t3⟩
      refine ⟨t1, t2, ne_top_of_le_ne_top hcfin hcand, bb, w0, hU.just_old t4 (fun he => hjg (congrArg Prod.snd he)), ?_⟩
      calc DlW.upd (dn L t) f g w i (p t g j) + (w0 : WithTop G)
          ≤ (dn L t i f + (w : WithTop G) + dn L t g (p t g j)) + (w0 : WithTop G) := add_le_add hcand le_rfl
        _ = dn L t i f + (w : WithTop G) + (dn L t g (p t g j) + (w0 : WithTop G)) := by ac_rfl
        _ ≤ dn L t i f + (w : WithTop G) + dn L t g j := add_le_add le_rfl t5
  · -- not improved: the old predecessor, whose edge is not the one just overwritten
    rw [DlW.upd_of_nimp himp] at hfin ⊢
    rw [(hU.pred i j hi hjn).2 himp hfin]
    obtain ⟨t1, t2, t3, bb, w0, t4, q3, t5⟩ := hP.pred hi hjn hij hfin
    rw [hd i _ hi t1]
    have hle := DlW.upd_le_old (dn L t) f g w i (p t i j)
    refine ⟨t1, t2, ne_top_of_le_ne_top t3 hle, bb, w0, hU.just_old t4 ?_, le_trans (add_le_add hle le_rfl) t5⟩
    intro he
    have e1 : p t i j = f := congrArg Prod.fst he
    have e2 : j = g := congrArg Prod.snd he
    rw [e1] at t3 t5 q3
    subst e2
    apply himp
    show dn L t i f + _ + dn L t j j < dn L t i j
    rw [hy.diag j hg, add_zero]
    exact lt_of_lt_of_le (WithTop.add_lt_add_left t3 (lt_of_lt_of_le hy.imp q3)) t5

theorem Update.chain_old {i : Nat} (hi : i < t.nVars) {m j : Nat} (hch : ChainN t i m j)
    (hq : j < t.nVars ∧ dn L t i j ≠ ⊤ ∧ ¬ DlW.Imp (dn L t) f g w i j) : ChainN t' i m j := by
  refine ChainN.transfer (fun x => x < t.nVars ∧ dn L t i x ≠ ⊤ ∧ ¬ DlW.Imp (dn L t) f g w i x) ?_ hch hq
  intro x ⟨x1, x2, x3⟩ hxi
  obtain ⟨t1, _, t3, bb, w0, _, q3, t5⟩ := hP.pred hi x1 (Ne.symm hxi) x2
  exact ⟨⟨t1, t3, hU.hyp.nimp_back x1 t1 q3 t5 x3⟩, (hU.pred i x hi x1).2 x3 x2⟩

/-- improved entries follow the chain of row `g`, then the new edge, then the chain of `f` -/
theorem Update.chain_new {i : Nat} (hi : i < t.nVars) {m j : Nat} (hch : ChainN t g m j) :
    j < t.nVars → dn L t g j ≠ ⊤ → DlW.Imp (dn L t) f g w i j → ∃ m', ChainN t' i m' j := by
  have hy := hU.hyp
  have hf := hy.hf; have hg := hy.hg
  induction hch with
  | root =>
    intro _ _ himp
    obtain ⟨m1, _, hc1⟩ := hP.chain i f hi hf (himp.fin).1
    refine ⟨m1 + 1, ChainN.step (fun e => hy.not_imp_diag hg (e ▸ himp)) ?_⟩
    rw [(hU.pred i g hi hg).1 himp, show newp (p t) f g g = f from if_pos rfl]
    exact hU.chain_old hP hi hc1 ⟨hf, (himp.fin).1, hy.not_imp_f i⟩
  | step hne hch ih =>
    rename_i m0 j0
    intro hjn hfin himp
    obtain ⟨t1, _, t3, bb, w0, _, q3, t5⟩ := hP.pred hg hjn (Ne.symm hne) hfin
    obtain ⟨m', hm'⟩ := ih t1 t3 (hy.imp_back hi hjn t1 q3 t5 himp)
    refine ⟨m' + 1, ChainN.step (fun e => hy.not_imp_diag hi (e ▸ himp)) ?_⟩
    rw [(hU.pred i j0 hi hjn).1 himp, show newp (p t) f g j0 = p t g j0 from if_neg hne]
    exact hm'

theorem Update.pathInv : PathInv L s t' := by
  have hy := hU.hyp; have hd := hU.mat
  have hf := hy.hf; have hg := hy.hg
  refine ⟨?_, hU.tree hP, ?_⟩
  · intro k j bb hl
    rw [hU.distConstr, Undo.lookup_assign] at hl
    rw [hU.nVars]
    by_cases he : (f, g) = (k, j)
    · rw [if_pos he] at hl
      cases he
      cases Option.some.inj hl
      refine ⟨hf, hg, hy.hfg, w, hU.just_new, ?_⟩
      rw [hd f g hf hg, DlW.upd_of_imp hy.imp_fg, hy.diag f hf, hy.diag g hg, zero_add, add_zero]
    · rw [if_neg he] at hl
      obtain ⟨h1, h2, h3, w0, h4, h5⟩ := hP.dc k j bb hl
      rw [hd k j h1 h2]
      exact ⟨h1, h2, h3, w0, hU.just_old h4 (Ne.symm he), le_trans (DlW.upd_le_old _ _ _ _ _ _) h5⟩
  · intro i j hi hjn hfin
    rw [hU.nVars] at hi hjn
    have hex : ∃ m, ChainN t' i m j := by
      rw [hd i j hi hjn] at hfin
      by_cases himp : DlW.Imp (dn L t) f g w i j
      · obtain ⟨m, _, hc⟩ := hP.chain g j hg hjn (himp.fin).2
        exact hU.chain_new hP hi hc hjn (himp.fin).2 himp
      · rw [DlW.upd_of_nimp himp] at hfin
        obtain ⟨m, _, hc⟩ := hP.chain i j hi hjn hfin
        exact ⟨m, hU.chain_old hP hi hc ⟨hjn, hfin, himp⟩⟩
    obtain ⟨m, hm⟩ := hex
    refine ⟨m, chain_lt ?_ (by rw [hU.nVars]; exact hi) (by rw [hU.nVars]; exact hjn) hfin hm, hm⟩
    intro a b ha hb hab hfab
    obtain ⟨r1, _, r3, _⟩ := hU.tree hP a b ha hb hab hfab
    exact ⟨r1, r3⟩
end Update

end DlG
end Oratio
