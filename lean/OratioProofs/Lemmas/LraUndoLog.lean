/-
The first-write-wins undo log of bounds: `pop` takes a state reached from `B.push` by saved overwrites (`C09PopInv`)
back to the bounds of `B`, and the log only holds bounds looser than the ones they will replace (`LayersOK`), also
after a bound is tightened and after variables are added.
-/
import OratioModel
import OratioProofs.Lemmas.LraBoundKinds

namespace Oratio
namespace Lra

/-- `C09PopInv` (below) with no range condition on the logged keys: an out-of-range `set` does nothing, in the model's
    store and in `pop` alike -/
def PopInvW (B u : Lra) : Prop :=
  ∃ l, u.layers = l :: B.layers ∧ u.bounds.length = B.bounds.length ∧
    (∀ e ∈ l, e.1 < B.bounds.length → B.bounds[e.1]? = some e.2) ∧
    (∀ i, (∀ e ∈ l, e.1 ≠ i) → u.bounds[i]? = B.bounds[i]?)

theorem popInvW_iff {B u : Lra} : PopInvW B u ↔ ∃ l, u.layers = l :: B.layers ∧ u.bounds.length = B.bounds.length ∧
    Undo.FLog (fun (bs : List LBound) i => bs[i]?) (fun i b => i < B.bounds.length → B.bounds[i]? = some b)
      B.bounds u.bounds l := by
  simp only [PopInvW, Undo.FLog.iff_forall]

theorem popInvW_push (B : Lra) : PopInvW B B.push :=
  ⟨[], rfl, rfl, by simp, fun _ _ => rfl⟩

theorem popInvW_congr {B t u : Lra} (h1 : u.bounds = t.bounds) (h2 : u.layers = t.layers) (h : PopInvW B t) :
    PopInvW B u := by
  obtain ⟨l, a1, a2, a3, a4⟩ := h
  exact ⟨l, by rw [h2]; exact a1, by rw [h1]; exact a2, a3, by rw [h1]; exact a4⟩

theorem popInvW_store {B t u : Lra} (h : PopInvW B t) {i : Nat} {b : LBound} (hb : u.bounds = t.bounds.set i b)
    (hl : u.layers = savedLayers t.bounds i t.layers) : PopInvW B u := by
  obtain ⟨l, hl0, hlen, hf⟩ := popInvW_iff.1 h
  have hw : ∀ k, k ≠ i → u.bounds[k]? = t.bounds[k]? := fun k hk => by rw [hb, List.getElem?_set_ne (Ne.symm hk)]
  have hlen' : u.bounds.length = B.bounds.length := by rw [hb, List.length_set, hlen]
  rw [hl0, savedLayers] at hl
  split at hl
  · next hany =>
    obtain ⟨e, he, hei⟩ := List.any_eq_true.1 hany
    exact popInvW_iff.2 ⟨l, hl, hlen', hf.write ⟨e, he, by simpa using hei⟩ hw⟩
  · next hany =>
    refine popInvW_iff.2 ⟨_, hl, hlen', Undo.FLog.write (D := t.bounds) ?_
      ⟨_, List.mem_append_right _ List.mem_cons_self, rfl⟩ hw⟩
    refine hf.save (k := i) (fun e he hei => hany (List.any_eq_true.2 ⟨e, he, by simp [hei]⟩)) (fun hu hi => ?_)
      (fun e he => by simpa using he) fun e he => List.mem_append_left _ he
    rw [← hu]
    simp [hlen, hi]

theorem pop_of_invW (B u : Lra) (h : PopInvW B u) : u.pop.bounds = B.bounds ∧ u.pop.layers = B.layers := by
  obtain ⟨l, hl, hlen, h⟩ := popInvW_iff.1 h
  have r := Undo.FLog.restore (wr := fun (bs : List LBound) e => bs.set e.1 e.2)
    (P := fun bs => bs.length = B.bounds.length) (fun bs e hbs => by rw [List.length_set]; exact hbs)
    (fun bs e _ hk => List.getElem?_set_ne hk) (fun bs e hbs he => by
      by_cases hlt : e.1 < B.bounds.length
      · rw [he hlt, List.getElem?_set_self (hbs ▸ hlt)]
      · rw [List.getElem?_eq_none (Nat.le_of_not_lt hlt), List.getElem?_eq_none]
        rw [List.length_set, hbs]; exact Nat.le_of_not_lt hlt) l u.bounds hlen h
  rw [pop_def, hl]
  exact ⟨List.ext_getElem? r.2, rfl⟩

/-- `u` was reached from `t.push` by saved overwrites: the newest layer holds values of `t`, every index not in it
    still has its value of `t`, the older layers are those of `t` -/
def C09PopInv (t u : Lra) : Prop :=
  ∃ l, u.layers = l :: t.layers ∧ u.bounds.length = t.bounds.length ∧
    (∀ e ∈ l, t.bounds[e.1]? = some e.2) ∧
    (∀ i, (∀ e ∈ l, e.1 ≠ i) → u.bounds[i]? = t.bounds[i]?)

theorem C09_popInv_push (t : Lra) : C09PopInv t t.push :=
  ⟨[], rfl, rfl, by simp, fun _ _ => rfl⟩

def LogInRange (B u : Lra) : Prop := ∀ l, u.layers = l :: B.layers → ∀ e ∈ l, e.1 < B.bounds.length

/-- an entry that reads `some _` in `t.bounds` has its key in range: that is all `C09PopInv` adds to `PopInvW` -/
theorem c09PopInv_iff {B u : Lra} : C09PopInv B u ↔ PopInvW B u ∧ LogInRange B u := by
  constructor
  · rintro ⟨l, hl, hlen, h1, h2⟩
    refine ⟨⟨l, hl, hlen, fun e he _ => h1 e he, h2⟩, fun l' hl' e he => ?_⟩
    cases (List.cons.inj (hl.symm.trans hl')).1
    exact (List.getElem?_eq_some_iff.1 (h1 e he)).1
  · rintro ⟨⟨l, hl, hlen, h1, h2⟩, hr⟩
    exact ⟨l, hl, hlen, fun e he => h1 e he (hr l hl e he), h2⟩

theorem LogInRange.save {B t u : Lra} (h : LogInRange B t) {l0 : List (Nat × LBound)} (hl0 : t.layers = l0 :: B.layers)
    {i : Nat} (hi : i < B.bounds.length) (hl : u.layers = savedLayers t.bounds i t.layers) : LogInRange B u := by
  intro l hl' e he
  rw [hl, hl0, savedLayers] at hl'
  split at hl'
  · exact h l0 hl0 e ((List.cons.inj hl').1 ▸ he)
  · rcases List.mem_append.1 ((List.cons.inj hl').1 ▸ he) with he | he
    · exact h l0 hl0 e he
    · rw [List.mem_singleton.1 he]; exact hi

theorem C09_popInv_step (t u : Lra) (i : Nat) (b : LBound) (hi : i < t.bounds.length) (h : C09PopInv t u) :
    C09PopInv t ((u.saveBound i).setBound i b) := by
  obtain ⟨hw, hr⟩ := c09PopInv_iff.1 h
  have ⟨l0, hl0, _⟩ := hw
  rw [saveBound_setBound]
  exact c09PopInv_iff.2 ⟨popInvW_store hw rfl rfl, hr.save hl0 hi rfl⟩

theorem C09_popInv_overwrite (t : Lra) : ∀ (ws : List (Nat × LBound)) (u : Lra),
    (∀ w ∈ ws, w.1 < t.bounds.length) → C09PopInv t u →
    C09PopInv t (ws.foldl (fun t w => (t.saveBound w.1).setBound w.1 w.2) u) := by
  intro ws
  induction ws with
  | nil => intro u _ h; exact h
  | cons w ws ih =>
    intro u hw h
    exact ih _ (fun w' hw' => hw w' (List.mem_cons_of_mem _ hw'))
      (C09_popInv_step t u w.1 w.2 (hw w List.mem_cons_self) h)

theorem C09_pop_of_inv (t u : Lra) (h : C09PopInv t u) : u.pop.bounds = t.bounds ∧ u.pop.layers = t.layers :=
  pop_of_invW t u (c09PopInv_iff.1 h).1

theorem restoreB_append (bs : List LBound) (l l' : List (Nat × LBound)) :
    restoreB bs (l ++ l') = restoreB (restoreB bs l) l' := by
  unfold restoreB; rw [List.foldl_append]

theorem restoreB_set_mem : ∀ (l : List (Nat × LBound)) (bs : List LBound) (i : Nat) (b : LBound),
    (∃ e ∈ l, e.1 = i) → restoreB (bs.set i b) l = restoreB bs l := by
  intro l
  induction l with
  | nil => intro bs i b h; obtain ⟨e, he, -⟩ := h; cases he
  | cons e l ih =>
    intro bs i b h
    rw [restoreB_cons, restoreB_cons]
    by_cases hei : e.1 = i
    · rw [← hei, List.set_set]
    · rw [List.set_comm _ _ (fun h => hei h.symm)]
      apply ih
      obtain ⟨e', he', h'⟩ := h
      rcases List.mem_cons.1 he' with rfl | he'
      · exact absurd h' hei
      · exact ⟨e', he', h'⟩

theorem restoreB_set_not_mem : ∀ (l : List (Nat × LBound)) (bs : List LBound) (i : Nat) (b : LBound),
    (∀ e ∈ l, e.1 ≠ i) → restoreB (bs.set i b) l = (restoreB bs l).set i b := by
  intro l
  induction l with
  | nil => intro bs i b _; rfl
  | cons e l ih =>
    intro bs i b h
    rw [restoreB_cons, restoreB_cons, List.set_comm _ _ (fun h' => h e List.mem_cons_self h'.symm),
      ih _ _ _ (fun e' he' => h e' (List.mem_cons_of_mem _ he'))]

theorem restoreB_getD : ∀ (l : List (Nat × LBound)) (bs : List LBound) (i : Nat),
    (restoreB bs l).getD i bndD = bs.getD i bndD ∨ ∃ e ∈ l, e.1 = i ∧ (restoreB bs l).getD i bndD = e.2 := by
  intro l
  induction l with
  | nil => intro bs i; exact Or.inl rfl
  | cons e l ih =>
    intro bs i
    rw [restoreB_cons]
    rcases ih (bs.set e.1 e.2) i with h | ⟨e', he', h1, h2⟩
    · rw [h, getD_set]
      by_cases hc : e.1 = i ∧ e.1 < bs.length
      · rw [if_pos hc]
        exact Or.inr ⟨e, List.mem_cons_self, hc.1, rfl⟩
      · rw [if_neg hc]
        exact Or.inl rfl
    · exact Or.inr ⟨e', List.mem_cons_of_mem _ he', h1, h2⟩

theorem restoreB_getD_not_mem (l : List (Nat × LBound)) (bs : List LBound) (i : Nat) (h : ∀ e ∈ l, e.1 ≠ i) :
    (restoreB bs l).getD i bndD = bs.getD i bndD :=
  (restoreB_getD l bs i).resolve_right fun ⟨e, he, hk, _⟩ => h e he hk

theorem restoreB_append_right : ∀ (l : List (Nat × LBound)) (bs ext : List LBound),
    (∀ e ∈ l, e.1 < bs.length) → restoreB (bs ++ ext) l = restoreB bs l ++ ext := by
  intro l
  induction l with
  | nil => intro bs ext _; rfl
  | cons e l ih =>
    intro bs ext h
    rw [restoreB_cons, restoreB_cons, List.set_append_left _ _ (h e List.mem_cons_self)]
    exact ih _ _ (fun e' he' => by rw [List.length_set]; exact h e' (List.mem_cons_of_mem _ he'))

theorem BoundOK.wf {i : Nat} {a : IR} (h : BoundOK i a) : a.WF := by
  unfold BoundOK at h
  split at h <;> exact h.wf

theorem Looser.refl {i : Nat} {a : IR} (ha : a.WF) : Looser i a a := by
  unfold Looser
  split <;> exact IR.le_refl' ha

theorem Looser.trans {i : Nat} {a b c : IR} (ha : a.WF) (hb : b.WF) (hc : c.WF) (h1 : Looser i a b) (h2 : Looser i b c) :
    Looser i a c := by
  unfold Looser at *
  split
  · next h => rw [if_pos h] at h1 h2; exact IR.le_trans' ha hb hc h1 h2
  · next h => rw [if_neg h] at h1 h2; exact IR.le_trans' hc hb ha h2 h1

theorem layersOK_cons (bs : List LBound) (l : List (Nat × LBound)) (ls : List (List (Nat × LBound))) :
    LayersOK bs (l :: ls) ↔
      (∀ e ∈ l, e.1 < bs.length ∧ BoundOK e.1 e.2.value ∧ Looser e.1 e.2.value (bs.getD e.1 bndD).value) ∧
      LayersOK (restoreB bs l) ls := Iff.rfl

theorem savedLayers_cons (bs : List LBound) (i : Nat) (l : List (Nat × LBound)) (ls : List (List (Nat × LBound))) :
    savedLayers bs i (l :: ls) = (if l.any (fun e => e.1 == i) then l else l ++ [(i, bs.getD i bndD)]) :: ls := by
  show (if l.any (fun e => e.1 == i) then l :: ls else (l ++ [(i, bs.getD i bndD)]) :: ls) = _
  split <;> rfl

theorem restoreB_save {bs : List LBound} {i : Nat} (hi : i < bs.length) (b : LBound) (l : List (Nat × LBound)) :
    restoreB (bs.set i b) (if l.any (fun e => e.1 == i) then l else l ++ [(i, bs.getD i bndD)]) = restoreB bs l := by
  split
  · next hany =>
    obtain ⟨e, he, hk⟩ := List.any_eq_true.1 hany
    exact restoreB_set_mem _ _ _ _ ⟨e, he, by simpa using hk⟩
  · next hany =>
    have hni : ∀ e ∈ l, e.1 ≠ i := fun e he hei => hany (List.any_eq_true.2 ⟨e, he, by simp [hei]⟩)
    have hlen : i < (restoreB bs l).length := by rw [restoreB_length]; exact hi
    rw [restoreB_append, restoreB_set_not_mem _ _ _ _ hni]
    show ((restoreB bs l).set i b).set i (bs.getD i bndD) = _
    rw [List.set_set, ← restoreB_getD_not_mem l bs i hni, List.getD_eq_getElem?_getD, List.getElem?_eq_getElem hlen]
    exact List.set_getElem_self hlen

theorem layersOK_tighten {bs : List LBound} {ls : List (List (Nat × LBound))} {i : Nat} {b : LBound}
    (h : LayersOK bs ls) (hi : i < bs.length) (hold : BoundOK i (bs.getD i bndD).value) (hnew : BoundOK i b.value)
    (hl : Looser i (bs.getD i bndD).value b.value) : LayersOK (bs.set i b) (savedLayers bs i ls) := by
  cases ls with
  | nil => trivial
  | cons l ls =>
    obtain ⟨h1, h2⟩ := (layersOK_cons _ _ _).1 h
    rw [savedLayers_cons]
    refine (layersOK_cons _ _ _).2 ⟨fun e he => ?_, by rw [restoreB_save hi]; exact h2⟩
    have hcases : e ∈ l ∨ e = (i, bs.getD i bndD) := by
      split at he
      · exact Or.inl he
      · simpa using he
    rw [List.length_set]
    rcases hcases with he | rfl
    · obtain ⟨a1, a2, a3⟩ := h1 e he
      refine ⟨a1, a2, ?_⟩
      by_cases hei : e.1 = i
      · rw [hei, getD_set_self _ _ _ _ hi]
        rw [hei] at a2 a3
        exact Looser.trans a2.wf hold.wf hnew.wf a3 hl
      · rw [getD_set_ne _ _ _ _ _ (fun h => hei h.symm)]
        exact a3
    · refine ⟨hi, hold, ?_⟩
      show Looser i _ ((bs.set i b).getD i bndD).value
      rw [getD_set_self _ _ _ _ hi]
      exact hl

theorem layersOK_append : ∀ (ls : List (List (Nat × LBound))) (bs ext : List LBound), LayersOK bs ls →
    LayersOK (bs ++ ext) ls := by
  intro ls
  induction ls with
  | nil => intro _ _ _; trivial
  | cons l ls ih =>
    intro bs ext h
    obtain ⟨h1, h2⟩ := (layersOK_cons _ _ _).1 h
    refine (layersOK_cons _ _ _).2 ⟨?_, ?_⟩
    · intro e he
      obtain ⟨a1, a2, a3⟩ := h1 e he
      refine ⟨by rw [List.length_append]; omega, a2, ?_⟩
      rw [getD_append_left _ _ _ _ a1]
      exact a3
    · rw [restoreB_append_right _ _ _ (fun e he => (h1 e he).1)]
      exact ih _ _ h2

end Lra

end Oratio
