/-
Definitions for property C12, real-valued instance (`rdlOps : DOps IR`): how rational and
ε-rational valuations are compared with `inf_rational` weights and bounds.
-/
import OratioModel
import OratioProofs.Lemmas.DlRelDefs
import OratioProofs.Properties.C10Rdl

namespace Oratio

/-- a rational valuation of the time points, read as an ε-rational one (ε part 0) -/
def embQ (σ : Nat → ℚ) : Nat → QV := fun v => toLex (σ v, 0)

/-- the distance constraint `x_dst - x_src ≤ w` (`w = q + e·ε`) under a RATIONAL valuation: the
    constraint of C10Rdl (`QEdge.holds`) at the embedded valuation, i.e. `(σ dst - σ src, 0) ≤ (q, e)`
    lexicographically (`C12R_edge_reading`: `<` for `e = -1`, `≤` for `e = 0`) -/
def edgeHoldsR (σ : Nat → ℚ) (src dst : Nat) (w : IR) : Prop := QEdge.holds (embQ σ) (src, dst, w)

/-- the request is rejected (the C++ throws `std::invalid_argument`) -/
def RelOut.isInvalid {α : Type} : RelOut α → Prop
  | .invalid => True
  | _ => False

/-- multiplication of an ε-rational by a rational scalar -/
def QV.smul (c : ℚ) (v : QV) : QV := toLex (c * (ofLex v).1, c * (ofLex v).2)

/-- a rational constant as an ε-rational -/
def QV.ofQ (k : ℚ) : QV := toLex (k, 0)

/-- value of a linear expression under an ε-rational valuation -/
def Lin.evalQV (l : Lin) (σ : Nat → QV) : QV :=
  (l.vars.map (fun t => QV.smul t.2.toRat (σ t.1))).sum + QV.ofQ l.known.toRat

/-- `lo ≤ v` for a lower bound returned by a query: `-∞` is below everything, `+∞` below nothing -/
def IR.lbHolds (lo : IR) (v : QV) : Prop := lo.rat = R.ninf ∨ (lo.rat.den ≠ 0 ∧ IR.val lo ≤ v)

/-- `v ≤ hi` for an upper bound returned by a query: `+∞` is above everything, `-∞` above nothing -/
def IR.ubHolds (hi : IR) (v : QV) : Prop := hi.rat = R.pinf ∨ (hi.rat.den ≠ 0 ∧ v ≤ IR.val hi)

/-- a well-formed LOWER bound: canonical, never `+∞`, finite ε part (the mirror image of the
    well-formed matrix entries / upper bounds `IR.Good`: canonical, never `-∞`, finite ε part) -/
def IR.GoodL (x : IR) : Prop := x.rat.WF ∧ x.rat ≠ R.pinf ∧ R.FinWF x.inf

/-- the ε-rational valuation respects the distance matrix on the listed time points: every FINITE
    entry `d i j` bounds `σ j - σ i` (an infinite entry bounds nothing) -/
def Dl.RespectsOn (t : Dl IR) (σ : Nat → QV) (vs : List Nat) : Prop :=
  ∀ i ∈ vs, ∀ j ∈ vs, ∀ x, t.rdist? i j = some x → σ j - σ i ≤ x

/-- the entries between the listed time points are well-formed matrix entries -/
def Dl.GoodOn (t : Dl IR) (vs : List Nat) : Prop :=
  ∀ i ∈ vs, ∀ j ∈ vs, IR.Good (Dl.d rdlOps t i j)

end Oratio
