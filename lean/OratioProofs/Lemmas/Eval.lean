/-
Lemmas for C16 (evaluation part): the list-level operators of the evaluator model (OratioModel/Core/Eval.lean)
denote the sum, the left-associated difference, the product and the quotient of what their operands denote.
-/
import OratioModel
import OratioProofs.Lemmas.Rational
import OratioProofs.Lemmas.Lin
import Mathlib.Algebra.BigOperators.Group.List.Basic

namespace Oratio
open Riddle Eval

mutual
/-- every real literal occurring in the expression is a canonical finite rational (what the lexer produces:
    C16 lexer theorems) -/
def Riddle.Expr.litsOk : Expr → Prop
  | .real r => r.WF ∧ r.den ≠ 0
  | .cast _ e => Riddle.Expr.litsOk e
  | .un _ e => Riddle.Expr.litsOk e
  | .ctor _ args => Riddle.Expr.litsOkL args
  | .bin _ l r => Riddle.Expr.litsOk l ∧ Riddle.Expr.litsOk r
  | .call _ _ args => Riddle.Expr.litsOkL args
  | .nary _ es => Riddle.Expr.litsOkL es
  | _ => True
def Riddle.Expr.litsOkL : List Expr → Prop
  | [] => True
  | e :: es => Riddle.Expr.litsOk e ∧ Riddle.Expr.litsOkL es
end

namespace Eval

/-- `ConstSound` (C16Eval) stated on `Lin.evalS` -/
def ConstSoundS (c : ConstOf) (σ : Nat → Rat) : Prop :=
  ∀ l k, c l = some k → k.WF ∧ k.den ≠ 0 ∧ Lin.evalS l σ = k.toRat

def Agree {α β ε : Type} (P : α → β → Prop) (x : Except ε α) (y : Option β) : Prop :=
  ∀ a b, x = .ok a → y = some b → P a b

theorem Agree.pure {α β ε : Type} {P : α → β → Prop} {a : α} {b : β} (h : P a b) :
    Agree P (.ok a : Except ε α) (some b) := by
  rintro _ _ ⟨⟩ ⟨⟩; exact h

theorem Agree.error {α β ε : Type} {P : α → β → Prop} (e : ε) (y : Option β) :
    Agree P (.error e : Except ε α) y := fun _ _ h => nomatch h

theorem Agree.bind {α β α' β' ε : Type} {P : α → β → Prop} {Q : α' → β' → Prop}
    {x : Except ε α} {y : Option β} {f : α → Except ε α'} {g : β → Option β'}
    (hxy : Agree P x y) (h : ∀ a b, P a b → Agree Q (f a) (g b)) :
    Agree Q (x.bind f) (y.bind g) := by
  intro a' b' hx hy
  cases x with
  | error e => cases hx
  | ok a =>
    obtain ⟨b, rfl, hb⟩ := Option.bind_eq_some_iff.1 hy
    exact h a b (hxy a b rfl rfl) a' b' hx hb

theorem Agree.map {α β α' β' ε : Type} {P : α → β → Prop} {Q : α' → β' → Prop}
    {x : Except ε α} {y : Option β} {f : α → α'} {g : β → β'}
    (hxy : Agree P x y) (h : ∀ a b, P a b → Q (f a) (g b)) : Agree Q (x.map f) (y.map g) := by
  intro a' b' hx hy
  cases x with
  | error e => cases hx
  | ok a =>
    obtain ⟨b, rfl, rfl⟩ := Option.map_eq_some_iff.1 hy
    cases hx
    exact h a b (hxy a b rfl rfl)

theorem Agree.map_bind {α β α' β' ε : Type} {P : α → β → Prop} {Q : α' → β' → Prop}
    {x : Except ε α} {y : Option β} {f : α → α'} {g : β → Option β'}
    (hxy : Agree P x y) (h : ∀ a b, P a b → Agree Q (.ok (f a) : Except ε α') (g b)) :
    Agree Q (x.map f) (y.bind g) := by
  cases x with
  | error e => exact Agree.error e _
  | ok a => exact Agree.bind (f := fun a => .ok (f a)) hxy h

def DenotesL (σ : Nat → Rat) (ls : List Lin) (vs : List Rat) : Prop :=
  (∀ l ∈ ls, l.WF) ∧ ls.map (fun l => Lin.evalS l σ) = vs

theorem wf_empty : Lin.empty.WF :=
  (Lin.wf_iff _).2 ⟨List.Pairwise.nil, Lin.coefWF_nil, R.finWF_zero⟩

theorem evalS_empty (σ : Nat → Rat) : Lin.evalS Lin.empty σ = 0 := by
  rw [Lin.evalS_eq]
  show Lin.sumS σ [] + R.zero.toRat = 0
  rw [Lin.sumS_nil, R.toRat_zero, add_zero]

theorem evalS_const (r : R) (σ : Nat → Rat) : Lin.evalS (Lin.const r) σ = r.toRat := by
  rw [Lin.evalS_eq]
  show Lin.sumS σ [] + r.toRat = r.toRat
  rw [Lin.sumS_nil, zero_add]

theorem foldl_inv {σ : Nat → Rat} {op : Lin → Lin → Lin} {f : Rat → Rat → Rat}
    (hop : ∀ a l, a.WF → l.WF → (op a l).WF ∧ Lin.evalS (op a l) σ = f (Lin.evalS a σ) (Lin.evalS l σ)) :
    ∀ (ls : List Lin) (acc : Lin), acc.WF → (∀ l ∈ ls, l.WF) →
    (ls.foldl op acc).WF ∧
    Lin.evalS (ls.foldl op acc) σ = (ls.map (fun l => Lin.evalS l σ)).foldl f (Lin.evalS acc σ)
  | [], _, ha, _ => ⟨ha, rfl⟩
  | l :: ls, acc, ha, hl => by
    obtain ⟨w, e⟩ := hop acc l ha (hl l List.mem_cons_self)
    have ih := foldl_inv hop ls (op acc l) w (fun x hx => hl x (List.mem_cons_of_mem _ hx))
    rw [e] at ih
    exact ih

theorem add_denotes {σ : Nat → Rat} (a l : Lin) (ha : a.WF) (hl : l.WF) :
    (Lin.addAssign a l).WF ∧ Lin.evalS (Lin.addAssign a l) σ = Lin.evalS a σ + Lin.evalS l σ :=
  have ⟨w, _, _, e, _⟩ := Lin.add_spec a l ha hl
  ⟨w, e σ⟩

theorem sub_denotes {σ : Nat → Rat} (a l : Lin) (ha : a.WF) (hl : l.WF) :
    (Lin.subAssign a l).WF ∧ Lin.evalS (Lin.subAssign a l) σ = Lin.evalS a σ - Lin.evalS l σ :=
  have ⟨w, _, _, e, _⟩ := Lin.sub_spec a l ha hl
  ⟨w, e σ⟩

theorem addAll_spec (σ : Nat → Rat) (ls : List Lin) (hl : ∀ l ∈ ls, l.WF) :
    (ls.foldl Lin.addAssign Lin.empty).WF ∧
    Lin.evalS (ls.foldl Lin.addAssign Lin.empty) σ = (ls.map (fun l => Lin.evalS l σ)).foldl (· + ·) 0 := by
  have h := foldl_inv (σ := σ) add_denotes ls Lin.empty wf_empty hl
  rwa [evalS_empty] at h

theorem subAll_spec (σ : Nat → Rat) (l : Lin) (rest : List Lin) (hl : ∀ x ∈ l :: rest, x.WF) :
    (rest.foldl Lin.subAssign (Lin.addAssign Lin.empty l)).WF ∧
    Lin.evalS (rest.foldl Lin.subAssign (Lin.addAssign Lin.empty l)) σ =
      (rest.map (fun l => Lin.evalS l σ)).foldl (· - ·) (Lin.evalS l σ) := by
  obtain ⟨w, e⟩ := add_denotes (σ := σ) Lin.empty l wf_empty (hl l List.mem_cons_self)
  have h := foldl_inv (σ := σ) sub_denotes rest _ w fun x hx => hl x (List.mem_cons_of_mem _ hx)
  rwa [e, evalS_empty, zero_add] at h

theorem mulAssignR_const {c : ConstOf} {σ : Nat → Rat} (hc : ConstSoundS c σ) {acc x : Lin} {k : R}
    (ha : acc.WF) (hk : c x = some k) :
    (Lin.mulAssignR acc k).WF ∧ Lin.evalS (Lin.mulAssignR acc k) σ = Lin.evalS acc σ * Lin.evalS x σ := by
  obtain ⟨kw, kf, ke⟩ := hc x k hk
  obtain ⟨w, -, -, e⟩ := Lin.mulAssignR_spec acc k ha ⟨kw, kf⟩
  exact ⟨w, by rw [e σ, ke]⟩

theorem foldlM_inv {α β : Type} {step : α → β → Except Err α} {Inv : α → Rat → Prop} {val : β → Rat}
    (hstep : ∀ acc v j r, Inv acc v → step acc j = .ok r → Inv r (v * val j)) :
    ∀ (js : List β) (acc r : α) (v : Rat), Inv acc v → js.foldlM step acc = .ok r →
      Inv r ((js.map val).foldl (· * ·) v)
  | [], acc, r, v, ha, h => by
    cases h
    exact ha
  | j :: js, acc, r, v, ha, h => by
    rw [List.foldlM_cons] at h
    cases hs : step acc j with
    | error e => rw [hs] at h; cases h
    | ok a =>
      rw [hs] at h
      exact foldlM_inv hstep js a r _ (hstep acc v j a ha hs) h

theorem constStep_ok {α : Type} {c : ConstOf} {op : α → R → α} {acc r : α} {x : Lin}
    (h : (match c x with
        | some k => (pure (op acc k) : Except Err α)
        | none => .error .nonLinear) = .ok r) : ∃ k, c x = some k ∧ op acc k = r := by
  cases hk : c x with
  | none => rw [hk] at h; cases h
  | some k => rw [hk] at h; cases h; exact ⟨k, rfl, rfl⟩

/-- all operands decided: the first is multiplied by the others, in order -/
theorem mul_foldlM_all {c : ConstOf} {σ : Nat → Rat} (hc : ConstSoundS c σ) (rest : List Lin) (acc l : Lin)
    (ha : acc.WF) (h : rest.foldlM (fun (acc : Lin) l => match c l with
        | some k => (pure (Lin.mulAssignR acc k) : Except Err Lin)
        | none => .error .nonLinear) acc = .ok l) :
    l.WF ∧ Lin.evalS l σ = (rest.map (fun l => Lin.evalS l σ)).foldl (· * ·) (Lin.evalS acc σ) :=
  foldlM_inv (Inv := fun l v => l.WF ∧ Lin.evalS l σ = v) (fun _ _ x _ ha h => by
    obtain ⟨k, hk, rfl⟩ := constStep_ok h
    exact ha.2 ▸ mulAssignR_const hc (x := x) ha.1 hk) rest acc l _ ⟨ha, rfl⟩ h

/-- one operand kept (index `i`), the others multiply it -/
theorem mul_foldlM_idx {c : ConstOf} {σ : Nat → Rat} (hc : ConstSoundS c σ) (ls : List Lin) (i : Nat)
    (js : List Nat) (acc l : Lin) (ha : acc.WF)
    (h : js.foldlM (fun (acc : Lin) j =>
        if j == i then (pure acc : Except Err Lin)
        else match c (ls.getD j Lin.empty) with
          | some k => pure (Lin.mulAssignR acc k)
          | none => .error .nonLinear) acc = .ok l) :
    l.WF ∧ Lin.evalS l σ = (js.map (fun j => if j = i then 1 else Lin.evalS (ls.getD j Lin.empty) σ)).foldl
      (· * ·) (Lin.evalS acc σ) :=
  foldlM_inv (Inv := fun l v => l.WF ∧ Lin.evalS l σ = v) (fun acc v j r ha h => by
    by_cases hji : j = i
    · rw [if_pos (beq_iff_eq.2 hji)] at h
      cases h
      rw [if_pos hji, mul_one]
      exact ha
    · rw [if_neg (mt beq_iff_eq.1 hji)] at h
      obtain ⟨k, hk, rfl⟩ := constStep_ok h
      rw [if_neg hji]
      exact ha.2 ▸ mulAssignR_const hc ha.1 hk) js acc l _ ⟨ha, rfl⟩ h

theorem prod_skip (a : List Rat) (i : Nat) (hi : i < a.length) :
    a.getD i 0 * ((List.range a.length).map (fun j => if j = i then 1 else a.getD j 0)).prod = a.prod := by
  have e : (List.range a.length).map (fun j => if j = i then 1 else a.getD j 0) = a.set i 1 := by
    apply List.ext_getElem (by simp)
    intro n h1 h2
    rw [List.length_map, List.length_range] at h1
    rw [List.getElem_map, List.getElem_range, List.getElem_set, ← List.getElem_eq_getD (h := h1)]
    exact if_congr eq_comm rfl rfl
  rw [e, List.prod_set, if_pos hi, ← List.prod_take_mul_prod_drop a (i + 1), List.prod_take_succ a i hi,
    ← List.getElem_eq_getD (h := hi)]
  ring

theorem getD_map_evalS (σ : Nat → Rat) (ls : List Lin) (j : Nat) :
    (ls.map (fun l => Lin.evalS l σ)).getD j 0 = Lin.evalS (ls.getD j Lin.empty) σ := by
  simp only [List.getD_eq_getElem?_getD, List.getElem?_map]
  cases ls[j]? with
  | none => simp [evalS_empty]
  | some x => simp

theorem foldl_mul_eq_prod (v : Rat) (rest : List Rat) : rest.foldl (· * ·) v = (v :: rest).prod := by
  rw [List.prod_eq_foldl, List.foldl_cons, one_mul]

theorem mulAll_spec {c : ConstOf} {σ : Nat → Rat} (hc : ConstSoundS c σ) (ls : List Lin) (l : Lin)
    (hl : ∀ x ∈ ls, x.WF) (h : mulAll c ls = .ok l) (v : Rat) (rest : List Rat)
    (hm : ls.map (fun l => Lin.evalS l σ) = v :: rest) :
    l.WF ∧ Lin.evalS l σ = rest.foldl (· * ·) v := by
  cases ls with
  | nil => simp at hm
  | cons first restl =>
    simp only [mulAll] at h
    split at h
    · rename_i i hi
      have hlt : i < (first :: restl).length := by
        have := List.findIdx?_eq_some_iff_findIdx_eq.1 hi
        exact this.1
      have hw : ((first :: restl).getD i Lin.empty).WF := by
        rw [← List.getElem_eq_getD (h := hlt) Lin.empty]
        exact hl _ (List.getElem_mem _)
      obtain ⟨w, e⟩ := mul_foldlM_idx hc (first :: restl) i _ _ l hw h
      refine ⟨w, ?_⟩
      rw [e, foldl_mul_eq_prod, List.prod_cons, foldl_mul_eq_prod, ← hm]
      have hp := prod_skip ((first :: restl).map (fun l => Lin.evalS l σ)) i (by simpa using hlt)
      rw [← hp, getD_map_evalS, List.length_map]
      congr 2
      apply List.map_congr_left
      intro j _
      rw [getD_map_evalS]
    · obtain ⟨w, e⟩ := mul_foldlM_all hc restl first l (hl _ List.mem_cons_self) h
      refine ⟨w, ?_⟩
      rw [e]
      simp only [List.map_cons, List.cons.injEq] at hm
      rw [hm.1, hm.2]

theorem div_foldlM {c : ConstOf} {σ : Nat → Rat} (hc : ConstSoundS c σ) (rest : List Lin) (k0 k : R)
    (h0 : R.FinWF k0) (h : rest.foldlM (fun (acc : R) l => match c l with
        | some k => (pure (R.mulAssign acc k) : Except Err R)
        | none => .error .nonLinear) k0 = .ok k) :
    R.FinWF k ∧ k.toRat = (rest.map (fun l => Lin.evalS l σ)).foldl (· * ·) k0.toRat :=
  foldlM_inv (Inv := fun k v => R.FinWF k ∧ k.toRat = v) (fun _ _ x _ ha h => by
    obtain ⟨k1, hk, rfl⟩ := constStep_ok h
    obtain ⟨kw, kf, ke⟩ := hc x k1 hk
    exact ⟨R.finWF_mulAssign ha.1 ⟨kw, kf⟩, by rw [R.toRat_mulAssign ha.1 ⟨kw, kf⟩, ha.2, ke]⟩)
    rest k0 k _ ⟨h0, rfl⟩ h

theorem divAllCore_spec {c : ConstOf} {σ : Nat → Rat} (hc : ConstSoundS c σ) (ls : List Lin) (l : Lin)
    (hl : ∀ x ∈ ls, x.WF) (h : divAllCore c ls = .ok l) (v d : Rat) (rest : List Rat)
    (hm : ls.map (fun l => Lin.evalS l σ) = v :: d :: rest) (hne : rest.foldl (· * ·) d ≠ 0) :
    l.WF ∧ Lin.evalS l σ = v / rest.foldl (· * ·) d := by
  match ls, hl, h, hm with
  | [], _, _, hm => simp at hm
  | [_], _, _, hm => simp at hm
  | first :: dl :: restl, hl, h, hm =>
    simp only [divAllCore] at h
    cases hk : c dl with
    | none => simp [hk] at h
    | some k0 =>
      simp only [hk] at h
      obtain ⟨kw, kf, ke⟩ := hc dl k0 hk
      split at h
      · simp at h
      · rename_i k hf
        simp only [Except.ok.injEq] at h
        subst h
        obtain ⟨kfw, kt⟩ := div_foldlM hc restl k0 k ⟨kw, kf⟩ hf
        simp only [List.map_cons, List.cons.injEq] at hm
        rw [← ke, hm.2.1, hm.2.2] at kt
        have hkne : k.toRat ≠ 0 := by rw [kt]; exact hne
        obtain ⟨w, -, -, e, -⟩ := Lin.scalar_div_spec first k (hl _ List.mem_cons_self) kfw.1 kfw.2
          (R.num_ne_zero_of_toRat hkne)
        exact ⟨w, by rw [e σ, kt, hm.1]⟩

theorem divAll_spec {c : ConstOf} {σ : Nat → Rat} (hc : ConstSoundS c σ) (ls : List Lin) (l : Lin)
    (hl : ∀ x ∈ ls, x.WF) (h : divAll c ls = .ok l) (v d : Rat) (rest : List Rat)
    (hm : ls.map (fun l => Lin.evalS l σ) = v :: d :: rest) (hne : rest.foldl (· * ·) d ≠ 0) :
    l.WF ∧ Lin.evalS l σ = v / rest.foldl (· * ·) d := by
  unfold divAll at h
  split at h
  · simp at h
  · exact divAllCore_spec hc ls l hl h v d rest hm hne

theorem constFree_spec (σ : Nat → Rat) (l : Lin) (k : R) (hl : l.WF) (h : constFree l = some k) :
    R.FinWF k ∧ Lin.evalS l σ = k.toRat := by
  unfold constFree at h
  split at h
  · rename_i he
    simp only [Option.some.injEq] at h
    subst h
    obtain ⟨-, -, hk⟩ := (Lin.wf_iff l).1 hl
    refine ⟨hk, ?_⟩
    rw [Lin.evalS_eq]
    have : l.vars = [] := by simpa using he
    rw [this, Lin.sumS_nil, zero_add]
  · simp at h

end Eval
end Oratio
