/-
Lemmas for property C13: `sortByVar` and `sortByIdx` are one insertion sort for two keys; `sortDedup`
(`std::sort` + `std::unique`) keeps the members and yields a duplicate-free list.
-/
import OratioModel.Sat.Enc
import OratioProofs.Lemmas.ListAux
import OratioProofs.Lemmas.LitBasic

namespace Oratio
namespace EncL
open Enc

theorem insertByVar_eq : insertByVar = ListAux.insertBy (fun a b : Lit => a.var ≤ b.var) := by
  funext x t
  induction t with
  | nil => rfl
  | cons y t ih => simp only [insertByVar, ListAux.insertBy, ih]

theorem insertByIdx_eq : insertByIdx = ListAux.insertBy (fun a b : Lit => a.idx ≤ b.idx) := by
  funext x t
  induction t with
  | nil => rfl
  | cons y t ih => simp only [insertByIdx, ListAux.insertBy, ih]

theorem mem_sortByVar {l : Lit} {ls : List Lit} : l ∈ sortByVar ls ↔ l ∈ ls := by
  rw [sortByVar, insertByVar_eq]; exact (ListAux.sortBy_perm ls).mem_iff

theorem sortByVar_sorted (ls : List Lit) : (sortByVar ls).Pairwise (fun a b => a.var ≤ b.var) := by
  rw [sortByVar, insertByVar_eq]
  exact ListAux.sortBy_sorted (le := fun a b : Lit => a.var ≤ b.var) Nat.le_trans
    (fun h => Nat.le_of_lt (Nat.lt_of_not_le h)) ls

theorem mem_dedupAdj {l : Lit} {t : List Lit} : l ∈ dedupAdj t ↔ l ∈ t := by
  fun_induction dedupAdj t with
  | case1 b t ih =>
    rw [ih]; simp
  | case2 a b t hab ih =>
    rw [List.mem_cons, ih, List.mem_cons (a := l) (b := a)]
  | case3 t _ => exact Iff.rfl

theorem dedupAdj_strict {t : List Lit} (h : t.Pairwise (fun a b => a.idx ≤ b.idx)) :
    (dedupAdj t).Pairwise (fun a b => a.idx < b.idx) := by
  fun_induction dedupAdj t with
  | case1 b t ih => exact ih (List.pairwise_cons.1 h).2
  | case2 a b t hab ih =>
    rw [List.pairwise_cons] at h
    refine List.pairwise_cons.2 ⟨fun z hz => ?_, ih h.2⟩
    rw [mem_dedupAdj] at hz
    have hlt : a.idx < b.idx := by
      have := h.1 b (by simp)
      have hne : a.idx ≠ b.idx := fun e => hab (Lit.idx_inj e)
      omega
    rcases List.mem_cons.1 hz with rfl | hz
    · exact hlt
    · exact Nat.lt_of_lt_of_le hlt ((List.pairwise_cons.1 h.2).1 z hz)
  | case3 t hne =>
    match t, hne with
    | [], _ => exact List.Pairwise.nil
    | [a], _ => simp
    | a :: b :: t, hne => exact absurd rfl (hne a b t)

theorem mem_sortDedup {l : Lit} {ls : List Lit} : l ∈ sortDedup ls ↔ l ∈ ls := by
  rw [sortDedup, mem_dedupAdj, sortByIdx, insertByIdx_eq]; exact (ListAux.sortBy_perm ls).mem_iff

theorem sortDedup_nodup (ls : List Lit) : (sortDedup ls).Nodup := by
  have h := dedupAdj_strict (ListAux.sortBy_sorted (le := fun a b : Lit => a.idx ≤ b.idx) Nat.le_trans
    (fun h => Nat.le_of_lt (Nat.lt_of_not_le h)) ls)
  rw [← insertByIdx_eq] at h
  exact h.imp fun {a b} hlt e => by subst e; exact Nat.lt_irrefl _ hlt

end EncL
end Oratio
