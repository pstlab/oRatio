/-
Definitions for `Properties/C09Reach.lean`: the public API of the LRA model as a type of
operations (`LraOp`), the step function that runs them (`Lra.step`), the side conditions of the
operations (`Lra.ValidOp`) and the invariant of every reachable state (`Lra.GoodState`).
-/
import OratioModel
import OratioProofs.Lemmas.LraState

namespace Oratio

/-- the public API of `lra_theory` as the harness drives it.  `satMove s'` stands for anything the
    SAT core does between two theory calls (decisions, propagation, backjumps): the SAT state is
    replaced by an arbitrary one. -/
inductive LraOp where
  | newVar
  | newVarLin (l : Lin)
  | newRel (r : LRel) (left right : Lin)
  | newEq (left right : Lin)
  | setLb (x : Nat) (v : IR) (p : Lit)
  | setUb (x : Nat) (v : IR) (p : Lit)
  | setEq (x : Nat) (v : IR) (p : Lit)
  | propagateLit (p : Lit)
  | check (fuel : Nat)
  | push
  | pop
  | satMove (s' : Sat)

namespace Lra

/-- one operation on (SAT core, LRA theory).  When the model returns `none` (an assertion of the
    C++ fails / out of fuel) the driver keeps the state; on a conflict the state is the one the
    model leaves (all the changes made before the conflict was found stay in place). -/
def step (st : Sat × Lra) : LraOp → Sat × Lra
  | .newVar => (st.1, st.2.newVar.2)
  | .newVarLin l =>
    match Lra.newVarLin st.1 st.2 l with
    | some (_, t) => (st.1, t)
    | none => st
  | .newRel r a b =>
    match Lra.newRel st.1 st.2 r a b with
    | some (_, s, t, _) => (s, t)
    | none => st
  | .newEq a b =>
    match Lra.newEq st.1 st.2 a b with
    | some (_, s, t, _) => (s, t)
    | none => st
  | .setLb x v p => ((Lra.setLb st.1 st.2 x v p).sat, (Lra.setLb st.1 st.2 x v p).th)
  | .setUb x v p => ((Lra.setUb st.1 st.2 x v p).sat, (Lra.setUb st.1 st.2 x v p).th)
  | .setEq x v p => ((Lra.setEq st.1 st.2 x v p).sat, (Lra.setEq st.1 st.2 x v p).th)
  | .propagateLit p => ((Lra.propagateLit st.1 st.2 p).sat, (Lra.propagateLit st.1 st.2 p).th)
  | .check fuel =>
    match st.2.check fuel with
    | some (_, t) => (st.1, t)
    | none => st
  | .push => (st.1, st.2.push)
  | .pop => (st.1, st.2.pop)
  | .satMove s' => (s', st.2)

/-- `run st ops`: the operations one after the other -/
def run (st : Sat × Lra) (ops : List LraOp) : Sat × Lra := ops.foldl step st

/-- an expression the harness may pass: canonical (`Lin.WF`: sorted, every coefficient and the known
    term canonical and finite), over existing variables, no zero coefficient (`linOk` of
    OratioModel/Driver/Net.lean; the C++ `assert`s on `0 * inf` otherwise) -/
def LinOK (t : Lra) (l : Lin) : Prop := l.WF ∧ ∀ p ∈ l.vars, p.1 < t.vals.length ∧ p.2.num ≠ 0

/-- the side conditions of the operations -/
def ValidOp (t : Lra) : LraOp → Prop
  | .newVarLin l => LinOK t l
  | .newRel _ a b => LinOK t a ∧ LinOK t b
  | .newEq a b => LinOK t a ∧ LinOK t b
  -- a lower bound is finite or `-inf`, an upper bound finite or `+inf`; the infinitesimal part is finite
  | .setLb x v _ => x < t.vals.length ∧ v.WF ∧ v.inf.den ≠ 0 ∧ v.rat ≠ R.pinf
  | .setUb x v _ => x < t.vals.length ∧ v.WF ∧ v.inf.den ≠ 0 ∧ v.rat ≠ R.ninf
  | .setEq x v _ => x < t.vals.length ∧ v.WF ∧ v.inf.den ≠ 0 ∧ v.rat.den ≠ 0
  | _ => True

/-- every operation of the list is valid in the state in which it is run -/
def ValidRun (st : Sat × Lra) : List LraOp → Prop
  | [] => True
  | op :: ops => ValidOp st.2 op ∧ ValidRun (step st op) ops

/-! ### the invariant -/

/-- a finite canonical eps-rational: the same as `IR.Fin` (Lemmas/InfRational.lean) and `Lra.FinIR_s`
    (Lemmas/LraRelSemDefs.lean), by `Iff.rfl` -/
def FinIR (a : IR) : Prop := R.FinWF a.rat ∧ R.FinWF a.inf

/-- a bound value that is not the infinity `bad`: canonical, finite infinitesimal part -/
def OKs (bad : R) (a : IR) : Prop := a.rat.WF ∧ a.rat ≠ bad ∧ R.FinWF a.inf
/-- a lower bound is never `+inf`, an upper bound never `-inf` -/
abbrev LowerOK (a : IR) : Prop := OKs R.pinf a
abbrev UpperOK (a : IR) : Prop := OKs R.ninf a

/-- entry `i` of `c_bounds` is a lower bound for even `i`, an upper bound for odd `i` -/
def BoundOK (i : Nat) (a : IR) : Prop := if i % 2 = 0 then LowerOK a else UpperOK a

/-- `old` is at least as loose as `cur`, as entry `i` of `c_bounds` -/
def Looser (i : Nat) (old cur : IR) : Prop := if i % 2 = 0 then IR.le old cur = true else IR.le cur old = true

def bndD : LBound := ⟨IR.ofR R.zero, Lit.trueLit⟩

/-- every saved bound is a bound of the right kind, at least as loose as the bound it will replace
    when its layer is popped -/
def LayersOK : List LBound → List (List (Nat × LBound)) → Prop
  | _, [] => True
  | bs, l :: ls =>
    (∀ e ∈ l, e.1 < bs.length ∧ BoundOK e.1 e.2.value ∧ Looser e.1 e.2.value (bs.getD e.1 bndD).value) ∧
    LayersOK (restoreB bs l) ls

/-- `x` is within its bounds (the model's own comparisons; `Lra.inBounds` of Lemmas/LraCheckOps.lean) -/
def InB (t : Lra) (x : Nat) : Prop := IR.lt (t.value x) (t.lb x) = false ∧ IR.gt (t.value x) (t.ub x) = false

/-- the invariant of every reachable state, but for the values of the non-basic variables being
    within their bounds (this part also holds in the middle of `assert_lower / assert_upper`) -/
structure GoodCore (t : Lra) : Prop where
  /-- tableau and watch lists (Lemmas/LraState.lean) -/
  tab : TabWF t
  /-- no zero coefficient in a row -/
  nz : ∀ e ∈ t.tableau, ∀ p ∈ e.2.vars, p.2.num ≠ 0
  /-- every stored value is a finite canonical eps-rational -/
  vfin : ∀ v ∈ t.vals, FinIR v
  /-- the rational parts of the values satisfy every row -/
  rowsRat : ∀ e ∈ t.tableau, t.ratAssign e.1 = Lin.evalS e.2 t.ratAssign
  /-- the infinitesimal parts satisfy every row without its known term -/
  rowsInf : ∀ e ∈ t.tableau, t.infAssign e.1 = Lin.evalS { e.2 with known := R.zero } t.infAssign
  /-- two bounds per variable -/
  blen : t.bounds.length = 2 * t.vals.length
  /-- bounds canonical, lower never `+inf`, upper never `-inf`, lower ≤ upper -/
  bwf : ∀ x, x < t.vals.length → LowerOK (t.lb x) ∧ UpperOK (t.ub x) ∧ IR.le (t.lb x) (t.ub x) = true
  /-- the registered assertions are about existing variables and finite canonical constants -/
  asrts : ∀ e ∈ t.vAsrts, e.2.x < t.vals.length ∧ FinIR e.2.v
  /-- the undo log only holds looser bounds -/
  lay : LayersOK t.bounds t.layers
  /-- the variables named in `exprs` exist -/
  exprs : ∀ e ∈ t.exprs, e.2 < t.vals.length

/-- the invariant of every reachable state -/
structure GoodState (t : Lra) : Prop extends GoodCore t where
  /-- every non-basic variable is within its bounds -/
  nbin : ∀ x, x < t.vals.length → t.isBasic x = false → InB t x

end Lra
end Oratio
