/-
Concrete states for the non-vacuity examples of Properties/C11Sem.lean, built by running the model from two variables
`x0`, `x1`.
-/
import OratioModel
import OratioProofs.Lemmas.LraRelSemFinal

namespace Oratio
namespace Lra

def litOf (o : Option (Lit × Sat × Lra × Option Nat)) : Lit :=
  match o with | some (l, _, _, _) => l | none => Lit.trueLit
def satOf (o : Option (Lit × Sat × Lra × Option Nat)) : Sat :=
  match o with | some (_, s, _, _) => s | none => Sat.init
def lraOf (o : Option (Lit × Sat × Lra × Option Nat)) : Lra :=
  match o with | some (_, _, t, _) => t | none => Lra.init
def bOf (o : Option (Lit × Sat × Lra × Option Nat)) : Option Nat :=
  match o with | some (_, _, _, b) => b | none => none

theorem some_of {o : Option (Lit × Sat × Lra × Option Nat)} {l : Lit} {b : Option Nat}
    (h : o.isSome = true ∧ litOf o = l ∧ bOf o = b) : o = some (l, satOf o, lraOf o, b) := by
  obtain ⟨h, rfl, rfl⟩ := h
  cases o with
  | none => cases h
  | some p => rfl

/-- `x0`, `x1` -/
def exT2 : Lra := Lra.init.newVar.2.newVar.2
/-- `x0 + 2·x1`, `3` -/
def exL1 : Lin := ⟨[(0, ⟨1, 1⟩), (1, ⟨2, 1⟩)], ⟨0, 1⟩⟩
def exK3 : Lin := ⟨[], ⟨3, 1⟩⟩
/-- `x0 + 2·x1 + 1`, `4` -/
def exL2 : Lin := ⟨[(0, ⟨1, 1⟩), (1, ⟨2, 1⟩)], ⟨1, 1⟩⟩
def exK4 : Lin := ⟨[], ⟨4, 1⟩⟩
/-- `2·x0 + 4·x1`, `6`, `5` -/
def exL3 : Lin := ⟨[(0, ⟨2, 1⟩), (1, ⟨4, 1⟩)], ⟨0, 1⟩⟩
def exK6 : Lin := ⟨[], ⟨6, 1⟩⟩
def exK5 : Lin := ⟨[], ⟨5, 1⟩⟩
/-- `x0 + 2`, `x0 + 1`, `x0`, `x1`, `0·x0`, `1` -/
def exX0p2 : Lin := ⟨[(0, ⟨1, 1⟩)], ⟨2, 1⟩⟩
def exX0p1 : Lin := ⟨[(0, ⟨1, 1⟩)], ⟨1, 1⟩⟩
def exX0 : Lin := ⟨[(0, ⟨1, 1⟩)], ⟨0, 1⟩⟩
def exX1 : Lin := ⟨[(1, ⟨1, 1⟩)], ⟨0, 1⟩⟩
def exZ0 : Lin := ⟨[(0, ⟨0, 1⟩)], ⟨0, 1⟩⟩
def exK1 : Lin := ⟨[], ⟨1, 1⟩⟩

/-- `x0 + 2·x1 ≤ 3` -/
def ex1 := newRel Sat.init exT2 .leq exL1 exK3
/-- then `x0 + 2·x1 + 1 ≤ 4` -/
def ex2 := newRel (satOf ex1) (lraOf ex1) .leq exL2 exK4
/-- then `2·x0 + 4·x1 < 6` -/
def ex3 := newRel (satOf ex2) (lraOf ex2) .lt exL3 exK6
/-- the state after the first request, with the upper bound `x2 ≤ 3` asserted by its literal -/
def exTB : Lra := (lraOf ex1).setBound (ubIdx 2) ⟨⟨⟨3, 1⟩, ⟨0, 1⟩⟩, ⟨1, true⟩⟩
/-- `x0 + 2·x1 ≤ 5` there: TRUE by the bounds of the slack variable `x2` -/
def ex4 := newRel (satOf ex1) exTB .leq exL1 exK5
/-- `x0 + 2·x1 > 5` there: FALSE -/
def ex4f := newRel (satOf ex1) exTB .gt exL1 exK5
/-- `x0 + 1 ≤ x0 + 2`: TRUE by the rewritten difference (a constant); `x0 + 2 ≤ x0 + 1`: FALSE -/
def ex5 := newRel Sat.init exT2 .leq exX0p1 exX0p2
def ex5f := newRel Sat.init exT2 .leq exX0p2 exX0p1
/-- `0·x0 ≥ 1` with `x0` unbounded: the model answers TRUE -/
def ex6 := newRel Sat.init exT2 .geq exZ0 exK1
/-- `x0 = x1` -/
def ex7 := newEq Sat.init exT2 exX0 exX1
/-- `x0 ≤ 3`: the rewritten difference is the existing variable `x0` (no slack variable, no row) -/
def ex8 := newRel Sat.init exT2 .leq exX0 exK3
/-- `x2 - x0`, `0`; after `ex1` (`x2 = x0 + 2·x1` basic): `x2 - x0 ≥ 0` is rewritten to `2·x1 ≥ 0` -/
def exS2m0 : Lin := ⟨[(0, ⟨-1, 1⟩), (2, ⟨1, 1⟩)], ⟨0, 1⟩⟩
def exK0 : Lin := ⟨[], ⟨0, 1⟩⟩
def ex9 := newRel (satOf ex1) (lraOf ex1) .geq exS2m0 exK0

theorem exL1_wf : exL1.WF := Lin.wf_two (x := 0) (y := 1) (by decide) (by decide) (by decide) (by decide)
theorem exL2_wf : exL2.WF := Lin.wf_two (x := 0) (y := 1) (by decide) (by decide) (by decide) (by decide)
theorem exL3_wf : exL3.WF := Lin.wf_two (x := 0) (y := 1) (by decide) (by decide) (by decide) (by decide)
theorem exK1_wf : exK1.WF := Lin.wf_nil (by decide)
theorem exK3_wf : exK3.WF := Lin.wf_nil (by decide)
theorem exK4_wf : exK4.WF := Lin.wf_nil (by decide)
theorem exK5_wf : exK5.WF := Lin.wf_nil (by decide)
theorem exK6_wf : exK6.WF := Lin.wf_nil (by decide)
theorem exX0p2_wf : exX0p2.WF := Lin.wf_one _ (by decide) (by decide)
theorem exX0p1_wf : exX0p1.WF := Lin.wf_one _ (by decide) (by decide)
theorem exX0_wf : exX0.WF := Lin.wf_one _ (by decide) (by decide)
theorem exX1_wf : exX1.WF := Lin.wf_one _ (by decide) (by decide)
theorem exZ0_wf : exZ0.WF := Lin.wf_one _ (by decide) (by decide)
theorem exS2m0_wf : exS2m0.WF := Lin.wf_two (x := 0) (y := 2) (by decide) (by decide) (by decide) (by decide)
theorem exK0_wf : exK0.WF := Lin.wf_nil (by decide)

theorem vars2_lt (a b : Nat) (c d k : R) (n : Nat) (ha : a < n) (hb : b < n) :
    ∀ p ∈ (⟨[(a, c), (b, d)], k⟩ : Lin).vars, p.1 < n := by
  intro p hp
  simp only [List.mem_cons, List.not_mem_nil, or_false] at hp
  rcases hp with rfl | rfl
  · exact ha
  · exact hb

theorem vars1_lt (a : Nat) (c k : R) (n : Nat) (ha : a < n) : ∀ p ∈ (⟨[(a, c)], k⟩ : Lin).vars, p.1 < n := by
  intro p hp
  simp only [List.mem_cons, List.not_mem_nil, or_false] at hp
  subst hp
  exact ha

theorem vars0_lt (k : R) (n : Nat) : ∀ p ∈ (⟨[], k⟩ : Lin).vars, p.1 < n :=
  fun _ hp => absurd hp List.not_mem_nil

-- all facts about one chain of runs (`ex2` starts in the state `ex1` leaves, `ex3` in that of `ex2`) in one kernel
-- evaluation, so that the chain is run once; the named facts below are its projections.  Likewise the next two.
theorem ex123_facts :
    ((ex1.isSome = true ∧ litOf ex1 = ⟨1, true⟩ ∧ bOf ex1 = some 1) ∧
      (∀ p ∈ (relE exT2 exL1 exK3).vars, p.2.num ≠ 0) ∧ (lraOf ex1).vals.length = 3 ∧
      (lraOf ex1).tableau = [(2, exL1)] ∧
      ((lraOf ex1).asrtOf 1).map (fun a => (a.o, a.x, a.v)) = some (.leq, 2, ⟨⟨3, 1⟩, ⟨0, 1⟩⟩)) ∧
    ((ex2.isSome = true ∧ litOf ex2 = ⟨1, true⟩ ∧ bOf ex2 = none) ∧
      (∀ p ∈ (relE (lraOf ex1) exL2 exK4).vars, p.2.num ≠ 0) ∧ (lraOf ex2).vals.length = 3 ∧
      (lraOf ex2).tableau = [(2, exL1)] ∧
      Lin.toStr (relE exT2 exL1 exK3) = Lin.toStr (relE (lraOf ex1) exL2 exK4) ∧
      irToStr (relC exT2 .leq exL1 exK3) = irToStr (relC (lraOf ex1) .leq exL2 exK4)) ∧
    ((ex3.isSome = true ∧ litOf ex3 = ⟨2, true⟩ ∧ bOf ex3 = some 2) ∧
      (lraOf ex3).tableau = [(2, exL1), (3, exL3)] ∧
      ((lraOf ex3).asrtOf 2).map (fun a => (a.o, a.x, a.v)) = some (.leq, 3, ⟨⟨6, 1⟩, ⟨-1, 1⟩⟩)) := by
  decide +kernel

theorem ex1_branch_facts :
    ((ex9.isSome = true ∧ litOf ex9 = ⟨2, true⟩ ∧ bOf ex9 = some 2) ∧
      (lraOf ex9).tableau = [(2, exL1), (3, ⟨[(1, ⟨2, 1⟩)], ⟨0, 1⟩⟩)] ∧
      ((lraOf ex9).asrtOf 2).map (fun a => (a.o, a.x, a.v)) = some (.geq, 3, ⟨⟨0, 1⟩, ⟨0, 1⟩⟩)) ∧
    ((∀ x, x < 3 → exTB.lb x = IR.ofR R.ninf) ∧ (∀ x, x < 2 → exTB.ub x = IR.ofR R.pinf) ∧
      exTB.ub 2 = ⟨⟨3, 1⟩, ⟨0, 1⟩⟩ ∧ ∀ p ∈ (relE exTB exL1 exK5).vars, p.2.num ≠ 0) ∧
    (ex4.isSome = true ∧ litOf ex4 = Lit.trueLit ∧ bOf ex4 = none) ∧
    (ex4f.isSome = true ∧ litOf ex4f = Lit.falseLit ∧ bOf ex4f = none) := by
  decide +kernel

theorem exT2_facts :
    (∀ x, x < 2 → exT2.lb x = IR.ofR R.ninf ∧ exT2.ub x = IR.ofR R.pinf) ∧
    ((ex5.isSome = true ∧ litOf ex5 = Lit.trueLit ∧ bOf ex5 = none) ∧
      ∀ p ∈ (relE exT2 exX0p1 exX0p2).vars, p.2.num ≠ 0) ∧
    ((ex5f.isSome = true ∧ litOf ex5f = Lit.falseLit ∧ bOf ex5f = none) ∧
      ∀ p ∈ (relE exT2 exX0p2 exX0p1).vars, p.2.num ≠ 0) ∧
    (ex6.isSome = true ∧ litOf ex6 = Lit.trueLit ∧ bOf ex6 = none) ∧
    (ex7.isSome = true ∧ ex7.map (·.1) = some ⟨3, true⟩) ∧
    ((ex8.isSome = true ∧ litOf ex8 = ⟨1, true⟩ ∧ bOf ex8 = some 1) ∧ (lraOf ex8).vals.length = 2 ∧
      (lraOf ex8).tableau = [] ∧
      ((lraOf ex8).asrtOf 1).map (fun a => (a.o, a.x, a.v)) = some (.leq, 0, ⟨⟨3, 1⟩, ⟨0, 1⟩⟩)) := by
  decide +kernel

theorem exT2_state : SemState Sat.init exT2 := SemState.init.newVar.newVar

theorem ex1_some : ex1 = some (⟨1, true⟩, satOf ex1, lraOf ex1, some 1) := some_of ex123_facts.1.1
theorem ex1_nz : NoZero (relE exT2 exL1 exK3) := ex123_facts.1.2.1
theorem ex1_len : (lraOf ex1).vals.length = 3 := ex123_facts.1.2.2.1

theorem ex1_state : SemState (satOf ex1) (lraOf ex1) :=
  exT2_state.newRel exL1_wf exK3_wf (vars2_lt _ _ _ _ _ _ (by decide) (by decide)) (vars0_lt _ _) ex1_nz ex1_some

theorem ex2_some : ex2 = some (⟨1, true⟩, satOf ex2, lraOf ex2, none) := some_of ex123_facts.2.1.1
theorem ex2_len : (lraOf ex2).vals.length = 3 := ex123_facts.2.1.2.2.1
theorem ex2_key : Lin.toStr (relE exT2 exL1 exK3) = Lin.toStr (relE (lraOf ex1) exL2 exK4) ∧
    irToStr (relC exT2 .leq exL1 exK3) = irToStr (relC (lraOf ex1) .leq exL2 exK4) := ex123_facts.2.1.2.2.2.2

theorem ex2_state : SemState (satOf ex2) (lraOf ex2) :=
  ex1_state.newRel exL2_wf exK4_wf (vars2_lt _ _ _ _ _ _ (by rw [ex1_len]; decide) (by rw [ex1_len]; decide))
    (vars0_lt _ _) ex123_facts.2.1.2.1 ex2_some

theorem ex3_some : ex3 = some (⟨2, true⟩, satOf ex3, lraOf ex3, some 2) := some_of ex123_facts.2.2.1

theorem exTB_state : SemState (satOf ex1) exTB :=
  ex1_state.setBound _ ⟨⟨by decide, by decide⟩, ⟨by decide, by decide⟩⟩

/-- `exTB` differs from the state after `ex1` in its bounds only (said through `setBound`, so that the run is not
    evaluated to see it) -/
theorem exTB_frame : exTB.vals = (lraOf ex1).vals ∧ exTB.tableau = (lraOf ex1).tableau :=
  have h (t : Lra) (i : Nat) (b : LBound) : (t.setBound i b).vals = t.vals ∧ (t.setBound i b).tableau = t.tableau :=
    ⟨rfl, rfl⟩
  h _ _ _

theorem exTB_len : exTB.vals.length = 3 := (congrArg List.length exTB_frame.1).trans ex1_len
theorem exTB_nz : NoZero (relE exTB exL1 exK5) := ex1_branch_facts.2.1.2.2.2

theorem ex4_some : ex4 = some (Lit.trueLit, satOf ex4, lraOf ex4, none) := some_of ex1_branch_facts.2.2.1
theorem ex4f_some : ex4f = some (Lit.falseLit, satOf ex4f, lraOf ex4f, none) := some_of ex1_branch_facts.2.2.2
theorem ex5_some : ex5 = some (Lit.trueLit, satOf ex5, lraOf ex5, none) := some_of exT2_facts.2.1.1
theorem ex5_nz : NoZero (relE exT2 exX0p1 exX0p2) := exT2_facts.2.1.2
theorem ex5f_some : ex5f = some (Lit.falseLit, satOf ex5f, lraOf ex5f, none) := some_of exT2_facts.2.2.1.1
theorem ex5f_nz : NoZero (relE exT2 exX0p2 exX0p1) := exT2_facts.2.2.1.2
theorem ex6_some : ex6 = some (Lit.trueLit, satOf ex6, lraOf ex6, none) := some_of exT2_facts.2.2.2.1

def exSigA : Nat → Rat := fun x => match x with | 0 => 1 | 1 => 1 | 2 => 3 | 3 => 6 | _ => 0
/-- a solution of the tableau of `ex9` -/
def exSigC : Nat → Rat := fun x => match x with | 0 => 1 | 1 => 1 | 2 => 3 | 3 => 2 | _ => 0
def exSigB : Nat → Rat := fun x => match x with | 0 => 2 | 1 => 1 | 2 => 4 | 3 => 8 | _ => 0

theorem exL1_eval (σ : Nat → Rat) : Lin.evalS exL1 σ = σ 0 + 2 * σ 1 := by norm_num [Lin.evalS, exL1, R.toRat]
theorem exK3_eval (σ : Nat → Rat) : Lin.evalS exK3 σ = 3 := by norm_num [Lin.evalS, exK3, R.toRat]

theorem rows_one {t : Lra} {l : Lin} (h : t.tableau = [(2, l)]) (σ : Nat → Rat) :
    RowsS t σ ↔ σ 2 = Lin.evalS l σ := by
  unfold RowsS
  rw [h]
  simp only [List.mem_cons, List.not_mem_nil, or_false, forall_eq]

theorem rows_two {t : Lra} {l l' : Lin} (h : t.tableau = [(2, l), (3, l')]) (σ : Nat → Rat) :
    RowsS t σ ↔ (σ 2 = Lin.evalS l σ ∧ σ 3 = Lin.evalS l' σ) := by
  unfold RowsS
  rw [h]
  simp only [List.mem_cons, List.not_mem_nil, or_false, forall_eq_or_imp, forall_eq]

theorem ex1_rows (σ : Nat → Rat) : RowsS (lraOf ex1) σ ↔ σ 2 = σ 0 + 2 * σ 1 := by
  rw [rows_one ex123_facts.1.2.2.2.1 σ, exL1_eval]
theorem ex2_rows (σ : Nat → Rat) : RowsS (lraOf ex2) σ ↔ σ 2 = σ 0 + 2 * σ 1 := by
  rw [rows_one ex123_facts.2.1.2.2.2.1 σ, exL1_eval]
theorem ex3_rows (σ : Nat → Rat) : RowsS (lraOf ex3) σ ↔ (σ 2 = σ 0 + 2 * σ 1 ∧ σ 3 = 2 * σ 0 + 4 * σ 1) := by
  rw [rows_two ex123_facts.2.2.2.1 σ, exL1_eval]
  norm_num [Lin.evalS, exL3, R.toRat]
theorem exTB_rows (σ : Nat → Rat) : RowsS exTB σ ↔ σ 2 = σ 0 + 2 * σ 1 :=
  (rowsS_congr exTB_frame.2 σ).trans (ex1_rows σ)
theorem exT2_rows (σ : Nat → Rat) : RowsS exT2 σ := fun _ he => absurd he List.not_mem_nil

theorem ex1_asrt : ((lraOf ex1).asrtOf 1).map (fun a => (a.o, a.x, a.v)) = some (.leq, 2, ⟨⟨3, 1⟩, ⟨0, 1⟩⟩) :=
  ex123_facts.1.2.2.2.2
theorem ex3_asrt : ((lraOf ex3).asrtOf 2).map (fun a => (a.o, a.x, a.v)) = some (.leq, 3, ⟨⟨6, 1⟩, ⟨-1, 1⟩⟩) :=
  ex123_facts.2.2.2.2

theorem exT2_inBounds (σ : Nat → Rat) : InBounds exT2 σ := by
  intro x hx
  rw [(exT2_facts.1 x hx).1, (exT2_facts.1 x hx).2]
  exact ⟨Or.inl rfl, Or.inl rfl⟩

theorem fin3 : R.FinWF (⟨3, 1⟩ : R) := ⟨by decide, by decide⟩

theorem above3 (y : Rat) : IRAbove (⟨⟨3, 1⟩, ⟨0, 1⟩⟩ : IR) y ↔ y ≤ 3 := by
  rw [irAbove_reading (b := ⟨⟨3, 1⟩, ⟨0, 1⟩⟩) fin3]
  norm_num [R.toRat]

theorem exTB_inBounds (σ : Nat → Rat) : InBounds exTB σ ↔ σ 2 ≤ 3 := by
  obtain ⟨hl, hu, hu2, -⟩ := ex1_branch_facts.2.1
  constructor
  · intro h
    have := (h 2 (by rw [exTB_len]; decide)).2
    rw [hu2] at this
    exact (above3 _).1 this
  · intro h x hx
    rw [exTB_len] at hx
    refine ⟨by rw [hl x hx]; exact Or.inl rfl, ?_⟩
    by_cases h2 : x < 2
    · rw [hu x h2]; exact Or.inl rfl
    · have : x = 2 := by omega
      rw [this, hu2]; exact (above3 _).2 h

theorem ex7_some : ∃ s' t' bs, ex7 = some (⟨3, true⟩, s', t', bs) := by
  obtain ⟨h1, h2⟩ := exT2_facts.2.2.2.2.1
  cases h : ex7 with
  | none => rw [h] at h1; cases h1
  | some p =>
    obtain ⟨l, s', t', bs⟩ := p
    rw [h] at h2
    cases h2
    exact ⟨_, _, _, rfl⟩

theorem ex8_some : ex8 = some (⟨1, true⟩, satOf ex8, lraOf ex8, some 1) := some_of exT2_facts.2.2.2.2.2.1
theorem ex8_len : (lraOf ex8).vals.length = 2 := exT2_facts.2.2.2.2.2.2.1
theorem ex8_tableau : (lraOf ex8).tableau = [] := exT2_facts.2.2.2.2.2.2.2.1
theorem ex8_asrt : ((lraOf ex8).asrtOf 1).map (fun a => (a.o, a.x, a.v)) = some (.leq, 0, ⟨⟨3, 1⟩, ⟨0, 1⟩⟩) :=
  exT2_facts.2.2.2.2.2.2.2.2

theorem ex9_some : ex9 = some (⟨2, true⟩, satOf ex9, lraOf ex9, some 2) := some_of ex1_branch_facts.1.1
theorem ex9_rows (σ : Nat → Rat) : RowsS (lraOf ex9) σ ↔ (σ 2 = σ 0 + 2 * σ 1 ∧ σ 3 = 2 * σ 1) := by
  rw [rows_two ex1_branch_facts.1.2.1 σ, exL1_eval]
  norm_num [Lin.evalS, R.toRat]
theorem ex9_asrt : ((lraOf ex9).asrtOf 2).map (fun a => (a.o, a.x, a.v)) = some (.geq, 3, ⟨⟨0, 1⟩, ⟨0, 1⟩⟩) :=
  ex1_branch_facts.1.2.2

theorem asrt_view {t : Lra} {k : Nat} {a : LAsrt} {o : LOp} {x : Nat} {v : IR} (ha : t.asrtOf k = some a)
    (hf : (t.asrtOf k).map (fun a => (a.o, a.x, a.v)) = some (o, x, v)) : a.o = o ∧ a.x = x ∧ a.v = v := by
  rw [ha] at hf
  cases hf
  exact ⟨rfl, rfl, rfl⟩

theorem exZ0_never (σ : Nat → Rat) : ¬ RelHolds .geq (Lin.evalS exZ0 σ) (Lin.evalS exK1 σ) := by
  norm_num [RelHolds, Lin.evalS, exZ0, exK1, R.toRat]

end Lra

end Oratio
