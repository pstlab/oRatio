/-
Pivoting keeps the solutions of a tableau, for rows of any type `ρ` with any evaluation `ev` (pure logic; the abstract
rows of C09A and the model's rows are the two instances).  The new tableau is the old one with the row of `xi`
removed, `xj ↦ rj`, every other row `r ↦ S r`.  What the algebra supplies: the row `rj` says of `xj` what `ri` says of
`xi` (`hsolve`), and where `xj` has the value of `rj` the map `S` does not change the value of a row (`hsub`).
-/

namespace Oratio

theorem pivot_sat {V ρ M : Type} [DecidableEq V] (ev : ρ → (V → M) → M) {T T' : V → Option ρ} {xi xj : V} {ri rj : ρ}
    {S : ρ → ρ} (hi : T xi = some ri) (hj : T xj = none)
    (hT' : ∀ x, T' x = if x = xj then some rj else if x = xi then none else (T x).map S) (ν : V → M)
    (hsolve : ν xj = ev rj ν ↔ ν xi = ev ri ν) (hsub : ∀ x r, T x = some r → ν xj = ev rj ν → ev (S r) ν = ev r ν) :
    (∀ x r, T x = some r → ν x = ev r ν) ↔ (∀ x r, T' x = some r → ν x = ev r ν) := by
  constructor
  · intro h x r hx
    have hxj := hsolve.2 (h xi ri hi)
    rw [hT'] at hx
    split at hx
    · next e => rw [← Option.some.inj hx, e]; exact hxj
    split at hx
    · cases hx
    · obtain ⟨r0, hr0, e⟩ := Option.map_eq_some_iff.1 hx
      rw [← e, hsub x r0 hr0 hxj]
      exact h x r0 hr0
  · intro h x r hx
    have hxj : ν xj = ev rj ν := h xj rj (by rw [hT', if_pos rfl])
    by_cases h2 : x = xi
    · rw [h2, hi] at hx
      rw [h2, ← Option.some.inj hx]
      exact hsolve.1 hxj
    · have h1 : x ≠ xj := fun e => by rw [e, hj] at hx; cases hx
      rw [← hsub x r hx hxj]
      exact h x _ (by rw [hT', if_neg h1, if_neg h2, hx]; rfl)

end Oratio
