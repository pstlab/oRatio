/-
Lemmas for property C13: the filtering loop of the cardinality constructors and the tail of the product
encoding (`Cons.guardDef`).
-/
import OratioProofs.Lemmas.EncJunct

namespace Oratio
namespace EncL
open Enc

def ofJunct : Option (List Lit) → CardScan
  | none => .twoTrue
  | some others => .oneTrue others

theorem scanAfterTrue_eq (s : Enc) : ∀ (rest : List Lit) (p : Option Lit) (acc : List Lit),
    scanAfterTrue s rest p acc = ofJunct (scanJunct s true rest p acc)
  | [], _, _ => rfl
  | l :: rest, p, acc => by
    simp only [scanAfterTrue, scanJunct, Bool.not_true]
    split
    · rfl
    · split <;> exact scanAfterTrue_eq s rest _ _

/-- what the outer loop answers on `rest` from accumulator `acc`: `t` is the first argument
    true at root level -/
def CardOut (s : Enc) (rest acc : List Lit) : CardScan → Prop
  | .open ls' => Kept s false rest acc ls'
  | .oneTrue others => ∃ pre t post, rest = pre ++ t :: post ∧ s.value t = some true ∧
      Kept s false (pre ++ post) acc others
  | .twoTrue => ∃ pre t post, rest = pre ++ t :: post ∧ s.value t = some true ∧
      ((∃ t' ∈ post, s.value t' = some true) ∨
        ∃ q, (q ∈ acc ∨ q ∈ rest ∧ s.value q = none) ∧ q.neg ∈ rest)

theorem CardOut.found {s : Enc} {l : Lit} {rest acc : List Lit} {r : Option (List Lit)}
    (hl : s.value l = some true) (h : ScanOut s true rest acc r) : CardOut s (l :: rest) acc (ofJunct r) := by
  cases r with
  | some others => exact ⟨[], l, rest, rfl, hl, h⟩
  | none =>
    exact ⟨[], l, rest, rfl, hl, h.imp id fun ⟨q, hq, hn⟩ =>
      ⟨q, hq.imp id (fun ⟨hq, hv⟩ => ⟨List.mem_cons_of_mem _ hq, hv⟩), List.mem_cons_of_mem _ hn⟩⟩

theorem CardOut.keep {s : Enc} {l : Lit} {rest acc : List Lit} {r : CardScan}
    (hl : s.value l = none) (h : CardOut s rest (l :: acc) r) : CardOut s (l :: rest) acc r := by
  cases r with
  | «open» ls' => exact Kept.keep hl h
  | oneTrue others =>
    obtain ⟨pre, t, post, rfl, ht, hk⟩ := h
    exact ⟨l :: pre, t, post, rfl, ht, Kept.keep hl hk⟩
  | twoTrue =>
    obtain ⟨pre, t, post, rfl, ht, h⟩ := h
    refine ⟨l :: pre, t, post, rfl, ht, h.imp id fun ⟨q, hq, hn⟩ => ⟨q, ?_, List.mem_cons_of_mem _ hn⟩⟩
    rcases hq with hq | ⟨hq, hv⟩
    · rcases List.mem_cons.1 hq with rfl | hq
      · exact Or.inr ⟨List.mem_cons_self, hl⟩
      · exact Or.inl hq
    · exact Or.inr ⟨List.mem_cons_of_mem _ hq, hv⟩

theorem CardOut.skip {s : Enc} {l : Lit} {rest acc : List Lit} {r : CardScan}
    (hl : l ∈ acc ∨ s.value l = some false) (h : CardOut s rest acc r) : CardOut s (l :: rest) acc r := by
  cases r with
  | «open» ls' => exact Kept.skip hl h
  | oneTrue others =>
    obtain ⟨pre, t, post, rfl, ht, hk⟩ := h
    exact ⟨l :: pre, t, post, rfl, ht, Kept.skip hl hk⟩
  | twoTrue =>
    obtain ⟨pre, t, post, rfl, ht, h⟩ := h
    exact ⟨l :: pre, t, post, rfl, ht, h.imp id fun ⟨q, hq, hn⟩ =>
      ⟨q, hq.imp id (fun ⟨hq, hv⟩ => ⟨List.mem_cons_of_mem _ hq, hv⟩), List.mem_cons_of_mem _ hn⟩⟩

theorem scanCard_out {s : Enc} : ∀ (rest : List Lit) (p : Option Lit) (acc : List Lit),
    p = acc.head? → CardOut s rest acc (scanCard s rest p acc)
  | [], _, acc, _ => Kept.nil s _ acc
  | l :: rest, p, acc, hp => by
    simp only [scanCard]
    split
    · next hc => rw [scanAfterTrue_eq]; exact .found hc (scanJunct_out rest p acc hp)
    · next hc1 =>
      split
      · next hc2 =>
        simp only [Bool.and_eq_true, ne_eq, decide_eq_true_eq] at hc2
        refine (scanCard_out rest (some l) (l :: acc) rfl).keep ?_
        cases hv : s.value l with
        | none => rfl
        | some b =>
          cases b
          · exact (hc2.1 hv).elim
          · exact (hc1 hv).elim
      · next hc2 =>
        simp only [Bool.and_eq_true, ne_eq, decide_eq_true_eq, not_and, Decidable.not_not] at hc2
        refine (scanCard_out rest p acc hp).skip ?_
        by_cases hv : s.value l = some false
        · exact Or.inr hv
        · exact Or.inl (List.mem_of_mem_head? (hp ▸ hc2 hv))

theorem guardDef_spec {s : Enc} (h : Inv s) (k : Key) (ctr : Lit) (cls : List (List Lit))
    (hc : ctr.var < s.nvars) (hk : ∀ x ∈ keyLits k, x.var < s.nvars) (hcls : ∀ c ∈ cls, InRange s c)
    (hsem : ∀ α, Sat α s → α.cnf cls = true → KeySem α k ctr) {r : Lit × Enc}
    (hr : Cons.guardDef Enc.prim s k ctr cls = r) :
    Inv r.2 ∧ r.1.var < r.2.nvars ∧ r.2.nvars = s.nvars ∧ Refines s r.2 ∧
    (∀ α, Sat α r.2 → α.lit r.1 = true → α.lit ctr = true ∧ α.cnf cls = true) ∧
    (∀ α, Sat α s → α.cnf cls = true → Sat α r.2 ∧ (α.lit ctr = true → α.lit r.1 = true)) ∧
    (∀ e ∈ r.2.exprs, e ∈ s.exprs ∨ e = (k, ctr)) := by
  have hp := newClauses_sat cls h hcls
  rw [Cons_enc_guardDef] at hr
  subst hr
  generalize s.newClauses cls = p at hp ⊢
  obtain ⟨b, s6⟩ := p
  dsimp only at hp
  have href : Refines s s6 := ⟨by rw [hp.nvars]; exact Nat.le_refl _, hp.ref⟩
  cases b with
  | false =>
    refine ⟨hp.inv, Nat.lt_of_lt_of_le h.pos href.1, hp.nvars, href, fun α hα ht => ?_,
      fun α hα hcs => ⟨hp.keep α hα hcs, fun _ => ?_⟩, fun e he => Or.inl (hp.exprs ▸ he)⟩
    · change α.lit Lit.falseLit = true at ht
      rw [Asg.lit_falseLit hα.1] at ht; cases ht
    · have := hp.ans α (hp.keep α hα hcs)
      rw [hcs] at this; cases this
  | true =>
    have hsem' : ∀ α, Sat α s6 → KeySem α k ctr := fun α hα => hsem α (hp.ref α hα) (hp.ans α hα)
    refine ⟨inv_remember hp.inv (by rw [hp.nvars]; exact hc) (fun x hx => by rw [hp.nvars]; exact hk x hx) hsem',
      by show ctr.var < s6.nvars; rw [hp.nvars]; exact hc, hp.nvars, href,
      fun α hα ht => ⟨ht, hp.ans α hα⟩, fun α hα hcs => ⟨hp.keep α hα hcs, fun ht => ht⟩, fun e he => ?_⟩
    rcases List.mem_append.1 he with he | he
    · exact Or.inl (hp.exprs ▸ he)
    · exact Or.inr (List.mem_singleton.1 he)

end EncL
end Oratio
