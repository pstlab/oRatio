/-
Facts that no model type enters (core Lean only), most of them about lists as the models use them: read with a
default, searched by key, written as the containers of the C++ (`unordered_map::emplace`,
`std::set::insert` / `std::map::emplace`, the insertion step of a stable `std::sort`, a matrix as a list of rows).
-/

namespace Oratio.ListAux

section getD
variable {α : Type}

theorem getD_set (l : List α) (i j : Nat) (x d : α) :
    (l.set i x).getD j d = if i = j ∧ i < l.length then x else l.getD j d := by
  simp only [List.getD_eq_getElem?_getD, List.getElem?_set]
  by_cases h : i = j
  · subst h
    by_cases hl : i < l.length
    · simp [hl]
    · simp [hl]
  · simp [h]

theorem getD_set_self (l : List α) (i : Nat) (x d : α) (h : i < l.length) : (l.set i x).getD i d = x := by
  rw [getD_set, if_pos ⟨rfl, h⟩]

theorem getD_set_ne (l : List α) (i j : Nat) (x d : α) (h : i ≠ j) : (l.set i x).getD j d = l.getD j d := by
  rw [getD_set, if_neg fun c => h c.1]

theorem getD_set_default (l : List α) (i j : Nat) (d : α) : (l.set i d).getD j d = if i = j then d else l.getD j d := by
  rw [getD_set]
  by_cases h : i = j
  · subst h
    by_cases hl : i < l.length
    · rw [if_pos ⟨rfl, hl⟩, if_pos rfl]
    · rw [if_neg fun c => hl c.2, if_pos rfl, List.getD_eq_getElem?_getD, List.getElem?_eq_none (Nat.le_of_not_lt hl)]
      rfl
  · rw [if_neg fun c => h c.1, if_neg h]

/-- what `pop_one()` does to the value / level / reason vectors, iterated over the positions `is` -/
def resetAt (d : α) (is : List Nat) (l : List α) : List α := is.foldl (fun l i => l.set i d) l

theorem length_resetAt (d : α) (is : List Nat) (l : List α) : (resetAt d is l).length = l.length := by
  induction is generalizing l with
  | nil => rfl
  | cons i is ih => rw [resetAt, List.foldl_cons, ← resetAt, ih, List.length_set]

theorem getD_resetAt (d : α) (is : List Nat) (l : List α) (j : Nat) :
    (resetAt d is l).getD j d = if j ∈ is then d else l.getD j d := by
  induction is generalizing l with
  | nil => simp [resetAt]
  | cons i is ih =>
    rw [resetAt, List.foldl_cons, ← resetAt, ih, getD_set_default]
    by_cases h : i = j
    · simp [h]
    · simp [h, Ne.symm h]

/-- `resize` of the value / level / reason / watch vectors -/
theorem getD_append_replicate (l : List α) (n i : Nat) (d : α) : (l ++ List.replicate n d).getD i d = l.getD i d := by
  simp only [List.getD_eq_getElem?_getD, List.getElem?_append, List.getElem?_replicate]
  split
  · rfl
  · rename_i h
    rw [List.getElem?_eq_none (Nat.le_of_not_lt h)]
    split <;> rfl

theorem getD_append_default (l : List α) (i : Nat) (d : α) : (l ++ [d]).getD i d = l.getD i d :=
  getD_append_replicate l 1 i d

theorem lt_of_getD_ne {l : List α} {i : Nat} {d : α} (h : l.getD i d ≠ d) : i < l.length := by
  refine Nat.lt_of_not_le fun hle => h ?_
  rw [List.getD_eq_getElem?_getD, List.getElem?_eq_none hle]
  rfl

theorem ext_getD {l1 l2 : List α} (d : α) (hlen : l1.length = l2.length) (h : ∀ v, l1.getD v d = l2.getD v d) :
    l1 = l2 := by
  refine List.ext_getElem hlen fun i h1 h2 => ?_
  have := h i
  rwa [List.getD_eq_getElem?_getD, List.getD_eq_getElem?_getD, List.getElem?_eq_getElem h1,
    List.getElem?_eq_getElem h2] at this

end getD

section fold
variable {σ α β : Type}

theorem foldl_inv (P : σ → Prop) (f : σ → α → σ) (hf : ∀ s a, P s → P (f s a)) (l : List α) (s : σ) (h : P s) :
    P (l.foldl f s) :=
  List.foldlRecOn l f h fun s hs a _ => hf s a hs

theorem mem_foldl (M : σ → β → Prop) (f : σ → α → σ) (Q : α → β → Prop)
    (step : ∀ s a b, M (f s a) b ↔ M s b ∨ Q a b) :
    ∀ (l : List α) (s : σ) (b : β), M (l.foldl f s) b ↔ M s b ∨ ∃ a ∈ l, Q a b
  | [], s, b => by simp
  | a :: l, s, b => by
    rw [List.foldl_cons, mem_foldl M f Q step l, step, or_assoc]
    simp only [List.mem_cons, exists_eq_or_imp]

end fold

/-! ### association lists searched by key

`(m.find? (fun e => e.1 == k)).map (·.2)` is how the model reads every `std::map` / `unordered_map`
(`findKey`, `lookupVal`, `lookupPair`, `rowOf`, `asrtOf`, `atPulse`, the request maps of the executor). -/

section assoc
variable {κ β : Type} [BEq κ] [LawfulBEq κ]

abbrev lookupBy (m : List (κ × β)) (k : κ) : Option β := (m.find? (fun e => e.1 == k)).map (·.2)

omit [LawfulBEq κ] in
theorem lookupBy_cons (e : κ × β) (m : List (κ × β)) (k : κ) :
    lookupBy (e :: m) k = if e.1 == k then some e.2 else lookupBy m k := by
  unfold lookupBy
  rw [List.find?_cons]
  cases e.1 == k <;> rfl

theorem lookupBy_eq_none {m : List (κ × β)} {k : κ} : lookupBy m k = none ↔ ∀ e ∈ m, e.1 ≠ k := by
  simp [lookupBy, List.find?_eq_none]

theorem mem_of_lookupBy {m : List (κ × β)} {k : κ} {v : β} (h : lookupBy m k = some v) : (k, v) ∈ m := by
  obtain ⟨e, he, rfl⟩ := Option.map_eq_some_iff.1 h
  have hk : e.1 = k := by simpa using List.find?_some he
  exact hk ▸ List.mem_of_find?_eq_some he

theorem lookupBy_of_mem {m : List (κ × β)} (hk : (m.map (·.1)).Nodup) {k : κ} {v : β} (h : (k, v) ∈ m) :
    lookupBy m k = some v := by
  induction m with
  | nil => cases h
  | cons e m ih =>
    rw [List.map_cons, List.nodup_cons] at hk
    rw [lookupBy_cons]
    rcases List.mem_cons.1 h with h | h
    · subst h; simp
    · have hne : ¬ (e.1 == k) = true := fun e1 => hk.1 (eq_of_beq e1 ▸ List.mem_map.2 ⟨(k, v), h, rfl⟩)
      rw [if_neg hne]
      exact ih hk.2 h

theorem lookupBy_isSome {m : List (κ × β)} {k : κ} : (lookupBy m k).isSome ↔ ∃ e ∈ m, e.1 = k := by
  rw [Option.isSome_iff_ne_none, Ne, lookupBy_eq_none]
  simp only [ne_eq, Classical.not_forall, Classical.not_not, exists_prop]

/-- `unordered_map::emplace`; the model's `Lra.emplaceKey`, `Ov.emplace` and `Exec.insertReq` are this function, by `rfl` -/
def emplace (m : List (κ × β)) (k : κ) (v : β) : List (κ × β) :=
  if m.any (fun e => e.1 == k) then m else m ++ [(k, v)]

theorem emplace_eq (m : List (κ × β)) (k : κ) (v : β) :
    emplace m k v = if lookupBy m k = none then m ++ [(k, v)] else m := by
  unfold emplace
  by_cases h : m.any (fun e => e.1 == k) = true
  · rw [if_pos h, if_neg]
    obtain ⟨e, he, hk⟩ := List.any_eq_true.1 h
    exact fun c => lookupBy_eq_none.1 c e he (by simpa using hk)
  · rw [if_neg h, if_pos]
    refine lookupBy_eq_none.2 fun e he hk => h (List.any_eq_true.2 ⟨e, he, by simp [hk]⟩)

theorem mem_emplace {m : List (κ × β)} {k : κ} {v : β} {e : κ × β} :
    e ∈ emplace m k v ↔ e ∈ m ∨ (e = (k, v) ∧ lookupBy m k = none) := by
  rw [emplace_eq]
  split
  · rename_i h; simp [h]
  · rename_i h; simp [h]

omit [LawfulBEq κ] in
theorem lookupBy_append (m m' : List (κ × β)) (k : κ) : lookupBy (m ++ m') k = (lookupBy m k).or (lookupBy m' k) := by
  induction m with
  | nil => simp [lookupBy]
  | cons e m ih =>
    rw [List.cons_append, lookupBy_cons, lookupBy_cons, ih]
    split <;> rfl

theorem lookupBy_emplace (m : List (κ × β)) (k k' : κ) (v : β) :
    lookupBy (emplace m k v) k' = (lookupBy m k').or (if k == k' then some v else none) := by
  rw [emplace_eq]
  split
  · rw [lookupBy_append, lookupBy_cons]; rfl
  · rename_i h
    by_cases hk : k = k'
    · subst hk
      cases hl : lookupBy m k with
      | none => exact absurd hl h
      | some w => rfl
    · rw [if_neg (by simpa using hk), Option.or_none]

theorem keys_emplace_nodup {m : List (κ × β)} (k : κ) (v : β) (h : (m.map (·.1)).Nodup) :
    ((emplace m k v).map (·.1)).Nodup := by
  rw [emplace_eq]
  split
  · rename_i hn
    rw [List.map_append, List.nodup_append]
    refine ⟨h, (List.pairwise_singleton _ _), ?_⟩
    rintro a ha b hb rfl
    obtain ⟨e, he, rfl⟩ := List.mem_map.1 ha
    exact lookupBy_eq_none.1 hn e he (by simpa using hb)
  · exact h

end assoc

/-! ### `std::set::insert` / `std::map::emplace`: sorted insertion that keeps an existing key

The model writes it five times (`Sweep.insertPulse`, `Lra.setInsert`, `Lra.tabInsert`, `Lin.insert`,
`Dl.emplacePair`): entries `α` read by `key`, a strict order `lt` on the keys. -/

section insertK
variable {α κ : Type} (key : α → κ) (lt : κ → κ → Prop) [DecidableRel lt] [DecidableEq κ]

def insertK (x : α) : List α → List α
  | [] => [x]
  | y :: t => if lt (key x) (key y) then x :: y :: t else if key x = key y then y :: t else y :: insertK x t

variable {key lt}

theorem mem_insertK_sub {x y : α} {l : List α} (h : y ∈ insertK key lt x l) : y ∈ l ∨ y = x := by
  induction l with
  | nil => exact .inr (List.mem_singleton.1 h)
  | cons z t ih =>
    unfold insertK at h
    split at h
    · exact (List.mem_cons.1 h).symm
    · split at h
      · exact .inl h
      · exact (List.mem_cons.1 h).elim (fun e => .inl (e ▸ List.mem_cons_self))
          fun h => (ih h).imp_left (List.mem_cons_of_mem _)

theorem mem_insertK_of_mem {x y : α} {l : List α} (h : y ∈ l) : y ∈ insertK key lt x l := by
  induction l with
  | nil => cases h
  | cons z t ih =>
    unfold insertK
    split
    · exact List.mem_cons_of_mem _ h
    · split
      · exact h
      · exact (List.mem_cons.1 h).elim (fun e => e ▸ List.mem_cons_self) fun h => List.mem_cons_of_mem _ (ih h)

theorem exists_key_insertK (x : α) (l : List α) : ∃ e ∈ insertK key lt x l, key e = key x := by
  induction l with
  | nil => exact ⟨x, List.mem_singleton.2 rfl, rfl⟩
  | cons z t ih =>
    unfold insertK
    split
    · exact ⟨x, List.mem_cons_self, rfl⟩
    · split
      · rename_i h; exact ⟨z, List.mem_cons_self, h.symm⟩
      · obtain ⟨e, he, hk⟩ := ih; exact ⟨e, List.mem_cons_of_mem _ he, hk⟩

theorem mem_insertK_iff {x y : α} {l : List α} (h : ∀ e ∈ l, key e ≠ key x) :
    y ∈ insertK key lt x l ↔ y ∈ l ∨ y = x := by
  refine ⟨mem_insertK_sub, fun h' => h'.elim mem_insertK_of_mem fun e => ?_⟩
  obtain ⟨e', he', hk⟩ := exists_key_insertK (key := key) (lt := lt) x l
  rcases mem_insertK_sub he' with h1 | rfl
  · exact absurd hk (h e' h1)
  · exact e ▸ he'

theorem mem_insertK_id {lt : α → α → Prop} [DecidableRel lt] [DecidableEq α] {x y : α} {l : List α} :
    y ∈ insertK id lt x l ↔ y = x ∨ y ∈ l := by
  refine ⟨fun h => (mem_insertK_sub h).symm, fun h => h.elim (fun e => ?_) mem_insertK_of_mem⟩
  obtain ⟨e', he', hk⟩ := exists_key_insertK (key := id) (lt := lt) x l
  cases (show e' = x from hk)
  exact e.symm ▸ he'

theorem sorted_insertK (trans : ∀ {a b c : κ}, lt a b → lt b c → lt a c)
    (total : ∀ {a b : κ}, ¬ lt a b → a ≠ b → lt b a) (x : α) {l : List α}
    (h : l.Pairwise (fun a b => lt (key a) (key b))) : (insertK key lt x l).Pairwise (fun a b => lt (key a) (key b)) := by
  induction l with
  | nil => exact List.pairwise_singleton _ _
  | cons z t ih =>
    have h' := List.pairwise_cons.1 h
    unfold insertK
    split
    · rename_i hxz
      exact List.Pairwise.cons (List.forall_mem_cons.2 ⟨hxz, fun e he => trans hxz (h'.1 e he)⟩) h
    · split
      · exact h
      · rename_i h1 h2
        refine List.Pairwise.cons (fun e he => ?_) (ih h'.2)
        rcases mem_insertK_sub he with he | rfl
        · exact h'.1 e he
        · exact total h1 h2

theorem insertK_split (x : α) : ∀ {m : List α}, (∀ e ∈ m, key e ≠ key x) → ∃ l r, m = l ++ r ∧ insertK key lt x m = l ++ x :: r
  | [], _ => ⟨[], [], rfl, rfl⟩
  | y :: t, h => by
    unfold insertK
    split
    · exact ⟨[], y :: t, rfl, rfl⟩
    · rw [if_neg (Ne.symm (h y List.mem_cons_self))]
      obtain ⟨l, r, e, hi⟩ := insertK_split x fun e he => h e (List.mem_cons_of_mem _ he)
      exact ⟨y :: l, r, by rw [e]; rfl, by rw [hi]; rfl⟩

theorem lookupBy_insertK {β : Type} [BEq κ] [LawfulBEq κ] {lt : κ → κ → Prop} [DecidableRel lt] {m : List (κ × β)} {k : κ}
    (v : β) (k' : κ) (h : lookupBy m k = none) :
    lookupBy (insertK Prod.fst lt (k, v) m) k' = if k' = k then some v else lookupBy m k' := by
  have hne := lookupBy_eq_none.1 h
  obtain ⟨l, r, rfl, hi⟩ := insertK_split (key := Prod.fst) (lt := lt) (k, v) hne
  rw [hi, lookupBy_append, lookupBy_append, lookupBy_cons]
  by_cases hk : k' = k
  · subst hk
    rw [lookupBy_eq_none.2 fun e he => hne e (List.mem_append_left _ he), if_pos rfl, if_pos (beq_self_eq_true _)]
    rfl
  · rw [if_neg hk, if_neg (by simpa using Ne.symm hk)]

end insertK

/-! ### the insertion step of a stable sort (`std::sort` as modelled): before the first element that is not smaller

`Enc.insertByVar`, `Enc.insertByIdx` (`le a b := key a ≤ key b`) and `Sat.insertByLevel` (`le a b := lvl a ≥ lvl b`). -/

section insertBy
variable {α : Type} (le : α → α → Prop) [DecidableRel le]

def insertBy (x : α) : List α → List α
  | [] => [x]
  | y :: t => if le x y then x :: y :: t else y :: insertBy x t

variable {le}

theorem insertBy_perm (x : α) : ∀ l : List α, (insertBy le x l).Perm (x :: l)
  | [] => List.Perm.refl _
  | y :: t => by
    unfold insertBy
    split
    · exact List.Perm.refl _
    · exact ((insertBy_perm x t).cons y).trans (List.Perm.swap x y t)

theorem sortBy_perm (l : List α) : (l.foldr (insertBy le) []).Perm l := by
  induction l with
  | nil => exact List.Perm.refl _
  | cons x t ih => exact (insertBy_perm x _).trans (ih.cons x)

theorem insertBy_sorted (trans : ∀ {a b c : α}, le a b → le b c → le a c) (total : ∀ {a b : α}, ¬ le a b → le b a)
    (x : α) {l : List α} (h : l.Pairwise le) : (insertBy le x l).Pairwise le := by
  induction l with
  | nil => exact List.pairwise_singleton _ _
  | cons y t ih =>
    have h' := List.pairwise_cons.1 h
    unfold insertBy
    split
    · rename_i hxy
      exact List.Pairwise.cons (List.forall_mem_cons.2 ⟨hxy, fun e he => trans hxy (h'.1 e he)⟩) h
    · rename_i hxy
      refine List.Pairwise.cons (fun e he => ?_) (ih h'.2)
      rcases List.mem_cons.1 ((insertBy_perm x t).mem_iff.1 he) with rfl | he
      · exact total hxy
      · exact h'.1 e he

theorem sortBy_sorted (trans : ∀ {a b c : α}, le a b → le b c → le a c) (total : ∀ {a b : α}, ¬ le a b → le b a)
    (l : List α) : (l.foldr (insertBy le) []).Pairwise le := by
  induction l with
  | nil => exact List.Pairwise.nil
  | cons x t ih => exact insertBy_sorted (le := le) trans total x ih

end insertBy

/-! ### the pairs of positions `i < j` of a list, in the order of two nested loops

`Enc.pairs` (`new_at_most_one`) and `Sweep.pairsOf` (the pairs a sweep reports) are this function. -/

section pairs
variable {α : Type}

def pairs : List α → List (α × α)
  | [] => []
  | a :: t => t.map (fun b => (a, b)) ++ pairs t

theorem pairs_getElem : ∀ {l : List α} {i j : Nat} (hij : i < j) (hj : j < l.length),
    (l[i]'(Nat.lt_trans hij hj), l[j]) ∈ pairs l
  | _ :: _, 0, _ + 1, _, hj =>
    List.mem_append_left _ (List.mem_map.2 ⟨_, List.getElem_mem (Nat.lt_of_succ_lt_succ hj), rfl⟩)
  | _ :: _, _ + 1, _ + 1, hij, hj =>
    List.mem_append_right _ (pairs_getElem (Nat.lt_of_succ_lt_succ hij) (Nat.lt_of_succ_lt_succ hj))

theorem mem_pairs_of_ne {a b : α} {l : List α} (ha : a ∈ l) (hb : b ∈ l) (hab : a ≠ b) :
    (a, b) ∈ pairs l ∨ (b, a) ∈ pairs l := by
  obtain ⟨i, hi, rfl⟩ := List.getElem_of_mem ha
  obtain ⟨j, hj, rfl⟩ := List.getElem_of_mem hb
  rcases Nat.lt_trichotomy i j with h | rfl | h
  · exact Or.inl (pairs_getElem h hj)
  · exact absurd rfl hab
  · exact Or.inr (pairs_getElem h hi)

theorem of_mem_pairs {a b : α} : ∀ {l : List α}, (a, b) ∈ pairs l → a ∈ l ∧ b ∈ l ∧ (l.Nodup → a ≠ b)
  | x :: t, h => by
    simp only [pairs, List.mem_append, List.mem_map, Prod.mk.injEq] at h
    rcases h with ⟨y, hy, rfl, rfl⟩ | h
    · exact ⟨List.mem_cons_self, List.mem_cons_of_mem _ hy, fun hnd e => (List.nodup_cons.1 hnd).1 (e ▸ hy)⟩
    · obtain ⟨h1, h2, h3⟩ := of_mem_pairs h
      exact ⟨List.mem_cons_of_mem _ h1, List.mem_cons_of_mem _ h2, fun hnd => h3 (List.nodup_cons.1 hnd).2⟩

end pairs

theorem repeat_succ' {α : Type} (f : α → α) : ∀ (k : Nat) (a : α), Nat.repeat f (k + 1) a = Nat.repeat f k (f a)
  | 0, _ => rfl
  | k + 1, a => congrArg f (repeat_succ' f k a)

theorem eq_some_getD {α : Type} {o : Option α} (d : α) (h : o.isSome = true) : o = some (o.getD d) := by
  cases o with
  | none => cases h
  | some a => rfl

end Oratio.ListAux

/- A matrix as the list of its rows (`std::vector<std::vector<…>>`): one cell read, one cell written. The names are
those of the undo logs (`Lemmas/Undo.lean`), which record old cells. -/
namespace Oratio.Undo
variable {β : Type}

def cell (D : List (List β)) (i j : Nat) : Option β := (D.getD i [])[j]?

def setM (D : List (List β)) (i j : Nat) (x : β) : List (List β) := D.set i ((D.getD i []).set j x)

theorem cell_setM (D : List (List β)) (i j a b : Nat) (x : β) :
    cell (setM D i j x) a b = if a = i ∧ b = j then (cell D a b).map (fun _ => x) else cell D a b := by
  unfold cell setM
  simp only [List.getD_eq_getElem?_getD, List.getElem?_set]
  by_cases ha : i = a
  · subst ha
    by_cases hi : i < D.length
    · simp only [hi, if_true, true_and, Option.getD_some, List.getElem?_set]
      by_cases hb : j = b
      · subst hb
        by_cases hj : j < (D[i]?.getD []).length
        · simp [hj]
        · simp [hj]
      · have : ¬ b = j := fun e => hb e.symm
        simp [hb, this]
    · simp only [hi, if_false, true_and]
      have : D[i]? = none := List.getElem?_eq_none (Nat.le_of_not_lt hi)
      simp [this]
  · have : ¬ a = i := fun e => ha e.symm
    simp [ha, this]

theorem shape_setM (D : List (List β)) (i j : Nat) (x : β) :
    (setM D i j x).map List.length = D.map List.length := by
  unfold setM
  apply List.ext_getElem?
  intro n
  simp only [List.getElem?_map, List.getElem?_set, List.getD_eq_getElem?_getD]
  by_cases h : i = n
  · subst h
    by_cases hi : i < D.length
    · simp [hi]
    · simp [hi]
  · simp [h]

end Oratio.Undo
