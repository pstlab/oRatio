/-
C07N: what keeps the soundness invariant of the SAT core under the network (`SInv`: the weak well-formedness `WfS`, `Ent`,
`DecOK`): `record` with a possibly non-empty propagation queue (theory lemmas are recorded in the middle of propagation) and
FALSE_lit / repeated literals allowed, the learning step, and runs of well-shaped `record`s (`Recs`: what the theories do).
-/
import OratioProofs.Lemmas.NetSatVisit
import OratioProofs.Lemmas.SatCoreCons
import OratioProofs.Lemmas.SatCoreMain
import OratioProofs.Lemmas.SatRecBy

namespace Oratio
namespace Sat

theorem WfS.record {t : Sat} (hw : t.WfS) {l0 : Lit} {rest : List Lit} (hv : t.value l0 = none)
    (hlt : l0.var < t.vals.length) (hrest : ∀ x ∈ rest, x.neg ∈ t.trail ∨ x = Lit.falseLit)
    (h0 : rest = [] → t.decisionLevel = 0 ∨ ∀ x ∈ t.trail, t.lvl x < t.decisionLevel) : (t.record (l0 :: rest)).WfS := by
  have hu : (t.logged (l0 :: rest)).WfS := hw.of_eq rfl rfl rfl rfl rfl rfl rfl rfl rfl rfl rfl
  rcases record_eq rest hv with ⟨hnil, e⟩ | ⟨z, zs, hperm, _, e⟩ <;> rw [e]
  · exact hu.enq hv hlt (fun _ => h0 hnil) (fun id e => by cases e)
  · have hzt : ∀ x ∈ z :: zs, x.neg ∈ t.trail ∨ x = Lit.falseLit := fun x hx => hrest x (hperm.mem_iff.1 hx)
    have hwf := hu.addClause (l0 := l0) (l1 := z) (rest := zs) (fun l hl => by
      rcases List.mem_cons.1 hl with rfl | hl
      · exact hlt
      · rcases hzt l hl with h | h
        · exact hw.a.trail_lt (l := l.neg) h
        · rw [h]; exact hw.zero_lt)
    refine hwf.enq hv hlt (fun e => by cases e) (fun id e => ?_)
    rw [← Option.some.inj e]
    exact ⟨z :: zs, List.mem_append_right _ (List.mem_singleton.2 rfl), hzt⟩

theorem record_wfs {orig K : Cnf} {m : Nat} {t : Sat} (hw : t.WfS) (he : t.Ent orig K) (hd : t.DecOK m)
    (l0 : Lit) (rest : List Lit) (hv : t.value l0 = none) (hlt : l0.var < t.vals.length)
    (hrest : ∀ x ∈ rest, x.neg ∈ t.trail ∨ x = Lit.falseLit)
    (h0 : rest = [] → t.decisionLevel = 0 ∨ ∀ x ∈ t.trail, t.lvl x < t.decisionLevel)
    (hent : Ents orig (l0 :: rest)) :
    (t.record (l0 :: rest)).WfS ∧ (t.record (l0 :: rest)).Ent orig K ∧ (t.record (l0 :: rest)).DecOK m ∧
      RecRel t (t.record (l0 :: rest)) (l0 :: rest) l0 :=
  have hs := record_sem hw.a he hd hv hlt hrest h0 hent
  ⟨hw.record hv hlt hrest h0, hs.2.1, hs.2.2, record_rel hw.a rest hv⟩

theorem record_wfs_keeps {orig K : Cnf} {m : Nat} {t : Sat} (hw : t.WfS) (he : t.Ent orig K) (hd : t.DecOK m)
    (l0 : Lit) (rest : List Lit) (hv : t.value l0 = none) (hlt : l0.var < t.vals.length)
    (hrest : ∀ x ∈ rest, x.neg ∈ t.trail ∨ x = Lit.falseLit)
    (h0' : rest = [] → t.decisionLevel = 0)
    (hent : Ents orig (l0 :: rest)) :
    (t.record (l0 :: rest)).WfS ∧ (t.record (l0 :: rest)).Ent orig (K ++ [l0 :: rest]) ∧ (t.record (l0 :: rest)).DecOK m ∧
      RecRel t (t.record (l0 :: rest)) (l0 :: rest) l0 := by
  have h0 : rest = [] → t.decisionLevel = 0 ∨ ∀ x ∈ t.trail, t.lvl x < t.decisionLevel := fun e => Or.inl (h0' e)
  obtain ⟨_, he', hd'⟩ := record_sem hw.a he hd hv hlt hrest h0 hent
  exact ⟨hw.record hv hlt hrest h0, he'.keeps_add _ (fun _ α _ => record_keeps hw.a hv hlt h0'), hd', record_rel hw.a rest hv⟩

/-- the soundness invariant of the SAT core under the network, bundled -/
structure SInv (orig K : Cnf) (s : Sat) : Prop where
  wf : s.WfS
  ent : s.Ent orig K
  dec : ∀ m, s.DecOK m

theorem InvB.toS {orig : Cnf} {s : Sat} (h : InvB orig s) (h0 : s.level.getD 0 0 = 0) : SInv orig orig s :=
  ⟨(h.inv 0).wf.toS h0, (h.inv 0).ent, fun m => (h.inv m).dec⟩

theorem SInv.mono_orig {orig orig' K : Cnf} {s : Sat} (h : SInv orig K s) (hs : ∀ d ∈ orig, d ∈ orig') : SInv orig' K s :=
  ⟨h.wf, h.ent.mono_orig hs, h.dec⟩

theorem learn_wfs {orig K : Cnf} {m : Nat} {s : Sat} (hw : s.WfS) (he : s.Ent orig K) (hd : s.DecOK m) (hq : s.queue = [])
    (hL : 0 < s.decisionLevel) {cnfl : Clause} (hcE : Ents orig cnfl)
    (hcF : ∀ l ∈ cnfl, l.neg ∈ s.trail ∨ l = Lit.falseLit)
    (hcL : ∃ l ∈ cnfl, l.neg ∈ s.trail ∧ s.lvl l = s.decisionLevel) {noGood : List Lit} {bt : Nat} {s3 : Sat}
    (han : s.analyze cnfl = some (noGood, bt, s3)) :
    ∃ l0 rest, Learnt orig (fun t => t.WfS ∧ t.Ent orig K ∧ t.DecOK m) s noGood bt s3 l0 rest ∧
      ((s3.popTo bt).record noGood).WfS ∧ ((s3.popTo bt).record noGood).Ent orig K ∧
      ((s3.popTo bt).record noGood).DecOK m := by
  obtain ⟨l0, rest, r⟩ := analyze_learnt (Q := fun t => t.WfS ∧ t.Ent orig K ∧ t.DecOK m) hw.a hw.ids hw.reasonsOK he hq hL
    (fun _ a => a.1.a) (fun _ ⟨a, b, c⟩ e _ => ⟨a.pop e, b.pop a.a, c.pop a.a⟩) ⟨hw.pop hq, he.pop hw.a, hd.pop hw.a⟩ hcE
    (fun l hl => (hcF l hl).imp_right (skip_falseLit hw.lvl0)) hcL han
  obtain ⟨r1, r2, r3, _⟩ := record_wfs r.inv.1 r.inv.2.1 r.inv.2.2 l0 rest r.undef r.range (fun x hx => .inl (r.restF x hx))
    (fun e => .inl (r.root e)) r.ent
  exact ⟨l0, rest, r, by rw [r.same, r.lits]; exact ⟨r1, r2, r3⟩⟩

/-- the shape of a clause handed to `record` by a theory -/
def GoodRec (s : Sat) (c : Clause) : Prop :=
  ∃ l0 rest, c = l0 :: rest ∧ s.value l0 = none ∧ l0.var < s.vals.length ∧ (∀ x ∈ rest, s.value x = some false) ∧ rest ≠ []

inductive Recs : Sat → List Clause → Sat → Prop
  | refl (s : Sat) : Recs s [] s
  | step {s s1 : Sat} {new : List Clause} {c : Clause} : Recs s new s1 → GoodRec s1 c → Recs s (new ++ [c]) (s1.record c)

theorem RecBy.recs {s s' : Sat} (h : RecBy GoodRec s s') : ∃ new, Recs s new s' := by
  induction h with
  | refl => exact ⟨[], .refl _⟩
  | step _ hc ih => exact ih.elim fun _ r => ⟨_, .step r hc⟩

theorem ext_recs {s s' : Sat} {new : List Clause} (h : Recs s new s') : Ext new s s' := by
  induction h with
  | refl => exact .refl _
  | step _ _ ih => exact ih.trans (ext_record _ _)

structure RecsRel (s s' : Sat) (new : List Clause) : Prop where
  log : s'.log = s.log ++ new
  dead : s'.dead = s.dead
  decisions : s'.decisions = s.decisions
  trailLim : s'.trailLim = s.trailLim
  lenVals : s'.vals.length = s.vals.length
  exprs : s'.exprs = s.exprs
  trail : s.trail <:+ s'.trail
  keep : AssignedKeep s s'
  queue : s.queue <+: s'.queue

theorem recs_wfs {orig K : Cnf} {m : Nat} {s s' : Sat} {new : List Clause} (hw : s.WfS) (he : s.Ent orig K) (hd : s.DecOK m)
    (hr : Recs s new s') (hent : ∀ c ∈ new, Ents orig c) : (s'.WfS ∧ s'.Ent orig K ∧ s'.DecOK m) ∧ RecsRel s s' new := by
  have e := ext_recs hr
  suffices h : (s'.WfS ∧ s'.Ent orig K ∧ s'.DecOK m) ∧ s.queue <+: s'.queue from
    ⟨h.1, e.log, e.grow.dead, e.grow.decisions, e.grow.trailLim, e.lenVals, e.grow.exprs, e.trail, e.keep, h.2⟩
  clear e
  induction hr with
  | refl => exact ⟨⟨hw, he, hd⟩, List.prefix_refl _⟩
  | @step s1 new c hr1 hg ih =>
    obtain ⟨⟨w1, e1, d1⟩, q1⟩ := ih (fun c hc => hent c (List.mem_append_left _ hc))
    obtain ⟨l0, rest, rfl, hv, hlt, hf, hne⟩ := hg
    obtain ⟨w, e, d, rr⟩ := record_wfs w1 e1 d1 l0 rest hv hlt (fun x hx => w1.a.value_false.1 (hf x hx))
      (fun e => absurd e hne) (hent (l0 :: rest) (List.mem_append_right _ (List.mem_singleton.2 rfl)))
    exact ⟨⟨w, e, d⟩, by rw [rr.queue]; exact q1.trans (List.prefix_append _ _)⟩

theorem pop_keeps {s : Sat} (hw : s.WfS) (hne : s.trailLim ≠ []) (v : Nat) (b : Bool)
    (hv : s.vals.getD v none = some b) (hl : s.level.getD v 0 < s.decisionLevel) :
    s.pop.vals.getD v none = some b ∧ s.pop.level.getD v 0 = s.level.getD v 0 := by
  cases hlim : s.trailLim with
  | nil => exact absurd hlim hne
  | cons lim lims =>
    obtain ⟨hp, _, _⟩ := pop_spec hlim
    obtain ⟨hm, hk, _⟩ := hw.a.pop_mem hlim
    rcases hw.a.valTrail v b hv with rfl | ht
    · have := hp.keep 0 (fun p hp' => (hw.a.trailVal p (List.mem_of_mem_take hp')).2)
      exact ⟨by rw [this.1]; exact hv, this.2.1⟩
    · have hpt : (⟨v, b⟩ : Lit) ∈ s.pop.trail := (hm _).2 ⟨ht, hl⟩
      have := hk _ (Or.inl hpt)
      refine ⟨?_, this.2⟩
      have h1 : s.value ⟨v, b⟩ = some true := value_eq_true.2 hv
      rw [← this.1] at h1
      exact value_eq_true.1 h1

end Sat
end Oratio
