/-
C07NC, non-vacuity: after the history `NetEx3.hist` (from `Net.init`; level 1, decision `b2`, `¬b3` propagated, one
tableau row) `check [b2, b4]` is run.  `b2` is ALREADY TRUE: `assume b2` opens level 2 and puts nothing on the trail,
so `DecOK 2` fails of the network `mid` after the first round; `b4` is then assumed at level 3 (it propagates
`b5 := b2 ∧ b4`), `check` answers `true` and pops back to level 1.  The side conditions `CheckGuard` are established by
evaluation (`ccB_sound`).
-/
import OratioProofs.Lemmas.NetCheckLoop
import OratioProofs.Lemmas.NetHistoryEx3

namespace Oratio
namespace NetCheckEx
open Net Sat NetCheck

def n0 : Net := (NetEx3.st 10).n

def b2 : Lit := ⟨2, true⟩
def b4 : Lit := ⟨4, true⟩

/-- round 1: after `assume b2` / after the `propagate` that follows -/
def a1 : Net := ((n0.assume b2 100).getD (false, Net.init)).2
def mid : Net := ((a1.propagate 100).getD (false, Net.init)).2
/-- round 2 -/
def a3 : Net := ((mid.assume b4 100).getD (false, Net.init)).2
def a4 : Net := ((a3.propagate 100).getD (false, Net.init)).2
/-- the network `check` returns -/
def final : Net := Net.popTo a4 1

-- the elaborator must not run the model (its evaluator is slow); the kernel does, once, in `evals`
attribute [local irreducible] NetRun.steps Net.assume Net.propagate Net.check.go ccB ConflictsCurrent CheckGuard

theorem evals :
    ((n0.assume b2 100).map (·.1) = some true ∧ (a1.propagate 100).map (·.1) = some true ∧
      (mid.assume b4 100).map (·.1) = some true ∧ (a3.propagate 100).map (·.1) = some true) ∧
    (n0.sat.decisionLevel < mid.sat.decisionLevel ∧ mid.sat.decisionLevel < a4.sat.decisionLevel) ∧
    (b2.var < n0.sat.nvars ∧ ccB (startOf n0 b2) 100 = true ∧ ccB a1 100 = true ∧
      b4.var < mid.sat.nvars ∧ ccB (startOf mid b4) 100 = true ∧ ccB a3 100 = true) ∧
    ((NetEx3.st 10).n.sat.queue = [] ∧ (NetEx3.st 10).n.sat.dead = false ∧ (NetEx3.st 10).n.sat.decisionLevel = 1 ∧
      (NetEx3.st 10).n.sat.value ⟨2, true⟩ = some true ∧ (NetEx3.st 10).n.sat.value ⟨4, true⟩ = none) ∧
    n0.sat.decisionLevel = 1 ∧
    (mid.sat.decisionLevel = 2 ∧ mid.sat.decisions = [⟨2, true⟩, ⟨2, true⟩] ∧ mid.sat.lvl ⟨2, true⟩ ≠ 2) ∧
    final.sat.decisionLevel = 1 := by
  decide +kernel

theorem eq_some_getD {o : Option (Bool × Net)} (h : o.map (·.1) = some true) :
    o = some (true, (o.getD (false, Net.init)).2) := by
  obtain ⟨⟨b, n⟩, rfl, e⟩ := Option.map_eq_some_iff.1 h
  cases e
  rfl

-- the kernel compares a constant with a projection of a closed term by evaluating the term: unfold by `rw` instead
theorem e1 : n0.assume b2 100 = some (true, a1) := by rw [a1]; exact eq_some_getD evals.1.1
theorem e2 : a1.propagate 100 = some (true, mid) := by rw [mid]; exact eq_some_getD evals.1.2.1
theorem e3 : mid.assume b4 100 = some (true, a3) := by rw [a3]; exact eq_some_getD evals.1.2.2.1
theorem e4 : a3.propagate 100 = some (true, a4) := by rw [a4]; exact eq_some_getD evals.1.2.2.2

theorem run : Net.check (NetEx3.st 10).n [⟨2, true⟩, ⟨4, true⟩] 100 = some (true, final) := by
  have h : Net.check.go 100 n0.sat.decisionLevel n0 [b2, b4] = some (true, final) := by
    rw [check_go_cons e1 e2 evals.2.1.1, check_go_cons e3 e4 evals.2.1.2, Net.check.go, evals.2.2.2.2.1, final]
  rwa [n0, b2, b4] at h

theorem guard : CheckGuard 100 (NetEx3.st 10).n [⟨2, true⟩, ⟨4, true⟩] := by
  have ⟨v2, g1, g2, v4, g3, g4⟩ := evals.2.2.1
  have h : CheckGuard 100 n0 [b2, b4] :=
    checkGuard_cons v2 (ccB_sound 100 _ g1) e1 (ccB_sound 100 _ g2) e2
      (checkGuard_cons v4 (ccB_sound 100 _ g3) e3 (ccB_sound 100 _ g4) e4 (by rw [CheckGuard]; trivial))
  rwa [n0, b2, b4] at h

theorem facts :
    ((NetEx3.st 10).n.sat.queue = [] ∧ (NetEx3.st 10).n.sat.dead = false ∧ (NetEx3.st 10).n.sat.decisionLevel = 1 ∧
      (NetEx3.st 10).n.sat.value ⟨2, true⟩ = some true ∧ (NetEx3.st 10).n.sat.value ⟨4, true⟩ = none) ∧
    (mid.sat.decisionLevel = 2 ∧ ¬ mid.sat.DecOK 2) ∧ final.sat.decisionLevel = 1 :=
  have ⟨m1, m2, m3⟩ := evals.2.2.2.2.2.1
  ⟨evals.2.2.2.1, ⟨m1, fun h => m3 (h [] ⟨2, true⟩ [⟨2, true⟩] m2 (by decide)).2⟩, evals.2.2.2.2.2.2⟩

end NetCheckEx
end Oratio
