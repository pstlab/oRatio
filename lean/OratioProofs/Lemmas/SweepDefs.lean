/-
The hypothesis on the atoms of a timeline under which properties C04 and C05 are stated.
-/
import OratioModel

namespace Oratio
open Sweep

def AtomsOk (as : List TAtom) : Prop := (as.map (·.id)).Nodup ∧ ∀ a ∈ as, tle a.start a.stop = true

end Oratio
