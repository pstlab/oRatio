/-
`learnFrom` (analyze + backjump + record) on a conflict clause that is T-entailed, over C07's STRONG structural
invariant `Sat.Wf` (`SatInv`).  The network does not keep `Wf` (Properties/C07Net.lean, `C07N_lra_not_pure`); its
invariant `NetInv` is over the weak `WfS`.
-/
import OratioProofs.Lemmas.NetInv

namespace Oratio
namespace Sat

theorem learn_spec {orig K : Cnf} {s : Sat} (hw : s.Wf) (he : s.Ent orig K) (hq : s.queue = [])
    (hL : 0 < s.decisionLevel) {cnfl : Clause} (hcE : Ents orig cnfl) (hcF : ∀ l ∈ cnfl, l.neg ∈ s.trail)
    (hcL : ∃ l ∈ cnfl, s.lvl l = s.decisionLevel) {noGood : List Lit} {bt : Nat} {s3 : Sat}
    (han : s.analyze cnfl = some (noGood, bt, s3)) :
    ∃ l0 rest, Learnt orig (fun t => t.Wf ∧ t.Ent orig K) s noGood bt s3 l0 rest ∧
      ((s3.popTo bt).record noGood).Wf ∧ ((s3.popTo bt).record noGood).Ent orig K := by
  obtain ⟨l0, rest, r⟩ := analyze_learnt (Q := fun t => t.Wf ∧ t.Ent orig K) hw.a hw.c.clsIdNodup hw.r.reasonsOK he hq hL
    (fun _ a => a.1.a) (fun _ ⟨a, b⟩ e _ => ⟨a.pop e, b.pop a.a⟩) ⟨hw.pop hq, he.pop hw.a⟩ hcE
    (fun l hl => .inl (hcF l hl)) (hcL.imp fun l h => ⟨h.1, hcF l h.1, h.2⟩) han
  refine ⟨l0, rest, r, ?_⟩
  rw [r.same, r.lits]
  exact ⟨r.inv.1.record r.undef r.range r.restF r.root r.nodup, (record_sem (m := 0) r.wfa r.inv.2
    (fun _ _ _ _ h => absurd h (Nat.not_lt_zero _)) r.undef r.range (fun x hx => .inl (r.restF x hx))
    (fun e => .inl (r.root e)) r.ent).2.1⟩

end Sat
namespace Net

/-- the SAT-level invariants of the network: the structural invariant of C07, the semantic
    invariant over the added clauses extended by the ghost list `L` of theory lemmas, and every
    clause of `L` is T-entailed by the added clauses -/
structure SatInv (n : Net) (orig L : Cnf) : Prop where
  wf : n.sat.Wf
  ent : n.sat.Ent (orig ++ L) orig
  lemmas : ∀ c ∈ L, TEntails n orig c

theorem SatInv.sound {n : Net} {orig L : Cnf} (h : SatInv n orig L) : NetSound n orig := netSound_of_ent h.ent h.lemmas

theorem learnFrom_sound {n n' : Net} {orig L : Cnf} {cnfl : Clause} (h : SatInv n orig L) (hq : n.sat.queue = [])
    (hL : 0 < n.sat.decisionLevel) (hT : TEntails n orig cnfl) (hcF : ∀ l ∈ cnfl, l.neg ∈ n.sat.trail)
    (hcL : ∃ l ∈ cnfl, n.sat.lvl l = n.sat.decisionLevel) (hl : learnFrom n cnfl = some n') :
    ∃ noGood bt, n' = { popTo n bt with sat := (n.sat.popTo bt).record noGood } ∧ bt < n.sat.decisionLevel ∧
      n'.sat.decisionLevel = bt ∧ n'.sat.log = n.sat.log ++ [noGood] ∧ n'.sat.dead = n.sat.dead ∧
      n'.sat.decisions <:+ n.sat.decisions ∧ (∀ α, TModel n' α ↔ TModel n α) ∧
      TEntails n' orig noGood ∧ SatInv n' orig (L ++ [cnfl]) ∧ NetSound n' orig := by
  obtain ⟨noGood, bt, s3, han, hout⟩ := learnFrom_out hl
  have hL' : ∀ c ∈ L ++ [cnfl], TEntails n orig c := forall_mem_snoc h.lemmas hT
  have he' : n.sat.Ent (orig ++ (L ++ [cnfl])) orig :=
    h.ent.mono_orig (fun d hd => by rw [← List.append_assoc]; exact List.mem_append_left _ hd)
  obtain ⟨l0, rest, r, r1, r2⟩ := Sat.learn_spec h.wf he' hq hL
    (Ents.of_mem (List.mem_append_right _ (List.mem_append_right _ (List.mem_singleton.2 rfl)))) hcF hcL han
  obtain ⟨r4, r5, r6, r7, _⟩ := r.frame
  obtain ⟨heq, hcongr⟩ := hout r.dl3
  rw [r.same] at heq r1 r2 r4 r5 r6 r7
  have hL'' : ∀ c ∈ L ++ [cnfl], TEntails n' orig c :=
    fun c hc => TEntails.congr (fun α hm => (hcongr α).1 hm) (hL' c hc)
  have hsat : n'.sat = (n.sat.popTo bt).record noGood := by rw [heq]
  have hinv : SatInv n' orig (L ++ [cnfl]) := ⟨by rw [hsat]; exact r1, by rw [hsat]; exact r2, hL''⟩
  exact ⟨noGood, bt, heq, r.lt, by rw [hsat]; exact r7, by rw [hsat]; exact r4, by rw [hsat]; exact r5,
    by rw [hsat]; exact r6, hcongr, tentails_of_ents' hL'' (r.lits ▸ r.ent), hinv, hinv.sound⟩

theorem learnFrom_thInv {n : Net} {orig : Cnf} {fr : List Frame} (h : ThInv n orig fr) (hf : FramesLe n.sat fr)
    (hl : fr.length = n.sat.decisionLevel) (bt : Nat) (noGood : List Lit) :
    ∃ fr', ThInv { popTo n bt with sat := (n.sat.popTo bt).record noGood } orig fr' ∧ fr'.length = min bt n.sat.decisionLevel := by
  obtain ⟨fr', h1, _, h3⟩ := h.popTo hf hl bt
  exact ⟨fr', h1.assign ((n.sat.popTo bt).record noGood) (by rw [popTo_sat]; exact Dl.record_le _ _),
    by rw [h3, popTo_sat, Sat.popTo_level]⟩

end Net
end Oratio
