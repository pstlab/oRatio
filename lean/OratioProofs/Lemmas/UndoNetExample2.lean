/-
C08N, non-vacuity of the statement with the decision-level hypothesis: the IDL network of C07N
(`NetEx.rootNet`: `b1 : x3 - x1 ≤ 5`, `b2 : x3 - x2 ≤ 2`, `b3 : x1 - x2 ≤ -3`, which satisfies the network
invariant `NetInv`) after `assume b1`; then `assume ¬b2`: IDL enforces `x2 - x3 ≤ -3`, records the lemma
`[¬b3, b2, ¬b1]` and `¬b3` is propagated; the decision level goes from 1 to 2.
-/
import OratioProofs.Lemmas.UndoNetLearn
import OratioProofs.Lemmas.UndoNetExample
import OratioProofs.Lemmas.NetHistoryEx1

namespace Oratio
namespace C08NEx2
open Net Sat

def lvl1 : Net := ((NetEx.rootNet.assume ⟨1, true⟩ 100).map (·.2)).getD NetEx.rootNet

theorem root_computed :
    (NetEx.rootNet.sat.trailLim = [] ∧ NetEx.rootNet.sat.queue = [] ∧ NetEx.rootNet.sat.dead = false ∧
      NetEx.rootNet.sat.value ⟨1, true⟩ = none ∧ 1 < NetEx.rootNet.sat.vals.length ∧ NetEx.rootNet.lra.tableau = []) ∧
    Sat.cleanB NetEx.rootNet.sat = true ∧ (NetEx.rootNet.assume ⟨1, true⟩ 100).map (·.1) = some true := by
  decide +kernel

theorem lvl1_run : NetEx.rootNet.assume ⟨1, true⟩ 100 = some (true, lvl1) :=
  C08NEx.run_eq root_computed.2.2

theorem lvl1_inv : ∃ L fr, NetInv lvl1 [] L fr ∧ lvl1.sat.queue = [] := by
  obtain ⟨_, f2, f3, f4, f5, f6⟩ := root_computed.1
  have r := NetInv.assume NetEx.rootNet_inv f2 f3 (p := ⟨1, true⟩) f4 f5 100 (noRows_propagate 100 _ f6).1 true lvl1 lvl1_run
  obtain ⟨L, fr, hi⟩ := r.inv
  exact ⟨L, fr, hi, r.queue⟩

def lvl2 : Net := ((lvl1.assume ⟨2, false⟩ 100).map (·.2)).getD lvl1

theorem lvl_computed :
    (lvl1.sat.decisionLevel = 1 ∧ lvl2.sat.decisionLevel = 2 ∧
      lvl1.sat.trail = [⟨1, true⟩] ∧ lvl2.sat.trail = [⟨3, false⟩, ⟨2, false⟩, ⟨1, true⟩] ∧
      lvl2.sat.log = [[⟨3, false⟩, ⟨2, true⟩, ⟨1, false⟩]] ∧ lvl1.sat.log = [] ∧
      Dl.d idlOps lvl1.idl 3 2 = idlInf ∧ Dl.d idlOps lvl2.idl 3 2 = -3 ∧ lvl2.pop.sat.trail = [⟨1, true⟩] ∧
      lvl1.sat.dead = false ∧ lvl1.sat.value ⟨2, false⟩ = none ∧ 2 < lvl1.sat.vals.length ∧ lvl1.lra.tableau = []) ∧
    Sat.cleanB lvl1.sat = true ∧ (lvl1.assume ⟨2, false⟩ 100).map (·.1) = some true := by
  decide +kernel

theorem lvl2_run : lvl1.assume ⟨2, false⟩ 100 = some (true, lvl2) :=
  C08NEx.run_eq lvl_computed.2.2

theorem lvl1_clean : Clean lvl1.sat := Sat.clean_of_cleanB lvl_computed.2.1

def hist2 : List SOp := [.assume ⟨1, true⟩, .assume ⟨2, false⟩]

theorem hist2_runs : runSearch 100 NetEx.rootNet hist2 = some lvl2 := by
  simp only [hist2, runSearch, lvl1_run, lvl2_run]

theorem root_clean : Clean NetEx.rootNet.sat := Sat.clean_of_cleanB root_computed.2.1

theorem hist2_ok : SearchOK 100 NetEx.rootNet hist2 := by
  obtain ⟨_, _, _, f4, f5, f6⟩ := root_computed.1
  obtain ⟨_, _, _, _, _, _, _, _, _, _, g11, g12, g13⟩ := lvl_computed.1
  refine ⟨f4, f5, (noRows_assumeStart 100 f6).1, fun n' hn' => ?_⟩
  cases lvl1_run.symm.trans hn'
  exact ⟨g11, g12, (noRows_assumeStart 100 g13).1, fun _ _ => trivial⟩

end C08NEx2
end Oratio
