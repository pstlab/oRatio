/-
C09X: the clauses of `assert_lower / assert_upper` and `propagate(lit)` are true under every `α` that agrees with a
solution, and every literal of a conflict clause is false in the SAT state, provided the reason of every bound is true
in it (`ReasonsTrue`) and so is the literal being asserted.
-/
import OratioModel
import OratioProofs.Lemmas.DlPathInv
import OratioProofs.Lemmas.LraExplProp

namespace Oratio
namespace Lra
open IR Lin

structure BoundSet (t u : Lra) (i : Nat) (b : LBound) : Prop where
  bounds : u.bounds = t.bounds.set i b
  tableau : u.tableau = t.tableau
  tWatches : u.tWatches = t.tWatches
  vAsrts : u.vAsrts = t.vAsrts
  aWatches : u.aWatches = t.aWatches
  vlen : u.vals.length = t.vals.length

theorem BoundSet.update {t u : Lra} {i : Nat} {b : LBound} (h : BoundSet t u i b) (xi : Nat) (v : IR) :
    BoundSet t (u.update xi v) i b := by
  obtain ⟨vs, e, hl⟩ := update_only_vals u xi v
  rw [e]
  exact ⟨h.bounds, h.tableau, h.tWatches, h.vAsrts, h.aWatches, hl.trans h.vlen⟩

theorem boundSet_as (d : Side) (t : Lra) (xi : Nat) (val : IR) (p : Lit) :
    BoundSet t (asState d t xi val p) (d.idx xi) ⟨val, p⟩ :=
  have hm : BoundSet t (stored t (d.idx xi) ⟨val, p⟩) (d.idx xi) ⟨val, p⟩ := ⟨rfl, rfl, rfl, rfl, rfl, rfl⟩
  asState_ind (P := fun u => BoundSet t u (d.idx xi) ⟨val, p⟩) d t xi val p hm fun _ _ => hm.update xi val

theorem assertS_th (d : Side) (s : Sat) (t : Lra) (xi : Nat) (val : IR) (p : Lit) :
    (assertS d s t xi val p).th = t ∨ (assertS d s t xi val p).th = asState d t xi val p :=
  (assertWith_th d _ _ s t xi val p).imp_right (·.2.2)

theorem assertS_th_ind (d : Side) (s : Sat) (t : Lra) (xi : Nat) (val : IR) (p : Lit) {P : Lra → Prop}
    (h0 : P t) (h1 : P (asState d t xi val p)) : P (assertS d s t xi val p).th := by
  rcases assertS_th d s t xi val p with e | e <;> rw [e]
  · exact h0
  · exact h1

theorem assertS_writes (d : Side) (s : Sat) (t : Lra) (xi : Nat) (val : IR) (p : Lit) :
    OnlyBLV t (assertS d s t xi val p).th :=
  assertS_th_ind d s t xi val p (.refl t) (asState_writes d t xi val p)

section boundSet

variable {t u : Lra} {i : Nat} {b : LBound}

theorem BoundSet.tabWF (h : BoundSet t u i b) (ht : TabWF t) : TabWF u :=
  tabWF_congr h.tableau h.tWatches h.vlen ht

theorem BoundSet.solves (h : BoundSet t u i b) {σr σi : Nat → Rat} (hs : Solves t σr σi) : Solves u σr σi := by
  unfold Solves; rw [h.tableau]; exact hs

theorem BoundSet.agrees (h : BoundSet t u i b) {α : Asg} {σr σi : Nat → Rat} (ha : AsrtAgrees α σr σi t) :
    AsrtAgrees α σr σi u := by
  unfold AsrtAgrees; rw [h.vAsrts]; exact ha

theorem BoundSet.len (h : BoundSet t u i b) : u.bounds.length = t.bounds.length := by
  rw [h.bounds, List.length_set]

end boundSet

theorem ExplInv.congr {t u : Lra} (inv : ExplInv t) (htab : TabWF u) (hbok : BoundsOK u) (hblen : BoundsLen u)
    (hva : u.vAsrts = t.vAsrts) (haw : ∀ x, u.aWatches.getD x [] = t.aWatches.getD x []) : ExplInv u := by
  refine ⟨htab, hbok, hblen, by unfold AsrtOK; rw [hva]; exact inv.aok, fun x k hk a hka => ?_⟩
  rw [haw] at hk
  unfold Lra.asrtOf at hka
  rw [hva] at hka
  exact inv.awatch x k hk a hka

theorem boundsOK_of_set {t u : Lra} {d : Side} {x : Nat} {v : IR} {r : Lit}
    (h : u.bounds = t.bounds.set (d.idx x) ⟨v, r⟩) (hv : SOk d v) (hb : BoundsOK t) : BoundsOK u := by
  intro y
  have key : ∀ e : Side, SOk e (e.bd u y) := fun e => by
    unfold Side.bd
    rw [bnd_set t u _ _ h]
    split
    · next hh => obtain ⟨rfl, rfl⟩ := Side.idx_inj hh.1; exact hv
    · exact hb.side y e
  exact ⟨key .lo, key .hi⟩

theorem explInv_set {t u : Lra} {d : Side} {xi : Nat} {val : IR} {p : Lit} (h : BoundSet t u (d.idx xi) ⟨val, p⟩)
    (hval : IR.Fin val) (inv : ExplInv t) : ExplInv u :=
  inv.congr (h.tabWF inv.tab) (boundsOK_of_set h.bounds (Or.inl hval) inv.bok)
    (by unfold BoundsLen; rw [h.len, h.vlen]; exact inv.blen) h.vAsrts (fun x => by rw [h.aWatches])

theorem boundsJust_set {t u : Lra} {d : Side} {xi : Nat} {val : IR} {p : Lit} (h : BoundSet t u (d.idx xi) ⟨val, p⟩)
    (hval : IR.Fin val) {α : Asg} {σr σi : Nat → Rat}
    (hj : BoundsJust α σr σi t) (hob : α.lit p = true → d.le (IR.val val) (nu σr σi xi)) : BoundsJust α σr σi u := by
  intro x hx
  rw [h.len] at hx
  have key : ∀ e : Side, α.lit (e.rsn u x) = true → e.holds (e.bd u x) (nu σr σi x) := fun e => by
    unfold Side.rsn Side.bd
    rw [bnd_set t u _ _ h.bounds]
    split
    · next hh => obtain ⟨rfl, rfl⟩ := Side.idx_inj hh.1; exact fun hp => (d.holds_fin hval _).2 (hob hp)
    · exact hj.side hx e
  exact ⟨key .lo, key .hi⟩

/-- `hob` is the caller's obligation; `propagateLit_valid` discharges it by the meaning of the assertion literals -/
theorem assertS_valid (d : Side) {t : Lra} (inv : ExplInv t) (s : Sat) {xi : Nat} {val : IR} (p : Lit)
    (hval : IR.Fin val) (hxi : ubIdx xi < t.bounds.length) {α : Asg} {σr σi : Nat → Rat}
    (hs : Solves t σr σi) (hj : BoundsJust α σr σi t) (ha : AsrtAgrees α σr σi t)
    (hob : α.lit p = true → d.le (IR.val val) (nu σr σi xi)) :
    OutOK (Tr α) s ((assertS d s t xi val p).cnfl, (assertS d s t xi val p).sat) ∧
    BoundsJust α σr σi (assertS d s t xi val p).th ∧ Solves (assertS d s t xi val p).th σr σi ∧
    AsrtAgrees α σr σi (assertS d s t xi val p).th ∧ ExplInv (assertS d s t xi val p).th := by
  have hbs := boundSet_as d t xi val p
  have inv' := explInv_set hbs hval inv
  have hj' := boundsJust_set hbs hval hj hob
  have hxi' : ubIdx xi < (asState d t xi val p).bounds.length := by rw [hbs.len]; exact hxi
  have ok : ∀ {cl}, Emits d (asState d t xi val p) xi cl → α.clause cl = true :=
    fun hm => hm.lemma inv' hxi' α σr σi (hbs.solves hs) hj' (hbs.agrees ha)
  obtain ⟨h1, h2⟩ := assertS_emits d s t xi val p
  obtain ⟨new, e, hn⟩ := h1.ext
  refine ⟨⟨fun c hc => ?_, new, e.log, fun c hc => let ⟨_, _, hq⟩ := hn c hc; ok hq.1⟩, ?_⟩
  · rcases h2 c hc with ⟨rfl, -, hlt⟩ | ⟨hm, -⟩
    · -- `val` is beyond the opposite bound, which holds of `σ(xi)` if its reason is true
      apply Dl.clause_true_of
      intro hall
      have hp := lit_of_neg_false (hall p.neg List.mem_cons_self)
      have hr := lit_of_neg_false (hall (d.flip.rsn t xi).neg (List.mem_cons_of_mem _ List.mem_cons_self))
      obtain ⟨f1, f2⟩ := SOk.of_ltB hval (inv.bok.side xi d.flip) hlt
      exact Side.not_lt_of_le (Side.le_trans ((d.flip.holds_fin f1 _).1 (hj.side hxi d.flip hr)) (Side.flip_le.2 (hob hp))) f2
    · exact ok hm
  · rcases assertS_th d s t xi val p with e | e <;> rw [e]
    · exact ⟨hj, hs, ha, inv⟩
    · exact ⟨hj', hbs.solves hs, hbs.agrees ha, inv'⟩

theorem assertLower_valid {t : Lra} (inv : ExplInv t) (s : Sat) {xi : Nat} {val : IR} (p : Lit)
    (hval : IR.Fin val) (hxi : ubIdx xi < t.bounds.length) {α : Asg} {σr σi : Nat → Rat}
    (hs : Solves t σr σi) (hj : BoundsJust α σr σi t) (ha : AsrtAgrees α σr σi t)
    (hob : α.lit p = true → IR.val val ≤ nu σr σi xi) :
    OutOK (Tr α) s ((assertLower s t xi val p).cnfl, (assertLower s t xi val p).sat) ∧
    BoundsJust α σr σi (assertLower s t xi val p).th ∧ Solves (assertLower s t xi val p).th σr σi ∧
    AsrtAgrees α σr σi (assertLower s t xi val p).th ∧ ExplInv (assertLower s t xi val p).th := by
  rw [assertLower_eq]
  exact assertS_valid .lo inv s p hval hxi hs hj ha hob

theorem assertUpper_valid {t : Lra} (inv : ExplInv t) (s : Sat) {xi : Nat} {val : IR} (p : Lit)
    (hval : IR.Fin val) (hxi : ubIdx xi < t.bounds.length) {α : Asg} {σr σi : Nat → Rat}
    (hs : Solves t σr σi) (hj : BoundsJust α σr σi t) (ha : AsrtAgrees α σr σi t)
    (hob : α.lit p = true → nu σr σi xi ≤ IR.val val) :
    OutOK (Tr α) s ((assertUpper s t xi val p).cnfl, (assertUpper s t xi val p).sat) ∧
    BoundsJust α σr σi (assertUpper s t xi val p).th ∧ Solves (assertUpper s t xi val p).th σr σi ∧
    AsrtAgrees α σr σi (assertUpper s t xi val p).th ∧ ExplInv (assertUpper s t xi val p).th := by
  rw [assertUpper_eq]
  exact assertS_valid .hi inv s p hval hxi hs hj ha hob

theorem BoundsLen.ubIdx_lt {t : Lra} (hl : BoundsLen t) {x : Nat} (hx : x < t.vals.length) : ubIdx x < t.bounds.length := by
  unfold BoundsLen at hl
  unfold ubIdx
  omega

theorem asrt_inrange {t : Lra} (hl : BoundsLen t) (hvars : AsrtVars t) {e : Nat × LAsrt} (he : e ∈ t.vAsrts) :
    ubIdx e.2.x < t.bounds.length := hl.ubIdx_lt (hvars e he)

theorem propagateLit_valid {t : Lra} (inv : ExplInv t) (hkey : AsrtKey t) (hvars : AsrtVars t) (s : Sat) (p : Lit)
    (hsp : s.value p = some true) {α : Asg} {σr σi : Nat → Rat}
    (hs : Solves t σr σi) (hj : BoundsJust α σr σi t) (ha : AsrtAgrees α σr σi t) :
    OutOK (Tr α) s ((propagateLit s t p).cnfl, (propagateLit s t p).sat) ∧
    BoundsJust α σr σi (propagateLit s t p).th ∧ Solves (propagateLit s t p).th σr σi ∧
    AsrtAgrees α σr σi (propagateLit s t p).th ∧ ExplInv (propagateLit s t p).th := by
  rcases propagateLit_cases s t p with e | ⟨a, d, hab, hcase⟩
  · rw [e]; exact ⟨okN α s, hj, hs, ha, inv⟩
  have hm := mem_of_asrtOf hab
  have hb : a.b = ⟨p.var, true⟩ := hkey _ hm
  have hxi := asrt_inrange inv.blen hvars hm
  -- when `p` is true under `α`, `a.b` has the same value in the SAT core and under `α`
  have hsame : ∀ v, s.value a.b = some v → α.lit p = true → α.lit a.b = v := fun v hv hαp => by
    rw [hb] at hv ⊢
    rw [alpha_of_var hαp]
    exact Option.some.inj ((value_of_var hsp).symm.trans hv)
  rcases hcase with ⟨hv, ho, e⟩ | ⟨hv, ho, e⟩ <;> rw [e]
  · exact assertS_valid d inv s p (inv.aok _ hm) hxi hs hj ha fun hαp => (ha.side hm ho).1 (hsame _ hv hαp)
  · obtain ⟨f1, f2⟩ := d.fin_shiftB (inv.aok _ hm)
    exact assertS_valid d inv s p f1 hxi hs hj ha fun hαp => by
      rw [f2]; exact Side.flip_le.1 ((ha.side hm ho).2 (hsame _ hv hαp))

def AllFalse (s : Sat) (c : List Lit) : Prop := ∀ l ∈ c, s.value l = some false

def OutF (s : Sat) (r : Option (List Lit) × Sat) : Prop :=
  Dl.SatLe s r.2 ∧ ∀ c, r.1 = some c → ∀ l ∈ c, r.2.value l = some false

theorem ReasonsTrue.mono {s s' : Sat} {t : Lra} (h : ReasonsTrue s t) (hs : Dl.SatLe s s') : ReasonsTrue s' t :=
  fun x => ⟨Dl.value_mono hs _ _ (h x).1, Dl.value_mono hs _ _ (h x).2⟩

theorem ReasonsTrue.side {s : Sat} {t : Lra} (h : ReasonsTrue s t) (x : Nat) : ∀ d : Side, s.value (d.rsn t x) = some true
  | .lo => (h x).1
  | .hi => (h x).2

theorem allFalse_nil (s : Sat) : AllFalse s [] := fun _ h => nomatch h

theorem cons_false {s : Sat} {a : Lit} {ex : List Lit} (ha : s.value a = some false) (hex : AllFalse s ex) :
    AllFalse s (a :: ex) := by
  intro l hl
  rcases List.mem_cons.1 hl with rfl | hl
  · exact ha
  · exact hex l hl

theorem Expl.reasons {d : Side} {u : Lra} {xi : Nat} {e : Side} {x : Nat} {bv : IR} {ex : List Lit}
    (h : Expl d u xi e x bv ex) : ∀ l ∈ ex, ∃ e' y, l = (Side.rsn e' u y).neg := by
  cases h with
  | bound => exact fun l hl => ⟨d, xi, List.mem_singleton.1 hl⟩
  | row _ _ hsum =>
    intro l hl
    rcases (rowSumS_ex _ u _ _ _ _ _ _ hsum l).1 hl with h | ⟨p, _, _, h⟩
    · cases h
    · exact ⟨_, _, h⟩

theorem Emits.tail_false {d : Side} {u : Lra} {xi : Nat} {cl : Clause} (h : Emits d u xi cl) {s : Sat}
    (hr : ReasonsTrue s u) : ∀ l ∈ cl.tail, s.value l = some false := by
  obtain ⟨e, x, bv, ex, b, a, hx, -, -, -, rfl⟩ := h
  intro l hl
  obtain ⟨e', y, rfl⟩ := hx.reasons l hl
  exact Sat.value_neg_false.2 (hr.side y e')

theorem reasonsTrue_set {s : Sat} {t u : Lra} {i : Nat} {val : IR} {p : Lit} (h : u.bounds = t.bounds.set i ⟨val, p⟩)
    (hr : ReasonsTrue s t) (hp : s.value p = some true) : ReasonsTrue s u := by
  have key : ∀ (d : Side) x, s.value (d.rsn u x) = some true := fun d x => by
    unfold Side.rsn
    rw [bnd_set t u _ _ h]
    split
    · exact hp
    · exact hr.side x d
  exact fun x => ⟨key .lo x, key .hi x⟩

theorem assertS_F (d : Side) {s : Sat} {t : Lra} (hr : ReasonsTrue s t) (xi : Nat) (val : IR) {p : Lit}
    (hp : s.value p = some true) :
    OutF s ((assertS d s t xi val p).cnfl, (assertS d s t xi val p).sat) ∧
    ReasonsTrue (assertS d s t xi val p).sat (assertS d s t xi val p).th := by
  have hr' : ReasonsTrue s (asState d t xi val p) := reasonsTrue_set (boundSet_as d t xi val p).bounds hr hp
  obtain ⟨h1, h2⟩ := assertS_emits d s t xi val p
  have ok : OutF s ((assertS d s t xi val p).cnfl, (assertS d s t xi val p).sat) := by
    refine ⟨h1.le, fun c hc => ?_⟩
    rcases h2 c hc with ⟨rfl, e, -⟩ | ⟨hm, hh⟩
    · rw [show (assertS d s t xi val p).sat = s from e]
      exact cons_false (Sat.value_neg_false.2 hp) (cons_false (Sat.value_neg_false.2 (hr.side xi d.flip)) (allFalse_nil _))
    · obtain ⟨e, x, bv, ex, b, a, -, -, -, -, rfl⟩ := id hm
      exact cons_false (hh _ rfl) (hm.tail_false (hr'.mono h1.le))
  refine ⟨ok, ?_⟩
  rcases assertS_th d s t xi val p with e | e <;> rw [e]
  · exact hr.mono ok.1
  · exact hr'.mono ok.1

theorem propagateLit_F {s : Sat} {t : Lra} (hr : ReasonsTrue s t) {p : Lit} (hp : s.value p = some true) :
    OutF s ((propagateLit s t p).cnfl, (propagateLit s t p).sat) ∧
    ReasonsTrue (propagateLit s t p).sat (propagateLit s t p).th := by
  rcases propagateLit_cases s t p with e | ⟨a, d, _, ⟨_, _, e⟩ | ⟨_, _, e⟩⟩ <;> rw [e]
  · exact ⟨⟨Dl.SatLe.refl s, fun _ h => nomatch h⟩, hr⟩
  · exact assertS_F d hr _ _ hp
  · exact assertS_F d hr _ _ hp

end Lra

end Oratio
