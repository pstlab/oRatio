/-
`new_var()` and `new_var(lin)` keep the invariant `Lra.GoodState`; both add one variable with bounds, a value and (for
a slack variable) a row computed from the old state.
-/
import OratioModel
import OratioProofs.Lemmas.LraGoodVals
import OratioProofs.Lemmas.LraUndoLog

namespace Oratio
namespace Lra
open Lin

theorem GoodBnd.extend {t u : Lra} (g : GoodBnd t) {a b : LBound} (hb : u.bounds = t.bounds ++ [a, b])
    (hl : u.layers = t.layers) (hn : u.vals.length = t.vals.length + 1) (ha : LowerOK a.value) (hbb : UpperOK b.value)
    (hab : IR.le a.value b.value = true) : GoodBnd u := by
  refine ⟨by rw [hb, hn, List.length_append, g.blen]; rfl, ?_, by rw [hb, hl]; exact layersOK_append _ _ _ g.lay⟩
  intro x hx
  rcases Nat.lt_succ_iff_lt_or_eq.1 (hn ▸ hx) with h | rfl
  · rw [(lb_ub_append g.blen hb h).1, (lb_ub_append g.blen hb h).2]; exact g.bwf x h
  · rw [(lb_ub_new g.blen hb).1, (lb_ub_new g.blen hb).2]; exact ⟨ha, hbb, hab⟩

theorem nbin_extend {t u : Lra} (g : GoodState t) (hn : u.vals.length = t.vals.length + 1)
    (hold : ∀ x, x < t.vals.length → u.isBasic x = false →
      t.isBasic x = false ∧ u.value x = t.value x ∧ u.lb x = t.lb x ∧ u.ub x = t.ub x)
    (hnew : u.isBasic t.vals.length = false → InB u t.vals.length) :
    ∀ x, x < u.vals.length → u.isBasic x = false → InB u x := by
  intro x hx hxb
  rcases Nat.lt_succ_iff_lt_or_eq.1 (hn ▸ hx) with h | rfl
  · obtain ⟨h1, h2, h3, h4⟩ := hold x h hxb
    unfold InB
    rw [h2, h3, h4]
    exact g.nbin x h h1
  · exact hnew hxb

theorem lowerOK_ninf : LowerOK (IR.ofR R.ninf) := ⟨R.ninf_wf, by decide, R.finWF_zero⟩
theorem upperOK_pinf : UpperOK (IR.ofR R.pinf) := ⟨R.pinf_wf, by decide, R.finWF_zero⟩

theorem newVar_good {t : Lra} (g : GoodState t) : GoodState t.newVar.2 := by
  have hn : t.newVar.2.vals.length = t.vals.length + 1 := List.length_append
  obtain ⟨hlbn, hubn⟩ := lb_ub_new (u := t.newVar.2) g.blen rfl
  refine ⟨.ofGroups ⟨tabWF_newVar g.tab, g.nz⟩ (g.gvals.extend g.tab rfl finIR_zero fun e he => Or.inl he)
    (g.gbnd.extend (u := t.newVar.2) rfl rfl hn lowerOK_ninf upperOK_pinf (by decide))
    (g.greg.mono (by omega) (fun e he => Or.inl he) fun e he => ?_), nbin_extend g hn (fun x hx hxb => ?_) fun _ => ?_⟩
  · rw [hn]
    exact (mem_emplaceKey he).imp id fun (h : e = (_, t.vals.length)) => h ▸ Nat.lt_succ_self _
  · exact ⟨hxb, newVar_value t x, lb_ub_append g.blen rfl hx⟩
  · unfold InB
    rw [newVar_value, hlbn, hubn, value_ge t (Nat.le_refl _)]
    exact ⟨by decide, by decide⟩

theorem exprs_only_good {t : Lra} (g : GoodState t) {ex : List (String × Nat)}
    (hex : ∀ e ∈ ex, e.2 < t.vals.length) : GoodState { t with exprs := ex } :=
  ⟨.ofGroups (g.gtab.congr rfl rfl rfl) (g.gvals.congr rfl rfl) (g.gbnd.congr rfl rfl rfl)
    (g.greg.mono (Nat.le_refl _) (fun _ h => Or.inl h) fun e h => Or.inr (hex e h)), g.nbin⟩

theorem linOK_substBasic {t : Lra} (ht : TabWF t) (hnz : RowsNoZero t) {l : Lin} (hl : LinOK t l) :
    LinOK t (substBasic t l) :=
  ⟨(substBasic_holds ht.rows hl.1).1, fun p hp =>
    ⟨substBasic_vars_lt ht hl.1 (fun q hq => (hl.2 q hq).1) p hp, nz_substBasic ht hnz hl.1 (fun q hq => (hl.2 q hq).2) p hp⟩⟩

theorem withSlack_good {t : Lra} (g : GoodState t) {l : Lin} (hl : LinOK t l) {ex : List (String × Nat)}
    (hex : ∀ e ∈ ex, e.2 < t.vals.length + 1) : GoodState (withSlack t (substBasic t l) ex) := by
  obtain ⟨hi, hlen⟩ := (tabWF_iff t).1 g.tab
  obtain ⟨hewf, hev⟩ := linOK_substBasic g.tab g.nz hl
  have hn := withSlack_vals_length t (substBasic t l) ex
  obtain ⟨u, hu, ut, uw, -, -⟩ := withSlack_eq_newRow t (substBasic t l) ex
  obtain ⟨c1, -, c3, c4, -, -⟩ := newVarLin_create (u := u) hi hlen hl.1 (fun p hp => (hl.2 p hp).1) ut uw
  rw [← hu] at c1 c3 c4
  have hbounds := withSlack_bounds g.blen (fun p hp => (hev p hp).1) ex
  have hvals := withSlack_vals t (substBasic t l) ex
  obtain ⟨b1, b2, b3⟩ := lbLin_ubLin_ok t hewf (fun p hp => (hev p hp).2) fun p hp => g.bwf p.1 (hev p hp).1
  have gb := g.gbnd.extend hbounds (withSlack_layers _ _ _) hn b1 b2 b3
  have hrows : ∀ e ∈ (withSlack t (substBasic t l) ex).tableau, e ∈ t.tableau ∨ e = (t.vals.length, substBasic t l) :=
    fun e he => mem_tabInsert_cases (withSlack_tableau _ _ _ ▸ he)
  refine ⟨.ofGroups ⟨(tabWF_iff _).2 ⟨c1, c3.trans (by rw [hn, hlen])⟩, fun e he => ?_⟩
    (g.gvals.withSlack g.tab hewf (fun p hp => (hev p hp).1) ex) gb
    (g.greg.mono (by omega) (fun e he => Or.inl (withSlack_vAsrts _ _ _ ▸ he)) fun e he => ?_),
    nbin_extend g hn (fun x hx hxb => ?_) fun hb => ?_⟩
  · rcases hrows e he with h | h
    · exact g.nz e h
    · rw [h]; exact fun p hp => (hev p hp).2
  · rw [hn]; exact Or.inr (hex e (by rwa [withSlack_exprs] at he))
  · have hr := c4 x
    rw [if_neg (Nat.ne_of_lt hx)] at hr
    refine ⟨?_, ?_, lb_ub_append g.blen hbounds hx⟩
    · rw [isBasic_false_iff] at hxb ⊢; rw [← hr]; exact hxb
    · rw [value_append hvals, if_neg (Nat.ne_of_lt hx)]
  · have hr := c4 t.vals.length
    rw [if_pos rfl] at hr
    rw [isBasic_false_iff] at hb
    exact absurd (hr.symm.trans hb) (by simp)

theorem newVarLin_good {s : Sat} {t : Lra} (g : GoodState t) {l : Lin} (hl : LinOK t l) {slack : Nat} {t1 : Lra}
    (h : newVarLin s t l = some (slack, t1)) :
    GoodState t1 ∧ slack < t1.vals.length ∧ t.vals.length ≤ t1.vals.length := by
  rcases (newVarLin_nf h).2.found_or_created with ⟨⟨e0, he0, hs0⟩, ex, rfl, hex⟩ | ⟨rfl, rfl⟩
  · have hlt : slack < t.vals.length := hs0 ▸ g.exprs e0 he0
    refine ⟨exprs_only_good g fun e he => (hex e he).elim (g.exprs e) fun h' => ?_, hlt, Nat.le_refl _⟩
    rw [h']; exact hlt
  · have hn := withSlack_vals_length t (substBasic t l) (slackExprs t l)
    refine ⟨withSlack_good g hl fun e he => ?_, by omega, by omega⟩
    exact (mem_slackExprs he).elim (fun h' => Nat.lt_succ_of_lt (g.exprs e h')) fun h' => h' ▸ Nat.lt_succ_self _

end Lra

end Oratio
