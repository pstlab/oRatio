/-
Lemmas for property C13: the arithmetic of the product encoding of `new_at_most_one`
(`ceilSqrt`, `ceilDiv`, the `i*qs + j` grid indexing).  Core Lean only.
-/
import OratioModel.Sat.Enc

namespace Oratio
namespace EncL
open Enc

theorem two_le_sqrt {n : Nat} (h : 4 ≤ n) : 2 ≤ n.sqrt := by
  have h2 := Nat.lt_succ_sqrt n
  apply Nat.le_of_not_lt
  intro hlt
  have h1 : n.sqrt + 1 ≤ 2 := by omega
  have := Nat.mul_le_mul h1 h1
  simp only [Nat.succ_eq_add_one] at h2
  omega

theorem ceilSqrt_ge_two {n : Nat} (h : 4 ≤ n) : 2 ≤ ceilSqrt n := by
  have := two_le_sqrt h
  simp only [ceilSqrt]
  split <;> omega

theorem ceilSqrt_lt {n : Nat} (h : 4 ≤ n) : ceilSqrt n < n := by
  have h2 := two_le_sqrt h
  have h3 := Nat.sqrt_le n
  have h4 : 2 * n.sqrt ≤ n.sqrt * n.sqrt := Nat.mul_le_mul_right _ h2
  simp only [ceilSqrt]
  split <;> omega

theorem ceilDiv_lt_of_two_le {n ps : Nat} (hn : 2 ≤ n) (hp : 2 ≤ ps) : ceilDiv n ps < n := by
  unfold ceilDiv
  rw [Nat.div_lt_iff_lt_mul (by omega)]
  obtain ⟨a, rfl⟩ := Nat.exists_eq_add_of_le hn
  obtain ⟨b, rfl⟩ := Nat.exists_eq_add_of_le hp
  simp only [Nat.mul_add, Nat.add_mul]
  omega

theorem ceilDiv_lt {n : Nat} (h : 4 ≤ n) : ceilDiv n (ceilSqrt n) < n :=
  ceilDiv_lt_of_two_le (by omega) (ceilSqrt_ge_two h)

theorem ceilDiv_pos_of_pos {n ps : Nat} (hn : 0 < n) (hp : 0 < ps) : 0 < ceilDiv n ps := by
  unfold ceilDiv
  exact Nat.div_pos (by omega) hp

theorem ceilDiv_pos {n : Nat} (h : 4 ≤ n) : 0 < ceilDiv n (ceilSqrt n) :=
  ceilDiv_pos_of_pos (by omega) (by have := ceilSqrt_ge_two h; omega)

theorem le_mul_ceilDiv {n ps : Nat} (hp : 0 < ps) : n ≤ ps * ceilDiv n ps := by
  unfold ceilDiv
  have h1 := Nat.div_add_mod (n + ps - 1) ps
  have h2 := Nat.mod_lt (n + ps - 1) hp
  omega

theorem index_decomp {n ps qs k : Nat} (hq : 0 < qs) (hn : n ≤ ps * qs) (hk : k < n) :
    k / qs < ps ∧ k % qs < qs ∧ (k / qs) * qs + k % qs = k := by
  refine ⟨?_, Nat.mod_lt k hq, Nat.div_add_mod' k qs⟩
  rw [Nat.div_lt_iff_lt_mul hq]
  omega

theorem index_div {qs i j : Nat} (hj : j < qs) : (i * qs + j) / qs = i := by
  rw [Nat.mul_comm, Nat.mul_add_div (by omega), Nat.div_eq_of_lt hj, Nat.add_zero]

theorem index_mod {qs i j : Nat} (hj : j < qs) : (i * qs + j) % qs = j := by
  rw [Nat.mul_comm, Nat.mul_add_mod, Nat.mod_eq_of_lt hj]

end EncL
end Oratio
