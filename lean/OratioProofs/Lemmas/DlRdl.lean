/-
The real-valued instance of `DLaws` (every `⟨+∞, e⟩` is `⊤`, unit `ε`).  `finiteGuard` is constantly
true here, so a test `x < y - w` between two infinite entries compares their ε parts and may
succeed (`spur`).
-/
import OratioProofs.Lemmas.DlRdlArith
import OratioProofs.Lemmas.DlLaws


namespace Oratio
namespace DlR
open Dl

abbrev WM := DlW.Mat QV

def dn (t : Dl IR) (a b : Nat) : WithTop QV := IR.den (d rdlOps t a b)

theorem wt_lt_add_neg_iff (a b : WithTop QV) (w : QV) :
    a < b + ((-w : QV) : WithTop QV) ↔ a + (w : WithTop QV) < b := by
  cases a with
  | top => simp
  | coe x =>
    cases b with
    | top => simp [← WithTop.coe_add]
    | coe y =>
      rw [← WithTop.coe_add, ← WithTop.coe_add, WithTop.coe_lt_coe, WithTop.coe_lt_coe]
      rw [← sub_eq_add_neg, lt_sub_iff_add_lt]

theorem wt_lt_neg_iff (a : WithTop QV) (w : QV) : a < ((-w : QV) : WithTop QV) ↔ a + (w : WithTop QV) < 0 := by
  have := wt_lt_add_neg_iff a 0 w
  rwa [zero_add] at this

theorem lt_neg_iff {x w : IR} (hx : IR.Good x) (hw : IR.Fin w) :
    rdlOps.lt x (rdlOps.neg w) = true ↔ IR.den x + ((IR.val w : QV) : WithTop QV) < 0 := by
  have hn := IR.fin_neg hw
  rw [IR.lt_den hx hn.1.good (Or.inr (by rw [hn.1.den]; exact WithTop.coe_ne_top)), hn.1.den, hn.2, wt_lt_neg_iff]

theorem lt_w_iff {x w : IR} (hx : IR.Good x) (hw : IR.Fin w) :
    rdlOps.lt w x = true ↔ ((IR.val w : QV) : WithTop QV) < IR.den x := by
  rw [IR.lt_den hw.good hx (Or.inl (by rw [hw.den]; exact WithTop.coe_ne_top)), hw.den]

theorem le_w_iff {x w : IR} (hx : IR.Good x) (hw : IR.Fin w) :
    rdlOps.le x w = true ↔ IR.den x ≤ ((IR.val w : QV) : WithTop QV) := by
  rw [IR.le_den hx hw.good (Or.inr (by rw [hw.den]; exact WithTop.coe_ne_top)), hw.den]

theorem le_neg_iff {x w : IR} (hx : IR.Good x) (hw : IR.Fin w) :
    rdlOps.le (rdlOps.neg w) x = true ↔ ((-IR.val w : QV) : WithTop QV) ≤ IR.den x := by
  have hn := IR.fin_neg hw
  rw [IR.le_den hn.1.good hx (Or.inl (by rw [hn.1.den]; exact WithTop.coe_ne_top)), hn.1.den, hn.2]

theorem QV.add_neg_sub_lt_zero (u v e : QV) : u + (-v - e) < 0 ↔ u < v + e := by
  rw [show u + (-v - e) = u - (v + e) by abel, sub_neg]

theorem val_int_diff {x y : IR} (h1 : x.inf.den = 1) (h2 : y.inf.den = 1) :
    (ofLex (IR.val x)).2 - (ofLex (IR.val y)).2 = ((x.inf.num - y.inf.num : ℤ) : ℚ) := by
  show x.inf.toRat - y.inf.toRat = _
  rw [R.toRat_den_one h1, R.toRat_den_one h2]; push_cast; rfl

theorem snd_neg_sub_eps (v : QV) : (ofLex (-v - QV.eps)).2 = -(ofLex v).2 - 1 := rfl

theorem entry_step {x w : IR} (h1 : x.inf.den = 1) (h2 : w.inf.den = 1) :
    IR.den x ≤ ((IR.val w : QV) : WithTop QV) ↔ IR.den x + ((-IR.val w - QV.eps : QV) : WithTop QV) < 0 := by
  by_cases hd : x.rat.den = 0
  · rw [IR.den_of_inf hd, WithTop.top_add]
    constructor
    · intro h; exact absurd (top_le_iff.mp h) WithTop.coe_ne_top
    · intro h; exact absurd h (not_lt.mpr le_top)
  · rw [IR.den_of_fin hd, ← WithTop.coe_add, WithTop.coe_le_coe, ← WithTop.coe_zero, WithTop.coe_lt_coe,
      QV.add_neg_sub_lt_zero]
    exact QV.int_step _ _ _ (val_int_diff h1 h2)

theorem entry_step_lt {x w : IR} (h1 : x.inf.den = 1) (h2 : w.inf.den = 1) :
    IR.den x < ((-IR.val w : QV) : WithTop QV) ↔ IR.den x ≤ ((-IR.val w - QV.eps : QV) : WithTop QV) := by
  by_cases hd : x.rat.den = 0
  · rw [IR.den_of_inf hd]
    constructor
    · intro h; exact absurd h (not_lt.mpr le_top)
    · intro h; exact absurd (top_le_iff.mp h) WithTop.coe_ne_top
  · rw [IR.den_of_fin hd, WithTop.coe_lt_coe, WithTop.coe_le_coe]
    have hk : (ofLex (IR.val x)).2 - (ofLex (-IR.val w - QV.eps)).2 = ((x.inf.num + w.inf.num + 1 : ℤ) : ℚ) := by
      rw [snd_neg_sub_eps]
      show x.inf.toRat - (-(w.inf.toRat) - 1) = _
      rw [R.toRat_den_one h1, R.toRat_den_one h2]; push_cast; ring
    rw [QV.int_step _ _ _ hk, sub_add_cancel]

def rdlLaws : DLaws rdlOps QV where
  den := IR.den
  val := IR.val
  unit := QV.eps
  Good := IR.Good
  Wt := IR.Fin
  GoodV := fun _ => True
  spur := True
  Aligned := fun x w => x.inf.den = 1 ∧ w.inf.den = 1
  unit_pos := QV.eps_pos
  zero := ⟨IR.fin_zero.good, IR.den_zero⟩
  inf := ⟨IR.good_inf, IR.den_inf⟩
  wt := fun h => ⟨h.good, h.den⟩
  add := fun hx hy _ _ => IR.good_add hx hy
  test1 := by
    intro x y w hx hy hw
    rw [IR.finiteGuard_true, Bool.true_and]
    obtain ⟨g1, g2⟩ := IR.good_sub hy hw
    constructor
    · intro h
      rcases IR.lt_den_true hx g1 h with h1 | ⟨h1, h2⟩
      · left; rwa [g2, wt_lt_add_neg_iff] at h1
      · right; rw [g2] at h2; exact ⟨trivial, h1, by simpa using h2⟩
    · intro h
      apply IR.lt_den_of hx g1
      rwa [g2, wt_lt_add_neg_iff]
  test2 := by
    intro x y z hx hy hz _
    obtain ⟨g1, g2⟩ := IR.good_add hx hy
    rw [← g2]
    exact ⟨fun h => (IR.lt_den_true g1 hz h).imp_right (fun h => ⟨trivial, h⟩), IR.lt_den_of g1 hz⟩
  lt_neg := lt_neg_iff
  lt_w := lt_w_iff
  le_w := le_w_iff
  le_neg := le_neg_iff
  negStrict := fun h => (IR.fin_negStrict h).2
  step_le := fun _ _ h => entry_step h.1 h.2
  step_lt := fun _ _ h => entry_step_lt h.1 h.2

structure UHyp (n : Nat) (M : WM) (f g : Nat) (w : IR) : Prop where
  hf : f < n
  hg : g < n
  hfg : f ≠ g
  hw : IR.Fin w
  diag : ∀ a, a < n → M a a = 0
  closed : ∀ i j k, i < n → j < n → k < n → M i j ≤ M i k + M k j
  cyc : 0 ≤ M g f + ((IR.val w : QV) : WithTop QV)
  imp : ((IR.val w : QV) : WithTop QV) < M f g

end DlR
end Oratio
