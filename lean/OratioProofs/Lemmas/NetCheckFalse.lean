/-
C07NC, the answer `false` of `check(lits)` (partial): the exits "a literal is already false when it is assumed"
(relative to the decisions standing at that round, in any round of the loop) and "an inner `propagate` answered
`false`" (the returned network is dead).  See Properties/C07NetCheckNeg.lean for what is covered and what is not.
-/
import OratioProofs.Lemmas.NetCheckLoop


namespace Oratio
namespace NetCheck
open Sat Net

theorem false_lit_unsat {n : Net} {orig : Cnf} (hs : NetSound n orig) (hw : n.sat.WfS) {p : Lit}
    (hv : n.sat.value p = some false) (ps : List Lit) :
    TUnsat n (orig ++ unitsOf n.sat.decisions ++ unitsOf (p :: ps)) := by
  intro α h0 hm
  cases hF : α.cnf (orig ++ unitsOf n.sat.decisions ++ unitsOf (p :: ps)) with
  | false => rfl
  | true =>
    exfalso
    rw [Asg.cnf_append, Bool.and_eq_true] at hF
    obtain ⟨hF1, hF2⟩ := hF
    have hp : α.lit p = true := by
      simp only [unitsOf, List.map_cons, Asg.cnf_cons, Bool.and_eq_true, Asg.clause_singleton] at hF2
      exact hF2.1
    rcases hw.a.value_false.1 hv with ht | rfl
    · have := hs.trail _ ht α h0 hF1 hm
      rw [Asg.clause_singleton, Asg.lit_neg, hp] at this; cases this
    · rw [Asg.lit_falseLit h0] at hp; cases hp

theorem tunsat_mono {n : Net} {F G : Cnf} (h : TUnsat n F) (hs : ∀ d ∈ F, d ∈ G) : TUnsat n G := by
  intro α h0 hm
  cases hG : α.cnf G with
  | false => rfl
  | true => exact absurd (Asg.cnf_of_sub hs hG) (by rw [h α h0 hm]; exact Bool.false_ne_true)

/-- the exit "the decision level did not grow" (E3 of Properties/C07NetCheckNeg.lean) is not taken
    (same recursion as the loop of `check`) -/
def NoLevelDrop (fuel : Nat) : Net → List Lit → Prop
  | _, [] => True
  | n, p :: ps => ∀ n1, n.assume p fuel = some (true, n1) → ∀ n2, n1.propagate fuel = some (true, n2) →
      n.sat.decisionLevel < n2.sat.decisionLevel ∧ NoLevelDrop fuel n2 ps

/-- rests on the standing decisions after `propagate` being a SUFFIX of those at the start (`PropOutB.decs`) -/
theorem go_neg {orig : Cnf} (fuel rl : Nat) (D0 : List Lit) : ∀ (ls done : List Lit) (n : Net), Ready rl orig n →
    CheckGuard fuel n ls → NoLevelDrop fuel n ls → (∀ d ∈ n.sat.decisions, d ∈ D0 ∨ d ∈ done) →
    ∀ n', Net.check.go fuel rl n ls = some (false, n') → TUnsat n (orig ++ unitsOf D0 ++ unitsOf (done ++ ls))
  | [], done, n, _, _, _, _, n', he => by
    unfold Net.check.go at he
    simp at he
  | p :: ps, done, n, h, hg, hnd, hdec, n', he => by
    have hsub0 : ∀ d ∈ orig, d ∈ orig ++ unitsOf D0 ++ unitsOf (done ++ p :: ps) :=
      fun d hd' => List.mem_append_left _ (List.mem_append_left _ hd')
    unfold NoLevelDrop at hnd
    cases round_ok h hg he with
    | exit nx _ _ _ _ _ why =>
      obtain ⟨L, fr, hi⟩ := h.inv
      rcases why with hv | hu | ⟨n1, n2, ha, hp, hle⟩
      · refine tunsat_mono (false_lit_unsat hi.sound hi.sat.wf hv ps) (fun d hd' => ?_)
        simp only [unitsOf, List.map_append, List.mem_append, List.mem_map] at hd' ⊢
        rcases hd' with (hd' | ⟨x, hx, rfl⟩) | ⟨x, hx, rfl⟩
        · exact .inl (.inl hd')
        · exact (hdec x hx).elim (fun h' => .inl (.inr ⟨x, h', rfl⟩)) (fun h' => .inr (.inl ⟨x, h', rfl⟩))
        · exact .inr (.inr ⟨x, hx, rfl⟩)
      · exact tunsat_mono hu hsub0
      · exact absurd (hnd n1 ha n2 hp).1 (Nat.not_lt.2 hle)
    | next n1 n2 ha hp _ hr ht hdecs hg' he' =>
      have hdec2 : ∀ d ∈ n2.sat.decisions, d ∈ D0 ∨ d ∈ done ++ [p] := fun d hd' =>
        (List.mem_cons.1 (hdecs.subset hd')).elim (fun e => .inr (by simp [e]))
          fun h' => (hdec d h').imp_right (List.mem_append_left _)
      have := go_neg fuel rl D0 ps (done ++ [p]) n2 hr hg' (hnd n1 ha n2 hp).2 hdec2 n' he'
      rw [show done ++ [p] ++ ps = done ++ p :: ps by simp] at this
      exact tunsat_congr this ht

end NetCheck
end Oratio
