/-
C07: the invariant holds along every history of API calls; consequences.
-/
import OratioProofs.Lemmas.SatCoreSimp

set_option linter.unusedSimpArgs false
set_option linter.unusedVariables false

namespace Oratio
namespace Sat

/-- the invariant between API calls -/
structure InvB (orig : Cnf) (s : Sat) : Prop where
  inv : ∀ m, InvC orig m (fun _ x => x ∈ s.queue) s
  qroot : s.queue = [] ∨ s.trailLim = []

theorem init_invB : InvB [] Sat.init := by
  refine ⟨fun m => ⟨⟨⟨rfl, rfl, rfl, ?_, ?_, ?_, rfl, ?_, ?_, ?_, ?_, ?_, ?_⟩, ⟨?_, ?_, ?_, ?_, ?_, ?_⟩, ?_, ⟨rfl, ?_, ?_, ?_⟩⟩,
    ⟨?_, ?_, ?_, ?_, ?_⟩, ?_, ?_⟩, Or.inl rfl⟩
  all_goals simp [Sat.init, WfR, DecOK, W2]
  · intro v
    rcases v with _ | v <;> simp
  · intro i
    rcases i with _ | _ | i <;> simp [List.getD_eq_getElem?_getD]
  · intro i
    rcases i with _ | _ | i <;> simp [List.getD_eq_getElem?_getD]

/-! ### mirror of the API of Properties/C07.lean -/

inductive Op where
  | newVar
  | clause (c : List Lit)
  | eq (a b : Lit) | conj (ls : List Lit) | disj (ls : List Lit) | amo (ls : List Lit) | exo (ls : List Lit)
  | propagate
  | assume (p : Lit)
  | pop
  | next
  | check (ls : List Lit)
  | simplifyDb

def Op.lits : Op → List Lit
  | .clause c => c | .eq a b => [a, b] | .conj ls => ls | .disj ls => ls | .amo ls => ls | .exo ls => ls
  | .assume p => [p] | .check ls => ls | _ => []

def preL (s : Sat) (op : Op) : Bool :=
  !s.dead && op.lits.all (fun l => l.var < s.nvars) &&
  match op with
  | .newVar | .propagate => true
  | .clause _ | .eq _ _ | .conj _ | .disj _ | .amo _ | .exo _ | .simplifyDb => s.rootLevel
  | .assume p => s.queue.isEmpty && s.value p == none
  | .pop => !s.rootLevel
  | .next => s.queue.isEmpty
  | .check ls => s.queue.isEmpty && ls.all (fun l => s.value l == none) && (ls.map (·.var)).Nodup

/-- one API call on (state, ghost clause set) -/
def stepL (fuel : Nat) (s : Sat) (orig : Cnf) (op : Op) : Option (Sat × Cnf × Bool) :=
  if !s.preL op then none else
  match op with
  | .newVar => some ((s.newVar).2, orig, true)
  | .clause c => let (b, s') := s.newClause c; some (s', orig ++ [c], b)
  | .eq a b => let s' := (s.newEq a b).2; some (s', orig ++ s'.toEnc.cnf, true)
  | .conj ls => let s' := (s.newConj ls).2; some (s', orig ++ s'.toEnc.cnf, true)
  | .disj ls => let s' := (s.newDisj ls).2; some (s', orig ++ s'.toEnc.cnf, true)
  | .amo ls => let s' := (s.newAtMostOne ls).2; some (s', orig ++ s'.toEnc.cnf, true)
  | .exo ls => let s' := (s.newExctOne ls).2; some (s', orig ++ s'.toEnc.cnf, true)
  | .propagate => (s.propagate fuel).map fun (b, s') => (s', orig, b)
  | .assume p => (s.assume p fuel).map fun (b, s') => (s', orig, b)
  | .pop => some (s.pop, orig, true)
  | .next =>
    (s.next fuel).map fun (b, s') =>
      (s', (if s.rootLevel then orig else orig ++ [s.decisions.map Lit.neg]), b)
  | .check ls => (s.check ls fuel).map fun (b, s') => (s', orig, b)
  | .simplifyDb => (s.simplifyDb fuel).map fun (b, s') => (s', orig, b)

/-- a root-level state under C07's invariant (`InvC`, so `Wf`); `Sat.GoodN` (NetRoot) asks for the network's `SInv` instead -/
def Good (s : Sat) : Prop := ∃ orig, (∀ m, InvC orig m (fun _ x => x ∈ s.queue) s) ∧ s.trailLim = []

theorem good_closed : ConsClosed Good where
  newVar := fun s ⟨orig, h, hr⟩ => ⟨orig, fun m => (h m).newVar, hr⟩
  newClause := fun s c ⟨orig, h, hr⟩ hc =>
    ⟨orig ++ [c], fun m => (newClause_spec (h m) hr c hc).1, (newClause_spec (h 0) hr c hc).2.1⟩
  remember := fun s k l ⟨orig, h, hr⟩ hl => ⟨orig, fun m => (h m).remember k l hl, hr⟩
  cache := fun s ⟨orig, h, _⟩ => (h 0).wf.a.exprsRange
  val0 := fun s ⟨orig, h, _⟩ => (h 0).wf.a.val0

theorem mem_enc_units {s : Enc} {v : Nat} {b : Bool} (h : s.vals.getD v none = some b) :
    [(⟨v, b⟩ : Lit)] ∈ s.units := by
  simp only [Enc.units, List.mem_filterMap, List.mem_range]
  exact ⟨v, getD_some_lt h, by rw [h]⟩

theorem of_mem_enc_units {s : Enc} {c : Clause} (h : c ∈ s.units) :
    ∃ v b, s.vals.getD v none = some b ∧ c = [(⟨v, b⟩ : Lit)] := by
  simp only [Enc.units, List.mem_filterMap, List.mem_range] at h
  obtain ⟨v, _, hv⟩ := h
  cases hb : s.vals.getD v none with
  | none => rw [hb] at hv; cases hv
  | some b => rw [hb] at hv; exact ⟨v, b, hb, by simpa using hv.symm⟩

theorem ent_of_cons {orig K : Cnf} {s s' : Sat} (hwa : s'.WfA) (hroot : s'.trailLim = []) (hE : s.Ent orig K)
    (hf : ConsFrame s s') (hd : s.dead = false) : s'.Ent (orig ++ s'.toEnc.cnf) (K ++ s'.toEnc.cnf) := by
  have hsub : ∀ d ∈ orig, d ∈ orig ++ s'.toEnc.cnf := fun d hd' => List.mem_append_left _ hd'
  refine ⟨?_, ?_, ?_, ?_, ?_⟩
  · intro e he
    apply Ents.of_mem
    apply List.mem_append_right
    simp only [Enc.cnf, toEnc]
    exact List.mem_append_left _ (List.mem_map.2 ⟨e, he, rfl⟩)
  · intro l hl
    apply Ents.of_mem
    apply List.mem_append_left
    apply List.mem_append_right
    simp only [Enc.cnf]
    apply List.mem_append_right
    have := mem_enc_units (s := s'.toEnc) (v := l.var) (b := l.sign) (hwa.trailVal l hl).1
    exact this
  · intro c hc
    rw [hf.log] at hc
    exact (hE.log c hc).mono hsub
  · intro hd'; rw [hf.dead, hd] at hd'; cases hd'
  · intro _ α h0 hcl hroots
    rw [Asg.cnf_append]
    have hroot0 : ∀ l ∈ s'.trail, α.lit l = true := fun l hl => hroots l hl (hwa.root_lvl hroot hl)
    have h1 : α.cnf K = true := by
      apply hE.keeps hd α h0
      · simp only [Asg.cnf_iff, List.forall_mem_map] at hcl ⊢
        exact fun e he => hcl e (hf.cls e he)
      · intro l hl _
        exact hroot0 l (hf.trail l hl)
    rw [h1]
    simp only [Enc.cnf, toEnc, Bool.true_and, Asg.cnf_append, Bool.and_eq_true]
    refine ⟨hcl, ?_⟩
    rw [Asg.cnf_iff]
    intro c hc
    obtain ⟨v, b, hv, rfl⟩ := of_mem_enc_units hc
    rw [Asg.clause_singleton]
    rcases hwa.valTrail v b hv with rfl | ht
    · have : b = false := by
        have := hwa.val0
        simp only [toEnc] at hv
        rw [this] at hv; simpa using hv.symm
      subst this
      exact Asg.lit_trueLit h0
    · exact hroot0 _ ht

theorem cons_invB {orig : Cnf} {s s' : Sat} (h : InvB orig s) (hg : Good s') (hf : ConsFrame s s') (hd : s.dead = false) :
    InvB (orig ++ s'.toEnc.cnf) s' := by
  obtain ⟨orig'', h'', hr''⟩ := hg
  refine ⟨fun m => ⟨(h'' m).wf, ent_of_cons (h'' m).wf.a hr'' (h.inv m).ent hf hd, (h'' m).dec, (h'' m).w2⟩, Or.inr hr''⟩

def FalseOK (s : Sat) (orig orig' : Cnf) : Op → Prop
  | .check ls => Uns (orig ++ units s.decisions ++ units ls)
  | .next => s.rootLevel = true ∨ Uns orig'
  | _ => Uns orig'

def isProp : Op → Prop
  | .propagate | .assume _ | .next | .simplifyDb => True
  | _ => False

structure StepRes (s : Sat) (orig : Cnf) (op : Op) (s' : Sat) (orig' : Cnf) (b : Bool) : Prop where
  inv : InvB orig' s'
  falseOK : b = false → FalseOK s orig orig' op
  bcp : b = true → isProp op → s'.queue = [] ∧ s'.dead = false

theorem preL_facts {s : Sat} {op : Op} (h : s.preL op = true) :
    s.dead = false ∧ (∀ l ∈ op.lits, l.var < s.vals.length) := by
  simp only [preL, Bool.and_eq_true, Bool.not_eq_true', List.all_eq_true, decide_eq_true_eq] at h
  exact ⟨h.1.1, h.1.2⟩

/-- the calls that require root level: for those `e` holds by `rfl` -/
theorem preL_root {s : Sat} {op : Op} (h : s.preL op = true)
    (e : s.preL op = (!s.dead && op.lits.all (fun l => l.var < s.nvars) && s.rootLevel)) : s.trailLim = [] := by
  rw [e] at h
  simp only [Bool.and_eq_true, rootLevel, List.isEmpty_iff] at h; exact h.2

theorem cons_stepRes {orig : Cnf} {s s' : Sat} {op : Op} {l : Lit} (h : InvB orig s) (hd : s.dead = false)
    (hg : Good s' ∧ ConsFrame s s' ∧ l.var < s'.nvars) (hop : ¬ isProp op) :
    StepRes s orig op s' (orig ++ s'.toEnc.cnf) true :=
  ⟨cons_invB h hg.1 hg.2.1 hd, (fun e => by cases e), fun _ hp => absurd hp hop⟩

theorem InvB.of_queue_nil {orig : Cnf} {s : Sat} (h : ∀ m, InvC orig m (fun _ x => x ∈ s.queue) s) (hq : s.queue = []) :
    InvB orig s := ⟨h, Or.inl hq⟩

theorem step_spec {fuel : Nat} {s : Sat} {orig : Cnf} {op : Op} {s' : Sat} {orig' : Cnf} {b : Bool}
    (h : InvB orig s) (he : stepL fuel s orig op = some (s', orig', b)) : StepRes s orig op s' orig' b := by
  unfold stepL at he
  by_cases hpre : s.preL op = true
  · rw [if_neg (by simp [hpre])] at he
    obtain ⟨hd, hr⟩ := preL_facts hpre
    cases op with
    | newVar =>
      simp only [Option.some.injEq, Prod.mk.injEq] at he
      obtain ⟨rfl, rfl, rfl⟩ := he
      exact ⟨⟨fun m => (h.inv m).newVar, h.qroot⟩, (fun e => by cases e), fun _ hp => hp.elim⟩
    | clause c =>
      have hroot := preL_root hpre rfl
      simp only [Option.some.injEq, Prod.mk.injEq] at he
      obtain ⟨rfl, rfl, rfl⟩ := he
      have hs := fun m => newClause_spec (h.inv m) hroot c hr
      refine ⟨⟨fun m => (hs m).1, Or.inr (hs 0).2.1⟩, fun e => ?_, fun _ hp => hp.elim⟩
      exact (hs 0).1.ent.dead ((hs 0).2.2.1 e)
    | eq a c =>
      have hroot := preL_root hpre rfl
      simp only [Option.some.injEq, Prod.mk.injEq] at he
      obtain ⟨rfl, rfl, rfl⟩ := he
      exact cons_stepRes h hd (newEq_good good_closed s ⟨orig, h.inv, hroot⟩ a c (hr a (by simp [Op.lits]))
        (hr c (by simp [Op.lits]))) id
    | conj ls =>
      have hroot := preL_root hpre rfl
      simp only [Option.some.injEq, Prod.mk.injEq] at he
      obtain ⟨rfl, rfl, rfl⟩ := he
      exact cons_stepRes h hd (newConj_good good_closed s ⟨orig, h.inv, hroot⟩ ls hr) id
    | disj ls =>
      have hroot := preL_root hpre rfl
      simp only [Option.some.injEq, Prod.mk.injEq] at he
      obtain ⟨rfl, rfl, rfl⟩ := he
      exact cons_stepRes h hd (newDisj_good good_closed s ⟨orig, h.inv, hroot⟩ ls hr) id
    | amo ls =>
      have hroot := preL_root hpre rfl
      simp only [Option.some.injEq, Prod.mk.injEq] at he
      obtain ⟨rfl, rfl, rfl⟩ := he
      exact cons_stepRes h hd (newAtMostOne_good good_closed s ⟨orig, h.inv, hroot⟩ ls hr) id
    | exo ls =>
      have hroot := preL_root hpre rfl
      simp only [Option.some.injEq, Prod.mk.injEq] at he
      obtain ⟨rfl, rfl, rfl⟩ := he
      exact cons_stepRes h hd (newExctOne_good good_closed s ⟨orig, h.inv, hroot⟩ ls hr) id
    | propagate =>
      simp only [Option.map_eq_some_iff, Prod.exists, Prod.mk.injEq] at he
      obtain ⟨b1, s1, hp, rfl, rfl, rfl⟩ := he
      have hs := fun m => propagate_spec fuel s (h.inv m) hd b1 s1 hp
      refine ⟨InvB.of_queue_nil (fun m => (hs m).1) (hs 0).2.1, fun e => ?_, fun e _ => ?_⟩
      · subst e; exact (hs 0).1.ent.dead (by simpa using (hs 0).2.2.1)
      · subst e; exact ⟨(hs 0).2.1, by simpa using (hs 0).2.2.1⟩
    | assume p =>
      have hq : s.queue = [] := by
        simp only [preL, Bool.and_eq_true, List.isEmpty_iff] at hpre; exact hpre.2.1
      have hv : s.value p = none := by
        simp only [preL, Bool.and_eq_true, beq_iff_eq] at hpre; exact hpre.2.2
      dsimp only at he
      simp only [Option.map_eq_some_iff, Prod.exists, Prod.mk.injEq] at he
      obtain ⟨b1, s1, hp, rfl, rfl, rfl⟩ := he
      have hs := fun m => assume_spec (h.inv m) hq hd p (hr p (by simp [Op.lits])) (Or.inl hv) fuel b1 s1 hp
      refine ⟨InvB.of_queue_nil (fun m => (hs m).1) (hs 0).2.1, fun e => ?_, fun e _ => ?_⟩
      · subst e; exact (hs 0).1.ent.dead (by simpa using (hs 0).2.2.1 hv)
      · subst e; exact ⟨(hs 0).2.1, by simpa using (hs 0).2.2.1 hv⟩
    | pop =>
      have hnr : s.trailLim ≠ [] := by
        simp only [preL, Bool.and_eq_true, Bool.not_eq_true', rootLevel] at hpre
        intro e; rw [e] at hpre; simp at hpre
      have hq : s.queue = [] := h.qroot.resolve_right hnr
      simp only [Option.some.injEq, Prod.mk.injEq] at he
      obtain ⟨rfl, rfl, rfl⟩ := he
      refine ⟨InvB.of_queue_nil (fun m => ((h.inv m).pop hq (fun _ x hx => by rw [hq] at hx; cases hx) hnr).mono_pend
        (fun _ _ hf => hf.elim)) (by rw [pop_queue s]; exact hq), (fun e => by cases e),
        fun _ hp => hp.elim⟩
    | next =>
      have hq : s.queue = [] := by
        simp only [preL, Bool.and_eq_true, List.isEmpty_iff] at hpre; exact hpre.2
      simp only [Option.map_eq_some_iff, Prod.exists, Prod.mk.injEq] at he
      obtain ⟨b1, s1, hp, rfl, rfl, rfl⟩ := he
      by_cases hroot : s.rootLevel = true
      · rw [if_pos hroot]
        have : s.next fuel = some (false, s) := by simp [Sat.next, hroot]
        rw [this] at hp
        simp only [Option.some.injEq, Prod.mk.injEq] at hp
        obtain ⟨rfl, rfl⟩ := hp
        exact ⟨h, fun _ => Or.inl hroot, (fun e => by cases e)⟩
      · have hroot : s.rootLevel = false := by simpa using hroot
        rw [if_neg (by simp [hroot])]
        obtain ⟨n1, n2, n3, n4, n5, n6⟩ := next_spec h.inv hq hd hroot fuel b1 s1 hp
        refine ⟨InvB.of_queue_nil n1 n2, fun e => Or.inr ?_, fun e _ => ?_⟩
        · subst e; exact (n1 0).ent.dead (by simpa using n3)
        · subst e; exact ⟨n2, by simpa using n3⟩
    | check ls =>
      have hq : s.queue = [] := by
        simp only [preL, Bool.and_eq_true, List.isEmpty_iff] at hpre; exact hpre.2.1.1
      dsimp only at he
      simp only [Option.map_eq_some_iff, Prod.exists, Prod.mk.injEq] at he
      obtain ⟨b1, s1, hp, rfl, rfl, rfl⟩ := he
      obtain ⟨c1, c2, c3, c4, c5, c6, c7⟩ := check_spec h.inv hq hd ls hr fuel b1 s1 hp
      exact ⟨InvB.of_queue_nil c1 c2, fun e => c3 e, fun _ hp => hp.elim⟩
    | simplifyDb =>
      have hroot := preL_root hpre rfl
      simp only [Option.map_eq_some_iff, Prod.exists, Prod.mk.injEq] at he
      obtain ⟨b1, s1, hp, rfl, rfl, rfl⟩ := he
      have hs := fun m => simplifyDb_spec (h.inv m) hroot hd fuel b1 s1 hp
      refine ⟨InvB.of_queue_nil (fun m => (hs m).1) (hs 0).2.1, fun e => ?_, fun e _ => ?_⟩
      · subst e; exact (hs 0).1.ent.dead (by simpa using (hs 0).2.2.2.1)
      · subst e; exact ⟨(hs 0).2.1, by simpa using (hs 0).2.2.2.1⟩
  · rw [if_pos (by simpa using hpre)] at he
    cases he

theorem InvB.trail_all {orig : Cnf} {s : Sat} (h : InvB orig s) :
    ∀ l ∈ s.trail, Ents (orig ++ units s.decisions) [l] := by
  intro l hl
  exact ((h.inv 0).ent.trail l hl).mono (units_mono (List.drop_suffix _ _))

theorem InvB.values {orig : Cnf} {s : Sat} (h : InvB orig s) :
    ∀ v b, s.vals.getD v none = some b → (v = 0 ∧ b = false) ∨ (⟨v, b⟩ : Lit) ∈ s.trail := by
  intro v b hv
  rcases (h.inv 0).wf.a.valTrail v b hv with rfl | ht
  · left
    rw [(h.inv 0).wf.a.val0] at hv
    exact ⟨rfl, by simpa using hv.symm⟩
  · exact Or.inr ht

theorem eraseDups_of_nodup : ∀ (l : List Lit), l.Nodup → l.eraseDups = l
  | [], _ => rfl
  | a :: as, h => by
    rw [List.nodup_cons] at h
    rw [List.eraseDups_cons]
    have : as.filter (fun b => !b == a) = as := by
      rw [List.filter_eq_self]
      intro b hb
      have : b ≠ a := fun e => h.1 (e ▸ hb)
      simpa using this
    rw [this, eraseDups_of_nodup as h.2]

theorem InvB.bcp {orig : Cnf} {s : Sat} (h : InvB orig s) (hq : s.queue = []) (hd : s.dead = false) :
    ∀ e ∈ s.cls, (∃ l ∈ e.2, s.value l = some true) ∨
      2 ≤ (e.2.filter (fun l => s.value l = none)).eraseDups.length := by
  intro e he
  by_cases hex : ∃ l ∈ e.2, s.value l = some true
  · exact Or.inl hex
  · right
    have hno : ∀ l ∈ e.2, s.value l ≠ some true := fun l hl hv => hex ⟨l, hl, hv⟩
    have hc := (h.inv 0).wf.c
    obtain ⟨id, c⟩ := e
    have hlen := hc.clsLen _ he
    match c, he, hlen, hno with
    | l0 :: l1 :: r, he, _, hno =>
      have hw := (h.inv 0).w2 hd id l0 l1 r he
      have h0 : s.value l0 = none := by
        cases hv : s.value l0 with
        | none => rfl
        | some b =>
          cases b with
          | true => exact absurd hv (hno l0 (by simp))
          | false =>
            rcases hw.1 hv with hp | ⟨h1, _⟩
            · rw [hq] at hp; cases hp
            · exact absurd h1 (hno l1 (by simp))
      have h1 : s.value l1 = none := by
        cases hv : s.value l1 with
        | none => rfl
        | some b =>
          cases b with
          | true => exact absurd hv (hno l1 (by simp))
          | false =>
            rcases hw.2 hv with hp | ⟨h1, _⟩
            · rw [hq] at hp; cases hp
            · exact absurd h1 (hno l0 (by simp))
      have hnd : (l0 :: l1 :: r).Nodup := by
        have := hc.clsNodup _ he
        exact (List.pairwise_map.1 this).imp (fun hne e => hne (congrArg Lit.var e))
      have hfn : ((l0 :: l1 :: r).filter (fun l => s.value l = none)).Nodup := hnd.sublist List.filter_sublist
      show 2 ≤ (((l0 :: l1 :: r).filter (fun l => s.value l = none)).eraseDups).length
      rw [eraseDups_of_nodup _ hfn]
      simp [List.filter_cons, h0, h1]

theorem InvB.total {orig : Cnf} {s : Sat} (h : InvB orig s) (hq : s.queue = []) (hd : s.dead = false)
    (htot : ∀ v, v < s.nvars → s.vals.getD v none ≠ none) :
    Asg.cnf (fun v => (s.vals.getD v none).getD false) orig = true := by
  have ha := (h.inv 0).wf.a
  have hlit : ∀ l : Lit, s.value l = some true → Asg.lit (fun v => (s.vals.getD v none).getD false) l = true := by
    intro l hv
    rw [value_eq_true] at hv
    simp only [Asg.lit, hv, Option.getD_some]
    cases l.sign <;> simp
  apply (h.inv 0).ent.keeps hd _ (by show ((s.vals.getD 0 none).getD false) = false; rw [ha.val0]; rfl)
  · simp only [Asg.cnf_iff, List.forall_mem_map]
    intro e he
    rcases h.bcp hq hd e he with ⟨l, hl, hv⟩ | h2
    · exact Asg.clause_iff.2 ⟨l, hl, hlit l hv⟩
    · exfalso
      have : e.2.filter (fun l => s.value l = none) = [] := by
        rw [List.filter_eq_nil_iff]
        intro l hl
        have hlt := (h.inv 0).wf.c.clsRange e he l hl
        have := htot l.var hlt
        simp only [decide_eq_true_eq]
        rw [value_eq_none]; exact this
      rw [this] at h2; simp at h2
  · intro l hl _
    exact hlit l ((ha.value_true).2 (Or.inl hl))

theorem InvB.next_blocks {orig : Cnf} {s : Sat} (h : InvB orig s) (hpre : s.preL .next = true)
    (hr : s.rootLevel = false) {fuel : Nat} {b : Bool} {s' : Sat} (hn : s.next fuel = some (b, s')) :
    ∃ rest, s'.log = s.log ++ (s.decisions.map Lit.neg) :: rest ∧
      ∀ c ∈ rest, Ents (orig ++ [s.decisions.map Lit.neg]) c := by
  obtain ⟨hd, _⟩ := preL_facts hpre
  have hq : s.queue = [] := by
    simp only [preL, Bool.and_eq_true, List.isEmpty_iff] at hpre; exact hpre.2
  obtain ⟨n1, n2, n3, ⟨rest, n4⟩, n5, n6⟩ := next_spec h.inv hq hd hr fuel b s' hn
  refine ⟨rest, n4, fun c hc => (n1 0).ent.log c ?_⟩
  rw [n4]; simp [hc]

end Sat
end Oratio
