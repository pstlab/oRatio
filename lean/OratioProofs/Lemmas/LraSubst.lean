/-
Replacing a variable by an expression: `substRow`.  `pivot` does it to the rows that contain `x_j` (`pivotRow`),
`new_var(lin)` and `new_lt … new_gt` to their argument for every basic variable (`Lra.substBasic`, whose loop body
`substStep` is `substRow` with the row of the variable).
-/
import OratioModel
import OratioProofs.Lemmas.LraTableau

namespace Oratio
namespace Lra
open Lin

def pivCC (xj : Nat) (rl : Lin) : R := (Lin.find rl.vars xj).getD R.zero

/-- the expression `rl` with `xj` replaced by the expression `ex`: the term of `xj` is erased, `cc·ex` is added term by
    term (a coefficient that cancels is erased).  `C09A.Row.subst` on the model's representation. -/
def substRow (xj : Nat) (ex rl : Lin) : Lin :=
  ⟨(mapC (fun x => R.mul x (pivCC xj rl)) ex.vars).foldl addTerm (Lin.erase rl.vars xj),
    R.addAssign rl.known (R.mul ex.known (pivCC xj rl))⟩

theorem substRow_spec {xj : Nat} {ex rl : Lin} (hex : ex.WF) (hrl : rl.WF) :
    (substRow xj ex rl).WF ∧
    (∀ v, (Lin.find (substRow xj ex rl).vars v).isSome = true →
      (v ≠ xj ∧ (Lin.find rl.vars v).isSome = true) ∨ (Lin.find ex.vars v).isSome = true) ∧
    ∀ σ, Lin.evalS (substRow xj ex rl) σ =
      Lin.evalS rl σ - (pivCC xj rl).toRat * σ xj + (pivCC xj rl).toRat * Lin.evalS ex σ := by
  obtain ⟨rs, rw', rk⟩ := (wf_iff rl).1 hrl
  obtain ⟨es, ew, ek⟩ := (wf_iff ex).1 hex
  have hcc : R.FinWF (pivCC xj rl) := getD_finWF rw' xj
  have hmw : CoefWF (mapC (fun x => R.mul x (pivCC xj rl)) ex.vars) := coefWF_mapC (fun c hc => (R.mul_fin hc hcc).1) ew
  obtain ⟨f1, f2, -, f4⟩ := foldl_addTerm_spec (mapC (fun x => R.mul x (pivCC xj rl)) ex.vars)
    (Lin.erase rl.vars xj) (sorted_erase _ rs) (coefWF_erase rw') (sorted_mapC _ es) hmw
  refine ⟨(wf_iff _).2 ⟨f1, f2, R.finWF_addAssign rk (R.mul_fin ek hcc).1⟩, fun v hv => ?_, fun σ => ?_⟩
  · exact (foldl_addTerm_keys _ _ (sorted_erase _ rs) (coefWF_erase rw') hmw v hv).imp
      (find_erase_isSome _ _ rs).1 fun h => by rwa [find_mapC_isSome] at h
  · rw [evalS_eq, evalS_eq, evalS_eq]
    show sumS σ ((mapC _ ex.vars).foldl addTerm _) + (R.addAssign rl.known (R.mul ex.known (pivCC xj rl))).toRat = _
    rw [f4, sumS_erase_getD, R.toRat_addAssign rk (R.mul_fin ek hcc).1, (R.mul_fin ek hcc).2,
      sumS_mapC (pivCC xj rl).toRat (fun t ht => (R.mul_fin (ew t ht) hcc).2)]
    show _ - (pivCC xj rl).toRat * σ xj + _ + _ = _
    ring

/-- the loop body of `substBasic` -/
def substStep (t : Lra) (e : Lin) (v : Nat) : Lin :=
  match t.rowOf v with
  | some rl =>
    let c := (Lin.find e.vars v).getD R.zero
    Lin.addAssign { e with vars := Lin.erase e.vars v } (Lin.mulR rl c)
  | none => e

theorem substBasic_eq (t : Lra) (l : Lin) : substBasic t l = (l.vars.map (·.1)).foldl (substStep t) l := rfl

/-- `operator+=` of `lin * rational` and the term-by-term loop of `pivot` compute the same expression -/
theorem substStep_of_row {t : Lra} {v : Nat} {rl : Lin} (hr : t.rowOf v = some rl) (e : Lin) :
    substStep t e v = substRow v rl e := by
  unfold substStep substRow pivCC Lin.addAssign Lin.mulR
  simp only [hr, R.mulAssign_eq_mul]
  rfl

theorem substStep_of_none {t : Lra} {v : Nat} (hr : t.rowOf v = none) (e : Lin) : substStep t e v = e := by
  unfold substStep; rw [hr]

theorem substStep_spec {t : Lra} (hrows : ∀ r l, t.rowOf r = some l → l.WF) {e : Lin} (he : e.WF) (v : Nat) :
    (substStep t e v).WF ∧
    (∀ σ, HoldsR t σ → Lin.evalS (substStep t e v) σ = Lin.evalS e σ) ∧
    (∀ w, (Lin.find (substStep t e v).vars w).isSome = true →
      (w ≠ v ∧ (Lin.find e.vars w).isSome = true) ∨ (t.rowOf v = none ∧ (Lin.find e.vars w).isSome = true) ∨
      ∃ rl, t.rowOf v = some rl ∧ (Lin.find rl.vars w).isSome = true) := by
  cases hr : t.rowOf v with
  | none => rw [substStep_of_none hr]; exact ⟨he, fun _ _ => rfl, fun w hw => Or.inr (Or.inl ⟨rfl, hw⟩)⟩
  | some rl =>
    obtain ⟨s1, s2, s3⟩ := substRow_spec (xj := v) (hrows v rl hr) he
    rw [substStep_of_row hr]
    exact ⟨s1, fun σ hσ => by rw [s3, ← hσ v rl hr]; ring,
      fun w hw => (s2 w hw).imp id fun h => Or.inr ⟨rl, rfl, h⟩⟩

theorem substFold_spec {t : Lra} (hrows : ∀ r l, t.rowOf r = some l → l.WF) :
    ∀ (ks : List Nat) (e : Lin), e.WF →
      ((ks.foldl (substStep t) e).WF ∧
       (∀ σ, HoldsR t σ → Lin.evalS (ks.foldl (substStep t) e) σ = Lin.evalS e σ) ∧
       (∀ w, (Lin.find (ks.foldl (substStep t) e).vars w).isSome = true →
         (Lin.find e.vars w).isSome = true ∨ ∃ r rl, t.rowOf r = some rl ∧ (Lin.find rl.vars w).isSome = true) ∧
       ((∀ r l v, t.rowOf r = some l → (Lin.find l.vars v).isSome = true → t.rowOf v = none) →
         (∀ w, (Lin.find e.vars w).isSome = true → t.rowOf w = none ∨ w ∈ ks) →
         ∀ w, (Lin.find (ks.foldl (substStep t) e).vars w).isSome = true → t.rowOf w = none)) := by
  intro ks
  induction ks with
  | nil =>
    intro e he
    refine ⟨he, fun _ _ => rfl, fun w hw => Or.inl hw, ?_⟩
    intro _ h w hw
    rcases h w hw with h | h
    · exact h
    · cases h
  | cons v ks ih =>
    intro e he
    obtain ⟨s1, s2, s3⟩ := substStep_spec hrows he v
    obtain ⟨i1, i2, i3, i4⟩ := ih (substStep t e v) s1
    rw [List.foldl_cons]
    refine ⟨i1, ?_, ?_, ?_⟩
    · intro σ hσ
      rw [i2 σ hσ, s2 σ hσ]
    · intro w hw
      rcases i3 w hw with h | h
      · rcases s3 w h with h | h | ⟨rl, hr, h⟩
        · exact Or.inl h.2
        · exact Or.inl h.2
        · exact Or.inr ⟨v, rl, hr, h⟩
      · exact Or.inr h
    · intro hnb h
      apply i4 hnb
      intro w hw
      rcases s3 w hw with ⟨hne, hk⟩ | ⟨hn, hk⟩ | ⟨rl, hr, hk⟩
      · rcases h w hk with h' | h'
        · exact Or.inl h'
        · rcases List.mem_cons.1 h' with h' | h'
          · exact absurd h' hne
          · exact Or.inr h'
      · rcases h w hk with h' | h'
        · exact Or.inl h'
        · rcases List.mem_cons.1 h' with h' | h'
          · exact Or.inl (h' ▸ hn)
          · exact Or.inr h'
      · exact Or.inl (hnb v rl w hr hk)

theorem substBasic_spec {t : Lra} (hrows : ∀ r l, t.rowOf r = some l → l.WF) {l : Lin} (hl : l.WF) :
    (substBasic t l).WF ∧
    (∀ σ, HoldsR t σ → Lin.evalS (substBasic t l) σ = Lin.evalS l σ) ∧
    (∀ w, (Lin.find (substBasic t l).vars w).isSome = true →
      (Lin.find l.vars w).isSome = true ∨ ∃ r rl, t.rowOf r = some rl ∧ (Lin.find rl.vars w).isSome = true) ∧
    ((∀ r l v, t.rowOf r = some l → (Lin.find l.vars v).isSome = true → t.rowOf v = none) →
      ∀ w, (Lin.find (substBasic t l).vars w).isSome = true → t.rowOf w = none) := by
  rw [substBasic_eq]
  obtain ⟨f1, f2, f3, f4⟩ := substFold_spec hrows (l.vars.map (·.1)) l hl
  refine ⟨f1, f2, f3, fun hnb => f4 hnb ?_⟩
  intro w hw
  obtain ⟨p, hp, hpw⟩ := find_isSome_iff.1 hw
  exact Or.inr (List.mem_map.2 ⟨p, hp, hpw⟩)

end Lra

end Oratio
