/-
C08 for difference logic: `Logged B cur l` relates the state at `push` time to the current state with head
layer `l`; every mutator used between `push` and `pop` keeps it, and it gives `cur.pop = B`.
-/
import OratioProofs.Lemmas.Undo
import OratioProofs.Lemmas.DlMat


namespace Oratio
namespace Undo
open Dl

variable {α : Type} (O : DOps α)

theorem d_eq_cell (t : Dl α) (i j : Nat) : d O t i j = (cell t.dists i j).getD O.inf := by
  unfold d cell
  rw [List.getD_eq_getElem?_getD (l := t.dists.getD i [])]

theorem p_eq_cell (t : Dl α) (i j : Nat) : p t i j = (cell t.preds i j).getD noPred := by
  unfold p cell
  rw [List.getD_eq_getElem?_getD (l := t.preds.getD i [])]

theorem setD_eq (t : Dl α) (i j : Nat) (x : α) : setD t i j x = { t with dists := setM t.dists i j x } := rfl
theorem setP_eq (t : Dl α) (i j : Nat) (x : Nat) : setP t i j x = { t with preds := setM t.preds i j x } := rfl

/-- `cur` is `B` (the state at `push`) but for the cells written since, whose old values the head layer `l` holds -/
structure Logged (B cur : Dl α) (l : DLayer α) : Prop where
  layers : cur.layers = l :: B.layers
  nVars : cur.nVars = B.nVars
  varDists : cur.varDists = B.varDists
  distConstrs : cur.distConstrs = B.distConstrs
  dshape : cur.dists.map List.length = B.dists.map List.length
  pshape : cur.preds.map List.length = B.preds.map List.length
  dlog : MLog O.inf B.dists cur.dists l.oldDists
  plog : MLog noPred B.preds cur.preds l.oldPreds
  clog : CLog B.distConstr cur.distConstr l.oldConstrs
  sorted : SortedK cur.distConstr
  bsorted : SortedK B.distConstr

/-- `Logged` for some head layer: what `push` establishes, the mutators keep, and `pop_of_Lg` uses -/
def Lg (B cur : Dl α) : Prop := ∃ l, Logged O B cur l

theorem Lg_push (t : Dl α) (hs : SortedK t.distConstr) : Lg O t t.push :=
  ⟨⟨[], [], []⟩, ⟨rfl, rfl, rfl, rfl, rfl, rfl, MLog_init _ _, MLog_init _ _, CLog_init _, hs, hs⟩⟩

theorem Lg_setDist {B t : Dl α} (h : Lg O B t) (i j : Nat) (x : α) : Lg O B (setDist O t i j x) := by
  obtain ⟨l, h⟩ := h
  have hsh : (setM t.dists i j x).map List.length = B.dists.map List.length := (shape_setM _ _ _ _).trans h.dshape
  unfold setDist
  rw [h.layers]
  simp only
  split
  · next hk => exact ⟨l, { h with dshape := hsh, dlog := MLog_write_logged h.dlog (lookupPair_isSome hk) x }⟩
  · next hk =>
    exact ⟨{ l with oldDists := emplacePair l.oldDists (i, j) (d O t i j) }, { h with
      layers := rfl, dshape := hsh
      dlog := d_eq_cell O t i j ▸ MLog_write_new h.dlog (lookupPair_not_isSome hk) x }⟩

theorem Lg_setPred {B t : Dl α} (h : Lg O B t) (i j : Nat) (x : Nat) : Lg O B (setPred t i j x) := by
  obtain ⟨l, h⟩ := h
  have hsh : (setM t.preds i j x).map List.length = B.preds.map List.length := (shape_setM _ _ _ _).trans h.pshape
  unfold setPred
  rw [h.layers]
  simp only
  split
  · next hk => exact ⟨l, { h with pshape := hsh, plog := MLog_write_logged h.plog (lookupPair_isSome hk) x }⟩
  · next hk =>
    exact ⟨{ l with oldPreds := emplacePair l.oldPreds (i, j) (p t i j) }, { h with
      layers := rfl, pshape := hsh
      plog := p_eq_cell t i j ▸ MLog_write_new h.plog (lookupPair_not_isSome hk) x }⟩

theorem Lg_saveAssign {B t : Dl α} (h : Lg O B t) (k : K) (b : Nat) : Lg O B (armed t k b) := by
  obtain ⟨l, h⟩ := h
  unfold armed saveConstr
  rw [h.layers]
  simp only
  split
  · next hk =>
    exact ⟨l, { h with clog := CLog_assign h.clog (lookupPair_isSome hk) b, sorted := sorted_assign h.sorted _ _ }⟩
  · next hk =>
    exact ⟨{ l with oldConstrs := emplacePair l.oldConstrs k (lookupPair t.distConstr k) }, { h with
      layers := rfl, sorted := sorted_assign h.sorted _ _
      clog := CLog_assign (CLog_save_new h.clog (lookupPair_not_isSome hk)) (emplace_spec _ _ _).2.2 b }⟩

theorem Lg_propagateEdge {B t : Dl α} (h : Lg O B t) (s : Sat) (a b : Nat) (x : α) :
    Lg O B (propagateEdge O s t a b x).2 :=
  propagateEdge_writes O (Lg O B) x (fun _ i j x y h _ => Lg_setPred O (Lg_setDist O h i j x) i j y) s t a b h

theorem Lg_propagateLit {B t : Dl α} (h : Lg O B t) (s : Sat) (pl : Lit) {s' : Sat} {t' : Dl α}
    (he : propagateLit O s t pl = .inr (s', t')) : Lg O B t' := by
  rcases DlG.propagateLit_run O he with e | ⟨c, b, f, g, w, -, -, e⟩
  · rw [(Prod.mk.inj e).2]; exact h
  · rw [show t' = _ from (congrArg Prod.snd e).symm]
    exact Lg_propagateEdge O (Lg_saveAssign O h _ c.b) s _ _ _

theorem foldl_setD (log : List (K × α)) : ∀ t : Dl α,
    log.foldl (fun t e => setD t e.1.1 e.1.2 e.2) t =
      { t with dists := log.foldl (fun D e => setM D e.1.1 e.1.2 e.2) t.dists } := by
  induction log with
  | nil => intro t; rfl
  | cons e log ih => intro t; simp only [List.foldl_cons]; rw [ih]; rfl

theorem foldl_setP (log : List (K × Nat)) : ∀ t : Dl α,
    log.foldl (fun t e => setP t e.1.1 e.1.2 e.2) t =
      { t with preds := log.foldl (fun D e => setM D e.1.1 e.1.2 e.2) t.preds } := by
  induction log with
  | nil => intro t; rfl
  | cons e log ih => intro t; simp only [List.foldl_cons]; rw [ih]; rfl

theorem foldl_restoreC (log : List (K × Option Nat)) (dc : List (K × Nat)) :
    log.foldl (fun dc e => match e.2 with
      | some b => assignPair dc e.1 b
      | none => erasePair dc e.1) dc = log.foldl restoreC dc := rfl

theorem pop_of_logged {B cur : Dl α} {l : DLayer α} (h : Logged O B cur l) : cur.pop = B := by
  unfold pop
  rw [h.layers]
  simp only
  rw [foldl_setD, foldl_setP]
  simp only
  show Dl.mk _ _ _ (List.foldl restoreC cur.distConstr l.oldConstrs) _ _ _ = B
  rw [MLog_restore h.dshape h.dlog, MLog_restore h.pshape h.plog,
    CLog_restore h.bsorted h.sorted h.clog, h.nVars, h.varDists, h.distConstrs]

theorem pop_of_Lg {B cur : Dl α} (h : Lg O B cur) : cur.pop = B := by
  obtain ⟨l, h⟩ := h; exact pop_of_logged O h

theorem Lg_sorted {B cur : Dl α} (h : Lg O B cur) : SortedK cur.distConstr ∧ SortedK B.distConstr := by
  obtain ⟨l, h⟩ := h; exact ⟨h.sorted, h.bsorted⟩

end Undo
end Oratio
