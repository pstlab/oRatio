/-
`Lra.update` in closed form: every basic variable watching `x` moves by its coefficient times the change of `x`
(`shiftFold_spec`, `rows_shift`), so a valuation that solved the rows still does (`update_holds`), in the rational and in
the infinitesimal component.
-/
import OratioModel
import OratioProofs.Lemmas.LraCheckOps
import OratioProofs.Lemmas.LraTableau

namespace Oratio
namespace Lra
open Lin

theorem pivot_vals_bounds (t : Lra) (xi xj : Nat) :
    (t.pivot xi xj).vals = t.vals ∧ (t.pivot xi xj).bounds = t.bounds := by
  obtain ⟨tab, tw, h⟩ := onlyTab_pivot t xi xj
  rw [h]
  exact ⟨rfl, rfl⟩

theorem evalS_change_one {l : Lin} (hl : l.WF) (x : Nat) {σ σ' : Nat → Rat}
    (h : ∀ k, (Lin.find l.vars k).isSome = true → k ≠ x → σ' k = σ k) :
    Lin.evalS l σ' = Lin.evalS l σ + ((Lin.find l.vars x).getD R.zero).toRat * (σ' x - σ x) := by
  obtain ⟨ls, lw, lk⟩ := (wf_iff l).1 hl
  have h1 : Lin.evalS l σ' = Lin.evalS l (Function.update σ x (σ' x)) := by
    apply eval_coeff_spec l hl
    intro k hk
    by_cases hkx : k = x
    · subst hkx
      simp
    · rw [Function.update_of_ne hkx]
      apply h k _ hkx
      cases hf : Lin.find l.vars k with
      | none =>
        exfalso
        apply hk
        show ((Lin.find l.vars k).getD R.zero).toRat = 0
        rw [hf]
        exact R.toRat_zero
      | some c => rfl
  have he : ({ l with vars := Lin.erase l.vars x } : Lin).WF :=
    (wf_iff _).2 ⟨sorted_erase _ ls, coefWF_erase lw, lk⟩
  have hno : Lin.find (Lin.erase l.vars x) x = none := by
    rw [find_erase _ _ ls, if_pos rfl]
  have h2 := evalS_update he hno σ (σ' x)
  rw [evalS_eq, evalS_eq] at h2
  have h3 := sumS_erase_getD (m := l.vars) x σ
  have h4 := sumS_erase_getD (m := l.vars) x (Function.update σ x (σ' x))
  rw [Function.update_self] at h4
  rw [h1, evalS_eq, evalS_eq]
  have h2' : sumS (Function.update σ x (σ' x)) (Lin.erase l.vars x) = sumS σ (Lin.erase l.vars x) := by
    have : ({ l with vars := Lin.erase l.vars x } : Lin).vars = Lin.erase l.vars x := rfl
    rw [this] at h2
    linarith
  linarith

/-- the coefficient of `xi` in the row of `x` -/
def updCoef (t : Lra) (xi x : Nat) : R := (Lin.find ((t.rowOf x).getD Lin.empty).vars xi).getD R.zero

/-- the loop body of `update` on `vals` -/
def updStep (t : Lra) (xi : Nat) (v : IR) (vals : List IR) (x : Nat) : List IR :=
  vals.set x (IR.addAssign (vals.getD x (IR.ofR R.zero))
    (IR.rMul (updCoef t xi x) (IR.sub v (vals.getD xi (IR.ofR R.zero)))))

theorem update_fold (t : Lra) (xi : Nat) (v : IR) : ∀ (W : List Nat) (u : Lra), u.tableau = t.tableau →
    W.foldl (fun t x =>
      let a := (Lin.find ((t.rowOf x).getD Lin.empty).vars xi).getD R.zero
      t.setVal x (IR.addAssign (t.value x) (IR.rMul a (IR.sub v (t.value xi))))) u =
      { u with vals := W.foldl (updStep t xi v) u.vals } := by
  intro W
  induction W with
  | nil => intro u _; rfl
  | cons x W ih =>
    intro u hu
    rw [List.foldl_cons, List.foldl_cons]
    have hrow : u.rowOf x = t.rowOf x := by rw [rowOf_eq, rowOf_eq, hu]
    have hstep : (let a := (Lin.find ((u.rowOf x).getD Lin.empty).vars xi).getD R.zero
        u.setVal x (IR.addAssign (u.value x) (IR.rMul a (IR.sub v (u.value xi))))) =
        { u with vals := updStep t xi v u.vals x } := by
      simp only [hrow]
      rfl
    rw [hstep, ih { u with vals := updStep t xi v u.vals x } hu]

theorem update_eq (t : Lra) (xi : Nat) (v : IR) :
    t.update xi v = { t with vals := ((t.tWatches.getD xi []).foldl (updStep t xi v) t.vals).set xi v } := by
  unfold update
  simp only
  rw [update_fold t xi v _ t rfl]
  rfl

/-- one step of the value loops of `update` and `pivot_and_update`: `x` moves by `a x · δ`, `skip` stays -/
def shiftStep (a : Nat → R) (δ : IR) (skip : Nat) (vals : List IR) (x : Nat) : List IR :=
  if x != skip then vals.set x (IR.addAssign (vals.getD x (IR.ofR R.zero)) (IR.rMul (a x) δ)) else vals

theorem shiftStep_length (a : Nat → R) (δ : IR) (skip : Nat) (vals : List IR) (x : Nat) :
    (shiftStep a δ skip vals x).length = vals.length := by
  unfold shiftStep; split
  · exact List.length_set
  · rfl

theorem shiftStep_getD (a : Nat → R) (δ : IR) (skip : Nat) (vals : List IR) (x y : Nat) (hx : x < vals.length) :
    (shiftStep a δ skip vals x).getD y (IR.ofR R.zero) =
      if y = x ∧ y ≠ skip then IR.addAssign (vals.getD y (IR.ofR R.zero)) (IR.rMul (a y) δ)
      else vals.getD y (IR.ofR R.zero) := by
  unfold shiftStep
  by_cases hs : x = skip
  · rw [if_neg (by simp [hs]), if_neg (fun h => h.2 (h.1.trans hs))]
  · rw [if_pos (by simpa using hs), getD_set]
    by_cases hy : x = y
    · subst hy; rw [if_pos ⟨rfl, hx⟩, if_pos ⟨rfl, hs⟩]
    · rw [if_neg (fun h => hy h.1), if_neg (fun h => hy h.1.symm)]

theorem shiftFold_spec (a : Nat → R) (δ : IR) (skip : Nat) : ∀ (W : List Nat) (vals : List IR),
    W.Nodup → (∀ x ∈ W, x < vals.length) →
    (W.foldl (shiftStep a δ skip) vals).length = vals.length ∧
    ∀ y, (W.foldl (shiftStep a δ skip) vals).getD y (IR.ofR R.zero) =
      if y ∈ W ∧ y ≠ skip then IR.addAssign (vals.getD y (IR.ofR R.zero)) (IR.rMul (a y) δ)
      else vals.getD y (IR.ofR R.zero) := by
  intro W
  induction W with
  | nil => intro vals _ _; exact ⟨rfl, fun y => by simp⟩
  | cons x W ih =>
    intro vals hnd hb
    rw [List.nodup_cons] at hnd
    have hlen := shiftStep_length a δ skip vals x
    obtain ⟨i1, i2⟩ := ih (shiftStep a δ skip vals x) hnd.2
      (fun y hy => by rw [hlen]; exact hb y (List.mem_cons_of_mem _ hy))
    rw [List.foldl_cons]
    refine ⟨i1.trans hlen, fun y => ?_⟩
    have hS := shiftStep_getD a δ skip vals x y (hb x List.mem_cons_self)
    rw [i2 y]
    by_cases hyW : y ∈ W
    · have hyx : ¬ (y = x ∧ y ≠ skip) := fun h => hnd.1 (h.1 ▸ hyW)
      rw [hS, if_neg hyx]
      simp only [hyW, List.mem_cons, or_true]
    · simp only [hyW, false_and, if_false, List.mem_cons, or_false]
      exact hS

/-- the loop of `update` reads `vals[xi]` at every step, but never writes it -/
theorem updFold_eq_shift (t : Lra) (xi : Nat) (v : IR) : ∀ (W : List Nat) (vals : List IR), xi ∉ W →
    W.foldl (updStep t xi v) vals =
      W.foldl (shiftStep (updCoef t xi) (IR.sub v (vals.getD xi (IR.ofR R.zero))) xi) vals := by
  intro W
  induction W with
  | nil => intro vals _; rfl
  | cons x W ih =>
    intro vals hxi
    have hx : x ≠ xi := fun h => hxi (h ▸ List.mem_cons_self)
    have h1 : updStep t xi v vals x =
        shiftStep (updCoef t xi) (IR.sub v (vals.getD xi (IR.ofR R.zero))) xi vals x := by
      unfold shiftStep; rw [if_pos (by simpa using hx)]; rfl
    rw [List.foldl_cons, List.foldl_cons, ih _ (fun h => hxi (List.mem_cons_of_mem _ h)), h1]
    unfold shiftStep
    rw [if_pos (by simpa using hx), getD_set_ne _ _ _ _ _ hx]

/-- the moves of `update` and of `pivot_and_update` have this form (`c`: an offset per row) -/
theorem rows_shift {t : Lra} (hi : Inv t) {xj : Nat} {σ σ' : Nat → Rat} {θ : Rat} (c : Lin → Rat)
    (hxj : σ' xj = σ xj + θ) (hnb : ∀ x, t.rowOf x = none → x ≠ xj → σ' x = σ x)
    (hb : ∀ x l, t.rowOf x = some l → σ' x = σ x + ((Lin.find l.vars xj).getD R.zero).toRat * θ)
    (h : ∀ x l, t.rowOf x = some l → σ x = Lin.evalS l σ - c l) :
    ∀ x l, t.rowOf x = some l → σ' x = Lin.evalS l σ' - c l := by
  intro x l hr
  rw [evalS_change_one (hi.rows x l hr) xj (fun k hk hkx => hnb k (hi.nonbasic x l k hr hk) hkx),
    hb x l hr, h x l hr, hxj]
  ring

/-- `π` is one of the two components of `inf_rational` -/
structure IsComp (π : IR → R) : Prop where
  add : ∀ a b, π (IR.addAssign a b) = R.addAssign (π a) (π b)
  mul : ∀ c b, π (IR.rMul c b) = R.mul c (π b)
  sub : ∀ a b, π (IR.sub a b) = R.sub (π a) (π b)

theorem isComp_rat : IsComp IR.rat := ⟨fun _ _ => rfl, fun _ _ => rfl, fun _ _ => rfl⟩
theorem isComp_inf : IsComp IR.inf := ⟨fun _ _ => rfl, fun _ _ => rfl, fun _ _ => rfl⟩

theorem updCoef_of_row {t : Lra} {x : Nat} {l : Lin} (hr : t.rowOf x = some l) (xi : Nat) :
    updCoef t xi x = (Lin.find l.vars xi).getD R.zero := by
  unfold updCoef; rw [hr]; rfl

theorem updCoef_fin {t : Lra} (hi : Inv t) (xi x : Nat) : R.FinWF (updCoef t xi x) := by
  unfold updCoef
  cases hr : t.rowOf x with
  | none => exact R.finWF_zero
  | some l => exact getD_finWF ((wf_iff l).1 (hi.rows x l hr)).2.1 xi

theorem IsComp.toRat_shift {π : IR → R} (hπ : IsComp π) {a δ : IR} {c : R} (ha : R.FinWF (π a)) (hc : R.FinWF c)
    (hδ : R.FinWF (π δ)) : R.FinWF (π (IR.addAssign a (IR.rMul c δ))) ∧
      (π (IR.addAssign a (IR.rMul c δ))).toRat = (π a).toRat + c.toRat * (π δ).toRat := by
  rw [hπ.add, hπ.mul]
  have hm := R.mul_fin hc hδ
  exact ⟨R.finWF_addAssign ha hm.1, by rw [R.toRat_addAssign ha hm.1, hm.2]⟩

theorem update_value {t : Lra} (hi : Inv t) (hlen : t.tWatches.length = t.vals.length) {xi : Nat} (hnb : t.rowOf xi = none)
    (hxi : xi < t.vals.length) (v : IR) :
    (t.update xi v).vals.length = t.vals.length ∧ ∀ y, (t.update xi v).value y =
      if y = xi then v
      else if y ∈ t.tWatches.getD xi [] then
        IR.addAssign (t.value y) (IR.rMul (updCoef t xi y) (IR.sub v (t.value xi)))
      else t.value y := by
  obtain ⟨f1, f2⟩ := shiftFold_spec (updCoef t xi) (IR.sub v (t.vals.getD xi (IR.ofR R.zero))) xi _ t.vals (hi.watch_nodup xi)
    (fun x hx => hlen ▸ hi.watch_lt hx)
  rw [← updFold_eq_shift t xi v _ t.vals (hi.not_mem_watch hnb xi)] at f1 f2
  refine ⟨by rw [update_eq]; exact List.length_set.trans f1, fun y => ?_⟩
  rw [update_eq]
  show (((t.tWatches.getD xi []).foldl (updStep t xi v) t.vals).set xi v).getD y (IR.ofR R.zero) = _
  rw [getD_set]
  by_cases hy : y = xi
  · subst hy
    rw [if_pos ⟨rfl, by rw [f1]; exact hxi⟩, if_pos rfl]
  · rw [if_neg (fun h => hy h.1.symm), if_neg hy, f2 y]
    simp only [hy, ne_eq, not_false_eq_true, and_true]
    rfl

theorem update_holds {π : IR → R} (hπ : IsComp π) {t : Lra} (ht : TabWF t) {xi : Nat}
    (hnb : t.rowOf xi = none) (hxi : xi < t.vals.length)
    (hfin : ∀ x, R.FinWF (π (t.value x))) {v : IR} (hv : R.FinWF (π v)) (c : Lin → Rat)
    (h : ∀ e ∈ t.tableau, (π (t.value e.1)).toRat = Lin.evalS e.2 (fun x => (π (t.value x)).toRat) - c e.2) :
    (t.update xi v).tableau = t.tableau ∧ (t.update xi v).tWatches = t.tWatches ∧
    (t.update xi v).vals.length = t.vals.length ∧
    (t.update xi v).value xi = v ∧
    (∀ x, t.rowOf x = none → x ≠ xi → (t.update xi v).value x = t.value x) ∧
    (∀ x, R.FinWF (π ((t.update xi v).value x))) ∧
    (∀ e ∈ (t.update xi v).tableau,
      (π ((t.update xi v).value e.1)).toRat =
        Lin.evalS e.2 (fun x => (π ((t.update xi v).value x)).toRat) - c e.2) := by
  obtain ⟨hi, hlen⟩ := (tabWF_iff t).1 ht
  obtain ⟨f1, hval⟩ := update_value hi hlen hnb hxi v
  have hδ : R.FinWF (π (IR.sub v (t.value xi))) ∧
      (π (IR.sub v (t.value xi))).toRat = (π v).toRat - (π (t.value xi)).toRat := by
    rw [hπ.sub]; exact R.sub_fin hv (hfin xi)
  have hnew := fun y => hπ.toRat_shift (hfin y) (updCoef_fin hi xi y) hδ.1
  have htab : (t.update xi v).tableau = t.tableau := by rw [update_eq]
  have hnbv : ∀ x, t.rowOf x = none → x ≠ xi → (t.update xi v).value x = t.value x := fun x hx hne => by
    rw [hval, if_neg hne, if_neg (hi.not_mem_watch hx xi)]
  refine ⟨htab, by rw [update_eq], f1, by rw [hval, if_pos rfl], hnbv, fun x => ?_, ?_⟩
  · rw [hval]
    split
    · exact hv
    · split
      · exact (hnew x).1
      · exact hfin x
  · rw [htab]
    intro e he
    have hr : t.rowOf e.1 = some e.2 := tabFind_of_mem hi.keys he
    refine rows_shift (σ := fun x => (π (t.value x)).toRat) (σ' := fun x => (π ((t.update xi v).value x)).toRat)
      (θ := (π (IR.sub v (t.value xi))).toRat) hi c
      ?_ (fun x hx hne => by show (π _).toRat = _; rw [hnbv x hx hne]) (fun x l hl => ?_)
      (fun x l hl => h (x, l) (tabFind_some_mem hl)) e.1 e.2 hr
    · show (π ((t.update xi v).value xi)).toRat = _
      rw [hval, if_pos rfl, hδ.2]; ring
    · have hne : x ≠ xi := fun hx => by rw [hx, hnb] at hl; cases hl
      show (π ((t.update xi v).value x)).toRat = _
      rw [hval, if_neg hne]
      by_cases hW : x ∈ t.tWatches.getD xi []
      · rw [if_pos hW, (hnew x).2, updCoef_of_row hl]
      · rw [if_neg hW, hi.find_none_of_not_mem hl hW]
        show _ = _ + R.zero.toRat * _
        rw [R.toRat_zero]; ring

end Lra

end Oratio
