/-
A run of `check` as a sequence of `CheckStep`s ending in a `CheckExit` (`check_induction`), and the fields that `update`,
`pivot`, `pivot_and_update` and `check` write (`OnlyTab`, `OnlyVT`; `c09Core` is what they leave alone).  Last, the two
small states on which the examples of `Properties/C09.lean` run `check`.
-/
import OratioModel
import OratioProofs.Lemmas.LraState

namespace Oratio
namespace Lra

/-! Bland's rule: the first row (ascending basic variable) whose basic variable is out of bounds, and
in it the first variable (ascending) that can move in the helping direction. -/

def violated (t : Lra) (e : Nat × Lin) : Bool := IR.lt (t.value e.1) (t.lb e.1) || IR.gt (t.value e.1) (t.ub e.1)

/-- the term lets the row's value grow / shrink -/
def canGrow (t : Lra) (e : Nat × R) : Bool :=
  (e.2.isPositive && IR.lt (t.value e.1) (t.ub e.1)) || (e.2.isNegative && IR.gt (t.value e.1) (t.lb e.1))
def canShrink (t : Lra) (e : Nat × R) : Bool :=
  (e.2.isNegative && IR.lt (t.value e.1) (t.ub e.1)) || (e.2.isPositive && IR.gt (t.value e.1) (t.lb e.1))

/-- the explanations of `check`: the bounds that stop the row from growing (shrinking), then the violated bound -/
def lbConflict (t : Lra) (xi : Nat) (fl : Lin) : List Lit :=
  fl.vars.foldl (fun c e => if e.2.isPositive then c ++ [(t.ubReason e.1).neg]
    else if e.2.isNegative then c ++ [(t.lbReason e.1).neg] else c) [] ++ [(t.lbReason xi).neg]
def ubConflict (t : Lra) (xi : Nat) (fl : Lin) : List Lit :=
  fl.vars.foldl (fun c e => if e.2.isPositive then c ++ [(t.lbReason e.1).neg]
    else if e.2.isNegative then c ++ [(t.ubReason e.1).neg] else c) [] ++ [(t.ubReason xi).neg]

theorem check_succ (t : Lra) (fuel : Nat) : t.check (fuel + 1) =
    match t.tableau.find? (violated t) with
    | none => some (none, t)
    | some (xi, fl) =>
      if IR.lt (t.value xi) (t.lb xi) then
        match fl.vars.find? (canGrow t) with
        | some (xj, _) => check (t.pivotAndUpdate xi xj (t.lb xi)) fuel
        | none => some (some (lbConflict t xi fl), t)
      else if IR.gt (t.value xi) (t.ub xi) then
        match fl.vars.find? (canShrink t) with
        | some (xj, _) => check (t.pivotAndUpdate xi xj (t.ub xi)) fuel
        | none => some (some (ubConflict t xi fl), t)
      else check t fuel := rfl

/-- one `pivot_and_update` of `check` -/
inductive CheckStep (t : Lra) : Lra → Prop
  | lower {xi xj : Nat} {fl : Lin} {c : R} (hf : t.tableau.find? (violated t) = some (xi, fl))
      (hlt : IR.lt (t.value xi) (t.lb xi) = true) (hq : fl.vars.find? (canGrow t) = some (xj, c)) :
      CheckStep t (t.pivotAndUpdate xi xj (t.lb xi))
  | upper {xi xj : Nat} {fl : Lin} {c : R} (hf : t.tableau.find? (violated t) = some (xi, fl))
      (hlt : IR.lt (t.value xi) (t.lb xi) = false) (hgt : IR.gt (t.value xi) (t.ub xi) = true)
      (hq : fl.vars.find? (canShrink t) = some (xj, c)) : CheckStep t (t.pivotAndUpdate xi xj (t.ub xi))

/-- the state in which `check` returns, with its answer -/
inductive CheckExit (t : Lra) : Option (List Lit) → Prop
  | ok (hf : t.tableau.find? (violated t) = none) : CheckExit t none
  | lower {xi : Nat} {fl : Lin} (hf : t.tableau.find? (violated t) = some (xi, fl))
      (hlt : IR.lt (t.value xi) (t.lb xi) = true) (hq : fl.vars.find? (canGrow t) = none) :
      CheckExit t (some (lbConflict t xi fl))
  | upper {xi : Nat} {fl : Lin} (hf : t.tableau.find? (violated t) = some (xi, fl))
      (hlt : IR.lt (t.value xi) (t.lb xi) = false) (hgt : IR.gt (t.value xi) (t.ub xi) = true)
      (hq : fl.vars.find? (canShrink t) = none) : CheckExit t (some (ubConflict t xi fl))

theorem check_induction {P : Lra → Prop} (hstep : ∀ t u, P t → CheckStep t u → P u) (fuel : Nat) :
    ∀ (t t' : Lra) (c : Option (List Lit)), P t → t.check fuel = some (c, t') → P t' ∧ CheckExit t' c := by
  induction fuel with
  | zero => intro t t' c _ h; cases h
  | succ n ih =>
    intro t t' c hP h
    rw [check_succ] at h
    split at h
    · next hf => cases h; exact ⟨hP, .ok hf⟩
    · next xi fl hf =>
      split at h
      · next hlt =>
        split at h
        · next xj cj hq => exact ih _ _ _ (hstep _ _ hP (.lower hf hlt hq)) h
        · next hq => cases h; exact ⟨hP, .lower hf hlt hq⟩
      · next hlt =>
        have hlt : IR.lt (t.value xi) (t.lb xi) = false := by simpa using hlt
        split at h
        · next hgt =>
          split at h
          · next xj cj hq => exact ih _ _ _ (hstep _ _ hP (.upper hf hlt hgt hq)) h
          · next hq => cases h; exact ⟨hP, .upper hf hlt hgt hq⟩
        · exact ih _ _ _ hP h

theorem check_exit {t t' : Lra} {fuel : Nat} {c : Option (List Lit)} (h : t.check fuel = some (c, t')) :
    CheckExit t' c :=
  (check_induction (P := fun _ => True) (fun _ _ _ _ => trivial) fuel t t' c trivial h).2

end Lra

section
open Lra

def Lra.inBounds (t : Lra) (x : Nat) : Prop := IR.lt (t.value x) (t.lb x) = false ∧ IR.gt (t.value x) (t.ub x) = false

theorem Lra.check_success_inBounds {t t' : Lra} {fuel : Nat} (h : t.check fuel = some (none, t')) :
    ∀ e ∈ t'.tableau, t'.inBounds e.1 := by
  cases check_exit h with
  | ok hf =>
    intro e he
    simpa [Lra.inBounds, violated] using List.find?_eq_none.1 hf e he

end

namespace Lra

/-- the part of the state that `check` never touches: bounds, assertions, undo log, expression and assertion tables -/
def c09Core (t : Lra) :
    List LBound × List (Nat × LAsrt) × List (List (Nat × LBound)) × List (String × Nat) × List (String × Lit) :=
  (t.bounds, t.vAsrts, t.layers, t.exprs, t.sAsrts)

theorem C09_core_iff (t u : Lra) :
    u.c09Core = t.c09Core ↔
      (u.bounds = t.bounds ∧ u.vAsrts = t.vAsrts ∧ u.layers = t.layers ∧ u.exprs = t.exprs ∧ u.sAsrts = t.sAsrts) := by
  simp [c09Core, Prod.ext_iff]

theorem C09_foldl_inv {α β : Type} (P : β → Prop) (f : β → α → β) (hf : ∀ b a, P b → P (f b a)) :
    ∀ (l : List α) (b : β), P b → P (l.foldl f b) :=
  fun l _ hb => List.foldlRecOn l f hb fun b hb a _ => hf b a hb

/-- `u` differs from `t` in the tableau and the watch lists only: what `pivot` and its parts do -/
def OnlyTab (t u : Lra) : Prop := ∃ tab tw, u = { t with tableau := tab, tWatches := tw }

theorem OnlyTab.refl (t : Lra) : OnlyTab t t := ⟨_, _, rfl⟩

theorem OnlyTab.trans {t u w : Lra} (h1 : OnlyTab t u) (h2 : OnlyTab u w) : OnlyTab t w := by
  obtain ⟨tab, tw, rfl⟩ := h1
  obtain ⟨tab', tw', rfl⟩ := h2
  exact ⟨tab', tw', rfl⟩

theorem OnlyTab.foldl {α : Type} {f : Lra → α → Lra} (hf : ∀ t a, OnlyTab t (f t a)) (l : List α) (t : Lra) :
    OnlyTab t (l.foldl f t) :=
  C09_foldl_inv (OnlyTab t) f (fun u a hu => hu.trans (hf u a)) l t (.refl t)

theorem OnlyTab.core {t u : Lra} (h : OnlyTab t u) : u.c09Core = t.c09Core := by
  obtain ⟨tab, tw, rfl⟩ := h
  rfl

theorem onlyTab_newRow (t : Lra) (x : Nat) (l : Lin) : OnlyTab t (t.newRow x l) :=
  OnlyTab.trans ⟨_, _, rfl⟩ (OnlyTab.foldl (fun _ _ => ⟨_, _, rfl⟩) _ _)

theorem onlyTab_pivotRow (t : Lra) (xj : Nat) (expr : Lin) (r : Nat) : OnlyTab t (t.pivotRow xj expr r) := by
  unfold pivotRow
  refine OnlyTab.trans ?_ ⟨_, _, rfl⟩
  refine C09_foldl_inv (fun (acc : Lin × Lra) => OnlyTab t acc.2) _ (fun acc e hacc => ?_) _ _ (.refl t)
  obtain ⟨rl, u⟩ := acc
  dsimp only at hacc ⊢
  split
  · exact hacc.trans ⟨_, _, rfl⟩
  · split
    · exact hacc.trans ⟨_, _, rfl⟩
    · exact hacc

theorem onlyTab_pivot (t : Lra) (xi xj : Nat) : OnlyTab t (t.pivot xi xj) := by
  have h1 : OnlyTab t (List.foldl (fun t e => unwatchRow t e.1 xi)
      { t with tableau := t.tableau.filter (fun e => e.1 != xi) } ((t.rowOf xi).getD Lin.empty).vars) :=
    OnlyTab.trans ⟨_, _, rfl⟩ (OnlyTab.foldl (fun _ _ => ⟨_, _, rfl⟩) _ _)
  unfold pivot
  exact ((h1.trans ⟨_, _, rfl⟩).trans (OnlyTab.foldl (fun u r => onlyTab_pivotRow u xj _ r) _ _)).trans
    (onlyTab_newRow _ _ _)

theorem C09_core_pivot (t : Lra) (xi xj : Nat) : (t.pivot xi xj).c09Core = t.c09Core :=
  (onlyTab_pivot t xi xj).core

theorem foldl_only_vals {α : Type} {f : Lra → α → Lra}
    (hf : ∀ t a, ∃ vs, f t a = { t with vals := vs } ∧ vs.length = t.vals.length) : ∀ (l : List α) (t : Lra),
    ∃ vs, l.foldl f t = { t with vals := vs } ∧ vs.length = t.vals.length
  | [], t => ⟨t.vals, rfl, rfl⟩
  | a :: l, t => by
    obtain ⟨vs, h, hl⟩ := hf t a
    obtain ⟨vs', h', hl'⟩ := foldl_only_vals hf l (f t a)
    exact ⟨vs', by rw [List.foldl_cons, h', h], by rw [hl', h]; exact hl⟩

theorem update_only_vals (t : Lra) (xi : Nat) (v : IR) :
    ∃ vs, t.update xi v = { t with vals := vs } ∧ vs.length = t.vals.length := by
  obtain ⟨vs, h, hl⟩ := foldl_only_vals (f := fun t x => t.setVal x (IR.addAssign (t.value x)
    (IR.rMul ((Lin.find ((t.rowOf x).getD Lin.empty).vars xi).getD R.zero) (IR.sub v (t.value xi)))))
    (fun _ _ => ⟨_, rfl, List.length_set⟩) (t.tWatches.getD xi []) t
  exact ⟨vs.set xi v, congrArg (·.setVal xi v) h, List.length_set.trans hl⟩

def OnlyVT (t u : Lra) : Prop :=
  ∃ vs tab tw, u = { t with vals := vs, tableau := tab, tWatches := tw } ∧ vs.length = t.vals.length

theorem OnlyVT.refl (t : Lra) : OnlyVT t t := ⟨_, _, _, rfl, rfl⟩

theorem OnlyVT.trans {t u w : Lra} (h1 : OnlyVT t u) (h2 : OnlyVT u w) : OnlyVT t w := by
  obtain ⟨vs, tab, tw, rfl, hl⟩ := h1
  obtain ⟨vs', tab', tw', rfl, hl'⟩ := h2
  exact ⟨vs', tab', tw', rfl, hl'.trans hl⟩

theorem OnlyTab.vt {t u : Lra} (h : OnlyTab t u) : OnlyVT t u := by
  obtain ⟨tab, tw, rfl⟩ := h
  exact ⟨_, _, _, rfl, rfl⟩

theorem OnlyVT.core {t u : Lra} (h : OnlyVT t u) : u.c09Core = t.c09Core := by
  obtain ⟨vs, tab, tw, rfl, -⟩ := h
  rfl

theorem OnlyVT.bounds {t u : Lra} (h : OnlyVT t u) : u.bounds = t.bounds := congrArg (·.1) h.core

theorem OnlyVT.layers {t u : Lra} (h : OnlyVT t u) : u.layers = t.layers := congrArg (·.2.2.1) h.core

theorem OnlyVT.kept {t u : Lra} (h : OnlyVT t u) : Kept t u := by
  obtain ⟨vs, tab, tw, rfl, hl⟩ := h
  exact ⟨rfl, rfl, rfl, rfl, hl, rfl⟩

theorem update_writes (t : Lra) (xi : Nat) (v : IR) : OnlyVT t (t.update xi v) := by
  obtain ⟨vs, h, hl⟩ := update_only_vals t xi v
  exact ⟨vs, _, _, h, hl⟩

theorem C09_core_update (t : Lra) (xi : Nat) (v : IR) : (t.update xi v).c09Core = t.c09Core :=
  (update_writes t xi v).core

/-- the state `pivotAndUpdate` pivots: `t` with the values moved -/
def pauPre (t : Lra) (xi xj : Nat) (v : IR) : Lra :=
  let aij := (Lin.find ((t.rowOf xi).getD Lin.empty).vars xj).getD R.zero
  let theta := IR.divR (IR.sub v (t.value xi)) aij
  let t := t.setVal xi v
  let t := t.setVal xj (IR.addAssign (t.value xj) theta)
  (t.tWatches.getD xj []).foldl (fun t x =>
    if x != xi then
      let a := (Lin.find ((t.rowOf x).getD Lin.empty).vars xj).getD R.zero
      t.setVal x (IR.addAssign (t.value x) (IR.rMul a theta))
    else t) t

theorem pivotAndUpdate_def (t : Lra) (xi xj : Nat) (v : IR) :
    t.pivotAndUpdate xi xj v = (pauPre t xi xj v).pivot xi xj := rfl

theorem pauPre_only_vals (t : Lra) (xi xj : Nat) (v : IR) :
    ∃ vs, pauPre t xi xj v = { t with vals := vs } ∧ vs.length = t.vals.length := by
  unfold pauPre
  refine (foldl_only_vals (fun u x => ?_) _ _).imp fun vs h => ⟨h.1, h.2.trans ?_⟩
  · dsimp only
    split
    · exact ⟨_, rfl, List.length_set⟩
    · exact ⟨_, rfl, rfl⟩
  · exact List.length_set.trans List.length_set

theorem pivotAndUpdate_writes (t : Lra) (xi xj : Nat) (v : IR) : OnlyVT t (t.pivotAndUpdate xi xj v) := by
  obtain ⟨vs, h, hl⟩ := pauPre_only_vals t xi xj v
  exact OnlyVT.trans ⟨vs, _, _, h, hl⟩ (onlyTab_pivot _ xi xj).vt

theorem C09_core_pivotAndUpdate (t : Lra) (xi xj : Nat) (v : IR) : (t.pivotAndUpdate xi xj v).c09Core = t.c09Core :=
  (pivotAndUpdate_writes t xi xj v).core

theorem CheckStep.writes {t u : Lra} (h : CheckStep t u) : OnlyVT t u := by
  cases h <;> exact pivotAndUpdate_writes _ _ _ _

theorem check_writes {t t' : Lra} {fuel : Nat} {c : Option (List Lit)} (h : t.check fuel = some (c, t')) : OnlyVT t t' :=
  (check_induction (P := OnlyVT t) (fun _ _ hu hs => hu.trans hs.writes) fuel t t' c (.refl t) h).1

theorem C09_core_check (fuel : Nat) : ∀ (t t' : Lra) (c : Option (List Lit)), t.check fuel = some (c, t') →
    t'.c09Core = t.c09Core := fun _ _ _ h => (check_writes h).core

theorem C09_update_bounds (t : Lra) (xi : Nat) (v : IR) : (t.update xi v).bounds = t.bounds :=
  congrArg (·.1) (C09_core_update t xi v)

/-- x0 free and non-basic, x1 basic with row `x1 = x0` and bounds `1 ≤ x1`, every value 0 -/
def c09ExampleState : Lra :=
  { bounds := [⟨IR.ofR R.ninf, Lit.trueLit⟩, ⟨IR.ofR R.pinf, Lit.trueLit⟩,
               ⟨IR.ofR R.one, Lit.trueLit⟩, ⟨IR.ofR R.pinf, Lit.trueLit⟩],
    vals := [IR.ofR R.zero, IR.ofR R.zero],
    tableau := [(1, Lin.var 0 R.one)],
    exprs := [], sAsrts := [], vAsrts := [],
    aWatches := [[], []], tWatches := [[1], []], layers := [] }

/-- the same with `x0 ≤ 0` -/
def c09ConflictState : Lra := c09ExampleState.setBound (ubIdx 0) ⟨IR.ofR R.zero, Lit.trueLit⟩

/-- a decidable test from which the existential of the example follows (`Lra` has no decidable equality) -/
theorem C09_example_witness (t : Lra) (fuel : Nat)
    (h : (t.check fuel).map (fun p => p.1.isNone && (p.2.tableau.map (·.1) != t.tableau.map (·.1))) = some true) :
    ∃ t', t.check fuel = some (none, t') ∧ t'.tableau ≠ t.tableau := by
  cases hc : t.check fuel with
  | none => rw [hc] at h; simp at h
  | some p =>
    obtain ⟨c, t'⟩ := p
    rw [hc] at h
    simp only [Option.map_some, Option.some.injEq, Bool.and_eq_true, Option.isNone_iff_eq_none, bne_iff_ne, ne_eq] at h
    refine ⟨t', by rw [h.1], fun he => h.2 (by rw [he])⟩

theorem C09_example_conflict_witness (t : Lra) (fuel : Nat)
    (h : (t.check fuel).map (fun p => p.1.isSome) = some true) :
    ∃ c t', t.check fuel = some (some c, t') := by
  cases hc : t.check fuel with
  | none => rw [hc] at h; simp at h
  | some p =>
    obtain ⟨c, t'⟩ := p
    rw [hc] at h
    cases c with
    | none => simp at h
    | some c => exact ⟨c, t', rfl⟩

end Lra

end Oratio
