/-
C09X: every clause that unate propagation and bound propagation through the rows emit (`Emits`, LraExplOut) is
true under a boolean assignment `α` that agrees with a solution `σ` of the tableau: a theory lemma.  Everything is
about ONE theory state `t` and one pair `α`, `σ`.
-/
import OratioModel
import OratioProofs.Lemmas.LraExplOut
import OratioProofs.Lemmas.LraInterval
import OratioProofs.Lemmas.LraTableau

namespace Oratio
namespace Lra
open IR Lin

def OutOK (P : List Lit → Prop) (s : Sat) (r : Option (List Lit) × Sat) : Prop :=
  (∀ c, r.1 = some c → P c) ∧ ∃ new, r.2.log = s.log ++ new ∧ ∀ c ∈ new, P c

abbrev Tr (α : Asg) : List Lit → Prop := fun cl => α.clause cl = true

theorem okN (α : Asg) (s : Sat) : OutOK (Tr α) s (Option.none, s) :=
  ⟨fun _ h => (nomatch h), [], (List.append_nil _).symm, fun _ h => (nomatch h)⟩

section fixed

variable {t : Lra} {α : Asg} {σr σi : Nat → Rat}

/-- `bv` is a bound of `x` on side `d` explained by `ex` (under `α`, `σ`) -/
def SEv (d : Side) (α : Asg) (σr σi : Nat → Rat) (x : Nat) (bv : IR) (ex : List Lit) : Prop :=
  SOk d bv ∧ ((∀ l ∈ ex, α.lit l = false) → d.holds bv (nu σr σi x))

theorem sEv_bound (hb : BoundsOK t) (hj : BoundsJust α σr σi t) {x : Nat} (hx : ubIdx x < t.bounds.length) (d : Side) :
    SEv d α σr σi x (d.bd t x) [(d.rsn t x).neg] :=
  ⟨hb.side x d, fun hall => hj.side hx d (lit_of_neg_false (hall _ (List.mem_singleton.2 rfl)))⟩

/-- were all literals of `literal :: explanation` false, the bound would hold of `x`, and the assertion (read
    through `AsrtAgrees`) would put `x` strictly on its wrong side -/
theorem clause_entailed (hao : AsrtOK t) (ha : AsrtAgrees α σr σi t) {d : Side} {bv : IR} {ex : List Lit}
    {b : Nat} {a : LAsrt} (hev : SEv d α σr σi a.x bv ex) (hm : (b, a) ∈ t.vAsrts)
    (h : d.entails bv a = true) : α.clause (d.lit a :: ex) = true := by
  apply Dl.clause_true_of
  intro hall
  have hbv := hev.2 fun l hl => hall l (List.mem_cons_of_mem _ hl)
  have hl := hall _ List.mem_cons_self
  unfold Side.entails at h
  unfold Side.lit at hl
  by_cases ho : a.o = d.op
  · rw [if_pos ho] at h hl
    have h1 := (d.holds_fin (hao _ hm) _).1 (Side.weaken (hao _ hm) hev.1 h hbv)
    exact Side.not_lt_of_le (Side.le_trans h1 ((ha.side hm ho).2 hl)) (d.down_lt _)
  · rw [if_neg ho] at h hl
    exact Side.refute (hao _ hm) hev.1 h hbv
      ((d.flip.holds_fin (hao _ hm) _).2 ((ha.side hm (Side.op_of_ne ho)).1 (lit_of_neg_false hl)))

/-- holds whatever variable `negTest` makes the loop test: the `row::propagate_ub` oddity lets an infinite bound into
    the sum, and the term, hence the sum, is then the infinity of the side -/
theorem rowSumS_holds (hb : BoundsOK t) (hj : BoundsJust α σr σi t) (d : Side) (negTest : Nat → Nat) :
    ∀ (vars : List (Nat × R)), CoefWF vars → (∀ p ∈ vars, ubIdx p.1 < t.bounds.length) →
    ∀ (s0 : IR) (ex0 : List Lit) (sum : IR) (ex : List Lit), SOk d s0 →
      rowSumS d t negTest vars (s0, ex0) = some (sum, ex) →
      SOk d sum ∧ ((∀ l ∈ ex, α.lit l = false) → ∀ s, d.holds s0 s → d.holds sum (s + sumQ (nu σr σi) vars)) := by
  intro vars
  induction vars with
  | nil =>
    intro _ _ s0 ex0 sum ex h0 h
    simp only [rowSumS, Option.some.injEq, Prod.mk.injEq] at h
    obtain ⟨rfl, rfl⟩ := h
    exact ⟨h0, fun _ s hs => by rw [sumQ_nil, add_zero]; exact hs⟩
  | cons p rest ih =>
    obtain ⟨cv, c⟩ := p
    intro hw hr s0 ex0 sum ex h0 h
    have hc : R.FinWF c := hw (cv, c) List.mem_cons_self
    have hcv := hr (cv, c) List.mem_cons_self
    have ih' := ih (fun q hq => hw q (List.mem_cons_of_mem _ hq)) (fun q hq => hr q (List.mem_cons_of_mem _ hq))
    -- a term that is added: its bound holds of `ν(cv)` once the negated reason, which is in `ex`, is false
    have step : ∀ {e : Side} {m : IR}, SOk d m → (∀ v, e.holds (e.bd t cv) v → d.holds m (c.toRat • v)) →
        rowSumS d t negTest rest (IR.addAssign s0 m, ex0 ++ [(e.rsn t cv).neg]) = some (sum, ex) →
        SOk d sum ∧ ((∀ l ∈ ex, α.lit l = false) → ∀ s, d.holds s0 s →
          d.holds sum (s + (c.toRat • nu σr σi cv + sumQ (nu σr σi) rest))) := fun {e m} t1 t2 h => by
      obtain ⟨a1, a2⟩ := Side.add h0 t1
      obtain ⟨r1, r2⟩ := ih' _ _ _ _ a1 h
      have hmem : (e.rsn t cv).neg ∈ ex :=
        (rowSumS_ex _ _ _ _ _ _ _ _ h _).2 (Or.inl (List.mem_append_right _ (List.mem_singleton.2 rfl)))
      refine ⟨r1, fun hall s hs => ?_⟩
      rw [← add_assoc]
      exact r2 hall _ (a2 _ _ hs (t2 _ (hj.side hcv e (lit_of_neg_false (hall _ hmem)))))
    simp only [rowSumS] at h
    rw [sumQ_cons]
    split at h
    · next hpos =>
      split at h
      · cases h
      · obtain ⟨t1, t2⟩ := d.scale_pos (isMul_rMul hc (hb.side cv d)) hc ((R.isPositive_iff c).1 hpos) (hb.side cv d)
        exact step t1 (fun v => (t2 v).2) h
    · next hpos =>
      split at h
      · next hneg =>
        split at h
        · cases h
        · obtain ⟨t1, t2⟩ := d.scale_neg (isMul_rMul hc (hb.side cv d.flip)) hc ((R.isNegative_iff c).1 hneg)
            (hb.side cv d.flip)
          exact step t1 (fun v => (t2 v).2) h
      · next hneg =>
        obtain ⟨r1, r2⟩ := ih' _ _ _ _ h0 h
        refine ⟨r1, fun hall s hs => ?_⟩
        rw [zero_toRat hc (by simpa using hpos) (by simpa using hneg), zero_smul, zero_add]
        exact r2 hall s hs

theorem watched_row (ht : TabWF t) {v x : Nat} (hx : x ∈ t.tWatches.getD v []) :
    ∃ l, t.rowOf x = some l ∧ (x, l) ∈ t.tableau := by
  obtain ⟨e, he, rfl, _⟩ := (ht.watch v x).1 hx
  exact ⟨e.2, tabFind_of_mem ht.keys he, he⟩

theorem Expl.sEv {d : Side} {xi : Nat} {e : Side} {x : Nat} {bv : IR} {ex : List Lit}
    (h : Expl d t xi e x bv ex) (inv : ExplInv t) (hxi : ubIdx xi < t.bounds.length)
    (hs : Solves t σr σi) (hj : BoundsJust α σr σi t) : SEv e α σr σi x bv ex := by
  cases h with
  | bound => exact sEv_bound inv.bok hj hxi d
  | @row e x nt sum ex hx he hsum =>
    obtain ⟨l, hl, hmem⟩ := watched_row inv.tab hx
    rw [hl, Option.getD_some] at hsum
    obtain ⟨_, lw, lk⟩ := (wf_iff l).1 (inv.tab.rows _ hmem)
    obtain ⟨f0, v0⟩ := fin_ofR lk
    obtain ⟨r1, r2⟩ := rowSumS_holds inv.bok hj e nt l.vars lw (row_var_inrange inv.tab inv.blen hmem).2 _ _ _ _
      (Or.inl f0) hsum
    refine ⟨r1, fun hall => ?_⟩
    rw [show nu σr σi x = evalQ l (nu σr σi) from hs.row hmem]
    unfold evalQ
    rw [add_comm, ← v0]
    exact r2 hall _ ((e.holds_fin f0 _).2 (e.le_refl _))

theorem Emits.lemma {d : Side} {xi : Nat} {cl : Clause} (h : Emits d t xi cl) (inv : ExplInv t)
    (hxi : ubIdx xi < t.bounds.length) : Lemma t cl := by
  intro α σr σi hs hj ha
  obtain ⟨e, x, bv, ex, b, a, hx, hb, hab, he, rfl⟩ := h
  exact clause_entailed inv.aok ha (inv.awatch x b hb a hab ▸ hx.sEv inv hxi hs hj) (mem_of_asrtOf hab) he

end fixed

end Lra

end Oratio
