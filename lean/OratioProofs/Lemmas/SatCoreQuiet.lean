/-
C07: the reified constructors, run on the full solver state at root level, never report an
inconsistency (`dead` is unchanged), keep every "good" property that the primitives keep, and only
extend the state (frame conditions).  The encoder lemmas first meet the solver state here, so what a
root-level `newClause` answers (`Sat.newClause_outcome`) is proved here as well.
-/
import OratioProofs.Lemmas.SatCoreCons
import OratioProofs.Lemmas.SatCoreUpd
import OratioProofs.Lemmas.EncCard

namespace Oratio

structure Sat.ConsFrame (s s' : Sat) : Prop where
  nvars : s.nvars ≤ s'.nvars
  dead : s'.dead = s.dead
  trailLim : s'.trailLim = s.trailLim
  decisions : s'.decisions = s.decisions
  log : s'.log = s.log
  cls : ∀ e ∈ s.cls, e ∈ s'.cls
  trail : ∀ l ∈ s.trail, l ∈ s'.trail

structure Sat.ConsClosed (Good : Sat → Prop) : Prop where
  newVar : ∀ s, Good s → Good s.newVar.2
  newClause : ∀ s c, Good s → (∀ l ∈ c, l.var < s.nvars) → Good (s.newClause c).2
  remember : ∀ s k l, Good s → l.var < s.nvars → Good (s.remember k l)
  cache : ∀ s, Good s → ∀ e ∈ s.exprs, e.2.var < s.nvars
  val0 : ∀ s, Good s → s.vals.getD 0 none = some false

theorem Lit.q_neg_var (l : Lit) : l.neg.var = l.var := Lit.neg_var l

theorem Sat.value_none_of_var {s : Sat} {a b : Lit} (h : a.var = b.var) (hb : s.value b = none) :
    s.value a = none := by
  rw [Sat.value_eq_none] at *; rw [h]; exact hb

theorem Sat.value_neg_none {s : Sat} {a : Lit} (ha : s.value a = none) : s.value a.neg = none :=
  Sat.value_none_of_var (a := a.neg) (b := a) rfl ha

theorem Sat.value_none_of_ge {s : Sat} {l : Lit} (h : s.nvars ≤ l.var) : s.value l = none :=
  EncL.value_none_of_ge (s := s.toEnc) h

theorem Sat.lt_of_value_some {s : Sat} {l : Lit} {b} (h : s.value l = some b) : l.var < s.nvars := by
  by_cases h' : l.var < s.nvars
  · exact h'
  · rw [Sat.value_none_of_ge (by omega)] at h; cases h

theorem Sat.ConsFrame.refl (s : Sat) : Sat.ConsFrame s s :=
  ⟨Nat.le_refl _, rfl, rfl, rfl, rfl, fun _ h => h, fun _ h => h⟩

theorem Sat.ConsFrame.trans {s s' s'' : Sat} (h : Sat.ConsFrame s s') (h' : Sat.ConsFrame s' s'') :
    Sat.ConsFrame s s'' :=
  ⟨Nat.le_trans h.nvars h'.nvars, h'.dead.trans h.dead, h'.trailLim.trans h.trailLim,
    h'.decisions.trans h.decisions, h'.log.trans h.log, fun e he => h'.cls e (h.cls e he),
    fun e he => h'.trail e (h.trail e he)⟩

/-- a "quiet" step: no value changes -/
structure Sat.QS (Good : Sat → Prop) (s s' : Sat) : Prop where
  good : Good s'
  frame : Sat.ConsFrame s s'
  val : ∀ l, s'.value l = s.value l

theorem Sat.QS.refl {Good : Sat → Prop} {s : Sat} (hg : Good s) : Sat.QS Good s s :=
  ⟨hg, Sat.ConsFrame.refl s, fun _ => rfl⟩

theorem Sat.QS.trans {Good : Sat → Prop} {s s' s'' : Sat} (h : Sat.QS Good s s') (h' : Sat.QS Good s' s'') :
    Sat.QS Good s s'' :=
  ⟨h'.good, h.frame.trans h'.frame, fun l => (h'.val l).trans (h.val l)⟩

theorem Sat.QS.le {Good : Sat → Prop} {s s' : Sat} (h : Sat.QS Good s s') : s.nvars ≤ s'.nvars := h.frame.nvars

theorem Sat.newVar_fst (s : Sat) : s.newVar.1 = s.nvars := rfl

theorem Sat.newVar_QS {Good : Sat → Prop} (hc : Sat.ConsClosed Good) {s : Sat} (hg : Good s) :
    Sat.QS Good s s.newVar.2 where
  good := hc.newVar s hg
  frame := ⟨by rw [Sat.newVar_nvars]; omega, rfl, rfl, rfl, rfl, fun _ h => h, fun _ h => h⟩
  val := Sat.newVar_value s

theorem Sat.remember_QS {Good : Sat → Prop} (hc : Sat.ConsClosed Good) {s : Sat} (hg : Good s) (k : Key)
    {l : Lit} (hl : l.var < s.nvars) : Sat.QS Good s (s.remember k l) where
  good := hc.remember s k l hg hl
  frame := ⟨Nat.le_refl _, rfl, rfl, rfl, rfl, fun _ h => h, fun _ h => h⟩
  val _ := rfl

theorem Sat.lookup_lt {Good : Sat → Prop} (hc : Sat.ConsClosed Good) {s : Sat} (hg : Good s) {k : Key} {l : Lit}
    (h : s.lookup k = some l) : l.var < s.nvars := by
  unfold Sat.lookup at h
  cases hf : s.exprs.find? (fun e => e.1 = k) with
  | none => simp [hf] at h
  | some e =>
    simp [hf] at h
    subst h
    exact hc.cache s hg e (List.mem_of_find?_eq_some hf)

theorem Sat.zero_lt {Good : Sat → Prop} (hc : Sat.ConsClosed Good) {s : Sat} (hg : Good s) : 0 < s.nvars := by
  have h := hc.val0 s hg
  unfold Sat.nvars
  cases hv : s.vals with
  | nil => simp [hv] at h
  | cons a t => simp

/-! The filtering loops are analysed once, on the root-level model (Lemmas/EncClause.lean, EncCard.lean); the generic
constructors run the same loops on the root-level view of the state. -/

section
set_option smartUnfolding false

theorem Cons.scanJunct_toEnc (s : Sat) (ab : Bool) (c : List Lit) (p : Option Lit) (acc : List Lit) :
    Cons.scanJunct Sat.prim s ab c p acc = Enc.scanJunct s.toEnc ab c p acc := by rfl

theorem Cons.scanCard_toEnc (s : Sat) (c : List Lit) (p : Option Lit) (acc : List Lit) :
    Cons.scanCard Sat.prim s c p acc = Enc.scanCard s.toEnc c p acc := by rfl

end

theorem Sat.scanJunct_mem {s : Sat} {ab : Bool} {ls L : List Lit} (hls : ∀ l ∈ ls, l.var < s.nvars)
    (heq : Cons.scanJunct Sat.prim s ab (Enc.sortByVar ls) none [] = some L) :
    ∀ l ∈ L, l.var < s.nvars ∧ s.value l = none := by
  rw [Cons.scanJunct_toEnc] at heq
  obtain ⟨h1, h2, -⟩ := EncL.scan_some heq
  exact fun l hl => ⟨hls l (EncL.mem_sortByVar.1 (h1.subset hl)), h2 l hl⟩

theorem Sat.scanCard_open {s : Sat} {ls L : List Lit} (hls : ∀ l ∈ ls, l.var < s.nvars)
    (heq : Cons.scanCard Sat.prim s (Enc.sortDedup ls) none [] = .open L) :
    ∀ l ∈ L, l.var < s.nvars ∧ s.value l = none := by
  have := EncL.scanCard_out (s := s.toEnc) (Enc.sortDedup ls) none [] rfl
  rw [← Cons.scanCard_toEnc, heq] at this
  obtain ⟨kept, rfl, h2, h3, -⟩ := this
  exact fun l hl => ⟨hls l (EncL.mem_sortDedup.1 (h2.subset (by simpa using hl))), h3 l (by simpa using hl)⟩

theorem Sat.scanCard_oneTrue {s : Sat} {ls others : List Lit} (hls : ∀ l ∈ ls, l.var < s.nvars)
    (heq : Cons.scanCard Sat.prim s (Enc.sortDedup ls) none [] = .oneTrue others) :
    ∀ l ∈ others.map Lit.neg, l.var < s.nvars := by
  have := EncL.scanCard_out (s := s.toEnc) (Enc.sortDedup ls) none [] rfl
  rw [← Cons.scanCard_toEnc, heq] at this
  obtain ⟨pre, t, post, hrest, -, kept, rfl, h2, -, -⟩ := this
  intro l hl
  obtain ⟨l', hl', rfl⟩ := List.mem_map.1 hl
  have hl' : l' ∈ pre ++ post := h2.subset (by simpa using hl')
  refine hls l' (EncL.mem_sortDedup.1 ?_)
  rw [hrest]; simp only [List.mem_append, List.mem_cons] at hl' ⊢
  exact hl'.imp_right .inr

theorem Sat.toEnc_value (s : Sat) (l : Lit) : s.toEnc.value l = s.value l := rfl

theorem Sat.addClause_frame (s : Sat) (ls : Clause) :
    Sat.ConsFrame s (s.addClause ls).2 ∧ (s.addClause ls).2.vals = s.vals := by
  unfold Sat.addClause
  split <;>
    (refine ⟨⟨Nat.le_refl _, rfl, rfl, rfl, rfl, ?_, fun _ h => h⟩, rfl⟩
     intro e he
     simp [Sat.watch, he])

theorem Enc.scanJunct_nodup (s : Enc) (ab : Bool) : ∀ (c : List Lit) (p : Option Lit) (acc r : List Lit),
    c.Pairwise (fun a b => a.var ≤ b.var) → acc.Pairwise (fun a b => b.var < a.var) → p = acc.head? →
    (∀ a ∈ acc, ∀ l ∈ c, a.var ≤ l.var) → Enc.scanJunct s ab c p acc = some r → (r.map Lit.var).Nodup
  | [], p, acc, r, _, hacc, _, _, h => by
    simp only [Enc.scanJunct, Option.some.injEq] at h
    subst h
    rw [List.map_reverse, (List.reverse_perm _).nodup_iff]
    rw [List.Nodup, List.pairwise_map]
    exact hacc.imp (fun hlt => by omega)
  | l :: rest, p, acc, r, hc, hacc, hp, hle, h => by
    rw [List.pairwise_cons] at hc
    simp only [Enc.scanJunct] at h
    split at h
    · cases h
    · rename_i hnot
      have hle' : ∀ a ∈ acc, ∀ x ∈ rest, a.var ≤ x.var := fun a ha x hx => hle a ha x (List.mem_cons_of_mem _ hx)
      split at h
      · rename_i hkeep
        simp only [Bool.or_eq_true, decide_eq_true_eq, not_or, Bool.and_eq_true] at hnot hkeep
        refine Enc.scanJunct_nodup s ab rest (some l) (l :: acc) r hc.2 ?_ rfl ?_ h
        · rw [List.pairwise_cons]
          refine ⟨?_, hacc⟩
          intro a ha
          have h1 := hle a ha l (List.mem_cons_self ..)
          rcases Nat.lt_or_eq_of_le h1 with hlt | heq
          · exact hlt
          · exfalso
            -- `a` must be the head `p`
            cases acc with
            | nil => cases ha
            | cons q acc' =>
              simp only [List.head?_cons] at hp
              rw [List.pairwise_cons] at hacc
              have hq : a = q := by
                rcases List.mem_cons.1 ha with rfl | ha'
                · rfl
                · have h2 := hacc.1 a ha'
                  have h3 := hle q (List.mem_cons_self ..) l (List.mem_cons_self ..)
                  omega
              subst hq
              subst hp
              rcases Lit.eq_or_neg heq with e | e
              · exact hkeep.2 (by rw [e])
              · apply hnot.2
                simp only [Option.map_some, Option.some.injEq]
                rw [e]; simp
        · intro a ha x hx
          rcases List.mem_cons.1 ha with rfl | ha
          · exact hc.1 x hx
          · exact hle' a ha x hx
      · exact Enc.scanJunct_nodup s ab rest p acc r hc.2 hacc hp hle' h

theorem Sat.newClause_outcome (s : Sat) (c : List Lit) :
    (s.newClause c = (true, s) ∧ ∃ l ∈ c, s.value l = some true ∨ l.neg ∈ c) ∨
    ∃ r, (∀ l ∈ r, l ∈ c ∧ s.value l = none) ∧ (∀ l ∈ c, l ∈ r ∨ s.value l = some false) ∧ (r.map Lit.var).Nodup ∧
      s.newClause c = match r with
        | [] => (false, { s with dead := true })
        | [l] => s.enqueue l none
        | ls => (true, (s.addClause ls).2) := by
  have hsortmem : ∀ l, l ∈ Enc.sortByVar c ↔ l ∈ c := fun l => EncL.mem_sortByVar
  unfold Sat.newClause
  cases hscan : Enc.scanClause s.toEnc (Enc.sortByVar c) none [] with
  | none =>
    rw [EncL.scanClause_eq] at hscan
    refine .inl ⟨rfl, ?_⟩
    rcases EncL.scan_none hscan with ⟨l, hl, hv⟩ | ⟨l, hl, -, hn⟩
    · exact ⟨l, (hsortmem l).1 hl, .inl hv⟩
    · exact ⟨l, (hsortmem l).1 hl, .inr ((hsortmem _).1 hn)⟩
  | some r =>
    have hnd := Enc.scanJunct_nodup s.toEnc true _ _ _ _ (EncL.sortByVar_sorted c) List.Pairwise.nil rfl (by simp)
      ((EncL.scanClause_eq ..).symm.trans hscan)
    rw [EncL.scanClause_eq] at hscan
    obtain ⟨h1, h2, h3⟩ := EncL.scan_some hscan
    exact .inr ⟨r, fun l hl => ⟨(hsortmem l).1 (h1.subset hl), h2 l hl⟩, fun l hl => h3 l ((hsortmem l).2 hl), hnd,
      by cases r with | nil => rfl | cons a r => cases r <;> rfl⟩

theorem Sat.newClause_nf (s : Sat) (c : List Lit) (h : ∃ l ∈ c, s.value l ≠ some false) :
    (s.newClause c).1 = true ∧ Sat.ConsFrame s (s.newClause c).2 ∧
      ((s.newClause c).2.vals = s.vals ∨
        ∃ l ∈ c, s.value l = none ∧ (s.newClause c).2.vals = s.vals.set l.var (some l.sign)) := by
  rcases s.newClause_outcome c with ⟨e, -⟩ | ⟨r, h1, h2, -, e⟩
  · rw [e]; exact ⟨rfl, .refl s, .inl rfl⟩
  · match r, h1, h2, e with
    | [], _, h2, _ =>
      obtain ⟨l, hl, hv⟩ := h
      exact absurd ((h2 l hl).resolve_left (by simp)) hv
    | [l], h1, _, e =>
      obtain ⟨hl, hv⟩ := h1 l (List.mem_singleton.2 rfl)
      rw [show s.newClause c = s.enqueue l none from e, Sat.enqueue_none none hv]
      exact ⟨rfl, ⟨by simp [Sat.nvars, Sat.enq], rfl, rfl, rfl, rfl, fun _ h => h, fun e he => List.mem_cons_of_mem _ he⟩,
        .inr ⟨l, hl, hv, rfl⟩⟩
    | a :: b :: t, _, _, e =>
      rw [show s.newClause c = (true, (s.addClause (a :: b :: t)).2) from e]
      exact ⟨rfl, (Sat.addClause_frame s _).1, .inl (Sat.addClause_frame s _).2⟩

theorem Sat.newClause_quiet (s : Sat) (c : List Lit)
    (h : ∃ x ∈ c, ∃ y ∈ c, x.var ≠ y.var ∧ s.value x = none ∧ s.value y = none) :
    (s.newClause c).1 = true ∧ Sat.ConsFrame s (s.newClause c).2 ∧ (s.newClause c).2.vals = s.vals := by
  obtain ⟨x, hx, y, hy, hxy, hvx, hvy⟩ := h
  rcases s.newClause_outcome c with ⟨e, -⟩ | ⟨r, -, h2, -, e⟩ <;> rw [e]
  · exact ⟨rfl, .refl s, rfl⟩
  · have hxr : x ∈ r := (h2 x hx).resolve_right (by rw [hvx]; simp)
    have hyr : y ∈ r := (h2 y hy).resolve_right (by rw [hvy]; simp)
    match r, hxr, hyr with
    | [l], hxr, hyr => exact absurd (by rw [List.mem_singleton.1 hxr, List.mem_singleton.1 hyr]) hxy
    | a :: b :: t, _, _ => exact ⟨rfl, (Sat.addClause_frame s _).1, (Sat.addClause_frame s _).2⟩

def Sat.Two (s : Sat) (c : List Lit) : Prop :=
  (∀ l ∈ c, l.var < s.nvars) ∧ ∃ x ∈ c, ∃ y ∈ c, x.var ≠ y.var ∧ s.value x = none ∧ s.value y = none

theorem Sat.Two.mono {Good : Sat → Prop} {s s' : Sat} {c : List Lit} (h : Sat.QS Good s s') (h2 : Sat.Two s c) :
    Sat.Two s' c := by
  obtain ⟨hr, x, hx, y, hy, hxy, hvx, hvy⟩ := h2
  exact ⟨fun l hl => Nat.lt_of_lt_of_le (hr l hl) h.le, x, hx, y, hy, hxy, by rw [h.val, hvx], by rw [h.val, hvy]⟩

theorem Sat.newClause_QS {Good : Sat → Prop} (hc : Sat.ConsClosed Good) {s : Sat} (hg : Good s) {c : List Lit}
    (h2 : Sat.Two s c) : (s.newClause c).1 = true ∧ Sat.QS Good s (s.newClause c).2 := by
  have h := Sat.newClause_quiet s c h2.2
  refine ⟨h.1, hc.newClause s c hg h2.1, h.2.1, ?_⟩
  intro l
  show litValue (s.newClause c).2.vals l = litValue s.vals l
  rw [h.2.2]

theorem Sat.prim_newVar (s : Sat) : Sat.prim.newVar s = (s.nvars, s.newVar.2) := rfl
@[simp] theorem Sat.prim_newClause (s : Sat) (c : List Lit) : Sat.prim.newClause s c = s.newClause c := rfl
@[simp] theorem Sat.prim_lookup (s : Sat) (k : Key) : Sat.prim.lookup s k = s.lookup k := rfl
@[simp] theorem Sat.prim_remember (s : Sat) (k : Key) (l : Lit) : Sat.prim.remember s k l = s.remember k l := rfl

theorem Sat.newClauses_QS {Good : Sat → Prop} (hc : Sat.ConsClosed Good) :
    ∀ (cs : List (List Lit)) (s : Sat), Good s → (∀ c ∈ cs, Sat.Two s c) →
      (Cons.newClauses Sat.prim s cs).1 = true ∧ Sat.QS Good s (Cons.newClauses Sat.prim s cs).2
  | [], s, hg, _ => ⟨rfl, .refl hg⟩
  | c :: cs, s, hg, h => by
    have h1 := Sat.newClause_QS hc hg (h c (by simp))
    have ih := Sat.newClauses_QS hc cs (s.newClause c).2 h1.2.good
      (fun c' hc' => Sat.Two.mono h1.2 (h c' (by simp [hc'])))
    simp only [Cons.newClauses, Sat.prim_newClause]
    split
    · rename_i heq
      rw [heq] at h1
      exact absurd h1.1 (by simp)
    · rename_i heq
      rw [heq] at ih h1
      exact ⟨ih.1, h1.2.trans ih.2⟩

theorem Sat.tail_QS {Good : Sat → Prop} (hc : Sat.ConsClosed Good) {s s1 : Sat} (hq : Sat.QS Good s s1)
    (ctr : Lit) (hctr : ctr.var < s1.nvars) (cs : List (List Lit)) (h2 : ∀ c ∈ cs, Sat.Two s1 c) (k : Key) :
    ∃ s2, Cons.newClauses Sat.prim s1 cs = (true, s2) ∧ Sat.QS Good s (s2.remember k ctr) ∧
      ctr.var < (s2.remember k ctr).nvars := by
  have h := Sat.newClauses_QS hc cs s1 hq.good h2
  rcases he : Cons.newClauses Sat.prim s1 cs with ⟨b, s2⟩
  rw [he] at h
  obtain ⟨rfl, hq2⟩ := h
  have hlt : ctr.var < s2.nvars := Nat.lt_of_lt_of_le hctr hq2.le
  exact ⟨s2, rfl, (hq.trans hq2).trans (Sat.remember_QS hc hq2.good k hlt), hlt⟩

theorem Sat.fresh_two {s : Sat} {c : List Lit} (hm : ∀ l ∈ c, l.var ≤ s.nvars)
    (hx : ∃ x ∈ c, x.var = s.nvars) (hy : ∃ y ∈ c, y.var < s.nvars ∧ s.value y = none) :
    Sat.Two s.newVar.2 c := by
  obtain ⟨x, hx, hxv⟩ := hx
  obtain ⟨y, hy, hyv, hyn⟩ := hy
  refine ⟨fun l hl => by rw [Sat.newVar_nvars]; exact Nat.lt_succ_of_le (hm l hl), x, hx, y, hy, by omega, ?_, ?_⟩
  · rw [Sat.newVar_value]; exact Sat.value_none_of_ge (by omega)
  · rw [Sat.newVar_value]; exact hyn

theorem Sat.freshDef_QS {Good : Sat → Prop} (hc : Sat.ConsClosed Good) {s : Sat} (hg : Good s) (k : Key)
    (cs : Lit → List (List Lit))
    (h2 : ∀ c ∈ cs ⟨s.nvars, true⟩, EncL.OpenAt s.nvars (fun y => s.value y = none) c) :
    Sat.QS Good s (Cons.freshDef Sat.prim s k cs).2 ∧
      (Cons.freshDef Sat.prim s k cs).1.var < (Cons.freshDef Sat.prim s k cs).2.nvars := by
  obtain ⟨s2, he, hq2, hlt⟩ := Sat.tail_QS hc (Sat.newVar_QS hc hg) ⟨s.nvars, true⟩
    (by rw [Sat.newVar_nvars]; exact Nat.lt_succ_self _) (cs ⟨s.nvars, true⟩)
    (fun c hcm => Sat.fresh_two (h2 c hcm).1 (h2 c hcm).2.1 (h2 c hcm).2.2) k
  simp only [Cons.freshDef, Cons.guardDef, Sat.prim_newVar, he, Sat.prim_remember]
  exact ⟨hq2, hlt⟩

theorem Sat.guardDef_QS {Good : Sat → Prop} (hc : Sat.ConsClosed Good) {s s1 : Sat} (hq : Sat.QS Good s s1)
    (k : Key) {ctr : Lit} (hctr : ctr.var < s1.nvars) (cls : List (List Lit)) (h2 : ∀ c ∈ cls, Sat.Two s1 c) :
    Sat.QS Good s (Cons.guardDef Sat.prim s1 k ctr cls).2 ∧
      (Cons.guardDef Sat.prim s1 k ctr cls).1.var < (Cons.guardDef Sat.prim s1 k ctr cls).2.nvars := by
  obtain ⟨s2, he, h⟩ := Sat.tail_QS hc hq ctr hctr cls h2 k
  simp only [Cons.guardDef, he, Sat.prim_remember]
  exact h

theorem Sat.newEq_QS {Good : Sat → Prop} (hc : Sat.ConsClosed Good) {s : Sat} (hg : Good s) {a b : Lit}
    (ha : a.var < s.nvars) (hb : b.var < s.nvars) :
    Sat.QS Good s (Cons.newEq Sat.prim s a b).2 ∧
      (Cons.newEq Sat.prim s a b).1.var < (Cons.newEq Sat.prim s a b).2.nvars := by
  have h0 := Sat.zero_lt hc hg
  have hr := Sat.QS.refl hg
  refine Cons.newEq_cases Sat.prim (M := fun r => Sat.QS Good s r.2 ∧ r.1.var < r.2.nvars)
    (fun _ _ _ _ => ⟨hr, h0⟩) (fun va _ _ => ⟨hr, by cases va <;> exact hb⟩)
    (fun vb _ _ => ⟨hr, by cases vb <;> exact ha⟩) (fun l _ _ hlk => ⟨hr, Sat.lookup_lt hc hg hlk⟩)
    (fun _ hvb _ => Sat.freshDef_QS hc hg _ _ fun c hcm =>
      EncL.eqCls_open ha hb ⟨hvb, Sat.value_neg_none hvb⟩ hcm)

theorem Sat.newJunct_QS {Good : Sat → Prop} (hc : Sat.ConsClosed Good) {s : Sat} (hg : Good s) {abs : Bool}
    {ls : List Lit} (hls : ∀ l ∈ ls, l.var < s.nvars) :
    Sat.QS Good s (Cons.newJunct Sat.prim abs s ls).2 ∧
      (Cons.newJunct Sat.prim abs s ls).1.var < (Cons.newJunct Sat.prim abs s ls).2.nvars := by
  have h0 := Sat.zero_lt hc hg
  have hr := Sat.QS.refl hg
  refine Cons.newJunct_cases Sat.prim (M := fun r => Sat.QS Good s r.2 ∧ r.1.var < r.2.nvars) rfl
    (fun _ => ⟨hr, h0⟩) (fun _ => ⟨hr, h0⟩)
    (fun l hsc => ⟨hr, (Sat.scanJunct_mem hls hsc l (by simp)).1⟩)
    (fun _ l _ hlk => ⟨hr, Sat.lookup_lt hc hg hlk⟩)
    (fun l1 l2 t hsc _ => Sat.freshDef_QS hc hg _ _ fun c hcm => EncL.junctCls_open (fun l hl => ?_) hcm)
  have := Sat.scanJunct_mem hls hsc l hl
  exact ⟨this.1, this.2, Sat.value_neg_none this.2⟩

theorem Sat.newConj_QS {Good : Sat → Prop} (hc : Sat.ConsClosed Good) {s : Sat} (hg : Good s) {ls : List Lit}
    (hls : ∀ l ∈ ls, l.var < s.nvars) :
    Sat.QS Good s (Cons.newConj Sat.prim s ls).2 ∧
      (Cons.newConj Sat.prim s ls).1.var < (Cons.newConj Sat.prim s ls).2.nvars := by
  rw [Cons.newConj_eq]; exact Sat.newJunct_QS hc hg hls

theorem Sat.newDisj_QS {Good : Sat → Prop} (hc : Sat.ConsClosed Good) {s : Sat} (hg : Good s) {ls : List Lit}
    (hls : ∀ l ∈ ls, l.var < s.nvars) :
    Sat.QS Good s (Cons.newDisj Sat.prim s ls).2 ∧
      (Cons.newDisj Sat.prim s ls).1.var < (Cons.newDisj Sat.prim s ls).2.nvars := by
  rw [Cons.newDisj_eq]; exact Sat.newJunct_QS hc hg hls

theorem Sat.newVars_QS {Good : Sat → Prop} (hc : Sat.ConsClosed Good) :
    ∀ (n : Nat) (s : Sat), Good s →
      Sat.QS Good s (Cons.newVars Sat.prim s n).2 ∧ (Cons.newVars Sat.prim s n).1.length = n ∧
        ∀ l ∈ (Cons.newVars Sat.prim s n).1, s.nvars ≤ l.var ∧ l.var < (Cons.newVars Sat.prim s n).2.nvars
  | 0, s, hg => ⟨.refl hg, rfl, by simp [Cons.newVars]⟩
  | n + 1, s, hg => by
    have hq := Sat.newVar_QS hc hg
    have ih := Sat.newVars_QS hc n s.newVar.2 hq.good
    have hn := Sat.newVar_nvars s
    have : Cons.newVars Sat.prim s (n + 1) =
        (⟨s.nvars, true⟩ :: (Cons.newVars Sat.prim s.newVar.2 n).1, (Cons.newVars Sat.prim s.newVar.2 n).2) := rfl
    rw [this]
    refine ⟨hq.trans ih.1, by simp [ih.2.1], ?_⟩
    intro l hl
    rcases List.mem_cons.1 hl with rfl | hl
    · have := ih.1.le
      simp only
      omega
    · have := ih.2.2 l hl
      simp only
      omega

theorem getD_mem' {α : Type} {l : List α} {i : Nat} (d : α) (h : i < l.length) : l.getD i d ∈ l := by
  simp [List.getElem?_eq_getElem h]

theorem Sat.two_of {Good : Sat → Prop} {s0 s : Sat} (hq : Sat.QS Good s0 s) {a b c : Lit}
    (ha : a.var < s0.nvars) (hav : s0.value a = none) (hb0 : s0.nvars ≤ b.var) (hb : b.var < s.nvars)
    (hc : c.var < s.nvars) : Sat.Two s [a.neg, b, c.neg] := by
  refine ⟨?_, a.neg, by simp, b, by simp, by simp; omega, ?_, ?_⟩
  · have := hq.le
    intro l hl
    simp only [List.mem_cons, List.not_mem_nil, or_false] at hl
    rcases hl with rfl | rfl | rfl <;> (try simp only [Lit.q_neg_var]) <;> omega
  · rw [hq.val]; exact Sat.value_neg_none hav
  · rw [hq.val]; exact Sat.value_none_of_ge hb0

theorem Sat.amoCore_QS {Good : Sat → Prop} (hc : Sat.ConsClosed Good) :
    ∀ (fuel : Nat) (s : Sat) (ls : List Lit), Good s → (∀ l ∈ ls, l.var < s.nvars ∧ s.value l = none) →
      Sat.QS Good s (Cons.amoCore Sat.prim fuel s ls).2 ∧
        (Cons.amoCore Sat.prim fuel s ls).1.var < (Cons.amoCore Sat.prim fuel s ls).2.nvars := by
  refine Cons.amoCore_cases Sat.prim
    (M := fun _ s ls r => Good s → (∀ l ∈ ls, l.var < s.nvars ∧ s.value l = none) →
      Sat.QS Good s r.2 ∧ r.1.var < r.2.nvars)
    (fun _ s _ _ hg _ => ⟨.refl hg, Sat.zero_lt hc hg⟩)
    (fun _ s _ l _ hlk hg _ => ⟨.refl hg, Sat.lookup_lt hc hg hlk⟩)
    (fun _ s ls _ _ _ hg hls => Sat.freshDef_QS hc hg _ _ fun c hcm =>
      EncL.pairCls_open (fun l hl => ⟨(hls l hl).1, Sat.value_neg_none (hls l hl).2⟩) hcm)
    (fun s _ _ _ hg _ => ⟨.refl hg, Sat.zero_lt hc hg⟩)
    (fun n s ls hlk h4 ih hg hls => ?_)
  obtain ⟨q01, hul, hu⟩ := Sat.newVars_QS hc (Enc.ceilSqrt ls.length) s hg
  rcases e1 : Cons.newVars Sat.prim s (Enc.ceilSqrt ls.length) with ⟨u, s1⟩
  rw [e1] at q01 hul hu
  dsimp only at q01 hul hu
  obtain ⟨q12, hwl, hw⟩ := Sat.newVars_QS hc (Enc.ceilDiv ls.length (Enc.ceilSqrt ls.length)) s1 q01.good
  rcases e2 : Cons.newVars Sat.prim s1 (Enc.ceilDiv ls.length (Enc.ceilSqrt ls.length)) with ⟨w, s2⟩
  rw [e2] at q12 hwl hw
  dsimp only at q12 hwl hw
  have q02 := q01.trans q12
  obtain ⟨q23, hcu⟩ := ih s2 u q12.good fun l hl => ⟨Nat.lt_of_lt_of_le (hu l hl).2 q12.le, by
    rw [q02.val]; exact Sat.value_none_of_ge (hu l hl).1⟩
  rcases e3 : Cons.amoCore Sat.prim n s2 u with ⟨cu, s3⟩
  rw [e3] at q23 hcu
  dsimp only at q23 hcu
  have q03 := q02.trans q23
  obtain ⟨q34, hcw⟩ := ih s3 w q23.good fun l hl => ⟨Nat.lt_of_lt_of_le (hw l hl).2 q23.le, by
    rw [q03.val]; exact Sat.value_none_of_ge (Nat.le_trans q01.le (hw l hl).1)⟩
  rcases e4 : Cons.amoCore Sat.prim n s3 w with ⟨cw, s4⟩
  rw [e4] at q34 hcw
  dsimp only at q34 hcw
  obtain ⟨q45, hctr⟩ := Sat.newConj_QS hc q34.good (ls := [cu, cw]) fun l hl => by
    simp only [List.mem_cons, List.not_mem_nil, or_false] at hl
    have := q34.le
    rcases hl with rfl | rfl <;> omega
  rcases e5 : Cons.newConj Sat.prim s4 [cu, cw] with ⟨ctr, s5⟩
  rw [e5] at q45 hctr
  dsimp only at q45 hctr
  have q25 := (q23.trans q34).trans q45
  have q05 := q02.trans q25
  rw [Cons.amoCore_succ Sat.prim n s ls hlk h4 rfl rfl e1 e2 e3 e4 e5]
  refine Sat.guardDef_QS hc q05 _ hctr _ fun c hcm => ?_
  obtain ⟨i, hi, j, hj, lk, hlk', hcc⟩ := EncL.mem_prodClauses.1 hcm
  have hk := hls lk (List.mem_of_getElem? hlk')
  rcases hcc with rfl | rfl
  · have hm := hu _ (getD_mem' Lit.falseLit (hul ▸ hi))
    exact Sat.two_of q05 hk.1 hk.2 hm.1 (Nat.lt_of_lt_of_le hm.2 (Nat.le_trans q12.le q25.le)) hctr
  · have hm := hw _ (getD_mem' Lit.falseLit (hwl ▸ hj))
    exact Sat.two_of q05 hk.1 hk.2 (Nat.le_trans q01.le hm.1) (Nat.lt_of_lt_of_le hm.2 q25.le) hctr

theorem Sat.newAtMostOne_QS {Good : Sat → Prop} (hc : Sat.ConsClosed Good) {s : Sat} (hg : Good s) {ls : List Lit}
    (hls : ∀ l ∈ ls, l.var < s.nvars) :
    Sat.QS Good s (Cons.newAtMostOne Sat.prim s ls).2 ∧
      (Cons.newAtMostOne Sat.prim s ls).1.var < (Cons.newAtMostOne Sat.prim s ls).2.nvars := by
  have h0 := Sat.zero_lt hc hg
  have hr := Sat.QS.refl hg
  simp only [Cons.newAtMostOne]
  split
  · exact ⟨hr, h0⟩
  · rename_i others heq
    exact Sat.newConj_QS hc hg (Sat.scanCard_oneTrue hls heq)
  · rename_i L heq
    exact Sat.amoCore_QS hc _ s L hg (Sat.scanCard_open hls heq)

theorem Sat.exo_tail {Good : Sat → Prop} (hc : Sat.ConsClosed Good) {s1 : Sat} (hg1 : Good s1) {amo : Lit}
    (hamo : amo.var < s1.nvars) {L : List Lit} (hL : ∀ l ∈ L, l.var < s1.nvars) (k : Key) :
    ∃ s4, Cons.newClauses Sat.prim s1.newVar.2
        [[(⟨s1.nvars, true⟩ : Lit).neg, amo], L ++ [(⟨s1.nvars, true⟩ : Lit).neg]] = (true, s4) ∧
      Good (s4.remember k ⟨s1.nvars, true⟩) ∧ Sat.ConsFrame s1 (s4.remember k ⟨s1.nvars, true⟩) ∧
      s1.nvars < (s4.remember k ⟨s1.nvars, true⟩).nvars := by
  have q12 := Sat.newVar_QS hc hg1
  have hn := Sat.newVar_nvars s1
  generalize hs2 : s1.newVar.2 = s2 at q12 hn
  generalize hctr : (⟨s1.nvars, true⟩ : Lit) = ctr
  have hcv : ctr.var = s1.nvars := by rw [← hctr]
  have hcn : s2.value ctr.neg = none := by
    rw [q12.val]; exact Sat.value_none_of_ge (by simp [hcv])
  -- `amo` may carry a value, and then `[¬ctr, amo]` is unit and enqueues `¬ctr`: a frame (`ConsFrame`), not a quiet step (`QS`).
  -- Neither clause is all false: `¬ctr` is fresh, and the first clause can only have made it true (`hv3`).
  have N1 := Sat.newClause_nf s2 [ctr.neg, amo] ⟨ctr.neg, by simp, by rw [hcn]; simp⟩
  have G3 := hc.newClause s2 [ctr.neg, amo] q12.good (by
    intro l hl
    simp only [List.mem_cons, List.not_mem_nil, or_false] at hl
    rcases hl with rfl | rfl <;> (try simp only [Lit.q_neg_var]) <;> omega)
  rcases e1 : s2.newClause [ctr.neg, amo] with ⟨b1, s3⟩
  rw [e1] at N1 G3
  obtain ⟨hb1, f23, hv⟩ := N1
  simp only at hb1 f23 hv G3
  subst hb1
  have hv3 : s3.value ctr.neg ≠ some false := by
    show litValue s3.vals ctr.neg ≠ some false
    rcases hv with hv | ⟨l, hl, hlv, hv⟩
    · rw [hv]; show s2.value ctr.neg ≠ _; rw [hcn]; simp
    · rw [hv]
      simp only [List.mem_cons, List.not_mem_nil, or_false] at hl
      rcases hl with rfl | rfl
      · rw [litValue_set_self (by show ctr.neg.var < s2.nvars; simp only [Lit.q_neg_var]; omega)]; simp
      · rw [litValue_set_ne (by simp only [Lit.q_neg_var]; omega)]
        show s2.value ctr.neg ≠ _; rw [hcn]; simp
  have N2 := Sat.newClause_nf s3 (L ++ [ctr.neg]) ⟨ctr.neg, by simp, hv3⟩
  have h23 := f23.nvars
  have G4 := hc.newClause s3 (L ++ [ctr.neg]) G3 (by
    intro l hl
    simp only [List.mem_append, List.mem_singleton] at hl
    rcases hl with hl | rfl
    · have := hL l hl; omega
    · simp only [Lit.q_neg_var]; omega)
  rcases e2 : s3.newClause (L ++ [ctr.neg]) with ⟨b2, s4⟩
  rw [e2] at N2 G4
  obtain ⟨hb2, f34, -⟩ := N2
  simp only at hb2 f34 G4
  subst hb2
  have h34 := f34.nvars
  have hlt : ctr.var < s4.nvars := by omega
  have q4 := Sat.remember_QS hc G4 k hlt
  refine ⟨s4, ?_, q4.good, ((q12.frame.trans f23).trans f34).trans q4.frame, ?_⟩
  · simp only [Cons.newClauses, Sat.prim_newClause, e1, e2]
  · have := q4.le; omega

theorem Sat.newExctOne_good {Good : Sat → Prop} (hc : Sat.ConsClosed Good) (s : Sat) (hg : Good s) (ls : List Lit)
    (hls : ∀ l ∈ ls, l.var < s.nvars) :
    Good (s.newExctOne ls).2 ∧ Sat.ConsFrame s (s.newExctOne ls).2 ∧
      (s.newExctOne ls).1.var < (s.newExctOne ls).2.nvars := by
  have h0 := Sat.zero_lt hc hg
  have hr := Sat.ConsFrame.refl s
  refine Cons.newExctOne_cases Sat.prim (M := fun r => Good r.2 ∧ Sat.ConsFrame s r.2 ∧ r.1.var < r.2.nvars) rfl
    (fun _ => ⟨hg, hr, h0⟩)
    (fun others hsc =>
      have h := Sat.newConj_QS hc hg (Sat.scanCard_oneTrue hls hsc)
      ⟨h.1.good, h.1.frame, h.2⟩)
    (fun _ => ⟨hg, hr, h0⟩) (fun x hsc _ => ⟨hg, hr, (Sat.scanCard_open hls hsc x (by simp)).1⟩)
    (fun _ l _ hlk => ⟨hg, hr, Sat.lookup_lt hc hg hlk⟩) (fun L r1 hsc _ _ hr1 => ?_)
  have hL := Sat.scanCard_open hls hsc
  obtain ⟨q01, hamo⟩ := Sat.amoCore_QS hc L.length s L hg hL
  rw [hr1] at q01 hamo
  obtain ⟨s4, he, G, F, hlt⟩ := Sat.exo_tail hc q01.good hamo
    (L := L) (fun l hl => Nat.lt_of_lt_of_le (hL l hl).1 q01.le) (.exo L)
  simp only [Cons.freshDef, Cons.guardDef, Sat.prim_newVar, EncL.exoCls, he, Sat.prim_remember]
  exact ⟨G, q01.frame.trans F, hlt⟩

theorem Sat.newEq_good {Good : Sat → Prop} (hc : Sat.ConsClosed Good) (s : Sat) (hg : Good s) (a b : Lit)
    (ha : a.var < s.nvars) (hb : b.var < s.nvars) :
    Good (s.newEq a b).2 ∧ Sat.ConsFrame s (s.newEq a b).2 ∧ (s.newEq a b).1.var < (s.newEq a b).2.nvars := by
  have h := Sat.newEq_QS hc hg ha hb
  exact ⟨h.1.good, h.1.frame, h.2⟩

theorem Sat.newConj_good {Good : Sat → Prop} (hc : Sat.ConsClosed Good) (s : Sat) (hg : Good s) (ls : List Lit)
    (hls : ∀ l ∈ ls, l.var < s.nvars) :
    Good (s.newConj ls).2 ∧ Sat.ConsFrame s (s.newConj ls).2 ∧ (s.newConj ls).1.var < (s.newConj ls).2.nvars := by
  have h := Sat.newConj_QS hc hg hls
  exact ⟨h.1.good, h.1.frame, h.2⟩

theorem Sat.newDisj_good {Good : Sat → Prop} (hc : Sat.ConsClosed Good) (s : Sat) (hg : Good s) (ls : List Lit)
    (hls : ∀ l ∈ ls, l.var < s.nvars) :
    Good (s.newDisj ls).2 ∧ Sat.ConsFrame s (s.newDisj ls).2 ∧ (s.newDisj ls).1.var < (s.newDisj ls).2.nvars := by
  have h := Sat.newDisj_QS hc hg hls
  exact ⟨h.1.good, h.1.frame, h.2⟩

theorem Sat.newAtMostOne_good {Good : Sat → Prop} (hc : Sat.ConsClosed Good) (s : Sat) (hg : Good s) (ls : List Lit)
    (hls : ∀ l ∈ ls, l.var < s.nvars) :
    Good (s.newAtMostOne ls).2 ∧ Sat.ConsFrame s (s.newAtMostOne ls).2 ∧
      (s.newAtMostOne ls).1.var < (s.newAtMostOne ls).2.nvars := by
  have h := Sat.newAtMostOne_QS hc hg hls
  exact ⟨h.1.good, h.1.frame, h.2⟩

end Oratio
