/-
C08N, non-vacuity: a concrete network built with the model's own constructors.

  SAT:  b5 (a plain variable)
  LRA:  x0, x1;  b1 : x0 ≤ x1 + 3  (slack x2 = x0 - x1, assertion x2 ≤ 3);  b2 : x0 ≥ 5
  IDL:  time points t1, t2;  b3 : t2 - t1 ≤ 5;  b4 : t1 - t2 ≤ -7
  clauses  [¬b1, b2], [¬b1, b3]

`assume b1`: unit propagation gives b2 and b3; LRA stores x2 ≤ 3 (reason b1) and x0 ≥ 5 (reason b2); IDL
enforces b3, records the lemma [¬b4, ¬b3] (a third clause) and ¬b4 is propagated; the simplex pivots
(x1 becomes basic instead of x2) and moves the values to x0 = 5, x1 = 2, x2 = 3.  No conflict.
-/
import OratioProofs.Lemmas.UndoNetProp
import OratioProofs.Lemmas.LraGoodMain

namespace Oratio
namespace C08NEx
open Net Sat

def lx0 : Lin := Lin.var 0 R.one
def lx1p3 : Lin := ⟨[(1, R.one)], ⟨3, 1⟩⟩
def k5 : Lin := ⟨[], ⟨5, 1⟩⟩

def a0 : Net := (lraNewVar (lraNewVar Net.init).2).2
/-- b1 : x0 ≤ x1 + 3 -/
def a1 : Net := ((lraNewRel a0 .leq lx0 lx1p3).map (·.2)).getD a0
/-- b2 : x0 ≥ 5 -/
def a2 : Net := ((lraNewRel a1 .geq lx0 k5).map (·.2)).getD a1
def a3 : Net := (idlNewVar (idlNewVar a2).2).2
/-- b3 : t2 - t1 ≤ 5 -/
def a4 : Net := (idlNewDistance a3 1 2 5).2
/-- b4 : t1 - t2 ≤ -7 -/
def a5 : Net := (idlNewDistance a4 2 1 (-7)).2
/-- b5 : a plain SAT variable -/
def a5' : Net := { a5 with sat := a5.sat.newVar.2 }
def a6 : Net := { a5' with sat := (a5'.sat.newClause [⟨1, false⟩, ⟨2, true⟩]).2 }
def net : Net := { a6 with sat := (a6.sat.newClause [⟨1, false⟩, ⟨3, true⟩]).2 }

def b1 : Lit := ⟨1, true⟩

def after : Net := ((net.assume b1 50).map (·.2)).getD net

def hist : List SOp := [.assume b1, .propagate, .assume ⟨5, true⟩]

def deep : Net := (runQuiet 50 net hist).getD net

theorem run_eq {β : Type} {o : Option (Bool × β)} {d : β} (h : o.map (·.1) = some true) :
    o = some (true, (o.map (·.2)).getD d) := by
  obtain _ | ⟨b, n⟩ := o
  · cases h
  · cases h; rfl

/-! ### the LRA state is reachable, hence well-formed -/

theorem good_lraNewRel {n : Net} (g : Lra.GoodState n.lra) {r : LRel} {a b : Lin} (ha : Lra.LinOK n.lra a)
    (hb : Lra.LinOK n.lra b) : Lra.GoodState (((lraNewRel n r a b).map (·.2)).getD n).lra := by
  unfold lraNewRel
  cases h : Lra.newRel n.sat n.lra r a b with
  | none => exact g
  | some p =>
    obtain ⟨l, s', t', bd⟩ := p
    exact (Lra.newRel_good g ha hb h).1

theorem lx0_wf : lx0.WF := by
  refine ⟨trivial, ?_, by decide, by decide⟩
  intro t ht; simp [lx0, Lin.var] at ht; subst ht; decide

theorem lx1p3_wf : lx1p3.WF := by
  refine ⟨trivial, ?_, by decide, by decide⟩
  intro t ht; simp [lx1p3] at ht; subst ht; decide

theorem k5_wf : k5.WF := by
  refine ⟨trivial, ?_, by decide, by decide⟩
  intro t ht; cases ht

theorem a0_good : Lra.GoodState a0.lra := Lra.newVar_good (Lra.newVar_good Lra.init_good)

theorem a1_good : Lra.GoodState a1.lra :=
  good_lraNewRel a0_good ⟨lx0_wf, by decide +kernel⟩ ⟨lx1p3_wf, by decide +kernel⟩

theorem a2_good : Lra.GoodState a2.lra :=
  good_lraNewRel a1_good ⟨lx0_wf, by decide +kernel⟩ ⟨k5_wf, by decide +kernel⟩

theorem net_lra : net.lra = a2.lra := rfl

/-! Closed decidable facts, grouped so that `net`, `assume b1` on it, the `pop` after it and the history `hist`
are each evaluated once. -/
theorem net_computed :
    net.idl.distConstr = [] ∧ net.rdl.distConstr = [] ∧ cleanB net.sat = true ∧
    (net.sat.cls.all (fun e => decide (e.1 < net.sat.nextId)) && decide (net.sat.cls.map (·.1)).Nodup) = true ∧
    net.sat.trailLim = [] ∧ quietAssume net b1 50 = true ∧ (net.assume b1 50).map (·.1) = some true := by
  decide +kernel

theorem after_computed :
    (after.sat.trail = [⟨4, false⟩, ⟨3, true⟩, ⟨2, true⟩, ⟨1, true⟩] ∧ after.sat.decisionLevel = 1 ∧
      after.sat.log = [[⟨4, false⟩, ⟨3, false⟩]] ∧ after.sat.cls.length = 3 ∧ net.sat.cls.length = 2 ∧
      after.lra.lb 0 = IR.ofR ⟨5, 1⟩ ∧ after.lra.lbReason 0 = ⟨2, true⟩ ∧ after.lra.ub 2 = IR.ofR ⟨3, 1⟩ ∧
      after.lra.ubReason 2 = ⟨1, true⟩ ∧ net.lra.lb 0 = IR.ofR R.ninf ∧ net.lra.ub 2 = IR.ofR R.pinf ∧
      after.idl.distConstr = [((1, 2), 3)] ∧ Dl.d idlOps after.idl 1 2 = 5 ∧ Dl.d idlOps net.idl 1 2 = idlInf) ∧
    (after.pop.lra.vals = [IR.ofR ⟨5, 1⟩, IR.ofR ⟨2, 1⟩, IR.ofR ⟨3, 1⟩] ∧
      net.lra.vals = [IR.ofR R.zero, IR.ofR R.zero, IR.ofR R.zero] ∧
      after.pop.lra.tableau.map (·.1) = [1] ∧ net.lra.tableau.map (·.1) = [2] ∧
      after.pop.sat.cls = [(0, [⟨2, true⟩, ⟨1, false⟩]), (1, [⟨3, true⟩, ⟨1, false⟩]), (2, [⟨4, false⟩, ⟨3, false⟩])] ∧
      net.sat.cls = [(0, [⟨1, false⟩, ⟨2, true⟩]), (1, [⟨1, false⟩, ⟨3, true⟩])]) ∧
    (after.pop.sat.vals = net.sat.vals ∧ after.pop.sat.level = net.sat.level ∧ after.pop.sat.reason = net.sat.reason ∧
      after.pop.sat.trail = net.sat.trail ∧ after.pop.sat.trailLim = net.sat.trailLim ∧
      after.pop.sat.decisions = net.sat.decisions ∧
      after.pop.lra.bounds.map (fun b => (b.value, b.reason)) = net.lra.bounds.map (fun b => (b.value, b.reason)) ∧
      after.pop.idl.dists = net.idl.dists ∧ after.pop.idl.preds = net.idl.preds ∧
      after.pop.idl.distConstr = net.idl.distConstr ∧ after.pop.rdl.dists = net.rdl.dists) := by
  decide +kernel

theorem deep_computed : (runQuiet 50 net hist).isSome = true ∧ deep.sat.decisionLevel = 2 ∧
    deep.sat.trail = [⟨5, true⟩, ⟨4, false⟩, ⟨3, true⟩, ⟨2, true⟩, ⟨1, true⟩] ∧ deep.lra.layers.length = 2 ∧
    (popTo deep 0).sat.trail = [] ∧ (popTo deep 0).sat.decisionLevel = 0 ∧ (popTo deep 0).lra.layers.length = 0 := by
  decide +kernel

theorem net_good : Good net := by
  obtain ⟨e1, e2, hc, _⟩ := net_computed
  refine ⟨clean_of_cleanB hc, by rw [net_lra]; exact a2_good.tab, ?_, ?_⟩
  · rw [e1]; exact Undo.sortedK_nil
  · rw [e2]; exact Undo.sortedK_nil

theorem net_ids : IdsOK net.sat := idsOK_of_dec net_computed.2.2.2.1

theorem net_root : net.sat.trailLim = [] := net_computed.2.2.2.2.1

theorem net_quiet : quietAssume net b1 50 = true := net_computed.2.2.2.2.2.1

theorem net_assume : net.assume b1 50 = some (true, after) :=
  run_eq net_computed.2.2.2.2.2.2

/-- what the level did: four literals assigned, one lemma recorded and stored as a third clause, two
    LRA bounds tightened, an IDL distance enforced, the tableau pivoted, values moved -/
theorem after_facts :
    after.sat.trail = [⟨4, false⟩, ⟨3, true⟩, ⟨2, true⟩, ⟨1, true⟩] ∧ after.sat.decisionLevel = 1 ∧
    after.sat.log = [[⟨4, false⟩, ⟨3, false⟩]] ∧ after.sat.cls.length = 3 ∧ net.sat.cls.length = 2 ∧
    after.lra.lb 0 = IR.ofR ⟨5, 1⟩ ∧ after.lra.lbReason 0 = ⟨2, true⟩ ∧ after.lra.ub 2 = IR.ofR ⟨3, 1⟩ ∧
    after.lra.ubReason 2 = ⟨1, true⟩ ∧ net.lra.lb 0 = IR.ofR R.ninf ∧ net.lra.ub 2 = IR.ofR R.pinf ∧
    after.idl.distConstr = [((1, 2), 3)] ∧ Dl.d idlOps after.idl 1 2 = 5 ∧ Dl.d idlOps net.idl 1 2 = idlInf :=
  after_computed.1

/-- what `pop` does NOT give back (by design: not visible through the network): the stored values and
    which variables are basic; and the clause database has grown and a watched pair was swapped -/
theorem after_pop_not_restored :
    after.pop.lra.vals = [IR.ofR ⟨5, 1⟩, IR.ofR ⟨2, 1⟩, IR.ofR ⟨3, 1⟩] ∧
    net.lra.vals = [IR.ofR R.zero, IR.ofR R.zero, IR.ofR R.zero] ∧
    after.pop.lra.tableau.map (·.1) = [1] ∧ net.lra.tableau.map (·.1) = [2] ∧
    after.pop.sat.cls = [(0, [⟨2, true⟩, ⟨1, false⟩]), (1, [⟨3, true⟩, ⟨1, false⟩]), (2, [⟨4, false⟩, ⟨3, false⟩])] ∧
    net.sat.cls = [(0, [⟨1, false⟩, ⟨2, true⟩]), (1, [⟨1, false⟩, ⟨3, true⟩])] :=
  after_computed.2.1

/-- what `pop` does give back, here by computation -/
theorem after_pop_computed :
    after.pop.sat.vals = net.sat.vals ∧ after.pop.sat.level = net.sat.level ∧ after.pop.sat.reason = net.sat.reason ∧
    after.pop.sat.trail = net.sat.trail ∧ after.pop.sat.trailLim = net.sat.trailLim ∧
    after.pop.sat.decisions = net.sat.decisions ∧
    after.pop.lra.bounds.map (fun b => (b.value, b.reason)) = net.lra.bounds.map (fun b => (b.value, b.reason)) ∧
    after.pop.idl.dists = net.idl.dists ∧ after.pop.idl.preds = net.idl.preds ∧
    after.pop.idl.distConstr = net.idl.distConstr ∧ after.pop.rdl.dists = net.rdl.dists :=
  after_computed.2.2

theorem hist_runs : runQuiet 50 net hist = some deep := by
  rw [deep]; exact ListAux.eq_some_getD _ deep_computed.1

theorem deep_facts : deep.sat.decisionLevel = 2 ∧
    deep.sat.trail = [⟨5, true⟩, ⟨4, false⟩, ⟨3, true⟩, ⟨2, true⟩, ⟨1, true⟩] ∧ deep.lra.layers.length = 2 ∧
    (popTo deep 0).sat.trail = [] ∧ (popTo deep 0).sat.decisionLevel = 0 ∧ (popTo deep 0).lra.layers.length = 0 :=
  deep_computed.2

end C08NEx
end Oratio
