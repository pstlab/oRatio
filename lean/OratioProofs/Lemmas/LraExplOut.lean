/-
C09X: what `assert_lower / assert_upper` tell the SAT core.  The propagation loops are traversed once, for abstract
claims (`assertWith_out`): the SAT state is reached by `record`ing clauses that satisfy `Q` where they are recorded
(`Sat.RecBy`), a conflict clause satisfies `Conf`.  They are read once (`assertS_emits`): both kinds are clauses the
theory `Emits`, so validity, falsity and shape of the clauses are one lemma about `Emits` each.
-/
import OratioModel
import OratioProofs.Lemmas.LraExplLoops
import OratioProofs.Lemmas.SatRecBy

namespace Oratio
namespace Lra
open Sat

def Out (Q Conf : Sat → Clause → Prop) (s : Sat) (r : Option (List Lit) × Sat) : Prop :=
  RecBy Q s r.2 ∧ ∀ c, r.1 = some c → Conf r.2 c

section

variable {Q Conf : Sat → Clause → Prop}

theorem Out.nil (s : Sat) : Out Q Conf s (none, s) := ⟨.refl s, fun _ h => nomatch h⟩

theorem Out.confl (s : Sat) {c : List Lit} (h : Conf s c) : Out Q Conf s (some c, s) :=
  ⟨.refl s, fun _ h' => Option.some.inj h' ▸ h⟩

theorem Out.trans {s s1 : Sat} {r : Option (List Lit) × Sat} (h1 : RecBy Q s s1) (h2 : Out Q Conf s1 r) :
    Out Q Conf s r := ⟨h1.trans h2.1, h2.2⟩

theorem forAll_out {f : Sat → Nat → Option (List Lit) × Sat} : ∀ (ws : List Nat) (s : Sat),
    (∀ s' w, w ∈ ws → Out Q Conf s' (f s' w)) → Out Q Conf s (forAll f s ws)
  | [], s, _ => Out.nil s
  | w :: ws, s, hf => by
    have h1 := hf s w List.mem_cons_self
    unfold forAll
    split
    · next he => rw [he] at h1; exact h1
    · next s' he =>
      rw [he] at h1
      exact Out.trans h1.1 (forAll_out ws s' fun s'' w' hw' => hf s'' w' (List.mem_cons_of_mem _ hw'))

theorem unate_out {d : Side} {t : Lra} {bv : IR} {ex : List Lit} {s : Sat} {b : Nat}
    (h : ∀ a, t.asrtOf b = some a → d.entails bv a = true →
      (s.value (d.lit a) = some false → Conf s (d.lit a :: ex)) ∧ (s.value (d.lit a) = none → Q s (d.lit a :: ex))) :
    Out Q Conf s (unate d t bv ex s b) := by
  unfold unate
  split
  · next a hab =>
    unfold asrtS
    split
    · next hv =>
      split
      · next he => exact Out.confl s ((h a hab he).1 hv)
      · exact Out.nil s
    · next hv =>
      split
      · next he => exact ⟨.step (.refl s) ((h a hab he).2 hv), fun _ h => nomatch h⟩
      · exact Out.nil s
    · exact Out.nil s
  · exact Out.nil s

theorem partS_out {d : Side} {s : Sat} {t : Lra} {x : Nat} {l : Lin} {negTest : Nat → Nat}
    (h : ∀ sum ex, rowSumS d t negTest l.vars (IR.ofR l.known, []) = some (sum, ex) →
      Out Q Conf s (forAll (unate d t sum ex) s (t.aWatches.getD x []))) :
    Out Q Conf s (partS d s t x l negTest) := by
  unfold partS
  split
  · exact Out.nil s
  · next hsum =>
    split
    · exact h _ _ hsum
    · exact Out.nil s

theorem seqOut_out {s : Sat} {r1 : Option (List Lit) × Sat} {f2 : Sat → Option (List Lit) × Sat} (u : Lra)
    (h1 : Out Q Conf s r1) (h2 : Out Q Conf r1.2 (f2 r1.2)) :
    Out Q Conf s ((seqOut r1 f2 u).cnfl, (seqOut r1 f2 u).sat) := by
  rcases seqOut_cases r1 f2 u with ⟨c, hc, e⟩ | ⟨_, e⟩ <;> rw [e]
  · exact ⟨h1.1, fun c' hc' => h1.2 c' (hc.trans hc')⟩
  · exact Out.trans h1.1 h2

theorem assertWith_out {d : Side} {un row : Lra → Sat → Nat → Option (List Lit) × Sat}
    {s : Sat} {t : Lra} {xi : Nat} {val : IR} {p : Lit}
    (h0 : d.flip.ltB val (d.flip.bd t xi) = true → Conf s [p.neg, (d.flip.rsn t xi).neg])
    (h1 : ∀ s' b, b ∈ (asState d t xi val p).aWatches.getD xi [] → Out Q Conf s' (un (asState d t xi val p) s' b))
    (h2 : ∀ s' x, x ∈ (asState d t xi val p).tWatches.getD xi [] → Out Q Conf s' (row (asState d t xi val p) s' x)) :
    Out Q Conf s ((assertWith d un row s t xi val p).cnfl, (assertWith d un row s t xi val p).sat) := by
  unfold assertWith
  split
  · exact Out.nil s
  · split
    · next h => exact Out.confl s (h0 h)
    · exact seqOut_out _ (forAll_out _ s h1) (forAll_out _ _ h2)

end

theorem rowSumS_ex (d : Side) (t : Lra) (negTest : Nat → Nat) :
    ∀ (vars : List (Nat × R)) (s0 : IR) (ex0 : List Lit) (sum : IR) (ex : List Lit),
      rowSumS d t negTest vars (s0, ex0) = some (sum, ex) →
      ∀ l, l ∈ ex ↔ l ∈ ex0 ∨ ∃ p ∈ vars, p.2.num ≠ 0 ∧ l = ((if p.2.isPositive then d else d.flip).rsn t p.1).neg := by
  intro vars
  induction vars with
  | nil =>
    intro s0 ex0 sum ex h l
    simp only [rowSumS, Option.some.injEq, Prod.mk.injEq] at h
    rw [← h.2]
    exact ⟨Or.inl, fun h => h.elim id fun ⟨_, hp, _⟩ => nomatch hp⟩
  | cons p rest ih =>
    obtain ⟨cv, c⟩ := p
    intro s0 ex0 sum ex h l
    -- `this`: the recursive call starts from `ex0` or from `ex0 ++ [r]`, `r` being what the head contributes
    suffices ∃ s1 ex1, rowSumS d t negTest rest (s1, ex1) = some (sum, ex) ∧
        ∀ l, l ∈ ex1 ↔ l ∈ ex0 ∨ (c.num ≠ 0 ∧ l = ((if c.isPositive then d else d.flip).rsn t cv).neg) by
      obtain ⟨s1, ex1, h1, h2⟩ := this
      rw [ih _ _ _ _ h1 l, h2 l]
      simp only [List.mem_cons, exists_eq_or_imp, or_assoc]
    simp only [rowSumS] at h
    have snoc : ∀ r : Lit, ∀ l, l ∈ ex0 ++ [r] ↔ l ∈ ex0 ∨ l = r := fun r l => by simp
    split at h
    · next hpos =>
      have hz : c.num ≠ 0 := by rw [R.isPositive_iff] at hpos; omega
      split at h
      · cases h
      · exact ⟨_, _, h, fun l => by rw [snoc, if_pos hpos]; simp [hz]⟩
    · next hpos =>
      split at h
      · next hneg =>
        have hz : c.num ≠ 0 := by rw [R.isNegative_iff] at hneg; omega
        split at h
        · cases h
        · exact ⟨_, _, h, fun l => by rw [snoc, if_neg hpos]; simp [hz]⟩
      · next hneg =>
        have hz : c.num = 0 := by rw [R.isPositive_iff] at hpos; rw [R.isNegative_iff] at hneg; omega
        exact ⟨_, _, h, fun l => by simp [hz]⟩

/-- `ex` explains the bound `bv` of `x` on side `e`, in the propagation started by storing the bound of side `d`
    of `xi` in the theory state `u`: the stored bound itself (unate propagation), or the bound of a basic variable
    computed through its row (bound propagation) -/
inductive Expl (d : Side) (u : Lra) (xi : Nat) : Side → Nat → IR → List Lit → Prop
  | bound : Expl d u xi d xi (d.bd u xi) [(d.rsn u xi).neg]
  | row {e : Side} {x : Nat} {negTest : Nat → Nat} {sum : IR} {ex : List Lit} :
      x ∈ u.tWatches.getD xi [] →
      e = (if ((Lin.find ((u.rowOf x).getD Lin.empty).vars xi).getD R.zero).isPositive then d else d.flip) →
      rowSumS e u negTest ((u.rowOf x).getD Lin.empty).vars (IR.ofR ((u.rowOf x).getD Lin.empty).known, []) = some (sum, ex) →
      Expl d u xi e x sum ex

/-- the clauses the propagation may produce: the literal of a watched assertion entailed by an explained bound,
    followed by the explanation -/
def Emits (d : Side) (u : Lra) (xi : Nat) (cl : Clause) : Prop :=
  ∃ e x bv ex b a, Expl d u xi e x bv ex ∧ b ∈ u.aWatches.getD x [] ∧ u.asrtOf b = some a ∧
    e.entails bv a = true ∧ cl = e.lit a :: ex

def EmitRec (d : Side) (u : Lra) (xi : Nat) (s : Sat) (cl : Clause) : Prop :=
  Emits d u xi cl ∧ ∀ h ∈ cl.head?, s.value h = none
def EmitCnf (d : Side) (u : Lra) (xi : Nat) (s : Sat) (cl : Clause) : Prop :=
  Emits d u xi cl ∧ ∀ h ∈ cl.head?, s.value h = some false

theorem unate_emits {d : Side} {u : Lra} {xi : Nat} {e : Side} {x : Nat} {bv : IR} {ex : List Lit}
    (hx : Expl d u xi e x bv ex) (s : Sat) {b : Nat} (hb : b ∈ u.aWatches.getD x []) :
    Out (EmitRec d u xi) (EmitCnf d u xi) s (unate e u bv ex s b) :=
  unate_out fun a hab he =>
    have hm : Emits d u xi (e.lit a :: ex) := ⟨e, x, bv, ex, b, a, hx, hb, hab, he, rfl⟩
    ⟨fun hv => ⟨hm, fun _ hh => Option.some.inj hh ▸ hv⟩, fun hv => ⟨hm, fun _ hh => Option.some.inj hh ▸ hv⟩⟩

theorem rowPropS_emits (d : Side) (u : Lra) (xi : Nat) (s : Sat) {x : Nat} (hx : x ∈ u.tWatches.getD xi []) :
    Out (EmitRec d u xi) (EmitCnf d u xi) s (rowPropS d s u x xi) := by
  have part : ∀ (e : Side) (nt : Nat → Nat),
      e = (if ((Lin.find ((u.rowOf x).getD Lin.empty).vars xi).getD R.zero).isPositive then d else d.flip) →
      Out (EmitRec d u xi) (EmitCnf d u xi) s (partS e s u x ((u.rowOf x).getD Lin.empty) nt) :=
    fun e nt he => partS_out fun sum ex hsum => forAll_out _ s fun s' b hb => unate_emits (.row hx he hsum) s' hb
  unfold rowPropS
  dsimp only
  split
  · next hpos => exact part _ _ (by rw [if_pos hpos])
  · next hpos => exact part _ _ (by rw [if_neg hpos])

/-- the clauses are emitted in the state with the bound stored; the theory ends in it or in `t` (`assertWith_th`) -/
theorem assertS_emits (d : Side) (s : Sat) (t : Lra) (xi : Nat) (val : IR) (p : Lit) :
    Out (EmitRec d (asState d t xi val p) xi)
      (fun s' c => (c = [p.neg, (d.flip.rsn t xi).neg] ∧ s' = s ∧ d.flip.ltB val (d.flip.bd t xi) = true) ∨
        EmitCnf d (asState d t xi val p) xi s' c)
      s ((assertS d s t xi val p).cnfl, (assertS d s t xi val p).sat) := by
  have weaken : ∀ {s' r}, Out (EmitRec d (asState d t xi val p) xi) (EmitCnf d (asState d t xi val p) xi) s' r →
      Out (EmitRec d (asState d t xi val p) xi) (fun s' c => (c = [p.neg, (d.flip.rsn t xi).neg] ∧ s' = s ∧
        d.flip.ltB val (d.flip.bd t xi) = true) ∨ EmitCnf d (asState d t xi val p) xi s' c) s' r :=
    fun h => ⟨h.1, fun c hc => Or.inr (h.2 c hc)⟩
  exact assertWith_out (fun h => Or.inl ⟨rfl, rfl, h⟩)
    (fun s' b hb => weaken (unate_emits .bound s' hb)) (fun s' x hx => weaken (rowPropS_emits d _ xi s' hx))

end Lra

end Oratio
