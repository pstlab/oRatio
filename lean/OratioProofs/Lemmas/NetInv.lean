/-
The invariant `NetInv` of the combined network (SAT core over the added clauses and the ghost list of theory lemmas,
theories, registries, ghost frames) and its form `NetInvB m` with the decision component bounded by `m`.  `popTo` and
conflict analysis are treated in the bounded form: the full invariant is the bounded one when no decision stands above
level `m`.
-/
import OratioProofs.Lemmas.NetTh

namespace Oratio

namespace NetCheck
open Sat Net

/-- `Sat.SInv` with the decision component bounded by `m` (`∀ m, DecOK m` fails inside the loop of `check(lits)` when a
    literal is already true when it is assumed; no step of `propagate` uses that component, it is only carried) -/
structure SInvB (m : Nat) (orig K : Cnf) (s : Sat) : Prop where
  wf : s.WfS
  ent : s.Ent orig K
  dec : s.DecOK m

theorem SInvB.ofS {m : Nat} {orig K : Cnf} {s : Sat} (h : SInv orig K s) : SInvB m orig K s := ⟨h.wf, h.ent, h.dec m⟩

theorem SInvB.toS {m : Nat} {orig K : Cnf} {s : Sat} (h : SInvB m orig K s) (hm : s.decisions.length ≤ m) : SInv orig K s :=
  ⟨h.wf, h.ent, fun m' => h.dec.of_len hm m'⟩

theorem SInvB.mono_orig {m : Nat} {orig orig' K : Cnf} {s : Sat} (h : SInvB m orig K s) (hs : ∀ d ∈ orig, d ∈ orig') :
    SInvB m orig' K s := ⟨h.wf, h.ent.mono_orig hs, h.dec⟩

theorem SInvB.setDead {m : Nat} {orig K K' : Cnf} {s : Sat} (h : SInvB m orig K s) (hu : Uns orig) :
    SInvB m orig K' { s with dead := true } :=
  ⟨h.wf.of_eq rfl rfl rfl rfl rfl rfl rfl rfl rfl rfl rfl, h.ent.setDead hu, h.dec⟩

theorem SInvB.clearQueue {m : Nat} {orig K : Cnf} {s : Sat} (h : SInvB m orig K s) : SInvB m orig K { s with queue := [] } :=
  ⟨h.wf.queue_sub [] (fun _ hx => nomatch hx), h.ent.of_eq rfl rfl rfl rfl rfl rfl, h.dec⟩

theorem SInvB.visit {m : Nat} {orig K : Cnf} {s s1 : Sat} {p : Lit} {q : List Lit} {oid : Option Nat}
    (h : SInvB m orig K s) (hq : s.queue = p :: q)
    (hv : Sat.visitWatchers { s with queue := q, watches := s.watches.set p.idx [] } p (s.watches.getD p.idx []) = (s1, oid)) :
    SInvB m orig K s1 ∧ AssignedKeep s s1 ∧ Frame s s1 ∧ p ∈ s1.trail ∧ s1.lvl p = s1.decisionLevel ∧
    ∀ id, oid = some id → s1.queue = [] ∧ ∃ c, (id, c) ∈ s1.cls ∧ s1.clauseOf id = c ∧ p.neg ∈ c ∧
      ∀ l ∈ c, s1.value l = some false := by
  have hpq := h.wf.a.queueOK p (by rw [hq]; exact List.mem_cons_self ..)
  have hw0 : ({ s with queue := q, watches := s.watches.set p.idx [] } : Sat).WfS := by
    refine h.wf.setWatchesQ _ q (fun x hx => by rw [hq]; exact List.mem_cons_of_mem _ hx) ?_
    intro i id hid
    rw [ListAux.getD_set] at hid
    split at hid
    · cases hid
    · exact h.wf.w i id hid
  have htmp : ∀ id ∈ s.watches.getD p.idx [], ∃ c, (id, c) ∈ s.cls ∧ p.neg ∈ c := by
    intro id hid
    obtain ⟨c, hc, l, hl, hi⟩ := h.wf.w _ id hid
    have : l.neg = p := Lit.idx_inj hi
    exact ⟨c, hc, by rw [← this, Lit.neg_neg]; exact hl⟩
  obtain ⟨v1, v2, v4⟩ := visit_sound (orig := orig) (K := K) (p := p) _ _ hw0
    (h.ent.of_eq rfl rfl rfl rfl rfl rfl) hpq.1 htmp
  have v3 := (Ext.of_same (s := s) (t := { s with queue := q, watches := s.watches.set p.idx [] })
    rfl rfl rfl rfl rfl rfl rfl rfl rfl rfl rfl).andThen (ext_visitWatchers p (s.watches.getD p.idx []) _)
  rw [hv] at v1 v2 v3 v4
  refine ⟨⟨v1, v2, v3.decOK h.wf.a h.dec⟩, v3.keep, v3.frame, v3.trail.subset hpq.1, ?_, fun id hid => ?_⟩
  · exact ((v3.lvl h.wf.a hpq.1).trans hpq.2).trans (congrArg List.length v3.frame.trailLim.symm)
  · obtain ⟨w1, c, w2, w3, w4⟩ := v4 id hid
    exact ⟨w1, c, w2, clauseOf_of_mem' v1.ids w2, w3, w4⟩

end NetCheck

namespace Net
open Sat

theorem tentails_of_ents {n : Net} {orig L U : Cnf} {c : Clause} (hl : ∀ d ∈ L, TEntails n orig d)
    (h : Ents (orig ++ L ++ U) c) : TEntails n (orig ++ U) c := by
  intro α h0 hF hm
  rw [Asg.cnf_append, Bool.and_eq_true] at hF
  apply h α h0
  rw [Asg.cnf_append, Asg.cnf_append, hF.1, hF.2]
  simp only [Bool.true_and, Bool.and_true]
  rw [Asg.cnf_iff]
  exact fun d hd => hl d hd α h0 hF.1 hm

theorem tentails_of_ents' {n : Net} {orig L : Cnf} {c : Clause} (hl : ∀ d ∈ L, TEntails n orig d)
    (h : Ents (orig ++ L) c) : TEntails n orig c := by
  have := tentails_of_ents (U := []) hl (by simpa using h)
  simpa using this

theorem netSound_of_ent {n : Net} {orig L : Cnf} (he : n.sat.Ent (orig ++ L) orig) (hl : ∀ c ∈ L, TEntails n orig c) :
    NetSound n orig := by
  refine ⟨fun e hm => tentails_of_ents' hl (he.clauses e hm), fun c hc => tentails_of_ents' hl (he.log c hc),
    fun l hm => tentails_of_ents hl ((he.trail l hm).mono (Sat.units_mono (List.drop_suffix _ _))), ?_⟩
  intro hd α h0 hm
  cases ho : α.cnf orig with
  | false => rfl
  | true =>
    have := he.dead hd α h0
    rw [Asg.cnf_append, ho, Bool.true_and] at this
    have hL : α.cnf L = true := Asg.cnf_iff.2 fun d hd' => hl d hd' α h0 ho hm
    rw [hL] at this; cases this

/-- The theory invariants - in particular `LraJ` - are RELATIVE TO THE LEMMA-CLOSED ghost set `orig ++ L`: every bound
    holds in every LRA-consistent model of the added clauses AND the recorded theory lemmas in which its reason is true.
    (Relative to `orig` alone this is not an invariant once a slack variable is created at root level: the root-level
    reasons its TRUE-reason bounds are computed from may be consequences of lemmas of the other theories.)  Since every
    lemma is T-entailed by `orig` (`lemmas`), whatever is T-entailed by `orig ++ L` is T-entailed by `orig`
    (`TEntails.cut`). -/
structure NetInv (n : Net) (orig L : Cnf) (fr : List Frame) : Prop where
  sat : SInv (orig ++ L) orig n.sat
  lemmas : ∀ c ∈ L, TEntails n orig c
  th : ThInv n (orig ++ L) fr
  flv : FramesLv n.sat fr
  flen : fr.length = n.sat.decisionLevel
  reg : NetReg n

structure PopFacts (s t : Sat) (lvl : Nat) : Prop where
  queue : t.queue = s.queue
  dead : t.dead = s.dead
  level : t.decisionLevel = min lvl s.decisionLevel
  lenVals : t.vals.length = s.vals.length
  kept : ∀ x ∈ s.trail, s.lvl x ≤ lvl → x ∈ t.trail ∧ t.lvl x = s.lvl x

end Net

namespace NetCheck
open Sat Net

/-- `NetInv` with the decision component bounded by `m` -/
structure NetInvB (m : Nat) (n : Net) (orig L : Cnf) (fr : List Frame) : Prop where
  sat : SInvB m (orig ++ L) orig n.sat
  lemmas : ∀ c ∈ L, TEntails n orig c
  th : ThInv n (orig ++ L) fr
  flv : FramesLv n.sat fr
  flen : fr.length = n.sat.decisionLevel
  reg : NetReg n

theorem NetInvB.ofInv {m : Nat} {n : Net} {orig L : Cnf} {fr : List Frame} (h : NetInv n orig L fr) : NetInvB m n orig L fr :=
  ⟨SInvB.ofS h.sat, h.lemmas, h.th, h.flv, h.flen, h.reg⟩

theorem NetInvB.withDec {m : Nat} {n : Net} {orig L : Cnf} {fr : List Frame} (h : NetInvB m n orig L fr)
    (hd : ∀ m', n.sat.DecOK m') : NetInv n orig L fr :=
  ⟨⟨h.sat.wf, h.sat.ent, hd⟩, h.lemmas, h.th, h.flv, h.flen, h.reg⟩

theorem NetInvB.toInv {m : Nat} {n : Net} {orig L : Cnf} {fr : List Frame} (h : NetInvB m n orig L fr)
    (hm : n.sat.decisionLevel ≤ m) : NetInv n orig L fr :=
  h.withDec (h.sat.toS (by rw [h.sat.wf.a.decLen]; exact hm)).dec

theorem NetInvB.iff_inv {n : Net} {orig L : Cnf} {fr : List Frame} :
    NetInv n orig L fr ↔ NetInvB n.sat.decisionLevel n orig L fr :=
  ⟨.ofInv, fun h => h.toInv (Nat.le_refl _)⟩

theorem NetInvB.sound {m : Nat} {n : Net} {orig L : Cnf} {fr : List Frame} (h : NetInvB m n orig L fr) : NetSound n orig :=
  netSound_of_ent h.sat.ent h.lemmas

theorem NetInvB.moreLemmas {m : Nat} {n : Net} {orig L : Cnf} {fr : List Frame} (h : NetInvB m n orig L fr) (X : Cnf)
    (hX : ∀ c ∈ X, TEntails n orig c) : NetInvB m n orig (L ++ X) fr :=
  ⟨h.sat.mono_orig (append_sub _ _ X), fun d hd => (List.mem_append.1 hd).elim (h.lemmas d) (hX d),
    h.th.mono_origN (append_sub _ _ X), h.flv, h.flen, h.reg⟩

theorem NetInvB.addLemma {m : Nat} {n : Net} {orig L : Cnf} {fr : List Frame} (h : NetInvB m n orig L fr) (c : Clause)
    (hc : TEntails n orig c) : NetInvB m n orig (L ++ [c]) fr :=
  h.moreLemmas [c] (fun d hd => by rw [List.mem_singleton.1 hd]; exact hc)

theorem NetInvB.setSat {m : Nat} {n : Net} {orig L : Cnf} {fr : List Frame} (h : NetInvB m n orig L fr) (s' : Sat)
    (hs : SInvB m (orig ++ L) orig s') (hk : AssignedKeep n.sat s') (hl : s'.decisionLevel = n.sat.decisionLevel)
    (hlen : s'.vals.length = n.sat.vals.length) :
    NetInvB m { n with sat := s' } orig L fr :=
  ⟨hs, h.lemmas, h.th.assign s' hk.le, FramesLv.keep hk fr h.flv, h.flen.trans hl.symm, h.reg.of_len hlen⟩

theorem ents_last {orig L : Cnf} (c : Clause) : Ents (orig ++ (L ++ [c])) c :=
  Ents.of_mem (List.mem_append_right _ (List.mem_append_right _ (List.mem_singleton.2 rfl)))

theorem NetInvB.rootConflict {m : Nat} {n : Net} {orig L : Cnf} {fr : List Frame} (h : NetInvB m n orig L fr) {c : Clause}
    (hT : TEntails n orig c) (hf : ∀ l ∈ c, n.sat.value l = some false) (hroot : n.sat.trailLim = []) :
    NetInvB m { n with sat := { n.sat with dead := true } } orig (L ++ [c]) fr := by
  have h1 := h.addLemma c hT
  have hdec : n.sat.decisions = [] := by
    have := h.sat.wf.a.decLen; rw [hroot] at this; simpa using this
  have hU : Uns (orig ++ (L ++ [c])) := by
    have := h1.sat.ent.uns_of_false (ents_last c) (fun l hl => h.sat.wf.a.value_false.1 (hf l hl))
    rw [hdec] at this
    exact Uns.mono this (fun d hd => by simpa [units] using hd)
  exact h1.setSat _ (h1.sat.setDead hU) (fun v b hv => ⟨hv, rfl⟩) rfl rfl

theorem NetInvB.popTo {m : Nat} {n : Net} {orig L : Cnf} {fr : List Frame} (h : NetInvB m n orig L fr)
    (hq : n.sat.queue = []) (lvl : Nat) :
    ∃ fr', NetInvB m (Net.popTo n lvl) orig L fr' ∧ PopFacts n.sat (Net.popTo n lvl).sat lvl := by
  obtain ⟨fr', t1, t2, t3⟩ := h.th.popToLv h.sat.wf hq h.flv h.flen lvl
  have hps : (Net.popTo n lvl).sat = n.sat.popTo lvl := popTo_sat n lvl
  have hlem : ∀ c ∈ L, TEntails (Net.popTo n lvl) orig c :=
    fun c hc => TEntails.congr (fun α hm => (TModel.popTo n lvl α).1 hm) (h.lemmas c hc)
  obtain ⟨w, w4, w5⟩ := wfs_popTo (m := m) h.sat.wf h.sat.ent h.sat.dec hq lvl
  refine ⟨fr', ⟨by rw [hps]; exact ⟨w.1, w.2.1, w.2.2⟩, hlem, t1, t2, t3, ?_⟩, ?_⟩
  · show ThReg (Net.popTo n lvl).sat.vals.length _ _ _
    rw [hps, w4.lenVals]
    exact h.reg.popTo lvl
  · rw [hps]
    refine ⟨w4.queue, w4.dead, w5, w4.lenVals, fun x hx hl => ?_⟩
    have hk := w4.kept x hx (by rw [w5]; exact Nat.le_min.2 ⟨hl, h.sat.wf.a.lvl_le hx⟩)
    exact ⟨hk, (w4.mem x hk).2.1⟩

theorem NetInvB.learn {m : Nat} {n n' : Net} {orig L : Cnf} {fr : List Frame} {cnfl : Clause} (h : NetInvB m n orig L fr)
    (hq : n.sat.queue = []) (hL : 0 < n.sat.decisionLevel) (hT : TEntails n orig cnfl)
    (hcF : ∀ l ∈ cnfl, n.sat.value l = some false)
    (hcL : ∃ l ∈ cnfl, l.neg ∈ n.sat.trail ∧ n.sat.lvl l = n.sat.decisionLevel)
    (hl : learnFrom n cnfl = some n') :
    ∃ fr', NetInvB m n' orig (L ++ [cnfl]) fr' ∧ n'.sat.dead = n.sat.dead ∧ (∀ α, TModel n' α ↔ TModel n α) ∧
      n'.sat.decisionLevel < n.sat.decisionLevel ∧ n'.sat.decisions <:+ n.sat.decisions := by
  have h1 := h.addLemma cnfl hT
  obtain ⟨noGood, bt, s3, han, hout⟩ := learnFrom_out hl
  obtain ⟨l0, rest, r, w1, e1, d1⟩ := learn_wfs h1.sat.wf h1.sat.ent h1.sat.dec hq hL (ents_last cnfl)
    (fun l hl' => h.sat.wf.a.value_false.1 (hcF l hl')) hcL han
  have r1 : SInvB m (orig ++ (L ++ [cnfl])) orig ((s3.popTo bt).record noGood) := ⟨w1, e1, d1⟩
  obtain ⟨_, r4, r5, r6, r8, _⟩ := r.frame
  obtain ⟨heq, htm⟩ := hout r.dl3
  rw [r.same] at heq r1 r4 r5 r6 r8
  obtain ⟨fr', hp, pf⟩ := h1.popTo hq bt
  have hps : (Net.popTo n bt).sat = n.sat.popTo bt := popTo_sat n bt
  have h2 := hp.setSat ((n.sat.popTo bt).record noGood) r1
    (by rw [hps]; exact (ext_record _ _).keep)
    (by rw [r6, pf.level]; have := r.lt; omega) (by rw [r8, pf.lenVals])
  rw [← heq] at h2
  refine ⟨fr', h2, ?_, htm, ?_, ?_⟩ <;> rw [heq]
  · exact r4
  · exact lt_of_eq_of_lt r6 r.lt
  · exact r5

end NetCheck

namespace Net
open Sat NetCheck

theorem NetInv.sound {n : Net} {orig L : Cnf} {fr : List Frame} (h : NetInv n orig L fr) : NetSound n orig :=
  (NetInvB.ofInv (m := 0) h).sound

theorem NetInv.learn {n n' : Net} {orig L : Cnf} {fr : List Frame} {cnfl : Clause} (h : NetInv n orig L fr)
    (hq : n.sat.queue = []) (hL : 0 < n.sat.decisionLevel) (hT : TEntails n orig cnfl)
    (hcF : ∀ l ∈ cnfl, n.sat.value l = some false)
    (hcL : ∃ l ∈ cnfl, l.neg ∈ n.sat.trail ∧ n.sat.lvl l = n.sat.decisionLevel)
    (hl : learnFrom n cnfl = some n') :
    ∃ fr', NetInv n' orig (L ++ [cnfl]) fr' ∧ n'.sat.dead = n.sat.dead ∧ (∀ α, TModel n' α ↔ TModel n α) ∧
      n'.sat.decisionLevel < n.sat.decisionLevel := by
  obtain ⟨fr', l1, l2, l3, l4, _⟩ := (NetInvB.ofInv (m := n.sat.decisionLevel) h).learn hq hL hT hcF hcL hl
  exact ⟨fr', l1.toInv (Nat.le_of_lt l4), l2, l3, l4⟩

end Net
end Oratio
