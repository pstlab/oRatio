/-
Definitions for property C09X (`Properties/C09Explain.lean`): the explanations of the
linear-arithmetic theory are theory lemmas.

Semantics.  A valuation is a pair `σr σi : Nat → Rat`; the value of `x` is the ε-rational
`Lra.nu σr σi x = σr x + σi x·ε : QV` (`QV = Lex (ℚ × ℚ)`, Lemmas/InfRational.lean).  A bound is an
`inf_rational` `b : IR` that is finite (`IR.Fin`: both parts canonical and finite, denoting
`IR.val b : QV`) or infinite (`b.rat.den = 0`; `-∞` when the numerator is negative, `+∞` when it
is positive).
-/
import OratioModel
import OratioProofs.Lemmas.InfRational
import OratioProofs.Lemmas.LraState

namespace Oratio
namespace Lra

/-- the value of `x` under the valuation `(σr, σi)`: `σr x + σi x·ε` -/
def nu (σr σi : Nat → Rat) (x : Nat) : QV := toLex (σr x, σi x)

/-- `b ≤ v` for a bound `b`: `-∞ ≤` everything, `+∞ ≤` nothing, finite bounds lexicographically -/
def BLe (b : IR) (v : QV) : Prop := if b.rat.den = 0 then b.rat.num < 0 else IR.val b ≤ v

/-- `v ≤ b` for a bound `b`: everything `≤ +∞`, nothing `≤ -∞`, finite bounds lexicographically -/
def VLe (v : QV) (b : IR) : Prop := if b.rat.den = 0 then 0 < b.rat.num else v ≤ IR.val b

/-- `(σr, σi)` solves the tableau: the rational parts satisfy every row, the infinitesimal parts
    satisfy every row without its known term (the two conditions of `C09B_update_keeps_rows` and
    `C09B_update_keeps_rows_inf`) -/
def Solves (t : Lra) (σr σi : Nat → Rat) : Prop :=
  (∀ e ∈ t.tableau, σr e.1 = Lin.evalS e.2 σr) ∧
  (∀ e ∈ t.tableau, σi e.1 = Lin.evalS { e.2 with known := R.zero } σi)

/-- every bound whose reason is true under `α` holds of the valuation.  (Variables are those that
    have their two bounds in `c_bounds`: the default a missing entry reads as is not a bound.) -/
def BoundsJust (α : Asg) (σr σi : Nat → Rat) (t : Lra) : Prop :=
  ∀ x, ubIdx x < t.bounds.length →
    (α.lit (t.lbReason x) = true → BLe (t.lb x) (nu σr σi x)) ∧
    (α.lit (t.ubReason x) = true → VLe (nu σr σi x) (t.ub x))

/-- the meaning of the assertion literals: a true literal is the assertion `x ≤ v` / `x ≥ v`, a
    false one its ε-shifted negation `x ≥ v + ε` / `x ≤ v − ε` (what `propagate` asserts) -/
def AsrtAgrees (α : Asg) (σr σi : Nat → Rat) (t : Lra) : Prop :=
  ∀ e ∈ t.vAsrts,
    match e.2.o with
    | .leq => (α.lit e.2.b = true → nu σr σi e.2.x ≤ IR.val e.2.v) ∧
              (α.lit e.2.b = false → IR.val e.2.v + QV.eps ≤ nu σr σi e.2.x)
    | .geq => (α.lit e.2.b = true → IR.val e.2.v ≤ nu σr σi e.2.x) ∧
              (α.lit e.2.b = false → nu σr σi e.2.x ≤ IR.val e.2.v - QV.eps)

/-! ## invariants -/

/-- a lower bound is finite or `-∞` (whatever ε part an infinite bound carries) -/
def LbOk (b : IR) : Prop := IR.Fin b ∨ b.rat = R.ninf
/-- an upper bound is finite or `+∞` -/
def UbOk (b : IR) : Prop := IR.Fin b ∨ b.rat = R.pinf

/-- every lower bound is finite or `-∞`, every upper bound finite or `+∞` -/
def BoundsOK (t : Lra) : Prop := ∀ x, LbOk (t.lb x) ∧ UbOk (t.ub x)

/-- two bounds per variable -/
def BoundsLen (t : Lra) : Prop := t.bounds.length = 2 * t.vals.length

/-- the current assignment: every value is finite and canonical, and the values solve the tableau -/
def ValsOK (t : Lra) : Prop := (∀ x, IR.Fin (t.value x)) ∧ Solves t t.ratAssign t.infAssign

/-- the values of the assertions are finite and canonical -/
def AsrtOK (t : Lra) : Prop := ∀ e ∈ t.vAsrts, IR.Fin e.2.v

/-- an assertion in `a_watches[x]` is an assertion on `x` -/
def AWatchOK (t : Lra) : Prop := ∀ x, ∀ b ∈ t.aWatches.getD x [], ∀ a, t.asrtOf b = some a → a.x = x

/-- the registry `v_asrts`: the assertion registered for the SAT variable `b` is controlled by
    the positive literal of `b` (what `new_lt … new_gt` build) -/
def AsrtKey (t : Lra) : Prop := ∀ e ∈ t.vAsrts, e.2.b = ⟨e.1, true⟩

/-- every assertion is on an existing variable -/
def AsrtVars (t : Lra) : Prop := ∀ e ∈ t.vAsrts, e.2.x < t.vals.length

/-- the invariants of the theory state the explanation theorems need -/
structure ExplInv (t : Lra) : Prop where
  tab : TabWF t
  bok : BoundsOK t
  blen : BoundsLen t
  aok : AsrtOK t
  awatch : AWatchOK t

/-- the reason of every bound is true in the SAT state -/
def ReasonsTrue (s : Sat) (t : Lra) : Prop :=
  ∀ x, s.value (t.lbReason x) = some true ∧ s.value (t.ubReason x) = some true

/-- every non-basic variable is within its bounds -/
def NonbasicInBounds (t : Lra) : Prop :=
  ∀ x, t.isBasic x = false → IR.lt (t.value x) (t.lb x) = false ∧ IR.gt (t.value x) (t.ub x) = false

/-- a clause is a theory lemma relative to the state `t`: true under every boolean assignment
    whose true bound reasons and assertion literals hold of a solution of the tableau -/
def Lemma (t : Lra) (cl : List Lit) : Prop :=
  ∀ (α : Asg) (σr σi : Nat → Rat), Solves t σr σi → BoundsJust α σr σi t → AsrtAgrees α σr σi t →
    α.clause cl = true

end Lra
end Oratio
