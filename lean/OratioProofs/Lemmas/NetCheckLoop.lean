/-
C07NC (soundness of `Net.check`): `assume(p)` for a literal that may be ALREADY ASSIGNED, under the invariant bounded
by a level below, and the loop of `check(lits)`.
-/
import OratioProofs.Lemmas.NetSearch


namespace Oratio
namespace NetCheck
open Sat Net


structure CheckOut (rl : Nat) (n n' : Net) (orig : Cnf) : Prop where
  inv : ∃ L' fr', NetInv n' orig L' fr'
  queue : n'.sat.queue = []
  level : n'.sat.decisionLevel ≤ rl
  tm : ∀ α, TModel n' α ↔ TModel n α

theorem exit_ok {rl : Nat} {n : Net} {orig L : Cnf} {fr : List Frame} (h : NetInvB rl n orig L fr)
    (hq : n.sat.queue = []) : CheckOut rl n (Net.popTo n rl) orig := by
  obtain ⟨fr', h1, pf⟩ := h.popTo hq rl
  have hl : (Net.popTo n rl).sat.decisionLevel ≤ rl := by rw [pf.level]; omega
  exact ⟨⟨L, fr', h1.toInv hl⟩, by rw [pf.queue]; exact hq, hl, TModel.popTo n rl⟩

theorem CheckOut.trans {rl : Nat} {n n1 n' : Net} {orig : Cnf} (h : CheckOut rl n1 n' orig)
    (ht : ∀ α, TModel n1 α ↔ TModel n α) : CheckOut rl n n' orig :=
  ⟨h.inv, h.queue, h.level, fun α => (h.tm α).trans (ht α)⟩

/-- the side conditions of `check(lits)` (same recursion as `Net.check.go`): each literal names an existing
    variable, and `ConflictsCurrent` (the side condition of `C07N_propagate_sound`: every `lra.check` conflict found
    above root level cites a literal of the current level) for the two calls of `propagate` of each round:
    the one inside `assume` - on `startOf n p`, if `p` is not already false - and the one after it -/
def CheckGuard (fuel : Nat) : Net → List Lit → Prop
  | _, [] => True
  | n, p :: ps =>
    p.var < n.sat.nvars ∧ (n.sat.value p ≠ some false → ConflictsCurrent (startOf n p) fuel) ∧
    match n.assume p fuel with
    | some (true, n1) =>
      ConflictsCurrent n1 fuel ∧
      match n1.propagate fuel with
      | some (true, n2) => n.sat.decisionLevel < n2.sat.decisionLevel → CheckGuard fuel n2 ps
      | _ => True
    | _ => True

theorem checkGuard_cons {fuel : Nat} {n n1 n2 : Net} {p : Lit} {ps : List Lit} (hv : p.var < n.sat.nvars)
    (h0 : ConflictsCurrent (startOf n p) fuel) (ha : n.assume p fuel = some (true, n1)) (h1 : ConflictsCurrent n1 fuel)
    (hp : n1.propagate fuel = some (true, n2)) (hr : CheckGuard fuel n2 ps) : CheckGuard fuel n (p :: ps) := by
  rw [CheckGuard, ha]
  dsimp only
  rw [hp]
  exact ⟨hv, fun _ => h0, h1, fun _ => hr⟩

theorem check_go_cons {fuel rl : Nat} {n n1 n2 : Net} {p : Lit} {ps : List Lit} (ha : n.assume p fuel = some (true, n1))
    (hp : n1.propagate fuel = some (true, n2)) (hl : n.sat.decisionLevel < n2.sat.decisionLevel) :
    Net.check.go fuel rl n (p :: ps) = Net.check.go fuel rl n2 ps := by
  rw [Net.check.go, ha]
  dsimp only
  rw [hp]
  dsimp only
  rw [if_neg (Nat.not_le.2 hl)]

theorem tunsat_congr {n n' : Net} {F : Cnf} (h : TUnsat n' F) (ht : ∀ α, TModel n' α ↔ TModel n α) : TUnsat n F :=
  fun α h0 hm => h α h0 ((ht α).2 hm)

theorem assume_any {m : Nat} {n : Net} {orig L : Cnf} {fr : List Frame} (h : NetInvB m n orig L fr)
    (hq : n.sat.queue = []) (hd : n.sat.dead = false) (hm : m ≤ n.sat.decisionLevel) (p : Lit) (hp : p.var < n.sat.nvars)
    (fuel : Nat) (hg : n.sat.value p ≠ some false → ConflictsCurrent (startOf n p) fuel) (b : Bool) (n' : Net)
    (he : n.assume p fuel = some (b, n')) :
    (∃ L' fr', NetInvB m n' orig L' fr') ∧ n'.sat.queue = [] ∧ (b = true → n'.sat.dead = false) ∧
      (∀ α, TModel n' α ↔ TModel n α) ∧ n'.sat.decisions <:+ p :: n.sat.decisions ∧
      (b = false → n.sat.value p = some false ∨ TUnsat n orig) := by
  rw [assume_start] at he
  by_cases hv : n.sat.value p = some false
  · rw [if_pos hv] at he
    simp only [Option.some.injEq, Prod.mk.injEq] at he
    obtain ⟨rfl, rfl⟩ := he
    exact ⟨⟨_, _, h.pushStart hq hm p⟩, hq, nofun, fun α => tmodel_push n _ α, List.suffix_refl _, fun _ => Or.inl hv⟩
  · rw [if_neg hv] at he
    have hst : NetInvB m (startOf n p) orig L (⟨n.sat, n.lra, n.idl, n.rdl⟩ :: fr) ∧
        (startOf n p).sat.decisions = p :: n.sat.decisions ∧ (startOf n p).sat.dead = false := by
      rw [startOf_eq]
      split
      · exact ⟨h.atAssume hq hm ‹_› hp, rfl, hd⟩
      · exact ⟨h.pushStart hq hm p, rfl, hd⟩
    have r := propagate_invB fuel _ _ _ hst.1 hst.2.2 (hg hv) b n' he
    have tm : ∀ α, TModel n' α ↔ TModel n α := fun α => (r.tm α).trans (tmodel_push n _ α)
    refine ⟨r.inv, r.queue, fun hb => by rw [r.dead, hb]; rfl, tm, by rw [← hst.2.1]; exact r.decs, fun hb => .inr ?_⟩
    obtain ⟨L', fr', hi⟩ := r.inv
    exact tunsat_congr (hi.sound.dead (by rw [r.dead, hb]; rfl)) tm

structure Ready (rl : Nat) (orig : Cnf) (n : Net) : Prop where
  inv : ∃ L fr, NetInvB rl n orig L fr
  queue : n.sat.queue = []
  dead : n.sat.dead = false
  level : rl ≤ n.sat.decisionLevel

/-- one round of the loop: it leaves the loop from a network `nx` that satisfies the bounded invariant (and says why),
    or goes on with the rest of the literals from a network that is `Ready` again -/
inductive RoundOut (fuel rl : Nat) (orig : Cnf) (n : Net) (p : Lit) (ps : List Lit) (b : Bool) (n' : Net) : Prop
  | exit (nx : Net) : (∃ L fr, NetInvB rl nx orig L fr) → nx.sat.queue = [] → (∀ α, TModel nx α ↔ TModel n α) →
      b = false → n' = Net.popTo nx rl →
      (n.sat.value p = some false ∨ TUnsat n orig ∨ ∃ n1 n2, n.assume p fuel = some (true, n1) ∧
        n1.propagate fuel = some (true, n2) ∧ n2.sat.decisionLevel ≤ n.sat.decisionLevel) →
      RoundOut fuel rl orig n p ps b n'
  | next (n1 n2 : Net) : n.assume p fuel = some (true, n1) → n1.propagate fuel = some (true, n2) →
      n.sat.decisionLevel < n2.sat.decisionLevel → Ready rl orig n2 → (∀ α, TModel n2 α ↔ TModel n α) →
      n2.sat.decisions <:+ p :: n.sat.decisions → CheckGuard fuel n2 ps → Net.check.go fuel rl n2 ps = some (b, n') →
      RoundOut fuel rl orig n p ps b n'

theorem round_ok {fuel rl : Nat} {orig : Cnf} {n : Net} {p : Lit} {ps : List Lit} {b : Bool} {n' : Net}
    (h : Ready rl orig n) (hg : CheckGuard fuel n (p :: ps)) (he : Net.check.go fuel rl n (p :: ps) = some (b, n')) :
    RoundOut fuel rl orig n p ps b n' := by
  obtain ⟨L, fr, hi⟩ := h.inv
  unfold Net.check.go at he
  unfold CheckGuard at hg
  obtain ⟨g0, g1, g2⟩ := hg
  cases ha : n.assume p fuel with
  | none => rw [ha] at he; simp at he
  | some res =>
    obtain ⟨b1, n1⟩ := res
    rw [ha] at he g2
    obtain ⟨i1, q1, d1, t1, s1, f1⟩ := assume_any hi h.queue h.dead h.level p g0 fuel g1 b1 n1 ha
    cases b1 with
    | false =>
      simp only [Option.some.injEq, Prod.mk.injEq] at he
      exact .exit n1 i1 q1 t1 he.1.symm he.2.symm ((f1 rfl).imp_right .inl)
    | true =>
      simp only at he g2
      obtain ⟨g3, g4⟩ := g2
      obtain ⟨L1, fr1, i1⟩ := i1
      cases hpr : n1.propagate fuel with
      | none => rw [hpr] at he; simp at he
      | some res2 =>
        obtain ⟨b2, n2⟩ := res2
        rw [hpr] at he g4
        have r := propagate_invB fuel n1 L1 fr1 i1 (d1 rfl) g3 b2 n2 hpr
        have t2 : ∀ α, TModel n2 α ↔ TModel n α := fun α => (r.tm α).trans (t1 α)
        cases b2 with
        | false =>
          simp only [Option.some.injEq, Prod.mk.injEq] at he
          obtain ⟨L2, fr2, i2⟩ := r.inv
          exact .exit n2 r.inv r.queue t2 he.1.symm he.2.symm
            (.inr (.inl (tunsat_congr (i2.sound.dead (by rw [r.dead]; rfl)) t2)))
        | true =>
          simp only at he g4
          by_cases hle : n2.sat.decisionLevel ≤ n.sat.decisionLevel
          · rw [if_pos hle] at he
            simp only [Option.some.injEq, Prod.mk.injEq] at he
            exact .exit n2 r.inv r.queue t2 he.1.symm he.2.symm (.inr (.inr ⟨n1, n2, ha, hpr, hle⟩))
          · rw [if_neg hle] at he
            have hlt := Nat.lt_of_not_le hle
            exact .next n1 n2 ha hpr hlt ⟨r.inv, r.queue, by rw [r.dead]; rfl, by have := h.level; omega⟩ t2
              (r.decs.trans s1) (g4 hlt) he

theorem go_ok {orig : Cnf} (fuel rl : Nat) : ∀ (ls : List Lit) (n : Net), Ready rl orig n → CheckGuard fuel n ls →
    ∀ b n', Net.check.go fuel rl n ls = some (b, n') → CheckOut rl n n' orig
  | [], n, h, _, b, n', he => by
    obtain ⟨L, fr, hi⟩ := h.inv
    unfold Net.check.go at he
    simp only [Option.some.injEq, Prod.mk.injEq] at he
    exact he.2 ▸ exit_ok hi h.queue
  | p :: ps, n, h, hg, b, n', he => by
    cases round_ok h hg he with
    | exit nx hi hq ht _ e _ =>
      obtain ⟨L, fr, hi⟩ := hi
      exact e ▸ (exit_ok hi hq).trans ht
    | next n1 n2 _ _ _ hr ht _ hg' he' => exact (go_ok fuel rl ps n2 hr hg' b n' he').trans ht

end NetCheck
end Oratio
