/-
C08N with learning: under the network invariant of C07N (`NetInv`, with its side condition
`ConflictsCurrent`), `Net.propagate` never raises the decision level, and it keeps it - above the root
level - only when the run is conflict-free (`Net.quiet`): every conflict above the root level is
followed by `analyze_and_backjump`, which strictly lowers the level.  So "the decision level after
`assume` is that before plus one" is exactly the conflict-free case of `C08N_assume_pop`.
-/
import OratioProofs.Lemmas.NetSearch
import OratioProofs.Lemmas.UndoNetDefs
import OratioProofs.Lemmas.UndoNetProp

namespace Oratio
namespace Net
open Sat

structure PropLvl (n n' : Net) (fuel : Nat) : Prop where
  le : n'.sat.decisionLevel ≤ n.sat.decisionLevel
  eq : n'.sat.decisionLevel = n.sat.decisionLevel → 0 < n.sat.decisionLevel → quiet n fuel = true

theorem Kept.level_le {m : Nat} {orig : Cnf} {n n1 : Net} (k : Kept m orig n n1)
    (hn : n.sat.decisions.length = n.sat.decisionLevel) :
    n1.sat.decisions.length = n1.sat.decisionLevel ∧ n1.sat.decisionLevel ≤ n.sat.decisionLevel := by
  obtain ⟨_, _, hi⟩ := k.inv
  have h1 : n1.sat.decisions.length = n1.sat.decisionLevel := hi.sat.wf.a.decLen
  exact ⟨h1, by have := k.decs.length_le; omega⟩

theorem Run.level {m : Nat} {orig : Cnf} {n n' : Net} {fuel : Nat} {b : Bool} (r : Run m orig n fuel b n')
    (hn : n.sat.decisions.length = n.sat.decisionLevel) : PropLvl n n' fuel := by
  induction r with
  | done hr k _ => exact ⟨(k.level_le hn).2, fun _ _ => by rw [quiet_succ, hr]⟩
  | @root _ n1 _ _ _ _ k hroot _ _ =>
    have e0 : n1.sat.decisionLevel = 0 := congrArg List.length hroot
    exact ⟨e0.trans_le (Nat.zero_le _), fun heq hpos => absurd (e0.symm.trans heq) (Nat.ne_of_lt hpos)⟩
  | learn _ k _ k2 hlt _ ih =>
    have l1 := k.level_le hn
    have l2 := ih (k2.level_le l1.1).1
    exact ⟨by have := l2.le; omega, fun heq _ => by have := l2.le; omega⟩
  | @go n n1 _ _ _ hr k _ ih =>
    have l1 := k.level_le hn
    have l2 := ih l1.1
    refine ⟨l2.le.trans l1.2, fun heq hpos => ?_⟩
    have e : n1.sat.decisionLevel = n.sat.decisionLevel := Nat.le_antisymm l1.2 (heq ▸ l2.le)
    rw [quiet_succ, hr]
    exact l2.eq (heq.trans e.symm) (e ▸ hpos)

theorem propagate_level {orig : Cnf} (fuel : Nat) (n : Net) (L : Cnf) (fr : List Frame)
    (h : NetInv n orig L fr) (hd : n.sat.dead = false) (hg : ConflictsCurrent n fuel) (b : Bool) (n' : Net)
    (he : propagate n fuel = some (b, n')) : PropLvl n n' fuel :=
  (propagate_run (m := 0) fuel n L fr (.ofInv h) hd hg b n' he).level h.sat.wf.a.decLen

/-- without tableau rows `lra.check` finds no conflict, so the side condition of C07N holds of `assume` -/
theorem noRows_assumeStart {n : Net} {p : Lit} (fuel : Nat) (h : n.lra.tableau = []) :
    ConflictsCurrent (assumeStart n p) fuel ∧ ∀ b n', propagate (assumeStart n p) fuel = some (b, n') → n'.lra.tableau = [] :=
  noRows_propagate fuel (assumeStart n p) h

theorem quietAssume_eq {n : Net} {p : Lit} (hv : n.sat.value p = none) (fuel : Nat) :
    quietAssume n p fuel = quiet (assumeStart n p) fuel := by
  rw [quietAssume_start, startOf_eq, hv]; rfl

theorem assume_level_quiet {n : Net} {orig L : Cnf} {fr : List Frame} (h : NetInv n orig L fr) (hq : n.sat.queue = [])
    (hd : n.sat.dead = false) {p : Lit} (hv : n.sat.value p = none) (hp : p.var < n.sat.vals.length) (fuel : Nat)
    (hg : ConflictsCurrent (assumeStart n p) fuel) (b : Bool) (n' : Net) (he : n.assume p fuel = some (b, n')) :
    n'.sat.decisionLevel ≤ n.sat.decisionLevel + 1 ∧
    (n'.sat.decisionLevel = n.sat.decisionLevel + 1 → quietAssume n p fuel = true) := by
  rw [assume_eq hv] at he
  have r := propagate_level fuel _ _ _ (h.atAssume hq hv hp) hd hg b n' he
  exact ⟨r.le, fun heq => (quietAssume_eq hv fuel).trans (r.eq heq (Nat.succ_pos _))⟩

theorem NetInv.good {n : Net} {orig L : Cnf} {fr : List Frame} (h : NetInv n orig L fr) (hc : Clean n.sat) : Good n :=
  ⟨hc, h.th.base.lra.inv.tab, h.th.base.idl.sorted, h.th.base.rdl.sorted⟩

theorem assume_pop_level {n : Net} {orig L : Cnf} {fr : List Frame} (h : NetInv n orig L fr) (hc : Clean n.sat)
    (hq : n.sat.queue = []) (hd : n.sat.dead = false) {p : Lit} (hv : n.sat.value p = none) (hp : p.var < n.sat.vals.length)
    (fuel : Nat) (hg : ConflictsCurrent (assumeStart n p) fuel) (b : Bool) (n' : Net)
    (he : n.assume p fuel = some (b, n')) :
    n'.sat.decisionLevel ≤ n.sat.decisionLevel + 1 ∧
    (n'.sat.decisionLevel = n.sat.decisionLevel + 1 ↔ quietAssume n p fuel = true) ∧
    (n'.sat.decisionLevel = n.sat.decisionLevel + 1 → b = true ∧ RestoredN n n'.pop) := by
  obtain ⟨r1, r2⟩ := assume_level_quiet h hq hd hv hp fuel hg b n' he
  have hgood := h.good hc
  have hv' : (pushed n p).sat.value p = none := hv
  exact ⟨r1, ⟨r2, fun hqa => inLevelN_level (assume_quiet hgood hqa he).1⟩,
    fun hl => ⟨(assume_quiet hgood (r2 hl) he).2 (by rw [enqueue_none none hv']), assume_pop hgood (r2 hl) he⟩⟩

/-! ### search histories with learning: the decision level tells whether a conflict was met -/

/-- a search history as the planner runs it: `assume`s and further `propagate`s (above root level),
    stopping at the first negative answer; conflicts, learning and backjumps allowed -/
def runSearch (fuel : Nat) : Net → List SOp → Option Net
  | n, [] => some n
  | n, .assume p :: r =>
    match n.assume p fuel with
    | some (true, n') => runSearch fuel n' r
    | _ => none
  | n, .propagate :: r =>
    if n.sat.rootLevel then none
    else match n.propagate fuel with
      | some (true, n') => runSearch fuel n' r
      | _ => none

/-- the documented preconditions of the calls of a history (`assume` on an unassigned existing literal)
    and the side condition `ConflictsCurrent` of C07N for each of them -/
def SearchOK (fuel : Nat) : Net → List SOp → Prop
  | _, [] => True
  | n, .assume p :: r => n.sat.value p = none ∧ p.var < n.sat.vals.length ∧ ConflictsCurrent (assumeStart n p) fuel ∧
      ∀ n', n.assume p fuel = some (true, n') → SearchOK fuel n' r
  | n, .propagate :: r => ConflictsCurrent n fuel ∧ ∀ n', n.propagate fuel = some (true, n') → SearchOK fuel n' r

def assumes : List SOp → Nat
  | [] => 0
  | .assume _ :: r => assumes r + 1
  | .propagate :: r => assumes r

theorem search_level {orig : Cnf} (fuel : Nat) (ops : List SOp) : ∀ (cur n : Net) (L : Cnf) (fr : List Frame),
    NetInv cur orig L fr → cur.sat.queue = [] → cur.sat.dead = false → SearchOK fuel cur ops →
    runSearch fuel cur ops = some n →
    n.sat.decisionLevel ≤ cur.sat.decisionLevel + assumes ops ∧
    (n.sat.decisionLevel = cur.sat.decisionLevel + assumes ops → runQuiet fuel cur ops = some n) := by
  induction ops with
  | nil =>
    intro cur n L fr _ _ _ _ he
    cases he
    exact ⟨Nat.le_refl _, fun _ => rfl⟩
  | cons op rest ih =>
    intro cur n L fr h hq hd hok he
    cases op with
    | assume p =>
      obtain ⟨hv, hp, hg, hrest⟩ := hok
      rw [runSearch] at he
      split at he
      · next n1 ha =>
        have po := NetInv.assume h hq hd hv hp fuel hg true n1 ha
        obtain ⟨L1, fr1, hi1⟩ := po.inv
        obtain ⟨r1, r2⟩ := assume_level_quiet h hq hd hv hp fuel hg true n1 ha
        obtain ⟨i1, i2⟩ := ih n1 n L1 fr1 hi1 po.queue po.dead (hrest n1 ha) he
        rw [assumes]
        refine ⟨by omega, fun heq => ?_⟩
        rw [runQuiet, if_pos (r2 (by omega)), ha]
        exact i2 (by omega)
      · cases he
    | propagate =>
      obtain ⟨hg, hrest⟩ := hok
      rw [runSearch] at he
      split at he
      · cases he
      · next hroot =>
        split at he
        · next n1 ha =>
          have po := propagate_inv fuel cur L fr h hd hg true n1 ha
          obtain ⟨L1, fr1, hi1⟩ := po.inv
          have pl := propagate_level fuel cur L fr h hd hg true n1 ha
          obtain ⟨i1, i2⟩ := ih n1 n L1 fr1 hi1 po.queue po.dead (hrest n1 ha) he
          have hle := pl.le
          rw [assumes]
          refine ⟨by omega, fun heq => ?_⟩
          have hroot' : cur.sat.rootLevel = false := by simpa using hroot
          rw [runQuiet, hroot', pl.eq (by omega) (dl_pos_of_not_root hroot), if_pos (by decide), ha]
          exact i2 (by omega)
        · cases he

theorem search_popTo_root {r : Net} {orig L : Cnf} {fr : List Frame} (h : NetInv r orig L fr) (hc : Clean r.sat)
    (hroot : r.sat.trailLim = []) (hq : r.sat.queue = []) (hd : r.sat.dead = false) (fuel : Nat) (ops : List SOp)
    (hok : SearchOK fuel r ops) {n : Net} (he : runSearch fuel r ops = some n) :
    n.sat.decisionLevel ≤ assumes ops ∧
    (n.sat.decisionLevel = assumes ops → runQuiet fuel r ops = some n ∧ RestoredN r (popTo n 0)) := by
  have hl : r.sat.decisionLevel = 0 := by
    show r.sat.trailLim.length = 0
    rw [hroot]; rfl
  obtain ⟨i1, i2⟩ := search_level fuel ops r n L fr h hq hd hok he
  rw [hl, Nat.zero_add] at i1 i2
  exact ⟨i1, fun heq => ⟨i2 heq, popTo_root (h.good hc) hroot fuel ops (i2 heq)⟩⟩

end Net
end Oratio
