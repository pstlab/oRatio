/-
C08N, linear arithmetic: `lra_theory::push / pop` around ANY sequence of bound assertions, literal propagations
and simplex runs.  No range hypothesis on the variables the calls mention: the first-write-wins log
may contain out-of-range indices (the model's `set` ignores them, and so does `pop`).
-/
import OratioProofs.Lemmas.UndoNetDefs
import OratioProofs.Lemmas.LraCheckRows
import OratioProofs.Lemmas.LraExplAssert
import OratioProofs.Lemmas.LraUndoLog

namespace Oratio
namespace Lra

/-- `u` was reached from `B.push` by theory calls: the undo log accounts for the bounds (`pinv`), the tableau
    is at most pivoted (`sol`), the rest is untouched -/
structure InLevel (B u : Lra) : Prop where
  pinv : PopInvW B u
  exprs : u.exprs = B.exprs
  sAsrts : u.sAsrts = B.sAsrts
  vAsrts : u.vAsrts = B.vAsrts
  aWatches : u.aWatches = B.aWatches
  nvars : u.vals.length = B.vals.length
  sol : SameSol B u

theorem inLevel_push {B : Lra} (hB : TabWF B) : InLevel B B.push :=
  ⟨popInvW_push B, rfl, rfl, rfl, rfl, rfl, ⟨tabWF_congr (t := B) (u := B.push) rfl rfl rfl hB, fun _ => Iff.rfl⟩⟩

theorem sameSol_of_tableau {B t u : Lra} (h : SameSol B t) (ht : u.tableau = t.tableau) (hw : TabWF u) : SameSol B u :=
  ⟨hw, fun σ => by rw [ht]; exact h.2 σ⟩

theorem InLevel.asState {B t : Lra} (h : InLevel B t) (d : Side) (xi : Nat) (val : IR) (p : Lit) :
    InLevel B (asState d t xi val p) := by
  have bs := boundSet_as d t xi val p
  have k := (asState_writes d t xi val p).kept
  obtain ⟨vs, e, _⟩ := storeBound_core t (d.idx xi) xi val p (d.ltB · val)
  exact ⟨popInvW_store h.pinv bs.bounds (congrArg Lra.layers e), k.exprs.trans h.exprs, k.sAsrts.trans h.sAsrts,
    k.vAsrts.trans h.vAsrts, k.aWatches.trans h.aWatches, k.nvars.trans h.nvars,
    sameSol_of_tableau h.sol bs.tableau (bs.tabWF h.sol.1)⟩

theorem InLevel.assertS {B t : Lra} (h : InLevel B t) (d : Side) (s : Sat) (xi : Nat) (val : IR) (p : Lit) :
    InLevel B (assertS d s t xi val p).th := by
  rcases assertS_th d s t xi val p with e | e <;> rw [e]
  · exact h
  · exact h.asState d xi val p

theorem InLevel.assertLower {B t : Lra} (h : InLevel B t) (s : Sat) (xi : Nat) (val : IR) (p : Lit) :
    InLevel B (Lra.assertLower s t xi val p).th :=
  assertLower_eq s t xi val p ▸ h.assertS .lo s xi val p

theorem InLevel.assertUpper {B t : Lra} (h : InLevel B t) (s : Sat) (xi : Nat) (val : IR) (p : Lit) :
    InLevel B (Lra.assertUpper s t xi val p).th :=
  assertUpper_eq s t xi val p ▸ h.assertS .hi s xi val p

theorem InLevel.propagateLit {B t : Lra} (h : InLevel B t) (s : Sat) (p : Lit) :
    InLevel B (Lra.propagateLit s t p).th := by
  rcases propagateLit_cases s t p with e | ⟨a, d, _, ⟨_, _, e⟩ | ⟨_, _, e⟩⟩ <;> rw [e]
  · exact h
  · exact h.assertS d s _ _ p
  · exact h.assertS d s _ _ p

theorem InLevel.check {B t t' : Lra} (h : InLevel B t) {fuel : Nat} {c : Option (List Lit)}
    (hc : t.check fuel = some (c, t')) : InLevel B t' := by
  have hw := check_writes hc
  have k := hw.kept
  exact ⟨popInvW_congr hw.bounds hw.layers h.pinv, k.exprs.trans h.exprs, k.sAsrts.trans h.sAsrts,
    k.vAsrts.trans h.vAsrts, k.aWatches.trans h.aWatches, k.nvars.trans h.nvars,
    h.sol.trans (sameSol_check fuel t t' c h.sol.1 hc)⟩

theorem InLevel.callStep {B t : Lra} (h : InLevel B t) (c : LCall) : InLevel B (callStep t c) := by
  cases c with
  | lower s x v p => exact h.assertLower s x v p
  | upper s x v p => exact h.assertUpper s x v p
  | lit s p => exact h.propagateLit s p
  | check fuel =>
    show InLevel B (match t.check fuel with
      | some (_, t') => t'
      | none => t)
    cases hc : t.check fuel with
    | none => exact h
    | some r =>
      obtain ⟨c, t'⟩ := r
      exact h.check hc

theorem InLevel.runCalls {B : Lra} : ∀ (cs : List LCall) {t : Lra}, InLevel B t → InLevel B (runCalls t cs) := by
  intro cs
  induction cs with
  | nil => intro t h; exact h
  | cons c cs ih => intro t h; exact ih (h.callStep c)

/-- what `pop` gives back of the state at the matching `push`: all but the tableau, which keeps its pivots -/
structure Restored (B u : Lra) : Prop where
  vis : SameVisible B u
  sol : SameSol B u

theorem Restored.refl {B : Lra} (hB : TabWF B) : Restored B B :=
  ⟨⟨rfl, rfl, rfl, rfl, rfl, rfl, rfl⟩, SameSol.refl hB⟩

theorem Restored.trans {A B C : Lra} (h1 : Restored A B) (h2 : Restored B C) : Restored A C :=
  ⟨⟨h2.vis.bounds.trans h1.vis.bounds, h2.vis.layers.trans h1.vis.layers, h2.vis.exprs.trans h1.vis.exprs,
    h2.vis.sAsrts.trans h1.vis.sAsrts, h2.vis.vAsrts.trans h1.vis.vAsrts, h2.vis.aWatches.trans h1.vis.aWatches,
    h2.vis.nvars.trans h1.vis.nvars⟩, h1.sol.trans h2.sol⟩

theorem InLevel.pop {B u : Lra} (h : InLevel B u) : Restored B u.pop := by
  have hw := pop_writes u
  have k := hw.kept
  obtain ⟨b1, b2⟩ := pop_of_invW B u h.pinv
  exact ⟨⟨b1, b2, k.exprs.trans h.exprs, k.sAsrts.trans h.sAsrts, k.vAsrts.trans h.vAsrts, k.aWatches.trans h.aWatches,
      k.nvars.trans h.nvars⟩, sameSol_of_tableau h.sol hw.tableau (tabWF_congr hw.tableau hw.tWatches k.nvars h.sol.1)⟩

theorem InLevel.congr {B' B u : Lra} (h : InLevel B' B) (r : Restored B u) : InLevel B' u :=
  ⟨popInvW_congr r.vis.bounds r.vis.layers h.pinv, r.vis.exprs.trans h.exprs, r.vis.sAsrts.trans h.sAsrts,
    r.vis.vAsrts.trans h.vAsrts, r.vis.aWatches.trans h.aWatches, r.vis.nvars.trans h.nvars, h.sol.trans r.sol⟩

theorem push_calls_pop {B : Lra} (hB : TabWF B) (cs : List LCall) : Restored B (runCalls B.push cs).pop :=
  (InLevel.runCalls cs (inLevel_push hB)).pop

abbrev ChainTo (root : Lra) : List Lra → Lra → Prop := Undo.ChainTo InLevel Restored id root

theorem ChainTo.tabWF {root : Lra} : ∀ {bs : List Lra} {cur : Lra}, ChainTo root bs cur → TabWF cur
  | [], _, h => h.sol.1
  | _ :: _, _, h => h.1.sol.1

theorem events_main {root : Lra} (evs : List LEvent) : ∀ (bs : List Lra) (cur : Lra), ChainTo root bs cur →
    balanced evs bs.length = true → Restored root (runEvents cur evs) := by
  induction evs with
  | nil =>
    intro bs cur hc hb
    cases bs with
    | nil => exact hc
    | cons => cases hb
  | cons e rest ih =>
    intro bs cur hc hb
    cases e with
    | push => exact ih (cur :: bs) cur.push ⟨inLevel_push hc.tabWF, hc⟩ hb
    | pop =>
      cases bs with
      | nil => cases hb
      | cons B bs => exact ih bs cur.pop (hc.2.congr (·.congr hc.1.pop) (·.trans hc.1.pop)) hb
    | call c =>
      cases bs with
      | nil => cases hb
      | cons B bs => exact ih (B :: bs) _ ⟨hc.1.callStep c, hc.2⟩ hb

theorem balanced_history {t : Lra} (ht : TabWF t) (evs : List LEvent) (h : balanced evs 0 = true) :
    Restored t (runEvents t evs) :=
  events_main evs [] t (Restored.refl ht) h

end Lra
end Oratio
