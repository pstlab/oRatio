/-
Lemmas on the pulse sweep (`OratioModel/Solver/Sweep.lean`):
the order on `Time`, the pulse list, the set update `stepSet`, `pairsOf`.
-/
import OratioProofs.Lemmas.SweepDefs
import OratioProofs.Lemmas.ListAux
import Mathlib.Data.Prod.Lex
import Mathlib.Data.List.Nodup
import Mathlib.Algebra.Order.Ring.Unbundled.Rat

namespace Oratio.Sweep
open ListAux

/-! The order on `Time` is the lexicographic order of `ℚ × ℚ`: the facts of a linear order are taken from there once, in
the `= true` form in which the model states them. -/

abbrev L (t : Time) : Lex (Rat × Rat) := toLex t

theorem tlt_iff {a b : Time} : tlt a b = true ↔ L a < L b := by
  simp [tlt, L, Prod.Lex.toLex_lt_toLex]

theorem tle_iff {a b : Time} : tle a b = true ↔ L a ≤ L b := by
  rw [tle, Bool.not_eq_true', ← Bool.not_eq_true, tlt_iff, not_lt]

section order
variable {a b c : Time}

theorem tle_refl (a : Time) : tle a a = true := tle_iff.2 le_rfl
theorem tle_of_tlt (h : tlt a b = true) : tle a b = true := tle_iff.2 (tlt_iff.1 h).le
theorem tlt_trans (h1 : tlt a b = true) (h2 : tlt b c = true) : tlt a c = true :=
  tlt_iff.2 ((tlt_iff.1 h1).trans (tlt_iff.1 h2))
theorem tlt_of_tlt_of_tle (h1 : tlt a b = true) (h2 : tle b c = true) : tlt a c = true :=
  tlt_iff.2 ((tlt_iff.1 h1).trans_le (tle_iff.1 h2))
theorem tlt_of_tle_of_tlt (h1 : tle a b = true) (h2 : tlt b c = true) : tlt a c = true :=
  tlt_iff.2 ((tle_iff.1 h1).trans_lt (tlt_iff.1 h2))
theorem tle_trans (h1 : tle a b = true) (h2 : tle b c = true) : tle a c = true :=
  tle_iff.2 ((tle_iff.1 h1).trans (tle_iff.1 h2))
theorem tlt_of_tle_of_ne (h1 : tle a b = true) (h2 : a ≠ b) : tlt a b = true :=
  tlt_iff.2 (lt_of_le_of_ne (tle_iff.1 h1) h2)
theorem not_tle_of_tlt (h : tlt a b = true) : ¬ tle b a = true := fun h' => not_le_of_gt (tlt_iff.1 h) (tle_iff.1 h')
theorem tlt_irrefl (a : Time) : tlt a a = false := Bool.eq_false_iff.2 fun h => not_tle_of_tlt h (tle_refl a)
theorem ne_of_tlt (h : tlt a b = true) : a ≠ b := fun e => by rw [e, tlt_irrefl] at h; cases h
theorem tlt_asymm (h : tlt a b = true) : ¬ tlt b a = true := fun h' => not_tle_of_tlt h (tle_of_tlt h')
theorem tle_of_not_tlt (h : ¬ tlt a b = true) : tle b a = true := by simpa [tle] using h
theorem tlt_or_tle (a b : Time) : tlt a b = true ∨ tle b a = true := (em _).imp_right tle_of_not_tlt

end order

theorem tlt_trichotomy (a b : Time) : tlt a b = true ∨ a = b ∨ tlt b a = true :=
  (tlt_or_tle a b).imp_right fun h => (em (b = a)).imp Eq.symm (tlt_of_tle_of_ne h)

theorem covers_iff {a : TAtom} {t : Time} :
    covers a t = true ↔ tle a.start t = true ∧ tlt t a.stop = true := by
  simp [covers]

theorem tadd_right_comm (u a b : Time) : tadd (tadd u a) b = tadd (tadd u b) a := by
  simp only [tadd, Prod.mk.injEq]
  exact ⟨by rw [Rat.add_assoc, Rat.add_comm a.1, ← Rat.add_assoc],
         by rw [Rat.add_assoc, Rat.add_comm a.2, ← Rat.add_assoc]⟩

abbrev Sorted (l : List Time) : Prop := l.Pairwise (fun a b => tlt a b = true)

theorem insertPulse_eq (p : Time) : ∀ l : List Time, insertPulse p l = insertK id (fun a b => tlt a b = true) p l
  | [] => rfl
  | q :: r => by
    rw [insertPulse, insertK, insertPulse_eq p r]
    simp only [beq_iff_eq, id]

theorem mem_insertPulse {p x : Time} {l : List Time} : x ∈ insertPulse p l ↔ x = p ∨ x ∈ l := by
  rw [insertPulse_eq]; exact mem_insertK_id

theorem sorted_insertPulse {p : Time} {l : List Time} (h : Sorted l) : Sorted (insertPulse p l) := by
  rw [insertPulse_eq]
  exact sorted_insertK (key := id) (lt := fun a b => tlt a b = true) tlt_trans
    (fun h1 h2 => tlt_of_tle_of_ne (tle_of_not_tlt h1) (Ne.symm h2)) p h

theorem mem_foldl_insert (extra : List Time) (ps : List Time) (x : Time) :
    x ∈ extra.foldl (fun ps p => insertPulse p ps) ps ↔ x ∈ ps ∨ x ∈ extra := by
  rw [mem_foldl (fun ps x => x ∈ ps) _ (fun p x => x = p) fun _ _ _ => by rw [mem_insertPulse, or_comm]]
  simp

theorem sorted_foldl_insert (extra : List Time) (ps : List Time) (h : Sorted ps) :
    Sorted (extra.foldl (fun ps p => insertPulse p ps) ps) :=
  foldl_inv Sorted _ (fun _ _ => sorted_insertPulse) extra ps h

theorem pulsesOf_eq (as : List TAtom) (extra : List Time) : pulsesOf as extra =
    (as.flatMap (fun a => [a.start, a.stop]) ++ extra).foldl (fun ps p => insertPulse p ps) [] := by
  rw [List.foldl_append, List.foldl_flatMap]
  rfl

theorem mem_pulsesOf {as : List TAtom} {extra : List Time} {p : Time} :
    p ∈ pulsesOf as extra ↔ (∃ a ∈ as, p = a.start ∨ p = a.stop) ∨ p ∈ extra := by
  simp [pulsesOf_eq, mem_foldl_insert]

theorem sorted_pulsesOf (as : List TAtom) (extra : List Time) : Sorted (pulsesOf as extra) :=
  pulsesOf_eq as extra ▸ sorted_foldl_insert _ _ List.Pairwise.nil

theorem nodup_snoc {α : Type} {l : List α} {a : α} (h : l.Nodup) (ha : a ∉ l) : (l ++ [a]).Nodup := by
  refine List.nodup_append.2 ⟨h, by simp, ?_⟩
  rintro b hb c hc rfl
  exact ha (List.mem_singleton.1 hc ▸ hb)

theorem mem_ins {l : List Nat} {i j : Nat} : j ∈ (if l.contains i then l else l ++ [i]) ↔ j ∈ l ∨ j = i := by
  split
  · rename_i h
    exact ⟨Or.inl, fun h' => h'.elim id fun e => e ▸ List.contains_iff_mem.1 h⟩
  · rw [List.mem_append, List.mem_singleton]

theorem nodup_ins {l : List Nat} {i : Nat} (h : l.Nodup) : (if l.contains i then l else l ++ [i]).Nodup := by
  split
  · exact h
  · rename_i hc
    exact nodup_snoc h fun hi => hc (List.contains_iff_mem.2 hi)

theorem mem_addIds (l : List Nat) (cur : List Nat) (i : Nat) :
    i ∈ l.foldl (fun c i => if c.contains i then c else c ++ [i]) cur ↔ i ∈ cur ∨ i ∈ l := by
  rw [mem_foldl (fun c i => i ∈ c) _ (fun a i => i = a) fun _ _ _ => mem_ins]
  simp

theorem nodup_addIds (l : List Nat) (cur : List Nat) (h : cur.Nodup) :
    (l.foldl (fun c i => if c.contains i then c else c ++ [i]) cur).Nodup :=
  foldl_inv List.Nodup _ (fun _ _ => nodup_ins) l cur h

theorem mem_stepSet {as : List TAtom} {cur : List Nat} {p : Time} {i : Nat} :
    i ∈ stepSet as cur p ↔
      (i ∈ cur ∨ ∃ a ∈ as, a.start = p ∧ a.id = i) ∧ ¬ ∃ a ∈ as, a.id = i ∧ a.stop = p := by
  unfold stepSet
  simp only [List.mem_filter, mem_addIds, List.mem_map, Bool.not_eq_true', List.any_eq_false,
    Bool.and_eq_true, beq_iff_eq, not_and, not_exists, and_assoc]

theorem nodup_stepSet {as : List TAtom} {cur : List Nat} {p : Time} (h : cur.Nodup) :
    (stepSet as cur p).Nodup := by
  unfold stepSet
  exact (nodup_addIds _ _ h).filter _

theorem pairsOf_eq_nil_of_length_le_one : ∀ (l : List Nat), ¬ l.length > 1 → pairsOf l = []
  | [], _ => rfl
  | [_], _ => rfl
  | _ :: _ :: _, h => by simp at h

theorem pairsOf_eq : ∀ l : List Nat, pairsOf l = pairs l
  | [] => rfl
  | a :: t => by rw [pairsOf, pairs, pairsOf_eq t]

theorem later_tlt_iff {x y z : Time} :
    tlt (if tlt x y then y else x) z = true ↔ tlt x z = true ∧ tlt y z = true := by
  split
  · exact ⟨fun h => ⟨tlt_trans ‹_› h, h⟩, And.right⟩
  · exact ⟨fun h => ⟨h, tlt_of_tle_of_tlt (tle_of_not_tlt ‹_›) h⟩, And.left⟩

theorem tlt_earlier_iff {x y z : Time} :
    tlt z (if tlt x y then x else y) = true ↔ tlt z x = true ∧ tlt z y = true := by
  split
  · exact ⟨fun h => ⟨h, tlt_trans h ‹_›⟩, And.left⟩
  · exact ⟨fun h => ⟨tlt_of_tlt_of_tle h (tle_of_not_tlt ‹_›), h⟩, And.right⟩

theorem overlaps_iff {a b : TAtom} : overlaps a b = true ↔
    (tlt a.start a.stop = true ∧ tlt a.start b.stop = true) ∧ tlt b.start a.stop = true ∧ tlt b.start b.stop = true := by
  rw [overlaps, later_tlt_iff, tlt_earlier_iff, tlt_earlier_iff]

theorem overlaps_of_covers {a b : TAtom} {t : Time} (ha : covers a t = true) (hb : covers b t = true) :
    overlaps a b = true :=
  have ha := covers_iff.1 ha
  have hb := covers_iff.1 hb
  overlaps_iff.2 ⟨⟨tlt_of_tle_of_tlt ha.1 ha.2, tlt_of_tle_of_tlt ha.1 hb.2⟩,
    tlt_of_tle_of_tlt hb.1 ha.2, tlt_of_tle_of_tlt hb.1 hb.2⟩

theorem covers_of_overlaps {a b : TAtom} (h : overlaps a b = true) :
    ∃ t, (t = a.start ∨ t = b.start) ∧ covers a t = true ∧ covers b t = true := by
  obtain ⟨⟨h1, h2⟩, h3, h4⟩ := overlaps_iff.1 h
  by_cases hs : tlt a.start b.start = true
  · exact ⟨b.start, .inr rfl, covers_iff.2 ⟨tle_of_tlt hs, h3⟩, covers_iff.2 ⟨tle_refl _, h4⟩⟩
  · exact ⟨a.start, .inl rfl, covers_iff.2 ⟨tle_refl _, h1⟩, covers_iff.2 ⟨tle_of_not_tlt hs, h2⟩⟩

end Oratio.Sweep
