/-
The printing functions the theory of linear real arithmetic uses as cache keys (`R.toStr`, `Lin.toStr`, `Lra.relKey`)
are injective on canonical arguments.  On `List Char`: a print-out is cut into tokens by maximal munch (`Print.cut`),
and numbers and terms can be read back (`iread`, `rread`, `fread`, `tread`, `kread`, `sread`; `Int.toInt?_repr` reads
a printed integer).
-/
import OratioModel
import Std.Data.String.ToNat
import Std.Data.String.ToInt
import OratioProofs.Lemmas.LraRelSemDefs

namespace Oratio
namespace Print

def Stop (p : Char → Bool) (v : List Char) : Prop := ∀ c ∈ v.head?, p c = false

theorem stop_nil (p : Char → Bool) : Stop p [] := by simp [Stop]

theorem stop_cons {p : Char → Bool} {c : Char} {v : List Char} (h : p c = false) : Stop p (c :: v) := by
  simp [Stop, h]

theorem stop_takeWhile {p : Char → Bool} {v : List Char} (h : Stop p v) : v.takeWhile p = [] := by
  cases v with
  | nil => rfl
  | cons c v => exact List.takeWhile_cons_of_neg (by rw [h c rfl]; exact Bool.false_ne_true)

theorem cut {p : Char → Bool} {u v : List Char} (hu : ∀ c ∈ u, p c = true) (hv : Stop p v) :
    (u ++ v).takeWhile p = u ∧ (u ++ v).dropWhile p = v := by
  refine ⟨by rw [List.takeWhile_append_of_pos hu, stop_takeWhile hv, List.append_nil], ?_⟩
  rw [List.dropWhile_append_of_pos hu]
  cases v with
  | nil => rfl
  | cons c v => exact List.dropWhile_cons_of_neg (by rw [hv c rfl]; exact Bool.false_ne_true)

theorem split_pref (p : Char → Bool) (u u' v v' : List Char) (hu : ∀ c ∈ u, p c = true) (hu' : ∀ c ∈ u', p c = true)
    (hv : Stop p v) (hv' : Stop p v') (h : u ++ v = u' ++ v') : u = u' ∧ v = v' := by
  obtain ⟨a, b⟩ := cut hu hv
  obtain ⟨a', b'⟩ := cut hu' hv'
  rw [h] at a b
  exact ⟨a.symm.trans a', b.symm.trans b'⟩

/-- the characters of a printed finite rational -/
def rch (c : Char) : Bool := c.isDigit || c == '-' || c == '/'
/-- the characters of a printed integer -/
def ich (c : Char) : Bool := c.isDigit || c == '-'
def nsp (c : Char) : Bool := c != ' '

theorem rch_nsp {c : Char} (h : rch c = true) : nsp c = true := by
  unfold rch at h; unfold nsp
  by_cases hc : c = ' '
  · subst hc; revert h; decide
  · simpa using hc

theorem ich_rch {c : Char} (h : ich c = true) : rch c = true := by
  unfold ich at h; unfold rch; simp [h]

theorem digit_ich {c : Char} (h : c.isDigit = true) : ich c = true := by
  unfold ich; simp [h]

def nl (n : Nat) : List Char := Nat.toDigits 10 n

theorem toList_natStr (n : Nat) : (toString n).toList = nl n := by simp [nl]

theorem nl_digit {n : Nat} {c : Char} (h : c ∈ nl n) : c.isDigit = true :=
  Nat.isDigit_of_mem_toDigits (by decide) (by decide) h

theorem nl_ne_nil (n : Nat) : nl n ≠ [] := Nat.toDigits_ne_nil

def il (i : Int) : List Char := (toString i).toList

theorem il_eq (i : Int) : il i = if 0 ≤ i then nl i.toNat else '-' :: nl (-i).toNat := by
  unfold il
  rw [Int.toString_eq_repr, Int.repr_eq_if]
  split <;> simp [nl, String.toList_append]

theorem il_ich {i : Int} {c : Char} (h : c ∈ il i) : ich c = true := by
  rw [il_eq] at h
  split at h
  · exact digit_ich (nl_digit h)
  · rcases List.mem_cons.1 h with rfl | h
    · decide
    · exact digit_ich (nl_digit h)

theorem il_ne_nil (i : Int) : il i ≠ [] := by
  rw [il_eq]; split
  · exact nl_ne_nil _
  · simp

def iread (w : List Char) : Int := ((String.ofList w).toInt?).getD 0

theorem iread_il (i : Int) : iread (il i) = i := by
  unfold iread il
  rw [String.ofList_toList, Int.toString_eq_repr, Int.toInt?_repr]; rfl

theorem il_inj {i j : Int} (h : il i = il j) : i = j := by
  rw [← iread_il i, h, iread_il]

theorem nl_il (n : Nat) : nl n = il n := by
  rw [il_eq, if_pos (Int.natCast_nonneg n), Int.toNat_natCast]

theorem nl_inj {m n : Nat} (h : nl m = nl n) : m = n := by
  have := il_inj ((nl_il m).symm.trans (h.trans (nl_il n)))
  omega

def rl (r : R) : List Char := (R.toStr r).toList

theorem rl_eq {r : R} (h : r.den ≠ 0) : rl r = if r.den = 1 then il r.num else il r.num ++ '/' :: il r.den := by
  unfold rl R.toStr
  simp only [beq_iff_eq, h, if_false]
  split
  · rfl
  · simp [il, String.toList_append]

theorem rl_rch {r : R} (h : r.den ≠ 0) {c : Char} (hc : c ∈ rl r) : rch c = true := by
  rw [rl_eq h] at hc
  split at hc
  · exact ich_rch (il_ich hc)
  · rcases List.mem_append.1 hc with hc | hc
    · exact ich_rch (il_ich hc)
    · rcases List.mem_cons.1 hc with rfl | hc
      · decide
      · exact ich_rch (il_ich hc)

theorem rl_ne_nil {r : R} (h : r.den ≠ 0) : rl r ≠ [] := by
  rw [rl_eq h]; split
  · exact il_ne_nil _
  · simp

def rread (w : List Char) : R :=
  ⟨iread (w.takeWhile ich), match w.dropWhile ich with | [] => 1 | _ :: d => iread d⟩

theorem rread_rl {r : R} (h : r.den ≠ 0) : rread (rl r) = r := by
  rw [rl_eq h]
  unfold rread
  split
  · next h1 =>
    obtain ⟨t1, t2⟩ := cut (v := []) (fun c => il_ich (i := r.num)) (stop_nil _)
    rw [List.append_nil] at t1 t2
    rw [t1, t2, iread_il, ← h1]
  · obtain ⟨t1, t2⟩ := cut (v := '/' :: il r.den) (fun c => il_ich (i := r.num)) (stop_cons (by decide))
    rw [t1, t2, iread_il]
    simp only [iread_il]

theorem rl_inj {a b : R} (ha : a.den ≠ 0) (hb : b.den ≠ 0) (h : rl a = rl b) : a = b := by
  rw [← rread_rl ha, h, rread_rl hb]

end Print

theorem R.toStr_inj {a b : R} (ha : R.FinWF a) (hb : R.FinWF b) (h : R.toStr a = R.toStr b) : a = b :=
  Print.rl_inj ha.2 hb.2 (by unfold Print.rl; rw [h])

namespace Print

theorem toStr_not_empty {r : R} (h : r.den ≠ 0) : (R.toStr r).isEmpty = false := by
  rw [Bool.eq_false_iff]
  intro h1
  rw [String.isEmpty_iff] at h1
  exact rl_ne_nil h (by unfold rl; rw [h1]; rfl)

def irParts (c : IR) : List Char × List Char :=
  if c.inf = R.zero then (rl c.rat, [])
  else if c.inf = R.one then (if c.rat = R.zero then ([], ['ε']) else (rl c.rat, [' ', '+', ' ', 'ε']))
  else (if c.rat = R.zero then (['-'], ['ε']) else (rl c.rat, [' ', '-', ' ', 'ε']))

theorem irToStr_parts {c : IR} (hc : Lra.SimpleC c) :
    (Lra.irToStr c).toList = (irParts c).1 ++ (irParts c).2 := by
  have hd : c.rat.den ≠ 0 := hc.1.2
  have hi := hc.1.not_inf
  have he := toStr_not_empty hd
  unfold Lra.irToStr irParts
  simp only [hi, Bool.false_or, R.eq_eq_decide, R.ne_eq_not_eq, decide_eq_true_eq]
  rcases hc.2 with h | h | h
  · simp [h, rl]
  · have h0 : ¬ R.one = R.zero := by decide
    by_cases hr : c.rat = R.zero
    · simp [h, h0, hr]
    · simp [h, h0, hr, he, rl, String.toList_append]
  · have h0 : ¬ R.neg R.one = R.zero := by decide
    have h1 : ¬ R.neg R.one = R.one := by decide
    by_cases hr : c.rat = R.zero
    · simp [h, h0, h1, hr]
    · simp [h, h0, h1, hr, he, rl, String.toList_append]

theorem irParts_cases (c : IR) :
    irParts c = (rl c.rat, []) ∨ irParts c = ([], ['ε']) ∨ irParts c = (rl c.rat, [' ', '+', ' ', 'ε']) ∨
    irParts c = (['-'], ['ε']) ∨ irParts c = (rl c.rat, [' ', '-', ' ', 'ε']) := by
  unfold irParts
  split
  · exact Or.inl rfl
  · split
    · split
      · exact Or.inr (Or.inl rfl)
      · exact Or.inr (Or.inr (Or.inl rfl))
    · split
      · exact Or.inr (Or.inr (Or.inr (Or.inl rfl)))
      · exact Or.inr (Or.inr (Or.inr (Or.inr rfl)))

theorem irParts_rch {c : IR} (hc : Lra.SimpleC c) : ∀ x ∈ (irParts c).1, rch x = true := by
  have hr : ∀ x ∈ rl c.rat, rch x = true := fun x => rl_rch hc.1.2
  rcases irParts_cases c with h | h | h | h | h <;> rw [h]
  · exact hr
  · exact fun x hx => absurd hx List.not_mem_nil
  · exact hr
  · exact fun x hx => List.mem_singleton.1 hx ▸ by decide
  · exact hr

theorem irParts_stop (c : IR) : Stop rch (irParts c).2 := by
  rcases irParts_cases c with h | h | h | h | h <;> rw [h]
  · exact stop_nil _
  all_goals exact stop_cons (by decide)

/-- `ε` alone and `-ε` stand for `0 + ε`, `0 - ε` -/
def irBack (p : List Char × List Char) : List Char × R :=
  if p.2 = [] then (p.1, R.zero)
  else if p.2 = ['ε'] then (rl R.zero, if p.1 = [] then R.one else R.neg R.one)
  else (p.1, if p.2 = [' ', '+', ' ', 'ε'] then R.one else R.neg R.one)

theorem irBack_parts {c : IR} (hc : Lra.SimpleC c) : irBack (irParts c) = (rl c.rat, c.inf) := by
  have h0 : ¬ R.one = R.zero := by decide
  have h1 : ¬ R.neg R.one = R.zero := by decide
  have h2 : ¬ R.neg R.one = R.one := by decide
  unfold irParts
  rcases hc.2 with h | h | h <;> rw [h]
  · rw [if_pos rfl]; rfl
  · rw [if_neg h0, if_pos rfl]
    split
    · rename_i hz; rw [hz]; rfl
    · rfl
  · rw [if_neg h1, if_neg h2]
    split
    · rename_i hz; rw [hz]; rfl
    · rfl

theorem irParts_inj {c c' : IR} (hc : Lra.SimpleC c) (hc' : Lra.SimpleC c') (h : irParts c = irParts c') : c = c' := by
  have e := irBack_parts hc
  rw [h, irBack_parts hc'] at e
  cases c; cases c'
  rw [IR.mk.injEq]
  exact ⟨(rl_inj hc'.1.2 hc.1.2 (congrArg Prod.fst e)).symm, (congrArg Prod.snd e).symm⟩

theorem irl_inj {c c' : IR} (hc : Lra.SimpleC c) (hc' : Lra.SimpleC c')
    (h : (Lra.irToStr c).toList = (Lra.irToStr c').toList) : c = c' := by
  rw [irToStr_parts hc, irToStr_parts hc'] at h
  obtain ⟨h1, h2⟩ := split_pref rch _ _ _ _ (irParts_rch hc) (irParts_rch hc') (irParts_stop c) (irParts_stop c') h
  exact irParts_inj hc hc' (Prod.ext h1 h2)

theorem nl_nsp {n : Nat} {c : Char} (h : c ∈ nl n) : nsp c = true :=
  rch_nsp (ich_rch (digit_ich (nl_digit h)))

theorem xnl_nsp (n : Nat) : ∀ c ∈ 'x' :: nl n, nsp c = true :=
  List.forall_mem_cons.2 ⟨by decide, fun _ => nl_nsp⟩

theorem relKey_toList (up : Bool) (x : Nat) (c : IR) :
    (Lra.relKey up x c).toList =
      ('x' :: nl x) ++ (' ' :: (if up then '<' else '>') :: '=' :: ' ' :: (Lra.irToStr c).toList) := by
  unfold Lra.relKey
  cases up <;> simp [String.toList_append, nl]

end Print

theorem Lra.relKey_inj {up up' : Bool} {x x' : Nat} {c c' : IR} (hc : Lra.SimpleC c) (hc' : Lra.SimpleC c')
    (h : Lra.relKey up x c = Lra.relKey up' x' c') : up = up' ∧ x = x' ∧ c = c' := by
  have h1 : (Lra.relKey up x c).toList = (Lra.relKey up' x' c').toList := by rw [h]
  rw [Print.relKey_toList, Print.relKey_toList] at h1
  obtain ⟨h2, h3⟩ := Print.split_pref Print.nsp _ _ _ _ (Print.xnl_nsp x) (Print.xnl_nsp x')
    (Print.stop_cons (by decide)) (Print.stop_cons (by decide)) h1
  have h4 : x = x' := Print.nl_inj (List.cons.inj h2).2
  have h5 : (if up then '<' else '>') = (if up' then '<' else '>') ∧ (Lra.irToStr c).toList = (Lra.irToStr c').toList := by
    simpa using h3
  refine ⟨?_, h4, Print.irl_inj hc hc' h5.2⟩
  have h6 := h5.1
  cases up <;> cases up' <;> first | rfl | (exfalso; revert h6; decide)

namespace Print

/-! `toks`: `Lin.toStr` on `List Char`, as a first term followed by pieces `seg` -/

/-- a later piece of the print-out: blank, sign, blank, body -/
def seg (x : Char × List Char) : List Char := ' ' :: x.1 :: ' ' :: x.2

/-- sign and printed coefficient (`none` for `±1`) of a later term -/
def cls (c : R) : Char × Option R :=
  if c = R.one then ('+', none) else if c = R.neg R.one then ('-', none)
  else if 0 < c.num then ('+', some c) else ('-', some (R.neg c))

def tbody (o : Option R) (v : Nat) : List Char :=
  match o with
  | none => 'x' :: nl v
  | some q => rl q ++ '*' :: 'x' :: nl v

def termSeg (t : Nat × R) : Char × List Char := ((cls t.2).1, tbody (cls t.2).2 t.1)

def kseg (k : R) : List (Char × List Char) :=
  if 0 < k.num then [('+', rl k)] else if k.num < 0 then [('-', rl (R.neg k))] else []

def firstL (t : Nat × R) : List Char :=
  if t.2 = R.one then 'x' :: nl t.1 else if t.2 = R.neg R.one then '-' :: 'x' :: nl t.1
  else rl t.2 ++ '*' :: 'x' :: nl t.1

def toks (l : Lin) : List Char :=
  match l.vars with
  | [] => rl l.known
  | t :: rest => firstL t ++ (rest.map termSeg ++ kseg l.known).flatMap seg

def stepS (s : String) (t : Nat × R) : String :=
  if R.eq t.2 R.one then s ++ " + x" ++ toString t.1
  else if R.eq t.2 (R.neg R.one) then s ++ " - x" ++ toString t.1
  else if t.2.isPositive then s ++ " + " ++ R.toStr t.2 ++ "*x" ++ toString t.1
  else s ++ " - " ++ R.toStr (R.neg t.2) ++ "*x" ++ toString t.1

def firstS (t : Nat × R) : String :=
  if R.eq t.2 R.one then "x" ++ toString t.1
  else if R.eq t.2 (R.neg R.one) then "-x" ++ toString t.1
  else R.toStr t.2 ++ "*x" ++ toString t.1

def knownS (s : String) (k : R) : String :=
  let s := if k.isPositive then s ++ " + " ++ R.toStr k else s
  if k.isNegative then s ++ " - " ++ R.toStr (R.neg k) else s

theorem toStr_cons (t : Nat × R) (rest : List (Nat × R)) (k : R) :
    Lin.toStr ⟨t :: rest, k⟩ = knownS (rest.foldl stepS (firstS t)) k := rfl

theorem stepS_toList (s : String) (t : Nat × R) : (stepS s t).toList = s.toList ++ seg (termSeg t) := by
  unfold stepS termSeg cls seg tbody
  simp only [R.eq_eq_decide, decide_eq_true_eq, R.isPositive_iff]
  by_cases h1 : t.2 = R.one
  · simp [h1, String.toList_append, nl]
  · by_cases h2 : t.2 = R.neg R.one
    · have h0 : ¬ R.neg R.one = R.one := by decide
      simp [h2, h0, String.toList_append, nl]
    · by_cases h3 : 0 < t.2.num
      · simp [h1, h2, h3, String.toList_append, nl, rl]
      · simp [h1, h2, h3, String.toList_append, nl, rl]

theorem foldl_stepS_toList (rest : List (Nat × R)) :
    ∀ s : String, (rest.foldl stepS s).toList = s.toList ++ (rest.map termSeg).flatMap seg := by
  induction rest with
  | nil => intro s; simp
  | cons t rest ih =>
    intro s
    rw [List.foldl_cons, ih, stepS_toList]
    simp

theorem firstS_toList (t : Nat × R) : (firstS t).toList = firstL t := by
  unfold firstS firstL
  simp only [R.eq_eq_decide, decide_eq_true_eq]
  by_cases h1 : t.2 = R.one
  · simp [h1, String.toList_append, nl]
  · by_cases h2 : t.2 = R.neg R.one
    · have h0 : ¬ R.neg R.one = R.one := by decide
      simp [h2, h0, String.toList_append, nl]
    · simp [h1, h2, String.toList_append, nl, rl]

theorem knownS_toList (s : String) (k : R) : (knownS s k).toList = s.toList ++ (kseg k).flatMap seg := by
  unfold knownS kseg seg
  simp only [R.isPositive_iff, R.isNegative_iff]
  by_cases h1 : 0 < k.num
  · have h2 : ¬ k.num < 0 := by omega
    simp [h1, h2, String.toList_append, rl]
  · by_cases h2 : k.num < 0
    · simp [h1, h2, String.toList_append, rl]
    · simp [h1, h2]

theorem toStr_toList (l : Lin) : (Lin.toStr l).toList = toks l := by
  cases l with | mk vars k =>
  cases vars with
  | nil => rfl
  | cons t rest =>
    rw [toStr_cons, knownS_toList, foldl_stepS_toList, firstS_toList]
    simp [toks]

theorem rl_nsp {r : R} (h : r.den ≠ 0) {c : Char} (hc : c ∈ rl r) : nsp c = true := rch_nsp (rl_rch h hc)

theorem rch_ne_x {c : Char} (h : rch c = true) : (c != 'x') = true := by
  by_cases hx : c = 'x'
  · subst hx; exact absurd h (by decide)
  · simpa using hx

theorem x_not_mem_rl {r : R} (h : r.den ≠ 0) : 'x' ∉ rl r := fun hc => by
  have := rch_ne_x (rl_rch h hc)
  revert this; decide

theorem neg_neg (c : R) : R.neg (R.neg c) = c := by
  cases c; simp [R.neg]

theorem flatMap_seg_stop (l : List (Char × List Char)) : Stop nsp (l.flatMap seg) := by
  cases l with
  | nil => exact stop_nil _
  | cons x t => simp only [List.flatMap_cons, seg, List.cons_append]; exact stop_cons (by decide)

theorem segs_inj : ∀ (l l' : List (Char × List Char)),
    (∀ x ∈ l, ∀ c ∈ x.2, nsp c = true) → (∀ x ∈ l', ∀ c ∈ x.2, nsp c = true) →
    l.flatMap seg = l'.flatMap seg → l = l' := by
  intro l
  induction l with
  | nil =>
    intro l' _ _ h
    cases l' with
    | nil => rfl
    | cons x t => simp [seg] at h
  | cons x t ih =>
    intro l' hl hl' h
    cases l' with
    | nil => simp [seg] at h
    | cons x' t' =>
      simp only [List.flatMap_cons, seg, List.cons_append, List.cons.injEq, true_and] at h
      obtain ⟨h1, h2⟩ := h
      obtain ⟨h3, h4⟩ := split_pref nsp _ _ _ _ (hl x (by simp)) (hl' x' (by simp))
        (flatMap_seg_stop t) (flatMap_seg_stop t') h2
      have h5 := ih t' (fun y hy => hl y (by simp [hy])) (fun y hy => hl' y (by simp [hy])) h4
      rw [h5, Prod.ext h1 h3]

/-! Terms are read back: `x<v>`, `-x<v>`, `<q>*x<v>` - what stands before the `x` decides the coefficient. -/
def fread (w : List Char) : Nat × R :=
  let pre := w.takeWhile (· != 'x')
  ((iread ((w.dropWhile (· != 'x')).tail)).toNat,
    if pre = [] then R.one else if pre = ['-'] then R.neg R.one else rread pre.dropLast)

theorem fread_app {pre : List Char} (hp : ∀ a ∈ pre, (a != 'x') = true) (v : Nat) :
    fread (pre ++ 'x' :: nl v) =
      (v, if pre = [] then R.one else if pre = ['-'] then R.neg R.one else rread pre.dropLast) := by
  obtain ⟨t1, t2⟩ := cut (p := (· != 'x')) (v := 'x' :: nl v) hp (stop_cons (by decide))
  unfold fread
  simp only
  rw [t1, t2, List.tail_cons, nl_il, iread_il, Int.toNat_natCast]

theorem fread_var (v : Nat) : fread ('x' :: nl v) = (v, R.one) :=
  fread_app (pre := []) (fun _ ha => nomatch ha) v

theorem fread_coef {q : R} (h : q.den ≠ 0) (v : Nat) : fread (rl q ++ '*' :: 'x' :: nl v) = (v, q) := by
  have e := fread_app (pre := rl q ++ ['*']) (fun a ha => (List.mem_append.1 ha).elim (fun ha => rch_ne_x (rl_rch h ha))
    fun ha => List.mem_singleton.1 ha ▸ by decide) v
  rw [List.append_assoc, List.singleton_append] at e
  rw [e, if_neg (by simp), if_neg (fun e' => rl_ne_nil h (by simpa using congrArg List.length e')),
    List.dropLast_concat, rread_rl h]

theorem fread_body {o : Option R} (ho : ∀ q ∈ o, q.den ≠ 0) (v : Nat) : fread (tbody o v) = (v, o.getD R.one) := by
  cases o with
  | none => exact fread_var v
  | some q => exact fread_coef (ho q rfl) v

theorem fread_firstL {t : Nat × R} (h : t.2.den ≠ 0) : fread (firstL t) = t := by
  obtain ⟨v, c⟩ := t
  unfold firstL
  simp only
  split
  · next h1 => rw [fread_var, h1]
  · split
    · next h2 =>
      rw [show '-' :: 'x' :: nl v = ['-'] ++ 'x' :: nl v from rfl,
        fread_app (fun a ha => List.mem_singleton.1 ha ▸ by decide), if_neg (by simp), if_pos rfl, h2]
    · rw [fread_coef h]

theorem firstL_inj {t t' : Nat × R} (h : t.2.den ≠ 0) (h' : t'.2.den ≠ 0) (e : firstL t = firstL t') : t = t' := by
  rw [← fread_firstL h, e, fread_firstL h']

theorem x_mem_firstL (t : Nat × R) : 'x' ∈ firstL t := by
  unfold firstL
  split
  · simp
  · split <;> simp

theorem firstL_nsp {t : Nat × R} (h : t.2.den ≠ 0) : ∀ c ∈ firstL t, nsp c = true := by
  unfold firstL
  split
  · exact xnl_nsp t.1
  · split
    · exact List.forall_mem_cons.2 ⟨by decide, xnl_nsp t.1⟩
    · exact List.forall_mem_append.2 ⟨fun _ => rl_nsp h, List.forall_mem_cons.2 ⟨by decide, xnl_nsp t.1⟩⟩

theorem cls_den {c : R} (h : c.den ≠ 0) : ∀ q ∈ (cls c).2, q.den ≠ 0 := by
  intro q hq
  unfold cls at hq
  split at hq
  · simp at hq
  · split at hq
    · simp at hq
    · split at hq
      · simp only [Option.mem_def, Option.some.injEq] at hq; subst hq; exact h
      · simp only [Option.mem_def, Option.some.injEq] at hq; subst hq; exact h

def tread (x : Char × List Char) : Nat × R :=
  ((fread x.2).1, if x.1 = '+' then (fread x.2).2 else R.neg (fread x.2).2)

theorem tread_termSeg {t : Nat × R} (h : t.2.den ≠ 0) : tread (termSeg t) = t := by
  obtain ⟨v, c⟩ := t
  unfold tread termSeg
  simp only
  rw [fread_body (cls_den h) v]
  unfold cls
  split
  · next h1 => exact Prod.ext rfl (Eq.symm h1)
  · split
    · next h2 => exact Prod.ext rfl (Eq.symm h2)
    · split
      · rfl
      · exact Prod.ext rfl (neg_neg c)

theorem x_mem_tbody (o : Option R) (v : Nat) : 'x' ∈ tbody o v := by
  cases o <;> simp [tbody]

theorem termSeg_nsp {t : Nat × R} (h : t.2.den ≠ 0) : ∀ c ∈ (termSeg t).2, nsp c = true := by
  show ∀ c ∈ tbody (cls t.2).2 t.1, nsp c = true
  have ho := cls_den h
  generalize (cls t.2).2 = o at ho
  cases o with
  | none => exact xnl_nsp t.1
  | some q =>
    exact List.forall_mem_append.2 ⟨fun _ => rl_nsp (ho q rfl), List.forall_mem_cons.2 ⟨by decide, xnl_nsp t.1⟩⟩

theorem kseg_rl {k : R} (h : k.den ≠ 0) : ∀ x ∈ kseg k, ∃ q : R, q.den ≠ 0 ∧ x.2 = rl q := by
  intro x hx
  unfold kseg at hx
  split at hx
  · exact ⟨k, h, by rw [List.mem_singleton.1 hx]⟩
  · split at hx
    · exact ⟨R.neg k, h, by rw [List.mem_singleton.1 hx]⟩
    · cases hx

theorem kseg_nsp {k : R} (h : k.den ≠ 0) : ∀ x ∈ kseg k, ∀ c ∈ x.2, nsp c = true := by
  intro x hx
  obtain ⟨q, hq, e⟩ := kseg_rl h x hx
  rw [e]; exact fun c => rl_nsp hq

theorem kseg_no_x {k : R} (h : k.den ≠ 0) : ∀ x ∈ kseg k, 'x' ∉ x.2 := by
  intro x hx
  obtain ⟨q, hq, e⟩ := kseg_rl h x hx
  rw [e]; exact x_not_mem_rl hq

theorem kseg_length (k : R) : (kseg k).length ≤ 1 := by
  unfold kseg; split
  · simp
  · split <;> simp

def kread : List (Char × List Char) → R
  | [(s, w)] => if s = '+' then rread w else R.neg (rread w)
  | _ => R.zero

theorem kread_kseg {k : R} (h : R.FinWF k) : kread (kseg k) = k := by
  unfold kseg
  split
  · exact rread_rl h.2
  · split
    · show R.neg (rread (rl (R.neg k))) = k
      rw [rread_rl (r := R.neg k) h.2, neg_neg]
    · exact (R.wf_num_zero h.1 (by omega)).symm

/-- the pieces after the first term read back: those with an `x` are terms, the other one is the known term -/
def sread (l : List (Char × List Char)) : List (Nat × R) × R :=
  ((l.filter fun x => decide ('x' ∈ x.2)).map tread, kread (l.filter fun x => !decide ('x' ∈ x.2)))

theorem sread_tail {r : List (Nat × R)} {k : R} (hr : ∀ t ∈ r, t.2.den ≠ 0) (hk : R.FinWF k) :
    sread (r.map termSeg ++ kseg k) = (r, k) := by
  have t1 : ∀ x ∈ r.map termSeg, decide ('x' ∈ x.2) = true := fun x hx => by
    obtain ⟨t, -, rfl⟩ := List.mem_map.1 hx
    exact decide_eq_true (x_mem_tbody _ _)
  have k1 : ∀ x ∈ kseg k, ¬ decide ('x' ∈ x.2) = true := fun x hx => by simpa using kseg_no_x hk.2 x hx
  unfold sread
  rw [List.filter_append, List.filter_append, List.filter_eq_self.2 t1, List.filter_eq_nil_iff.2 k1,
    List.filter_eq_nil_iff.2 (fun x hx => by simp [t1 x hx]), List.filter_eq_self.2 (fun x hx => by simpa using k1 x hx),
    List.append_nil, List.nil_append, kread_kseg hk, List.map_map,
    List.map_congr_left (f := tread ∘ termSeg) (g := id) fun t ht => tread_termSeg (hr t ht), List.map_id]

theorem tail_inj (r r' : List (Nat × R)) (k k' : R)
    (hr : ∀ t ∈ r, t.2.den ≠ 0) (hr' : ∀ t ∈ r', t.2.den ≠ 0) (hk : R.FinWF k) (hk' : R.FinWF k')
    (e : r.map termSeg ++ kseg k = r'.map termSeg ++ kseg k') : r = r' ∧ k = k' :=
  Prod.mk.inj ((sread_tail hr hk).symm.trans (e ▸ sread_tail hr' hk'))

theorem pieces_nsp {r : List (Nat × R)} {k : R} (hr : ∀ t ∈ r, t.2.den ≠ 0) (hk : R.FinWF k) :
    ∀ x ∈ r.map termSeg ++ kseg k, ∀ c ∈ x.2, nsp c = true := by
  intro x hx
  rcases List.mem_append.1 hx with hx | hx
  · obtain ⟨y, hy, rfl⟩ := List.mem_map.1 hx
    exact termSeg_nsp (hr y hy)
  · exact kseg_nsp hk.2 x hx

theorem toks_inj {a b : Lin} (ha : a.WF) (hb : b.WF) (h : toks a = toks b) : a = b := by
  obtain ⟨_, ha2, ha3⟩ := ha
  obtain ⟨_, hb2, hb3⟩ := hb
  cases a with | mk va ka => cases b with | mk vb kb =>
  simp only at ha2 ha3 hb2 hb3
  cases va with
  | nil =>
    cases vb with
    | nil =>
      simp only [toks] at h
      rw [rl_inj ha3.2 hb3.2 h]
    | cons t' r' =>
      exfalso
      simp only [toks] at h
      exact x_not_mem_rl ha3.2 (by rw [h]; exact List.mem_append_left _ (x_mem_firstL t'))
  | cons t r =>
    cases vb with
    | nil =>
      exfalso
      simp only [toks] at h
      exact x_not_mem_rl hb3.2 (by rw [← h]; exact List.mem_append_left _ (x_mem_firstL t))
    | cons t' r' =>
      simp only [toks] at h
      have dt : t.2.den ≠ 0 := (ha2 t (by simp)).2
      have dt' : t'.2.den ≠ 0 := (hb2 t' (by simp)).2
      have dr : ∀ y ∈ r, y.2.den ≠ 0 := fun y hy => (ha2 y (by simp [hy])).2
      have dr' : ∀ y ∈ r', y.2.den ≠ 0 := fun y hy => (hb2 y (by simp [hy])).2
      obtain ⟨h1, h2⟩ := split_pref nsp _ _ _ _ (firstL_nsp dt) (firstL_nsp dt')
        (flatMap_seg_stop _) (flatMap_seg_stop _) h
      have h3 := segs_inj _ _ (pieces_nsp dr ha3) (pieces_nsp dr' hb3) h2
      obtain ⟨h4, h5⟩ := tail_inj r r' ka kb dr dr' ha3 hb3 h3
      rw [firstL_inj dt dt' h1, h4, h5]

end Print

/-- zero coefficients are allowed: they print as "0*x3" / " - 0*x3" -/
theorem Lin.toStr_inj {a b : Lin} (ha : a.WF) (hb : b.WF) (h : Lin.toStr a = Lin.toStr b) : a = b :=
  Print.toks_inj ha hb (by rw [← Print.toStr_toList, ← Print.toStr_toList, h])

/-- `new_var()` names the variable `id` by the print-out of the expression `1·x_id` -/
theorem Lin.toStr_var_one (v : Nat) : Lin.toStr ⟨[(v, R.one)], R.zero⟩ = "x" ++ toString v := by
  simp [Lin.toStr, R.eq, R.one, R.zero, R.isPositive, R.isNegative]

end Oratio
