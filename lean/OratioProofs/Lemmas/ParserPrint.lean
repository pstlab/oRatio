/-
Pretty-printer of RIDDLE expression trees to token lists and well-formedness of trees (property C16,
parser part).
-/
import OratioModel.Riddle.Parser

namespace Oratio.Riddle

def UOp.sym : UOp → Sym
  | .plus => .PLUS | .minus => .MINUS | .not => .BANG

def BOp.sym : BOp → Sym
  | .eq => .EQEQ | .neq => .BANGEQ | .lt => .LT | .leq => .LTEQ | .geq => .GTEQ | .gt => .GT | .impl => .IMPLICATION

def NOp.sym : NOp → Sym
  | .disj => .BAR | .conj => .AMP | .xor => .CARET | .add => .PLUS | .sub => .MINUS | .mul => .STAR | .div => .SLASH

/-- the level at which `_expression(pr)` accepts the operator (`level ≥ pr`) -/
def BOp.level : BOp → Nat
  | .eq | .neq => 0
  | _ => 1

def NOp.level : NOp → Nat
  | .disj | .conj | .xor => 1
  | .add | .sub => 2
  | .mul | .div => 3

theorem opInfo_bop (op : BOp) : opInfo op.sym = some (.bin op, op.level) := by cases op <;> rfl
theorem opInfo_nop (op : NOp) : opInfo op.sym = some (.nary op, op.level) := by cases op <;> rfl

/-- level of the top operator of a tree: 0 `== !=` (and casts, which extend as far to the right
    as possible), 1 relational / implication / `| & ^`, 2 `+ -`, 3 `* /`, 4 everything else -/
def Expr.level : Expr → Nat
  | .bin op _ _ => op.level
  | .nary op _ => op.level
  | .cast _ _ => 0
  | _ => 4

def Expr.isCast : Expr → Bool
  | .cast _ _ => true
  | _ => false

def Expr.isId : Expr → Bool
  | .id _ => true
  | _ => false

/-- is the tree an n-ary node with this operator -/
def Expr.isNary (op : NOp) : Expr → Bool
  | .nary op' _ => op == op'
  | _ => false

/-- `'.' ID` repeated -/
def dotToks : List Name → List Tok
  | [] => []
  | n :: ns => .sym .DOT :: .id n :: dotToks ns

/-- `ID {'.' ID}` -/
def qidToks : QId → List Tok
  | [] => []
  | n :: ns => .id n :: dotToks ns

def paren (ts : List Tok) : List Tok := .sym .LPAREN :: ts ++ [.sym .RPAREN]

/-- parenthesise when `b` -/
def wrap (b : Bool) (ts : List Tok) : List Tok := if b then paren ts else ts

mutual
/-- the tokens of a tree, without enclosing parentheses -/
def printE : Expr → List Tok
  | .bool b => [.bool b]
  | .int n => [.int n]
  | .real r => [.real r]
  | .str s => [.str s]
  -- the operand of a cast must begin like an operand (else the parser reads a parenthesis)
  | .cast tp e => .sym .LPAREN :: qidToks tp ++ .sym .RPAREN :: wrap (!operandStart (printE e)) (printE e)
  | .un op e => .sym op.sym :: wrap (decide (e.level < 4)) (printE e)
  | .ctor tp args => .sym .NEW :: qidToks tp ++ .sym .LPAREN :: printArgs args ++ [.sym .RPAREN]
  -- left operand: parenthesised when it binds less tightly, and when it is a cast
  | .bin op l r =>
    wrap (decide (l.level < op.level) || l.isCast) (printE l) ++ .sym op.sym :: wrap (decide (r.level < op.level + 1)) (printE r)
  | .call ids fn args => qidToks (ids ++ [fn]) ++ .sym .LPAREN :: printArgs args ++ [.sym .RPAREN]
  | .id ids => qidToks ids
  -- first operand: as a left operand, and parenthesised when it is the same n-ary operator
  | .nary _ [] => []
  | .nary op (e :: es) =>
    wrap (decide (e.level < op.level) || e.isCast || e.isNary op) (printE e) ++ printTail op es
/-- `e1, e2, …` -/
def printArgs : List Expr → List Tok
  | [] => []
  | [e] => printE e
  | e :: es => printE e ++ .sym .COMMA :: printArgs es
/-- `op e2 op e3 …` -/
def printTail (op : NOp) : List Expr → List Tok
  | [] => []
  | e :: es => .sym op.sym :: wrap (decide (e.level < op.level + 1)) (printE e) ++ printTail op es
end

/-- operand position of level `p`: parenthesise iff the tree binds less tightly -/
def printP (p : Nat) (e : Expr) : List Tok := wrap (decide (e.level < p)) (printE e)

/-- the printer of the round-trip theorem: no enclosing parentheses -/
def printExpr (e : Expr) : List Tok := printE e

/-! ### well-formed trees: what the parser can build -/

mutual
def Expr.WF : Expr → Prop
  | .cast tp e => tp ≠ [] ∧ e.WF
  | .un _ e => e.WF
  | .ctor tp args => tp ≠ [] ∧ WFs args
  | .bin _ l r => l.WF ∧ r.WF
  | .call _ _ args => WFs args
  | .id ids => ids ≠ []
  | .nary _ es => 2 ≤ es.length ∧ WFs es
  | _ => True
def WFs : List Expr → Prop
  | [] => True
  | e :: es => e.WF ∧ WFs es
end

theorem WFs_append {xs ys : List Expr} (hx : WFs xs) (hy : WFs ys) : WFs (xs ++ ys) := by
  induction xs with
  | nil => exact hy
  | cons x xs ih => exact ⟨hx.1, ih hx.2⟩

end Oratio.Riddle
