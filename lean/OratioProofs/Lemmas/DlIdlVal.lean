/-
Integer distance matrices: stored with the sentinel `idlInf` for +∞ (`DlM`), read through the
denoted matrix `Dl.imat M : DlW.Mat Int`.  Integer-only: the gap (pigeonhole) lemma and the sharp
bound `|M i j| ≤ n·K` for matrices exact for constraints with weights within `±K`.
-/
import OratioModel.Net.Dl
import OratioProofs.Lemmas.DlW
import Mathlib.Tactic.Linarith
import Mathlib.Tactic.Ring

namespace Oratio
namespace DlM

abbrev Mat := Nat → Nat → Int
abbrev Edge := Nat × Nat × Int

/-- the valuation satisfies every edge `(f, t, w)`: `σ t - σ f ≤ w` -/
def Sat (σ : Nat → Int) (E : List Edge) : Prop := ∀ e ∈ E, σ e.2.1 - σ e.1 ≤ e.2.2

/-- exactness of a sentinel matrix relative to `E`, with an a-priori bound `B` on finite entries -/
structure Weak (n : Nat) (K B : Int) (E : List Edge) (M : Mat) : Prop where
  bnd : ∀ i j, i < n → j < n → M i j = idlInf ∨ (-B ≤ M i j ∧ M i j ≤ B)
  edges_in : ∀ e ∈ E, e.1 < n ∧ e.2.1 < n ∧ -K ≤ e.2.2 ∧ e.2.2 ≤ K
  diag : ∀ i, i < n → M i i = 0
  respects : ∀ e ∈ E, M e.1 e.2.1 ≠ idlInf ∧ M e.1 e.2.1 ≤ e.2.2
  closed : ∀ i j k, i < n → j < n → k < n → M i k ≠ idlInf → M k j ≠ idlInf →
    M i j ≠ idlInf ∧ M i j ≤ M i k + M k j
  implied : ∀ i j, i < n → j < n → M i j ≠ idlInf → ∀ σ, Sat σ E → σ j - σ i ≤ M i j

end DlM

namespace Dl

def iden (x : Int) : WithTop Int := if x = idlInf then ⊤ else (x : WithTop Int)

theorem iden_inf : iden idlInf = ⊤ := if_pos rfl

theorem iden_fin {x : Int} (h : x ≠ idlInf) : iden x = (x : WithTop Int) := if_neg h

theorem iden_cases (x : Int) : (x = idlInf ∧ iden x = ⊤) ∨ (x ≠ idlInf ∧ iden x = (x : WithTop Int)) := by
  by_cases h : x = idlInf
  · left; exact ⟨h, by rw [h, iden_inf]⟩
  · right; exact ⟨h, iden_fin h⟩

theorem iden_inj {x y : Int} (h : iden x = iden y) : x = y := by
  rcases iden_cases x with ⟨hx, ex⟩ | ⟨hx, ex⟩ <;> rcases iden_cases y with ⟨hy, ey⟩ | ⟨hy, ey⟩ <;>
    rw [ex, ey] at h
  · rw [hx, hy]
  · exact absurd h.symm WithTop.coe_ne_top
  · exact absurd h WithTop.coe_ne_top
  · exact WithTop.coe_eq_coe.mp h

theorem iden_eq_top {x : Int} : iden x = ⊤ ↔ x = idlInf := by
  rcases iden_cases x with ⟨hx, ex⟩ | ⟨hx, ex⟩ <;> rw [ex]
  · exact ⟨fun _ => hx, fun _ => rfl⟩
  · exact ⟨fun h => absurd h WithTop.coe_ne_top, fun h => absurd h hx⟩

theorem iden_le_coe {x w : Int} : iden x ≤ (w : WithTop Int) ↔ x ≠ idlInf ∧ x ≤ w := by
  rcases iden_cases x with ⟨hx, e⟩ | ⟨hx, e⟩ <;> rw [e]
  · exact ⟨fun h => absurd (top_le_iff.mp h) WithTop.coe_ne_top, fun h => absurd hx h.1⟩
  · rw [WithTop.coe_le_coe]
    exact ⟨fun h => ⟨hx, h⟩, fun h => h.2⟩

theorem iden_zero : iden 0 = 0 := iden_fin (by decide)

def imat (M : DlM.Mat) : DlW.Mat Int := fun a b => iden (M a b)

theorem closed_imat {M : DlM.Mat} {i j k : Nat}
    (h : M i k ≠ idlInf → M k j ≠ idlInf → M i j ≠ idlInf ∧ M i j ≤ M i k + M k j) :
    imat M i j ≤ imat M i k + imat M k j := by
  unfold imat
  rcases iden_cases (M i k) with ⟨h1, e1⟩ | ⟨h1, e1⟩
  · rw [e1, WithTop.top_add]; exact le_top
  rcases iden_cases (M k j) with ⟨h2, e2⟩ | ⟨h2, e2⟩
  · rw [e2, WithTop.add_top]; exact le_top
  obtain ⟨h3, h4⟩ := h h1 h2
  rw [e1, e2, iden_fin h3, ← WithTop.coe_add, WithTop.coe_le_coe]; exact h4

end Dl

namespace DlM
open Dl

theorem Weak.toW {n : Nat} {K B : Int} {E : List Edge} {M : Mat} (h : Weak n K B E M) : DlW.Weak n E (imat M) := by
  refine ⟨fun e he => ⟨(h.edges_in e he).1, (h.edges_in e he).2.1⟩, ?_, ?_, ?_, ?_⟩
  · intro i hi
    show iden (M i i) = 0
    rw [h.diag i hi, iden_zero]
  · intro e he
    obtain ⟨h1, h2⟩ := h.respects e he
    show iden _ ≤ _
    rw [iden_fin h1, WithTop.coe_le_coe]; exact h2
  · intro i j k hi hj hk
    exact closed_imat (h.closed i j k hi hj hk)
  · intro i j hi hj σ hσ
    show _ ≤ iden (M i j)
    rcases iden_cases (M i j) with ⟨h1, e1⟩ | ⟨h1, e1⟩ <;> rw [e1]
    · exact le_top
    · rw [WithTop.coe_le_coe]; exact h.implied i j hi hj h1 σ hσ

theorem Weak.ofW {n : Nat} {K B : Int} {E : List Edge} {M : Mat}
    (hb : ∀ i j, i < n → j < n → M i j = idlInf ∨ (-B ≤ M i j ∧ M i j ≤ B))
    (he : ∀ e ∈ E, -K ≤ e.2.2 ∧ e.2.2 ≤ K) (h : DlW.Weak n E (imat M)) : Weak n K B E M := by
  have fin : ∀ {a b : Nat} {x : WithTop Int}, imat M a b ≤ x → x ≠ ⊤ → M a b ≠ idlInf := by
    intro a b x hle hx hinf
    have : imat M a b = ⊤ := iden_eq_top.mpr hinf
    rw [this] at hle
    exact hx (top_le_iff.mp hle)
  refine ⟨hb, fun e he' => ⟨(h.edges_in e he').1, (h.edges_in e he').2, he e he'⟩, ?_, ?_, ?_, ?_⟩
  · intro i hi
    exact iden_inj ((h.diag i hi).trans iden_zero.symm)
  · intro e he'
    have hr := h.respects e he'
    have hf := fin hr WithTop.coe_ne_top
    refine ⟨hf, ?_⟩
    change iden _ ≤ _ at hr
    rwa [iden_fin hf, WithTop.coe_le_coe] at hr
  · intro i j k hi hj hk h1 h2
    have hc := h.closed i j k hi hj hk
    change iden _ ≤ iden _ + iden _ at hc
    rw [iden_fin h1, iden_fin h2, ← WithTop.coe_add] at hc
    have hf := fin (a := i) (b := j) hc WithTop.coe_ne_top
    refine ⟨hf, ?_⟩
    rwa [iden_fin hf, WithTop.coe_le_coe] at hc
  · intro i j hi hj hf σ hσ
    have := h.implied i j hi hj σ hσ
    change _ ≤ iden _ at this
    rwa [iden_fin hf, WithTop.coe_le_coe] at this

theorem Weak.extend {n : Nat} {K B : Int} {E : List Edge} {M M' : Mat} (h : Weak n K B E M) (hB : 0 ≤ B)
    (hold : ∀ a b, a < n → b < n → M' a b = M a b)
    (hnew : ∀ a b, a < n + 1 → b < n + 1 → (a = n ∨ b = n) → M' a b = if a = b then 0 else idlInf) :
    Weak (n + 1) K B E M' := by
  refine Weak.ofW ?_ (fun e he => (h.edges_in e he).2.2) (h.toW.extend ?_ ?_)
  · intro i j hi hj
    by_cases hij : i = n ∨ j = n
    · rw [hnew i j hi hj hij]
      split
      · right; omega
      · left; rfl
    · rw [hold i j (by omega) (by omega)]; exact h.bnd i j (by omega) (by omega)
  · intro a b ha hb
    show iden _ = iden _
    rw [hold a b ha hb]
  · intro a b ha hb hab
    show iden _ = _
    rw [hnew a b ha hb hab]
    split
    · exact iden_zero
    · exact iden_inf

theorem potv_ge {n : Nat} {B : Int} {M : Mat} (hB : 0 ≤ B)
    (hb : ∀ i j, i < n → j < n → M i j = idlInf ∨ (-B ≤ M i j ∧ M i j ≤ B)) (k : Nat) (hk : k < n) :
    -B ≤ DlW.potv (imat M) k n := by
  rcases DlW.pot_attained (imat M) k n with h0 | ⟨j, hj, he⟩
  · have : DlW.potv (imat M) k n = 0 := by unfold DlW.potv; rw [h0]; rfl
    omega
  · rw [← DlW.coe_potv] at he
    rcases iden_cases (M j k) with ⟨h1, e1⟩ | ⟨h1, e1⟩
    · exact absurd (he.trans e1) WithTop.coe_ne_top
    · have : DlW.potv (imat M) k n = M j k := WithTop.coe_eq_coe.mp (he.trans e1)
      have := (hb j k hj hk).resolve_left h1
      omega

/-- the row `i` of the matrix, completed far away on the unreachable nodes, is a valuation -/
theorem witness {n : Nat} {K B : Int} {E : List Edge} {M : Mat} (h : Weak n K B E M) (hB : 0 ≤ B)
    (i : Nat) (hi : i < n) (L : Int) (hL : 2 * B + K ≤ L) :
    ∃ σ : Nat → Int, Sat σ E ∧ (∀ k, k < n → M i k ≠ idlInf → σ k = M i k) ∧
      (∀ k, k < n → M i k = idlInf → L - B ≤ σ k ∧ σ k ≤ L) := by
  obtain ⟨σ, hσ, hσf, hσi⟩ := DlW.witness_edges h.toW i hi L (by
    intro e he z hz _
    obtain ⟨ha, hb, hw, _⟩ := h.edges_in e he
    have hz' : M i e.2.1 ≠ idlInf := fun hh => WithTop.coe_ne_top (hz.symm.trans (iden_eq_top.mpr hh))
    have : M i e.2.1 = z := WithTop.coe_eq_coe.mp ((iden_fin hz').symm.trans hz)
    have := (h.bnd i e.2.1 hi hb).resolve_left hz'
    have := potv_ge hB h.bnd e.1 ha
    omega)
  refine ⟨σ, hσ, fun k hk hf => hσf k hk _ (iden_fin hf), fun k hk hf => ?_⟩
  rw [hσi k hk (iden_eq_top.mpr hf)]
  have := potv_ge hB h.bnd k hk
  have := DlW.potv_le_zero (imat M) k n
  omega

theorem filter_split {α : Type} (p : α → Bool) (l : List α) :
    (l.filter p).length + (l.filter (fun a => !p a)).length = l.length := by
  induction l with
  | nil => rfl
  | cons a l ih =>
    cases h : p a <;> simp [h] <;> omega

/-- pigeonhole: the values of `L` cut `[lo, hi]` into at most `L.length + 1` pieces, one of them longer than `K` -/
theorem gap_list (K : Int) (hK : 0 ≤ K) : ∀ (m : Nat) (L : List Int) (lo hi : Int), L.length ≤ m →
    hi - lo > ((L.length : Int) + 1) * K →
    ∃ θ, lo ≤ θ ∧ θ + K < hi ∧ ∀ v ∈ L, v ≤ θ ∨ θ + K < v := by
  intro m
  induction m with
  | zero =>
    intro L lo hi hl h
    have : L = [] := List.length_eq_zero_iff.mp (by omega)
    subst this
    refine ⟨lo, le_refl _, ?_, by simp⟩
    simp at h; omega
  | succ m ih =>
    intro L lo hi hl h
    cases L with
    | nil =>
      refine ⟨lo, le_refl _, ?_, by simp⟩
      simp at h; omega
    | cons v L' =>
      have hl' : L'.length ≤ m := by simpa using hl
      have hlen : ((v :: L').length : Int) = (L'.length : Int) + 1 := by simp
      rw [hlen] at h
      have hKl : 0 ≤ (L'.length : Int) * K := Int.mul_nonneg (by omega) hK
      by_cases hout : v ≤ lo ∨ hi ≤ v
      · have h' : hi - lo > ((L'.length : Int) + 1) * K := by
          have : ((L'.length : Int) + 1 + 1) * K = ((L'.length : Int) + 1) * K + K := by ring
          omega
        obtain ⟨θ, h1, h2, h3⟩ := ih L' lo hi hl' h'
        refine ⟨θ, h1, h2, ?_⟩
        intro u hu
        rcases List.mem_cons.mp hu with rfl | hu
        · rcases hout with ho | ho
          · left; omega
          · right; omega
        · exact h3 u hu
      · have hv : lo < v ∧ v < hi := by omega
        let L1 := L'.filter (fun u => decide (u < v))
        let L2 := L'.filter (fun u => !decide (u < v))
        have hsum : L1.length + L2.length = L'.length :=
          filter_split (fun u => decide (u < v)) L'
        have h1l : L1.length ≤ m := by omega
        have h2l : L2.length ≤ m := by omega
        -- cut interval and list at `v`: one of the halves still has the room the statement asks for
        have hsplit : v - lo > ((L1.length : Int) + 1) * K ∨ hi - v > ((L2.length : Int) + 1) * K := by
          by_contra hcon
          have hc1 : v - lo ≤ ((L1.length : Int) + 1) * K := by
            by_contra hh; exact hcon (Or.inl (by omega))
          have hc2 : hi - v ≤ ((L2.length : Int) + 1) * K := by
            by_contra hh; exact hcon (Or.inr (by omega))
          have e : ((L1.length : Int) + 1) * K + ((L2.length : Int) + 1) * K = ((L'.length : Int) + 1 + 1) * K := by
            have : (L'.length : Int) = (L1.length : Int) + (L2.length : Int) := by omega
            rw [this]; ring
          omega
        rcases hsplit with hs | hs
        · obtain ⟨θ, h1, h2, h3⟩ := ih L1 lo v h1l hs
          refine ⟨θ, h1, by omega, ?_⟩
          intro u hu
          rcases List.mem_cons.mp hu with rfl | hu
          · right; omega
          · by_cases huv : u < v
            · exact h3 u (by simp [L1, hu, huv])
            · right; omega
        · obtain ⟨θ, h1, h2, h3⟩ := ih L2 v hi h2l hs
          refine ⟨θ, by omega, h2, ?_⟩
          intro u hu
          rcases List.mem_cons.mp hu with rfl | hu
          · left; omega
          · by_cases huv : u < v
            · left; omega
            · exact h3 u (by simp [L2, hu, huv])

theorem gap (K : Int) (hK : 0 ≤ K) (n : Nat) (σ : Nat → Int) (p q : Nat) (hp : p < n)
    (h : σ q - σ p > (n : Int) * K) :
    ∃ θ, σ p ≤ θ ∧ θ + K < σ q ∧ ∀ k, k < n → σ k ≤ θ ∨ θ + K < σ k := by
  let L := ((List.range n).filter (fun k => decide (k ≠ p))).map σ
  have hlen : L.length + 1 ≤ n := by
    have h1 : ((List.range n).filter (fun k => decide (k ≠ p))).length < (List.range n).length := by
      apply List.length_filter_lt_length_iff_exists.mpr
      exact ⟨p, List.mem_range.mpr hp, by simp⟩
    simp only [L, List.length_map]
    simp only [List.length_range] at h1
    omega
  have hle : ((L.length : Int) + 1) * K ≤ (n : Int) * K :=
    Int.mul_le_mul_of_nonneg_right (by omega) hK
  obtain ⟨θ, h1, h2, h3⟩ := gap_list K hK L.length L (σ p) (σ q) (le_refl _) (by omega)
  refine ⟨θ, h1, h2, ?_⟩
  intro k hk
  by_cases hkp : k = p
  · subst hkp; left; exact h1
  · apply h3
    simp only [L, List.mem_map, List.mem_filter, List.mem_range]
    exact ⟨k, ⟨hk, by simpa using hkp⟩, rfl⟩

end DlM

namespace DlW

theorem shift_edge {a b w θ K c : Int} (hab : b - a ≤ w) (hw : -K ≤ w ∧ w ≤ K) (ga : a ≤ θ ∨ θ + K < a)
    (gb : b ≤ θ ∨ θ + K < b) (hc : c = 1 ∨ c = -1) :
    (if θ < b then b + c else b) - (if θ < a then a + c else a) ≤ w := by
  split <;> split <;> omega

/-- finite entries are within `±n·K`: else a gap wider than `K` separates the values of a tight
    valuation, and shifting one side by one keeps all edges but breaks `implied` -/
theorem sharp {n : Nat} {K : Int} {E : List (Edge Int)} {M : Mat Int} (h : Weak n E M) (hK : 0 ≤ K)
    (hE : ∀ e ∈ E, -K ≤ e.2.2 ∧ e.2.2 ≤ K) (i j : Nat) (hi : i < n) (hj : j < n) (x : Int)
    (hx : M i j = (x : WithTop Int)) : -((n : Int) * K) ≤ x ∧ x ≤ (n : Int) * K := by
  obtain ⟨σ, hσ, hσf, _⟩ := h.attain hi hj 0
  have hσj : σ j - σ i = x := hσf x hx
  have shifted : ∀ (c : Int) (θ : Int), (c = 1 ∨ c = -1) → (∀ k, k < n → σ k ≤ θ ∨ θ + K < σ k) →
      (fun k => if θ < σ k then σ k + c else σ k) j - (fun k => if θ < σ k then σ k + c else σ k) i ≤ x := by
    intro c θ hc h3
    have hs' : Sat (fun k => if θ < σ k then σ k + c else σ k) E := fun e he =>
      shift_edge (hσ e he) (hE e he) (h3 e.1 (h.edges_in e he).1) (h3 e.2.1 (h.edges_in e he).2) hc
    have := h.implied i j hi hj _ hs'
    rw [hx, WithTop.coe_le_coe] at this
    exact this
  constructor
  · by_contra hc
    have hgap : σ i - σ j > (n : Int) * K := by omega
    obtain ⟨θ, h1, h2, h3⟩ := DlM.gap K hK n σ j i hj hgap
    have := shifted (-1) θ (Or.inr rfl) h3
    simp only at this
    rw [if_neg (by omega), if_pos (by omega)] at this
    omega
  · by_contra hc
    have hgap : σ j - σ i > (n : Int) * K := by omega
    obtain ⟨θ, h1, h2, h3⟩ := DlM.gap K hK n σ i j hi hgap
    have := shifted 1 θ (Or.inl rfl) h3
    simp only at this
    rw [if_pos (by omega), if_neg (by omega)] at this
    omega

end DlW
end Oratio
