/-
The integer instance of `DLaws` (`idlInf ↦ ⊤`, unit `1`).  The laws hold while entries stay within
`±R` and weights within `±K` with `2R + K < idlInf`: no sum the algorithm forms reaches the
sentinel.  `finiteGuard` keeps infinite entries out of the first loop, so no write is spurious.
-/
import OratioProofs.Lemmas.DlIdlVal
import OratioProofs.Lemmas.DlLaws

namespace Oratio
namespace Dl

theorem nVars_setD (t : Dl Int) (i j : Nat) (x : Int) : (setD t i j x).nVars = t.nVars := rfl

theorem idl_lt (a b : Int) : idlOps.lt a b = true ↔ a < b := decide_eq_true_iff
theorem idl_le (a b : Int) : idlOps.le a b = true ↔ a ≤ b := decide_eq_true_iff

def idlLaws (R K : Int) (hK : 0 ≤ K) (hKR : K ≤ R) (hR : 2 * R + K < idlInf) : DLaws idlOps Int where
  den := iden
  val := fun w => w
  unit := 1
  Good := fun x => x = idlInf ∨ (-R ≤ x ∧ x ≤ R)
  Wt := fun w => -K ≤ w ∧ w ≤ K
  GoodV := fun v => v = ⊤ ∨ ∃ z : Int, (-R ≤ z ∧ z ≤ R) ∧ v = (z : WithTop Int)
  spur := False
  Aligned := fun _ _ => True
  unit_pos := Int.one_pos
  zero := ⟨Or.inr (show -R ≤ (0 : Int) ∧ (0 : Int) ≤ R from ⟨by omega, by omega⟩), iden_fin (show (0 : Int) ≠ idlInf by omega)⟩
  inf := ⟨Or.inl rfl, iden_inf⟩
  wt := fun {w} h => ⟨Or.inr ⟨by omega, by omega⟩, iden_fin (by omega)⟩
  add := by
    intro x y gx gy hfin hV
    rcases hfin with hf | ⟨hx, hy⟩
    · exact hf.elim
    · have hx' : x ≠ idlInf := fun h => hx (iden_eq_top.mpr h)
      have hy' : y ≠ idlInf := fun h => hy (iden_eq_top.mpr h)
      rw [iden_fin hx', iden_fin hy', ← WithTop.coe_add] at hV ⊢
      rcases hV with hV | ⟨z, hz, hV⟩
      · exact absurd hV WithTop.coe_ne_top
      · have e : x + y = z := WithTop.coe_eq_coe.mp hV
        show (x + y = idlInf ∨ (-R ≤ x + y ∧ x + y ≤ R)) ∧ iden (x + y) = ((x + y : Int) : WithTop Int)
        exact ⟨Or.inr (by omega), iden_fin (by omega)⟩
  test1 := by
    intro x y w gx gy hw
    have e : (idlOps.finiteGuard x && idlOps.lt x (idlOps.sub y w)) = true ↔ (x ≠ idlInf ∧ x < y - w) := by
      show ((x != idlInf) && decide (x < y - w)) = true ↔ _
      rw [Bool.and_eq_true, bne_iff_ne, decide_eq_true_iff]
    rw [e]
    show (_ → iden x + ((w : Int) : WithTop Int) < iden y ∨ _) ∧ (iden x + ((w : Int) : WithTop Int) < iden y → _)
    rcases iden_cases x with ⟨hx, ex⟩ | ⟨hx, ex⟩
    · rw [ex, WithTop.top_add]
      exact ⟨fun h => absurd hx h.1, fun h => absurd h not_top_lt⟩
    · rw [ex, ← WithTop.coe_add]
      rcases iden_cases y with ⟨hy, ey⟩ | ⟨hy, ey⟩ <;> rw [ey]
      · exact ⟨fun _ => Or.inl (WithTop.coe_lt_top _), fun _ => ⟨hx, by omega⟩⟩
      · rw [WithTop.coe_lt_coe]
        exact ⟨fun h => Or.inl (by omega), fun h => ⟨hx, by omega⟩⟩
  test2 := by
    intro x y z gx gy gz hfin
    rcases hfin with hf | ⟨hx, hy⟩
    · exact hf.elim
    · have hx' : x ≠ idlInf := fun h => hx (iden_eq_top.mpr h)
      have hy' : y ≠ idlInf := fun h => hy (iden_eq_top.mpr h)
      rw [idl_lt, iden_fin hx', iden_fin hy', ← WithTop.coe_add]
      show (x + y < z → _) ∧ (_ → x + y < z)
      rcases iden_cases z with ⟨hz, ez⟩ | ⟨hz, ez⟩ <;> rw [ez]
      · exact ⟨fun _ => Or.inl (WithTop.coe_lt_top _), fun _ => by omega⟩
      · rw [WithTop.coe_lt_coe]
        exact ⟨fun h => Or.inl h, fun h => h⟩
  lt_neg := by
    intro x w gx hw
    rw [idl_lt]
    show x < -w ↔ _
    rcases iden_cases x with ⟨hx, ex⟩ | ⟨hx, ex⟩ <;> rw [ex]
    · rw [WithTop.top_add]; simp only [not_top_lt, iff_false]; omega
    · rw [← WithTop.coe_add, ← WithTop.coe_zero, WithTop.coe_lt_coe]; omega
  lt_w := by
    intro x w gx hw
    rw [idl_lt]
    rcases iden_cases x with ⟨hx, ex⟩ | ⟨hx, ex⟩ <;> rw [ex]
    · simp only [WithTop.coe_lt_top, iff_true]; omega
    · rw [WithTop.coe_lt_coe]
  le_w := by
    intro x w gx hw
    rw [idl_le]
    rcases iden_cases x with ⟨hx, ex⟩ | ⟨hx, ex⟩ <;> rw [ex]
    · simp only [top_le_iff, WithTop.coe_ne_top, iff_false]; omega
    · rw [WithTop.coe_le_coe]
  le_neg := by
    intro x w gx hw
    rw [idl_le]
    show -w ≤ x ↔ _
    rcases iden_cases x with ⟨hx, ex⟩ | ⟨hx, ex⟩ <;> rw [ex]
    · simp only [le_top, iff_true]; omega
    · rw [WithTop.coe_le_coe]
  negStrict := fun _ => rfl
  step_le := by
    intro x w gx hw _
    rcases iden_cases x with ⟨hx, ex⟩ | ⟨hx, ex⟩ <;> rw [ex]
    · simp only [WithTop.top_add, top_le_iff, WithTop.coe_ne_top, not_top_lt]
    · rw [← WithTop.coe_add, ← WithTop.coe_zero, WithTop.coe_lt_coe, WithTop.coe_le_coe]; omega
  step_lt := by
    intro x w gx hw _
    rcases iden_cases x with ⟨hx, ex⟩ | ⟨hx, ex⟩ <;> rw [ex]
    · simp only [top_le_iff, WithTop.coe_ne_top, not_top_lt]
    · rw [WithTop.coe_lt_coe, WithTop.coe_le_coe]; omega

theorem sum_range {x y w B K : Int} (hx : -B ≤ x ∧ x ≤ B) (hy : -B ≤ y ∧ y ≤ B) (hw : -K ≤ w ∧ w ≤ K) :
    -(2 * B + K) ≤ x + w + y ∧ x + w + y ≤ 2 * B + K := by omega

theorem goodV_upd {M : DlM.Mat} {f g : Nat} {w B K : Int} {a b : Nat}
    (hf : M a f = idlInf ∨ (-B ≤ M a f ∧ M a f ≤ B)) (hg : M g b = idlInf ∨ (-B ≤ M g b ∧ M g b ≤ B))
    (hab : M a b = idlInf ∨ (-B ≤ M a b ∧ M a b ≤ B)) (hw : -K ≤ w ∧ w ≤ K) :
    DlW.upd (imat M) f g w a b = ⊤ ∨
      ∃ z : Int, (-(2 * B + K) ≤ z ∧ z ≤ 2 * B + K) ∧ DlW.upd (imat M) f g w a b = (z : WithTop Int) := by
  show min (iden (M a b)) (iden (M a f) + ((w : Int) : WithTop Int) + iden (M g b)) = ⊤ ∨ ∃ z : Int, _ ∧
    min (iden (M a b)) (iden (M a f) + ((w : Int) : WithTop Int) + iden (M g b)) = (z : WithTop Int)
  have key : ∀ v : WithTop Int, (v = ⊤ ∨ ∃ z : Int, (-(2 * B + K) ≤ z ∧ z ≤ 2 * B + K) ∧ v = (z : WithTop Int)) →
      ∀ u : WithTop Int, (u = ⊤ ∨ ∃ z : Int, (-(2 * B + K) ≤ z ∧ z ≤ 2 * B + K) ∧ u = (z : WithTop Int)) →
      (min v u = ⊤ ∨ ∃ z : Int, (-(2 * B + K) ≤ z ∧ z ≤ 2 * B + K) ∧ min v u = (z : WithTop Int)) := by
    intro v hv u hu
    rcases min_choice v u with e | e <;> rw [e]
    · exact hv
    · exact hu
  apply key
  · rcases iden_cases (M a b) with ⟨h1, e1⟩ | ⟨h1, e1⟩
    · exact Or.inl e1
    · have := hab.resolve_left h1
      exact Or.inr ⟨_, ⟨by omega, by omega⟩, e1⟩
  · rcases iden_cases (M a f) with ⟨h1, e1⟩ | ⟨h1, e1⟩
    · left; rw [e1, WithTop.top_add, WithTop.top_add]
    rcases iden_cases (M g b) with ⟨h2, e2⟩ | ⟨h2, e2⟩
    · left; rw [e2, WithTop.add_top]
    · rw [e1, e2, ← WithTop.coe_add, ← WithTop.coe_add]
      exact Or.inr ⟨_, sum_range (hf.resolve_left h1) (hg.resolve_left h2) hw, rfl⟩

structure UHyp (n : Nat) (K B : Int) (M : DlM.Mat) (f g : Nat) (w : Int) : Prop where
  hf : f < n
  hg : g < n
  hfg : f ≠ g
  hB : 0 ≤ B
  hK : 0 ≤ K
  hInf : 4 * B + 4 * K < idlInf
  hw : -K ≤ w ∧ w ≤ K
  bnd : ∀ a b, a < n → b < n → M a b = idlInf ∨ (-B ≤ M a b ∧ M a b ≤ B)
  diag : ∀ a, a < n → M a a = 0
  closed : ∀ i j k, i < n → j < n → k < n → M i k ≠ idlInf → M k j ≠ idlInf →
    M i j ≠ idlInf ∧ M i j ≤ M i k + M k j
  cyc : M g f = idlInf ∨ 0 ≤ M g f + w
  imp : w < M f g

end Dl
end Oratio
