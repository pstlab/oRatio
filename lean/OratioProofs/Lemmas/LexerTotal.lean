/-
Lemmas for property C18 (input part): the lexer model never runs out of fuel.
-/
import OratioModel
import OratioProofs.Lemmas.Lexer
import OratioProofs.Lemmas.Ensures

namespace Oratio
namespace Riddle

theorem lexString_spec (s : Stream) : Ensures (· ≠ LexErr.fuel) (fun v => v.2.length < s.length) (lexString s) := by
  fun_induction lexString s <;> simp_all [Ensures] <;> omega

theorem skipBlock_spec (b : Bool) (s : Stream) : Ensures (· ≠ LexErr.fuel) (fun r => r.length < s.length) (skipBlock b s) := by
  fun_induction skipBlock b s with
  | case4 _ _ _ _ _ ih => exact ih.mono (fun _ h => h) fun _ h => Nat.lt_succ_of_lt h
  | _ => simp [Ensures]

theorem skipLine_length (s : Stream) : ∀ r, skipLine s = some r → r.length ≤ s.length := by
  fun_induction skipLine s with
  | case4 _ _ _ _ ih => exact fun r h => Nat.le_succ_of_le (ih r h)
  | _ => simp

abbrev Good (s : Stream) : Except LexErr (Tok × Stream) → Prop :=
  Ensures (· ≠ .fuel) fun v => v.2.length ≤ s.length ∧ (v.1 ≠ .sym .EOF → v.2.length < s.length)

theorem good_ok_lt {s : Stream} {t : Tok} {r : Stream} (h : r.length < s.length) : Good s (.ok (t, r)) :=
  ⟨Nat.le_of_lt h, fun _ => h⟩

theorem good_ok_eof {s : Stream} {r : Stream} (h : r.length ≤ s.length) : Good s (.ok (.sym .EOF, r)) :=
  ⟨h, fun hne => absurd rfl hne⟩

theorem good_mono {s s' : Stream} {res} (h : Good s' res) (hl : s'.length < s.length) : Good s res :=
  h.mono (fun _ h => h) fun _ hv => ⟨by omega, fun _ => by omega⟩

theorem good_ok_drop {c : Int} {r : Stream} {t : Tok} (k : Nat) : Good (c :: r) (.ok (t, r.drop k)) :=
  good_ok_lt (by simp only [List.length_drop, List.length_cons]; omega)

theorem lexNumber_good (c : Int) (r : Stream) (h : isDigit c = true) : Good (c :: r) (lexNumber (c :: r)) := by
  have h1 := takeRun_cons_snd_length_le isDigit c r h
  have h2 : ∀ t, Good (c :: r) (.ok (t, (takeRun isDigit (c :: r)).2)) := fun _ => good_ok_lt (Nat.lt_succ_of_le h1)
  have h3 : ∀ t, Good (c :: r) (.ok (t, (takeRun isDigit ((takeRun isDigit (c :: r)).2.drop 1)).2)) := fun _ =>
    good_ok_lt (Nat.lt_succ_of_le (Nat.le_trans (takeRun_snd_length_le ..) (Nat.le_trans (List.drop_sublist ..).length_le h1)))
  unfold lexNumber
  simp only [Ensures.ite_iff, h2, h3, Ensures.error_iff, ne_eq, reduceCtorEq, not_false_eq_true, implies_true, and_true]

theorem nextTok_good : ∀ (f : Nat) (s : Stream), s.length + 2 ≤ f → Good s (nextTok f s)
  | 0, s, h => by omega
  | f + 1, [], _ => by rw [nextTok]; exact good_ok_eof (Nat.le_refl _)
  | f + 1, c :: r, h => by
    have hlt : ∀ s', s'.length ≤ r.length → Good (c :: r) (nextTok f s') := fun s' hs' =>
      good_mono (nextTok_good f s' (by simp only [List.length_cons] at h; omega)) (Nat.lt_succ_of_le hs')
    have hdw : (r.dropWhile isSpace).length ≤ r.length := (List.dropWhile_sublist _).length_le
    have h0 : ∀ t k, Good (c :: r) (.ok (t, r.drop k)) := fun _ => good_ok_drop
    have h0' : ∀ t, Good (c :: r) (.ok (t, r)) := fun _ => good_ok_drop 0
    have h1 : ∀ t, Good (c :: r) (.ok (t, (r.dropWhile isSpace).drop 1)) := fun t =>
      good_ok_lt (Nat.lt_succ_of_le (Nat.le_trans (List.drop_sublist ..).length_le hdw))
    have h2 := hlt _ hdw
    have h3 : ∀ t, Good (c :: r) (.ok (t, (takeRun isDigit r).2)) := fun t =>
      good_ok_lt (Nat.lt_succ_of_le (takeRun_snd_length_le _ _))
    rw [nextTok]
    -- all branches but five return an error or one of the streams above
    simp only [Ensures.ite_iff, h0', h0, h1, h2, h3, Ensures.error_iff, ne_eq, reduceCtorEq, not_false_eq_true, implies_true,
      and_true, true_and]
    refine fun _ _ => ⟨fun _ => ?_, fun _ => ⟨fun _ => ⟨fun _ => ?_, fun _ _ => ?_⟩, ?_⟩⟩
    · -- string literal
      have := lexString_spec r
      split <;> rename_i heq <;> rw [heq] at this
      · exact good_ok_lt (Nat.lt_succ_of_lt this)
      · exact this
    · -- line comment
      split
      · exact good_ok_eof (Nat.zero_le _)
      · next r' heq =>
        exact hlt _ (Nat.le_trans (skipLine_length _ _ heq) (List.drop_sublist ..).length_le)
    · -- block comment
      have := skipBlock_spec false (r.drop 1)
      split <;> rename_i heq <;> rw [heq] at this
      · exact hlt _ (Nat.le_trans (Nat.le_of_lt this) (List.drop_sublist ..).length_le)
      · exact this
    · intros
      refine ⟨lexNumber_good c r, fun _ hc => ?_⟩
      have := takeRun_cons_snd_length_le isIdPart c r (by
        rw [isIdPart_iff]; have := isIdStart_iff.1 hc; omega)
      exact good_ok_lt (Nat.lt_succ_of_le this)

theorem lexAll_ne_fuel : ∀ (f : Nat) (s : Stream), s.length + 1 ≤ f → lexAll f s ≠ .error .fuel
  | 0, s, h => by omega
  | f + 1, s, h => by
    have hg := nextTok_good (s.length + 2) s (Nat.le_refl _)
    rw [lexAll]
    split
    · next e heq => exact fun he => hg.of_error heq (by simpa using he)
    · simp
    · next t r hne heq =>
      have hr : r.length < s.length := (hg.of_ok heq).2 (hne ·)
      have := lexAll_ne_fuel f r (by omega)
      split
      · simp
      · next e heq2 => rwa [heq2] at this

theorem lexAll_last : ∀ (f : Nat) (s : Stream) (ts : List Tok), lexAll f s = .ok ts → ts.getLast? = some (.sym .EOF)
  | 0, s, ts, h => by simp [lexAll] at h
  | f + 1, s, ts, h => by
    have ih := lexAll_last f
    rw [lexAll] at h
    split at h
    · simp at h
    · simp at h; simp [← h]
    · next t r hne heq =>
      split at h
      · next ts' heq2 =>
        have h1 := ih r ts' heq2
        simp at h
        rw [← h]
        cases ts' with
        | nil => simp at h1
        | cons a l => rw [List.getLast?_cons_cons]; exact h1
      · simp at h

end Riddle
end Oratio
