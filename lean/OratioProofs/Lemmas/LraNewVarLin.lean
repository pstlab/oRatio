/-
What `new_var(lin)` returns, as an outcome (`NewVarOutcome`): an existing variable, or a slack variable with the row
`withSlack` adds.
-/
import OratioModel
import OratioProofs.Lemmas.LraState

namespace Oratio
namespace Lra

theorem watch_fold (x : Nat) (vs : List (Nat × R)) (t : Lra) :
    ∃ tw, vs.foldl (fun t e => watchRow t e.1 x) t = { t with tWatches := tw } := by
  induction vs generalizing t with
  | nil => exact ⟨t.tWatches, rfl⟩
  | cons e vs ih =>
    obtain ⟨tw, h⟩ := ih (watchRow t e.1 x)
    exact ⟨tw, by rw [List.foldl_cons, h]; rfl⟩

theorem newRow_eq (t : Lra) (x : Nat) (l : Lin) :
    ∃ tw, newRow t x l = { t with tableau := tabInsert t.tableau x l, tWatches := tw } := by
  obtain ⟨tw, h⟩ := watch_fold x l.vars { t with tableau := tabInsert t.tableau x l }
  exact ⟨tw, by unfold newRow; rw [h]⟩

@[simp] theorem newRow_bounds (t : Lra) (x : Nat) (l : Lin) : (newRow t x l).bounds = t.bounds := by
  obtain ⟨tw, h⟩ := newRow_eq t x l; rw [h]
@[simp] theorem newRow_vals (t : Lra) (x : Nat) (l : Lin) : (newRow t x l).vals = t.vals := by
  obtain ⟨tw, h⟩ := newRow_eq t x l; rw [h]
@[simp] theorem newRow_tableau (t : Lra) (x : Nat) (l : Lin) : (newRow t x l).tableau = tabInsert t.tableau x l := by
  obtain ⟨tw, h⟩ := newRow_eq t x l; rw [h]
@[simp] theorem newRow_exprs (t : Lra) (x : Nat) (l : Lin) : (newRow t x l).exprs = t.exprs := by
  obtain ⟨tw, h⟩ := newRow_eq t x l; rw [h]
@[simp] theorem newRow_sAsrts (t : Lra) (x : Nat) (l : Lin) : (newRow t x l).sAsrts = t.sAsrts := by
  obtain ⟨tw, h⟩ := newRow_eq t x l; rw [h]
@[simp] theorem newRow_vAsrts (t : Lra) (x : Nat) (l : Lin) : (newRow t x l).vAsrts = t.vAsrts := by
  obtain ⟨tw, h⟩ := newRow_eq t x l; rw [h]
@[simp] theorem newRow_aWatches (t : Lra) (x : Nat) (l : Lin) : (newRow t x l).aWatches = t.aWatches := by
  obtain ⟨tw, h⟩ := newRow_eq t x l; rw [h]
@[simp] theorem newRow_layers (t : Lra) (x : Nat) (l : Lin) : (newRow t x l).layers = t.layers := by
  obtain ⟨tw, h⟩ := newRow_eq t x l; rw [h]

/-- `t` after `new_var(lin)` has created the slack variable `t.vals.length` with row `e` and names `ex` -/
def withSlack (t : Lra) (e : Lin) (ex : List (String × Nat)) : Lra :=
  let u : Lra := { t.newVar.2 with exprs := ex }
  let u := u.setBound (lbIdx t.vals.length) ⟨u.lbLin e, Lit.trueLit⟩
  let u := u.setBound (ubIdx t.vals.length) ⟨u.ubLin e, Lit.trueLit⟩
  let u := u.setVal t.vals.length (u.valueLin e)
  u.newRow t.vals.length e

def slackExprs (t : Lra) (l : Lin) : List (String × Nat) :=
  emplaceKey (emplaceKey t.newVar.2.exprs (Lin.toStr l) t.vals.length) (Lin.toStr (substBasic t l)) t.vals.length

/-- the three ways `new_var(lin)` answers -/
inductive NewVarOutcome (s : Sat) (t : Lra) (l : Lin) (slack : Nat) (t1 : Lra) : Prop where
  | found (hf : findKey t.exprs (Lin.toStr l) = some slack) (ht : t1 = t)
  | foundRewritten (h0 : findKey t.exprs (Lin.toStr l) = none)
      (hf : findKey t.exprs (Lin.toStr (substBasic t l)) = some slack)
      (ht : t1 = { t with exprs := emplaceKey t.exprs (Lin.toStr l) slack })
  | created (h0 : findKey t.exprs (Lin.toStr l) = none) (h1 : findKey t.exprs (Lin.toStr (substBasic t l)) = none)
      (hroot : s.rootLevel = true) (hs : slack = t.vals.length)
      (ht : t1 = withSlack t (substBasic t l) (slackExprs t l))

theorem newVarLin_nf {s : Sat} {t : Lra} {l : Lin} {slack : Nat} {t1 : Lra}
    (h : newVarLin s t l = some (slack, t1)) : l.vars.isEmpty = false ∧ NewVarOutcome s t l slack t1 := by
  unfold newVarLin at h
  split at h
  · cases h
  · next hne =>
    refine ⟨by simpa using hne, ?_⟩
    simp only [] at h
    split at h
    · next v hv => cases h; exact .found hv rfl
    · next h0 =>
      split at h
      · next v hv => cases h; exact .foundRewritten h0 hv rfl
      · next h1 =>
        split at h
        · cases h
        · next hr => cases h; exact .created h0 h1 (by simpa using hr) rfl rfl

@[simp] theorem withSlack_exprs (t : Lra) (e : Lin) (ex : List (String × Nat)) : (withSlack t e ex).exprs = ex :=
  newRow_exprs _ _ _
@[simp] theorem withSlack_sAsrts (t : Lra) (e : Lin) (ex : List (String × Nat)) : (withSlack t e ex).sAsrts = t.sAsrts :=
  newRow_sAsrts _ _ _
@[simp] theorem withSlack_vAsrts (t : Lra) (e : Lin) (ex : List (String × Nat)) : (withSlack t e ex).vAsrts = t.vAsrts :=
  newRow_vAsrts _ _ _
@[simp] theorem withSlack_layers (t : Lra) (e : Lin) (ex : List (String × Nat)) : (withSlack t e ex).layers = t.layers :=
  newRow_layers _ _ _
@[simp] theorem withSlack_aWatches (t : Lra) (e : Lin) (ex : List (String × Nat)) :
    (withSlack t e ex).aWatches = t.aWatches ++ [[]] :=
  newRow_aWatches _ _ _
@[simp] theorem withSlack_tableau (t : Lra) (e : Lin) (ex : List (String × Nat)) :
    (withSlack t e ex).tableau = tabInsert t.tableau t.vals.length e :=
  newRow_tableau _ _ _

theorem withSlack_eq_newRow (t : Lra) (e : Lin) (ex : List (String × Nat)) :
    ∃ u : Lra, withSlack t e ex = u.newRow t.vals.length e ∧ u.tableau = t.tableau ∧
      u.tWatches = t.tWatches ++ [[]] ∧
      (∃ b2 b3, u.bounds = ((t.bounds ++ [(⟨IR.ofR R.ninf, Lit.trueLit⟩ : LBound), ⟨IR.ofR R.pinf, Lit.trueLit⟩]).set
        (lbIdx t.vals.length) b2).set (ubIdx t.vals.length) b3) ∧
      ∃ x1, u.vals = (t.vals ++ [IR.ofR R.zero]).set t.vals.length x1 :=
  ⟨_, rfl, rfl, rfl, ⟨_, _, rfl⟩, _, rfl⟩

theorem withSlack_vals_length (t : Lra) (e : Lin) (ex : List (String × Nat)) :
    (withSlack t e ex).vals.length = t.vals.length + 1 := by
  obtain ⟨u, hu, -, -, -, x1, hv⟩ := withSlack_eq_newRow t e ex
  rw [hu, newRow_vals, hv, List.length_set, List.length_append]; rfl

theorem withSlack_bounds_length (t : Lra) (e : Lin) (ex : List (String × Nat)) :
    (withSlack t e ex).bounds.length = t.bounds.length + 2 := by
  obtain ⟨u, hu, -, -, ⟨b2, b3, hb⟩, -⟩ := withSlack_eq_newRow t e ex
  rw [hu, newRow_bounds, hb, List.length_set, List.length_set, List.length_append]; rfl

theorem withSlack_bnd (t : Lra) (e : Lin) (ex : List (String × Nat)) (hb : t.bounds.length ≤ 2 * t.vals.length)
    {i : Nat} (hi : i < t.bounds.length) : (withSlack t e ex).bnd i = t.bnd i := by
  obtain ⟨u, hu, -, -, ⟨b2, b3, hbs⟩, -⟩ := withSlack_eq_newRow t e ex
  unfold bnd
  rw [hu, newRow_bounds, hbs, getD_set_ne _ _ _ _ _ (by unfold ubIdx; omega),
    getD_set_ne _ _ _ _ _ (by unfold lbIdx; omega), getD_append_left _ _ _ _ hi]

theorem withSlack_value (t : Lra) (e : Lin) (ex : List (String × Nat)) {v : Nat} (hv : v < t.vals.length) :
    (withSlack t e ex).value v = t.value v := by
  obtain ⟨u, hu, -, -, -, x1, hvs⟩ := withSlack_eq_newRow t e ex
  unfold value
  rw [hu, newRow_vals, hvs, getD_set_ne _ _ _ _ _ (by omega), getD_append_left _ _ _ _ hv]

theorem withSlack_vals (t : Lra) (e : Lin) (ex : List (String × Nat)) :
    (withSlack t e ex).vals = t.vals ++ [t.valueLin e] := by
  have hv : ∀ u : Lra, u.vals = t.vals ++ [IR.ofR R.zero] → u.valueLin e = t.valueLin e := fun u hu =>
    valueLin_eq_of_agree fun p _ => by unfold Lra.value; rw [hu]; exact getD_append_default _ _ _
  refine (newRow_vals _ _ _).trans ?_
  show (t.vals ++ [IR.ofR R.zero]).set t.vals.length _ = _
  rw [hv _ rfl]
  simp

theorem withSlack_bounds {t : Lra} (hB : t.bounds.length = 2 * t.vals.length) {e : Lin}
    (hv : ∀ p ∈ e.vars, p.1 < t.vals.length) (ex : List (String × Nat)) :
    (withSlack t e ex).bounds = t.bounds ++ [⟨t.lbLin e, Lit.trueLit⟩, ⟨t.ubLin e, Lit.trueLit⟩] := by
  let u0 : Lra := { t.newVar.2 with exprs := ex }
  let u1 := u0.setBound (lbIdx t.vals.length) ⟨u0.lbLin e, Lit.trueLit⟩
  have i0 : lbIdx t.vals.length = t.bounds.length := by unfold lbIdx; rw [hB]
  have i1 : ubIdx t.vals.length = t.bounds.length + 1 := by unfold ubIdx; rw [hB]
  have h1 : u1.bounds = t.bounds ++ [⟨t.lbLin e, Lit.trueLit⟩, ⟨IR.ofR R.pinf, Lit.trueLit⟩] := by
    show (t.bounds ++ [_, _]).set (lbIdx t.vals.length) ⟨u0.lbLin e, _⟩ = _
    rw [(lbLin_ubLin_eq_of_agree (u := u0) fun p hp => lb_ub_append hB rfl (hv p hp)).1, i0]
    simp
  refine (newRow_bounds _ _ _).trans ?_
  show u1.bounds.set (ubIdx t.vals.length) ⟨u1.ubLin e, _⟩ = _
  rw [(lbLin_ubLin_eq_of_agree fun p hp => lb_ub_append hB h1 (hv p hp)).2, h1, i1]
  simp

theorem withSlack_new (t : Lra) (e : Lin) (ex : List (String × Nat)) (hB : t.bounds.length = 2 * t.vals.length)
    (hv : ∀ p ∈ e.vars, p.1 < t.vals.length) :
    (withSlack t e ex).lb t.vals.length = t.lbLin e ∧ (withSlack t e ex).ub t.vals.length = t.ubLin e ∧
    (withSlack t e ex).value t.vals.length = t.valueLin e := by
  obtain ⟨h1, h2⟩ := lb_ub_new hB (withSlack_bounds hB hv ex)
  refine ⟨h1, h2, ?_⟩
  unfold value
  rw [withSlack_vals, List.getD_eq_getElem?_getD, List.getElem?_append_right (Nat.le_refl _), Nat.sub_self]
  rfl

theorem NewVarOutcome.found_or_created {s : Sat} {t : Lra} {l : Lin} {slack : Nat} {t1 : Lra}
    (h : NewVarOutcome s t l slack t1) :
    ((∃ e ∈ t.exprs, e.2 = slack) ∧ ∃ ex, t1 = { t with exprs := ex } ∧ ∀ e ∈ ex, e ∈ t.exprs ∨ e.2 = slack) ∨
    (slack = t.vals.length ∧ t1 = withSlack t (substBasic t l) (slackExprs t l)) := by
  cases h with
  | found hf ht => exact Or.inl ⟨⟨_, mem_of_findKey hf, rfl⟩, _, ht, fun e he => Or.inl he⟩
  | foundRewritten h0 hf ht =>
    refine Or.inl ⟨⟨_, mem_of_findKey hf, rfl⟩, _, ht, fun e he => ?_⟩
    rcases mem_emplaceKey he with he | he
    · exact Or.inl he
    · exact Or.inr (by rw [he])
  | created h0 h1 hroot hs ht => exact Or.inr ⟨hs, ht⟩

theorem mem_slackExprs {t : Lra} {l : Lin} {e : String × Nat} (he : e ∈ slackExprs t l) :
    e ∈ t.exprs ∨ e.2 = t.vals.length := by
  rcases mem_emplaceKey he with he | he
  · rcases mem_emplaceKey he with he | he
    · rcases mem_emplaceKey (show e ∈ emplaceKey t.exprs _ _ from he) with he | he
      · exact Or.inl he
      · exact Or.inr (by rw [he])
    · exact Or.inr (by rw [he])
  · exact Or.inr (by rw [he])

theorem newVarLin_spec {s : Sat} {t : Lra} {l : Lin} {slack : Nat} {t1 : Lra}
    (h : newVarLin s t l = some (slack, t1)) :
    t1.sAsrts = t.sAsrts ∧ t1.vAsrts = t.vAsrts ∧ t1.layers = t.layers ∧
    (∀ e ∈ t.tableau, e ∈ t1.tableau) ∧ (∀ e ∈ t1.exprs, e ∈ t.exprs ∨ e.2 = slack) ∧
    ((t1.bounds = t.bounds ∧ t1.vals = t.vals ∧ t1.aWatches = t.aWatches ∧ ∃ e ∈ t.exprs, e.2 = slack) ∨
     (slack = t.vals.length ∧
      (∃ b0 b1 b2 b3, t1.bounds = ((t.bounds ++ [b0, b1]).set (lbIdx slack) b2).set (ubIdx slack) b3) ∧
      (∃ x0 x1, t1.vals = (t.vals ++ [x0]).set slack x1) ∧ t1.aWatches = t.aWatches ++ [[]])) := by
  rcases (newVarLin_nf h).2.found_or_created with ⟨hm, ex, rfl, hex⟩ | ⟨rfl, rfl⟩
  · exact ⟨rfl, rfl, rfl, fun e he => he, hex, Or.inl ⟨rfl, rfl, rfl, hm⟩⟩
  · obtain ⟨u, hu, ht, -, ⟨b2, b3, hb⟩, x1, hv⟩ := withSlack_eq_newRow t (substBasic t l) (slackExprs t l)
    refine ⟨withSlack_sAsrts .., withSlack_vAsrts .., withSlack_layers ..,
      fun e he => withSlack_tableau .. ▸ mem_tabInsert he, fun e he => mem_slackExprs (withSlack_exprs .. ▸ he),
      Or.inr ⟨rfl, ⟨_, _, b2, b3, by rw [hu, newRow_bounds, hb]⟩, ⟨_, x1, by rw [hu, newRow_vals, hv]⟩,
        withSlack_aWatches ..⟩⟩

theorem newVarLin_bnd {s : Sat} {t : Lra} {l : Lin} {slack : Nat} {t1 : Lra}
    (h : newVarLin s t l = some (slack, t1)) (hb : t.bounds.length ≤ 2 * t.vals.length)
    (i : Nat) (hi : i < t.bounds.length) : t1.bnd i = t.bnd i := by
  rcases (newVarLin_nf h).2.found_or_created with ⟨-, ex, rfl, -⟩ | ⟨-, rfl⟩
  · rfl
  · exact withSlack_bnd _ _ _ hb hi

theorem newVarLin_value {s : Sat} {t : Lra} {l : Lin} {slack : Nat} {t1 : Lra}
    (h : newVarLin s t l = some (slack, t1)) (v : Nat) (hv : v < t.vals.length) : t1.value v = t.value v := by
  rcases (newVarLin_nf h).2.found_or_created with ⟨-, ex, rfl, -⟩ | ⟨-, rfl⟩
  · rfl
  · exact withSlack_value _ _ _ hv

theorem newVarLin_vals_length {s : Sat} {t : Lra} {l : Lin} {slack : Nat} {t1 : Lra}
    (h : newVarLin s t l = some (slack, t1)) : t.vals.length ≤ t1.vals.length := by
  rcases (newVarLin_nf h).2.found_or_created with ⟨-, ex, rfl, -⟩ | ⟨-, rfl⟩
  · exact Nat.le_refl _
  · rw [withSlack_vals_length]; exact Nat.le_succ _

theorem newVarLin_slack_lt {s : Sat} {t : Lra} {l : Lin} {slack : Nat} {t1 : Lra}
    (h : newVarLin s t l = some (slack, t1)) (hW : t.vals.length ≤ t.aWatches.length)
    (hE : ∀ e ∈ t.exprs, e.2 < t.aWatches.length) : slack < t1.aWatches.length := by
  rcases (newVarLin_nf h).2.found_or_created with ⟨⟨e, he, rfl⟩, ex, rfl, -⟩ | ⟨rfl, rfl⟩
  · exact hE e he
  · rw [withSlack_aWatches, List.length_append]; exact Nat.lt_succ_of_le hW

end Lra

end Oratio
