/-
Storing a bound.  `Side` names the lower or the upper bound of a variable, so that `assert_lower` and `assert_upper`
are one function `assertWith` of a side; `storeBound` (`asState` of a side) is the write both share.
-/
import OratioModel
import OratioProofs.Lemmas.LraCheckOps

namespace Oratio
namespace Lra
open IR Lin

/-- the theory state of `assert_lower / assert_upper` once the bound at index `i` of `xi` is stored -/
def storeBound (t : Lra) (i xi : Nat) (val : IR) (p : Lit) (outside : IR → Bool) : Lra :=
  let t := (t.saveBound i).setBound i ⟨val, p⟩
  if outside (t.value xi) && !t.isBasic xi then t.update xi val else t

theorem assertLower_th_eq (s : Sat) (t : Lra) (xi : Nat) (val : IR) (p : Lit)
    (h1 : IR.le val (t.lb xi) = false) (h2 : IR.gt val (t.ub xi) = false) :
    (assertLower s t xi val p).th = storeBound t (lbIdx xi) xi val p (IR.lt · val) := by
  unfold assertLower
  simp only [h1, h2, Bool.false_eq_true, if_false]
  split <;> rfl

theorem assertUpper_th_eq (s : Sat) (t : Lra) (xi : Nat) (val : IR) (p : Lit)
    (h1 : IR.ge val (t.ub xi) = false) (h2 : IR.lt val (t.lb xi) = false) :
    (assertUpper s t xi val p).th = storeBound t (ubIdx xi) xi val p (IR.gt · val) := by
  unfold assertUpper
  simp only [h1, h2, Bool.false_eq_true, if_false]
  split <;> rfl

/-- the bound `i` written, its old value saved -/
def stored (t : Lra) (i : Nat) (b : LBound) : Lra :=
  { t with bounds := t.bounds.set i b, layers := savedLayers t.bounds i t.layers }

theorem storeBound_cases (t : Lra) (i xi : Nat) (val : IR) (p : Lit) (outside : IR → Bool) :
    (¬ (outside (t.value xi) = true ∧ t.isBasic xi = false) ∧ storeBound t i xi val p outside = stored t i ⟨val, p⟩) ∨
    (outside (t.value xi) = true ∧ t.isBasic xi = false ∧
      storeBound t i xi val p outside = (stored t i ⟨val, p⟩).update xi val) := by
  unfold storeBound
  simp only [saveBound_setBound]
  split
  · next hc =>
    simp only [Bool.and_eq_true, Bool.not_eq_true'] at hc
    exact Or.inr ⟨hc.1, hc.2, rfl⟩
  · next hc =>
    simp only [Bool.and_eq_true, Bool.not_eq_true'] at hc
    exact Or.inl ⟨hc, rfl⟩

theorem storeBound_ind {P : Lra → Prop} (t : Lra) (i xi : Nat) (val : IR) (p : Lit) (outside : IR → Bool)
    (h1 : P (stored t i ⟨val, p⟩))
    (h2 : outside (t.value xi) = true → t.isBasic xi = false → P ((stored t i ⟨val, p⟩).update xi val)) :
    P (storeBound t i xi val p outside) := by
  rcases storeBound_cases t i xi val p outside with ⟨-, e⟩ | ⟨ho, hb, e⟩ <;> rw [e]
  · exact h1
  · exact h2 ho hb

theorem storeBound_core (t : Lra) (i xi : Nat) (val : IR) (p : Lit) (outside : IR → Bool) :
    ∃ vs, storeBound t i xi val p outside =
      { t with bounds := t.bounds.set i ⟨val, p⟩, layers := savedLayers t.bounds i t.layers, vals := vs } ∧
      vs.length = t.vals.length := by
  rcases storeBound_cases t i xi val p outside with ⟨-, e⟩ | ⟨-, -, e⟩ <;> rw [e]
  · exact ⟨_, rfl, rfl⟩
  · exact update_only_vals (stored t i ⟨val, p⟩) xi val

def OnlyBLV (t u : Lra) : Prop :=
  ∃ bs ls vs, u = { t with bounds := bs, layers := ls, vals := vs } ∧ bs.length = t.bounds.length ∧
    vs.length = t.vals.length

theorem OnlyBLV.refl (t : Lra) : OnlyBLV t t := ⟨_, _, _, rfl, rfl, rfl⟩

theorem OnlyBLV.kept {t u : Lra} (h : OnlyBLV t u) : Kept t u := by
  obtain ⟨bs, ls, vs, rfl, hb, hv⟩ := h
  exact ⟨rfl, rfl, rfl, rfl, hv, hb⟩

theorem OnlyBLV.tableau {t u : Lra} (h : OnlyBLV t u) : u.tableau = t.tableau := by
  obtain ⟨bs, ls, vs, rfl, -, -⟩ := h
  rfl

theorem OnlyBLV.tWatches {t u : Lra} (h : OnlyBLV t u) : u.tWatches = t.tWatches := by
  obtain ⟨bs, ls, vs, rfl, -, -⟩ := h
  rfl

theorem storeBound_writes (t : Lra) (i xi : Nat) (val : IR) (p : Lit) (outside : IR → Bool) :
    OnlyBLV t (storeBound t i xi val p outside) := by
  obtain ⟨vs, h, hl⟩ := storeBound_core t i xi val p outside
  exact ⟨_, _, vs, h, List.length_set, hl⟩

theorem pop_writes (t : Lra) : OnlyBLV t t.pop := by
  rw [pop_def]
  split
  · exact .refl t
  · exact ⟨_, _, _, rfl, restoreB_length _ _, rfl⟩

theorem pop_vals (t : Lra) : t.pop.vals = t.vals := by
  rw [pop_def]
  split <;> rfl

theorem storeBound_bounds (t : Lra) (i xi : Nat) (val : IR) (p : Lit) (outside : IR → Bool) :
    (storeBound t i xi val p outside).bounds = t.bounds.set i ⟨val, p⟩ := by
  obtain ⟨vs, h, -⟩ := storeBound_core t i xi val p outside
  rw [h]

theorem C09_assertLower_effect (s : Sat) (t : Lra) (xi : Nat) (val : IR) (p : Lit) :
    (IR.le val (t.lb xi) = true → (assertLower s t xi val p).cnfl = none ∧ (assertLower s t xi val p).th = t ∧
      (assertLower s t xi val p).sat = s) ∧
    (IR.le val (t.lb xi) = false → IR.gt val (t.ub xi) = true →
      (assertLower s t xi val p).cnfl = some [p.neg, (t.ubReason xi).neg] ∧ (assertLower s t xi val p).th = t ∧
      (assertLower s t xi val p).sat = s) ∧
    (IR.le val (t.lb xi) = false → IR.gt val (t.ub xi) = false → lbIdx xi < t.bounds.length →
      (assertLower s t xi val p).th.bnd (lbIdx xi) = ⟨val, p⟩ ∧
      ∀ i, i ≠ lbIdx xi → (assertLower s t xi val p).th.bnd i = t.bnd i) := by
  refine ⟨?_, ?_, ?_⟩
  · intro h1; simp [assertLower, h1]
  · intro h1 h2; simp [assertLower, h1, h2]
  · intro h1 h2 hk
    exact C09_bnd_of_bounds_set t _ _ _ (by rw [assertLower_th_eq s t xi val p h1 h2, storeBound_bounds]) hk

theorem C09_assertUpper_effect (s : Sat) (t : Lra) (xi : Nat) (val : IR) (p : Lit) :
    (IR.ge val (t.ub xi) = true → (assertUpper s t xi val p).cnfl = none ∧ (assertUpper s t xi val p).th = t ∧
      (assertUpper s t xi val p).sat = s) ∧
    (IR.ge val (t.ub xi) = false → IR.lt val (t.lb xi) = true →
      (assertUpper s t xi val p).cnfl = some [p.neg, (t.lbReason xi).neg] ∧ (assertUpper s t xi val p).th = t ∧
      (assertUpper s t xi val p).sat = s) ∧
    (IR.ge val (t.ub xi) = false → IR.lt val (t.lb xi) = false → ubIdx xi < t.bounds.length →
      (assertUpper s t xi val p).th.bnd (ubIdx xi) = ⟨val, p⟩ ∧
      ∀ i, i ≠ ubIdx xi → (assertUpper s t xi val p).th.bnd i = t.bnd i) := by
  refine ⟨?_, ?_, ?_⟩
  · intro h1; simp [assertUpper, h1]
  · intro h1 h2; simp [assertUpper, h1, h2]
  · intro h1 h2 hk
    exact C09_bnd_of_bounds_set t _ _ _ (by rw [assertUpper_th_eq s t xi val p h1 h2, storeBound_bounds]) hk

theorem setEq_cases (s : Sat) (t : Lra) (xi : Nat) (val : IR) (p : Lit) :
    setEq s t xi val p = assertLower s t xi val p ∨
    setEq s t xi val p = assertUpper (assertLower s t xi val p).sat (assertLower s t xi val p).th xi val p := by
  unfold setEq setLb setUb
  split <;> rename_i h <;> rw [h]
  · exact Or.inl rfl
  · exact Or.inr rfl

inductive Side where
  | lo
  | hi

namespace Side

def flip : Side → Side
  | lo => hi
  | hi => lo

/-- `lb_index` / `ub_index` -/
def idx : Side → Nat → Nat
  | lo => lbIdx
  | hi => ubIdx

/-- `lb(x)` / `ub(x)` and its reason -/
def bd (d : Side) (t : Lra) (x : Nat) : IR := (t.bnd (d.idx x)).value
def rsn (d : Side) (t : Lra) (x : Nat) : Lit := (t.bnd (d.idx x)).reason

theorem bd_lo (t : Lra) (x : Nat) : lo.bd t x = t.lb x := rfl
theorem bd_hi (t : Lra) (x : Nat) : hi.bd t x = t.ub x := rfl

def inf : Side → R
  | lo => R.ninf
  | hi => R.pinf

/-- `is_negative_infinite` / `is_positive_infinite` -/
def isInf : Side → IR → Bool
  | lo => isNegInf
  | hi => isPosInf

def ltB : Side → IR → IR → Bool
  | lo => IR.lt
  | hi => IR.gt

def geB : Side → IR → IR → Bool
  | lo => IR.ge
  | hi => IR.le

/-- the assertions a bound of this side can satisfy -/
def op : Side → LOp
  | lo => .geq
  | hi => .leq

theorem idx_lt_of_ub {n x : Nat} (h : ubIdx x < n) : ∀ d : Side, d.idx x < n
  | lo => by unfold ubIdx at h; show 2 * x < n; omega
  | hi => h

theorem idx_inj : ∀ {d e : Side} {x y : Nat}, d.idx x = e.idx y → d = e ∧ x = y
  | lo, lo, x, y, h => ⟨rfl, by have : 2 * x = 2 * y := h; omega⟩
  | hi, hi, x, y, h => ⟨rfl, by have : 2 * x + 1 = 2 * y + 1 := h; omega⟩
  | lo, hi, x, y, h => by have : 2 * x = 2 * y + 1 := h; omega
  | hi, lo, x, y, h => by have : 2 * x + 1 = 2 * y := h; omega

theorem op_of_ne : ∀ {d : Side} {o : LOp}, o ≠ d.op → o = d.flip.op
  | lo, .leq, _ => rfl
  | lo, .geq, h => absurd rfl h
  | hi, .leq, h => absurd rfl h
  | hi, .geq, _ => rfl

theorem flip_flip : ∀ d : Side, d.flip.flip = d
  | lo => rfl
  | hi => rfl

end Side

def asState (d : Side) (t : Lra) (xi : Nat) (val : IR) (p : Lit) : Lra :=
  storeBound t (d.idx xi) xi val p (d.ltB · val)

theorem asState_ind {P : Lra → Prop} (d : Side) (t : Lra) (xi : Nat) (val : IR) (p : Lit)
    (h1 : P (stored t (d.idx xi) ⟨val, p⟩))
    (h2 : d.ltB (t.value xi) val = true → t.isBasic xi = false → P ((stored t (d.idx xi) ⟨val, p⟩).update xi val)) :
    P (asState d t xi val p) :=
  storeBound_ind t (d.idx xi) xi val p (d.ltB · val) h1 h2

theorem asState_writes (d : Side) (t : Lra) (xi : Nat) (val : IR) (p : Lit) : OnlyBLV t (asState d t xi val p) :=
  storeBound_writes t (d.idx xi) xi val p (d.ltB · val)

def seqOut (r1 : Option (List Lit) × Sat) (f2 : Sat → Option (List Lit) × Sat) (u : Lra) : LOut :=
  match r1 with
  | (some c, s) => ⟨some c, s, u⟩
  | (none, s) =>
    let (c, s) := f2 s
    ⟨c, s, u⟩

theorem seqOut_cases (r1 : Option (List Lit) × Sat) (f2 : Sat → Option (List Lit) × Sat) (u : Lra) :
    (∃ c, r1.1 = some c ∧ seqOut r1 f2 u = ⟨some c, r1.2, u⟩) ∨
    (r1.1 = none ∧ seqOut r1 f2 u = ⟨(f2 r1.2).1, (f2 r1.2).2, u⟩) :=
  match r1 with
  | (some c, _) => Or.inl ⟨c, rfl, rfl⟩
  | (none, _) => Or.inr ⟨rfl, rfl⟩

theorem seqOut_th (r1 : Option (List Lit) × Sat) (f2 : Sat → Option (List Lit) × Sat) (u : Lra) :
    (seqOut r1 f2 u).th = u :=
  match r1 with
  | (some _, _) => rfl
  | (none, _) => rfl

/-- `assert_lower` / `assert_upper` over the two loop bodies `un`, `row` -/
def assertWith (d : Side) (un row : Lra → Sat → Nat → Option (List Lit) × Sat)
    (s : Sat) (t : Lra) (xi : Nat) (val : IR) (p : Lit) : LOut :=
  -- `val` is not tighter than the bound of this side: nothing to do
  if d.flip.geB val (d.bd t xi) then ⟨none, s, t⟩
  -- `val` lies beyond the opposite bound: conflict
  else if d.flip.ltB val (d.flip.bd t xi) then ⟨some [p.neg, (d.flip.rsn t xi).neg], s, t⟩
  else
    let u := asState d t xi val p
    seqOut (forAll (un u) s (u.aWatches.getD xi [])) (fun s => forAll (row u) s (u.tWatches.getD xi [])) u

theorem assertWith_th (d : Side) (un row : Lra → Sat → Nat → Option (List Lit) × Sat)
    (s : Sat) (t : Lra) (xi : Nat) (val : IR) (p : Lit) :
    (assertWith d un row s t xi val p).th = t ∨
    (d.flip.geB val (d.bd t xi) = false ∧ d.flip.ltB val (d.flip.bd t xi) = false ∧
      (assertWith d un row s t xi val p).th = asState d t xi val p) := by
  unfold assertWith
  split
  · exact Or.inl rfl
  · next h1 =>
    split
    · exact Or.inl rfl
    · next h2 => exact Or.inr ⟨by simpa using h1, by simpa using h2, seqOut_th _ _ _⟩

end Lra

end Oratio
