/-
Lemmas for property C12 (difference-logic relation constructors and expression queries), for any
instance `O : DOps α`; the last part (`idl_mkB` onwards) reads them for the integer instance `idlOps`.

A request or query reads its expression as `c·(x_a − x_b) + k` (`DlRel.exprShape`; `b` is the origin for
a single variable).  Dividing by `c` turns `c·s + k REL 0` into `s REL' −k/c` with `REL'` read
from right to left when `c < 0` (`relHolds_affine`), and `tail` lists the constraints for
`x_a − x_b REL' −q`.  What an instance contributes is how it reads the weights `O.mkB k (-1)` and
`O.mkB k 0` (`Reads`) and which constants it can represent.
-/
import OratioProofs.Lemmas.DlRelDefs

namespace Oratio

def Dl.Rel.swap : Dl.Rel → Dl.Rel
  | .lt => .gt | .leq => .geq | .eq => .eq | .geq => .leq | .gt => .lt

namespace DlRel
open Dl

variable {α : Type}

theorem relHolds_sub (r : Rel) (a b : ℚ) : relHolds r a b ↔ relHolds r (a - b) 0 := by
  cases r <;> simp only [relHolds, sub_neg, sub_nonpos, sub_eq_zero, ge_iff_le, gt_iff_lt, sub_nonneg, sub_pos]

theorem relHolds_mono {f : ℚ → ℚ} (hf : StrictMono f) (r : Rel) (a b : ℚ) :
    relHolds r (f a) (f b) ↔ relHolds r a b := by
  cases r
  exacts [hf.lt_iff_lt, hf.le_iff_le, hf.injective.eq_iff, hf.le_iff_le, hf.lt_iff_lt]

theorem relHolds_anti {f : ℚ → ℚ} (hf : StrictAnti f) (r : Rel) (a b : ℚ) :
    relHolds r (f a) (f b) ↔ relHolds r.swap a b := by
  cases r
  exacts [hf.lt_iff_gt, hf.le_iff_ge, hf.injective.eq_iff, hf.le_iff_ge, hf.lt_iff_gt]

theorem relHolds_affine (r : Rel) {c : ℚ} (hc : c ≠ 0) {flip : Bool} (hf : flip = true ↔ c < 0) (k s : ℚ) :
    relHolds r (c * s + k) 0 ↔ relHolds (if flip then r.swap else r) s (-(k / c)) := by
  have h0 : c * -(k / c) + k = 0 := by rw [mul_neg, mul_div_cancel₀ k hc, neg_add_cancel]
  conv_lhs => rw [← h0]
  cases flip
  · have hp : 0 < c := lt_of_le_of_ne (not_lt.1 fun h => Bool.false_ne_true (hf.2 h)) hc.symm
    exact relHolds_mono ((strictMono_mul_left_of_pos hp).add_const k) r s _
  · exact relHolds_anti ((strictAnti_mul_left (hf.1 rfl)).add_const k) r s _

theorem lt_zero_iff {c : R} (hc : R.FinWF c) : R.lt c R.zero = true ↔ c.toRat < 0 := by
  rw [R.lt_fin hc R.finWF_zero, R.toRat_zero, decide_eq_true_iff]

theorem relConst_iff (r : Rel) {k : R} (hk : R.FinWF k) : relConst r k = true ↔ relHolds r k.toRat 0 := by
  have hz := R.finWF_zero
  cases r <;> simp only [relConst, relHolds, R.ge_eq_le, R.gt_eq_lt, R.lt_fin hk hz, R.le_fin hk hz, R.eq_fin hk hz,
    R.le_fin hz hk, R.lt_fin hz hk, R.toRat_zero, decide_eq_true_iff, ge_iff_le, gt_iff_lt]

theorem divAssign_zero_den {a : R} (ha : R.FinWF a) : (R.divAssign a R.zero).den = 0 := by
  rw [R.divAssign_eq_div]
  have : R.div a R.zero = R.mul a R.pinf := rfl
  rw [this, R.mul_inf ha.1 (by decide) (Or.inr rfl)]
  split <;> rfl

theorem ne_iff (a b : R) : R.ne a b = true ↔ a ≠ b := by
  rw [R.ne_eq_not_eq, Bool.not_eq_true', ← Bool.not_eq_true, R.eq_iff]

theorem div_eq_negOne_iff {c0 c1 : R} (hc0 : R.FinWF c0) (hc1 : R.FinWF c1) :
    R.div c1 c0 = R.neg R.one ↔ c0.num ≠ 0 ∧ c1.toRat = - c0.toRat := by
  have h1 : (R.neg R.one).toRat = -1 := by decide
  constructor
  · intro he
    have hnum : c0.num ≠ 0 := by
      intro hn
      have hd := divAssign_zero_den hc1
      rw [← R.wf_num_zero hc0.1 hn, R.divAssign_eq_div, he] at hd
      exact absurd hd (by decide)
    have ht := R.toRat_divAssign hc1 hc0 hnum
    rw [R.divAssign_eq_div, he, h1] at ht
    have := R.toRat_ne_zero hc0 hnum
    refine ⟨hnum, ?_⟩
    field_simp at ht
    linarith
  · rintro ⟨hn, he⟩
    have := R.toRat_ne_zero hc0 hn
    rw [← R.divAssign_eq_div]
    apply R.FinWF.ext (R.finWF_divAssign hc1 hc0 hn) (R.finWF_neg (R.finWF_ofInt 1))
    rw [R.toRat_divAssign hc1 hc0 hn, he]
    show _ = (R.neg R.one).toRat
    rw [h1]
    field_simp

/-- how requests and queries read an expression: a constant, `c·(x_a − x_b) + k`, or neither -/
inductive Shape where
  | const (k : R)
  | diff (a b : Nat) (c k : R)
  | other

/-- one variable is a difference with the origin; two variables must pass the test
    `c1 / c0 = -1` of the C++ -/
def exprShape (l : Lin) : Shape :=
  match l.vars with
  | [] => .const l.known
  | [(x, c)] => .diff x 0 c l.known
  | [(v0, c0), (v1, _)] =>
    if R.ne ((Lin.find (Lin.divR l c0).vars v1).getD R.zero) (R.neg R.one) then .other else .diff v0 v1 c0 l.known
  | _ => .other

theorem exprShape_two {v0 v1 : Nat} (h : v0 ≠ v1) (c0 c1 k : R) :
    exprShape ⟨[(v0, c0), (v1, c1)], k⟩ = if R.ne (R.div c1 c0) (R.neg R.one) then .other else .diff v0 v1 c0 k := by
  have : (Lin.find (Lin.divR ⟨[(v0, c0), (v1, c1)], k⟩ c0).vars v1).getD R.zero = R.div c1 c0 := by
    simp [Lin.divR, Lin.find, h, R.divAssign_eq_div]
  unfold exprShape
  dsimp only
  rw [this]

theorem exprShape_const {l : Lin} {k : R} (hs : exprShape l = .const k) : l = ⟨[], k⟩ := by
  obtain ⟨vars, known⟩ := l
  unfold exprShape at hs
  match vars with
  | [] => cases hs; rfl
  | [(x, c)] => cases hs
  | [(v0, c0), (v1, c1)] => dsimp only at hs; split at hs <;> cases hs
  | _ :: _ :: _ :: _ => cases hs

theorem exprShape_diff {l : Lin} {a b : Nat} {c k : R} (hl : l.WF) (hs : exprShape l = .diff a b c k) :
    R.FinWF c ∧ R.FinWF k ∧
    ((l = ⟨[(a, c)], k⟩ ∧ b = 0) ∨ ∃ c1, l = ⟨[(a, c), (b, c1)], k⟩ ∧ c.num ≠ 0 ∧ c1.toRat = - c.toRat) := by
  obtain ⟨vars, known⟩ := l
  obtain ⟨hs', hw, hk⟩ := (Lin.wf_iff _).1 hl
  match vars with
  | [] => cases hs
  | [(x, c')] =>
    cases hs
    exact ⟨hw _ (List.mem_singleton.2 rfl), hk, Or.inl ⟨rfl, rfl⟩⟩
  | [(v0, c0), (v1, c1)] =>
    have hlt : v0 < v1 := (List.pairwise_cons.1 hs').1 (v1, c1) (by simp)
    rw [exprShape_two (Nat.ne_of_lt hlt)] at hs
    split at hs
    · cases hs
    · rename_i hne
      cases hs
      have hc0 := hw _ (List.mem_cons_self ..)
      exact ⟨hc0, hk, Or.inr ⟨c1, rfl, (div_eq_negOne_iff hc0 (hw (b, c1) (by simp))).1 (not_not.1 (mt (ne_iff _ _).2 hne))⟩⟩
  | _ :: _ :: _ :: _ => cases hs

theorem exprShape_diff_eval {l : Lin} {a b : Nat} {c k : R} (hl : l.WF) (hs : exprShape l = .diff a b c k)
    (σ : Nat → ℚ) (h0 : σ 0 = 0) : Lin.eval l σ = c.toRat * (σ a - σ b) + k.toRat := by
  obtain ⟨-, -, ⟨rfl, rfl⟩ | ⟨c1, rfl, -, h1⟩⟩ := exprShape_diff hl hs
  · simp [Lin.eval, h0]
  · simp only [Lin.eval, List.map, List.sum_cons, List.sum_nil, h1]
    ring

/-- for two variables by the `c1 / c0 = -1` test; for a single one by assumption (`lin::operator*` keeps zero
    coefficients) -/
theorem exprShape_diff_nz {l : Lin} {a b : Nat} {c k : R} (hl : l.WF) (hs : exprShape l = .diff a b c k)
    (hnz : ∀ x c, l.vars = [(x, c)] → c.num ≠ 0) : c.num ≠ 0 := by
  obtain ⟨-, -, ⟨rfl, -⟩ | ⟨c1, -, h, -⟩⟩ := exprShape_diff hl hs
  · exact hnz a c rfl
  · exact h

theorem exprShape_diff_mem {l : Lin} {a b : Nat} {c k : R} (hl : l.WF) (hs : exprShape l = .diff a b c k) :
    a ∈ (0 :: l.vars.map (·.1)) ∧ b ∈ (0 :: l.vars.map (·.1)) := by
  obtain ⟨-, -, ⟨rfl, rfl⟩ | ⟨c1, rfl, -⟩⟩ := exprShape_diff hl hs <;> simp

/-- the single constraint `x_dst − x_src ≤ k + e·unit`, rejected when `k` is not representable -/
def oneOf (O : DOps α) (src dst : Nat) (k : R) (e : Int) : RelOut α :=
  match O.mkB k e with | some w => .one src dst w | none => .invalid

def twoOf (O : DOps α) (a b : Nat) (k : R) : RelOut α :=
  match O.mkB k 0, O.mkB (R.neg k) 0 with
  | some p, some q => .two a b p b a q
  | _, _ => .invalid

def tail (O : DOps α) (r : Rel) (k : R) (a b : Nat) : RelOut α :=
  match r with
  | .lt => oneOf O b a (R.neg k) (-1)
  | .leq => oneOf O b a (R.neg k) 0
  | .eq => twoOf O a b k
  | .geq => oneOf O a b k 0
  | .gt => oneOf O a b k (-1)

theorem oneOf_elim {O : DOps α} {Q : RelOut α → Prop} {s d : Nat} {k : R} {e : Int} (hi : Q .invalid)
    (h : ∀ w, O.mkB k e = some w → Q (.one s d w)) : Q (oneOf O s d k e) := by
  unfold oneOf
  cases hm : O.mkB k e with
  | none => exact hi
  | some w => exact h w hm

theorem twoOf_elim {O : DOps α} {Q : RelOut α → Prop} {a b : Nat} {k : R} (hi : Q .invalid)
    (h : ∀ p q, O.mkB k 0 = some p → O.mkB (R.neg k) 0 = some q → Q (.two a b p b a q)) : Q (twoOf O a b k) := by
  unfold twoOf
  cases h1 : O.mkB k 0 with
  | none => exact hi
  | some p =>
    cases h2 : O.mkB (R.neg k) 0 with
    | none => exact hi
    | some q => exact h p q h1 h2

theorem relOut_eq_shape (O : DOps α) (r : Rel) (left right : Lin) :
    relOut O r left right = match exprShape (Lin.sub left right) with
      | .const k => .const (relConst r k)
      | .diff a b c k => tail O (if R.lt c R.zero then r.swap else r) (R.divAssign k c) a b
      | .other => .invalid := by
  unfold relOut exprShape
  generalize Lin.sub left right = e
  obtain ⟨vars, known⟩ := e
  match vars with
  | [] => rfl
  | [(x, c)] => dsimp only; cases R.lt c R.zero <;> cases r <;> rfl
  | [(v0, c0), (v1, c1)] =>
    dsimp only
    split
    · rfl
    · dsimp only
      cases R.lt c0 R.zero <;> cases r <;> rfl
  | _ :: _ :: _ :: _ => rfl

def _root_.Oratio.RelOut.Means (edge : Nat → Nat → α → Prop) (H : Prop) : RelOut α → Prop
  | .const b => b = true ↔ H
  | .one s d w => edge s d w ↔ H
  | .two s1 d1 w1 s2 d2 w2 => (edge s1 d1 w1 ∧ edge s2 d2 w2) ↔ H
  | .invalid => True

structure Reads (O : DOps α) (τ : Nat → ℚ) (edge : Nat → Nat → α → Prop) : Prop where
  strict : ∀ {k : R} {w : α} (s d : Nat), R.FinWF k → O.mkB k (-1) = some w → (edge s d w ↔ τ d - τ s < k.toRat)
  weak : ∀ {k : R} {w : α} (s d : Nat), R.FinWF k → O.mkB k 0 = some w → (edge s d w ↔ τ d - τ s ≤ k.toRat)

theorem tail_means {O : DOps α} {τ : Nat → ℚ} {edge : Nat → Nat → α → Prop} (E : Reads O τ edge)
    (r : Rel) {k : R} (hk : R.FinWF k) (a b : Nat) :
    (tail O r k a b).Means edge (relHolds r (τ a - τ b) (-k.toRat)) := by
  have hn := R.finWF_neg hk
  have hv := R.toRat_neg hk
  cases r
  · exact oneOf_elim trivial fun w h => by rw [RelOut.Means, E.strict b a hn h, hv]; rfl
  · exact oneOf_elim trivial fun w h => by rw [RelOut.Means, E.weak b a hn h, hv]; rfl
  · refine twoOf_elim trivial fun p q h1 h2 => ?_
    show (edge a b p ∧ edge b a q) ↔ τ a - τ b = -k.toRat
    rw [E.weak a b hk h1, E.weak b a hn h2, hv, le_antisymm_iff, neg_le (a := k.toRat), neg_sub, and_comm]
  · exact oneOf_elim trivial fun w h => by
      rw [RelOut.Means, E.weak a b hk h]; show _ ↔ -k.toRat ≤ τ a - τ b; rw [neg_le, neg_sub]
  · exact oneOf_elim trivial fun w h => by
      rw [RelOut.Means, E.strict a b hk h]; show _ ↔ -k.toRat < τ a - τ b; rw [neg_lt, neg_sub]

theorem relOut_means {O : DOps α} {τ : Nat → ℚ} {edge : Nat → Nat → α → Prop} (E : Reads O τ edge) (h0 : τ 0 = 0)
    (r : Rel) (left right : Lin) (hl : left.WF) (hr : right.WF)
    (hnz : ∀ x c, (Lin.sub left right).vars = [(x, c)] → c.num ≠ 0) :
    (relOut O r left right).Means edge (relHolds r (Lin.eval left τ) (Lin.eval right τ)) := by
  have hwf := (Lin.sub_spec left right hl hr).1
  have hev : ∀ σ, Lin.eval (Lin.sub left right) σ = Lin.eval left σ - Lin.eval right σ :=
    (Lin.sub_spec left right hl hr).2.2.2.1
  rw [relHolds_sub, ← hev, relOut_eq_shape]
  cases hs : exprShape (Lin.sub left right) with
  | const k =>
    rw [exprShape_const hs] at hwf ⊢
    rw [show Lin.eval ⟨[], k⟩ τ = k.toRat by simp [Lin.eval]]
    exact relConst_iff r ((Lin.wf_iff _).1 hwf).2.2
  | diff a b c k =>
    obtain ⟨hc, hk, -⟩ := exprShape_diff hwf hs
    have hcn := exprShape_diff_nz hwf hs hnz
    rw [exprShape_diff_eval hwf hs τ h0, relHolds_affine r (R.toRat_ne_zero hc hcn) (lt_zero_iff hc),
      ← R.toRat_divAssign hk hc hcn]
    exact tail_means E _ (R.finWF_divAssign hk hc hcn) a b
  | other => trivial

theorem oneOf_invalid_iff (O : DOps α) (s d : Nat) (k : R) (e : Int) :
    oneOf O s d k e = .invalid ↔ O.mkB k e = none := by
  unfold oneOf
  cases O.mkB k e <;> simp

theorem tail_invalid_iff {O : DOps α} {P : R → Prop} (hP : ∀ k e, O.mkB k e = none ↔ ¬ P k)
    (hn : ∀ k, P (R.neg k) ↔ P k) (r : Rel) (k : R) (a b : Nat) : tail O r k a b = .invalid ↔ ¬ P k := by
  cases r
  · exact (oneOf_invalid_iff ..).trans ((hP ..).trans (not_congr (hn k)))
  · exact (oneOf_invalid_iff ..).trans ((hP ..).trans (not_congr (hn k)))
  · show twoOf O a b k = .invalid ↔ _
    unfold twoOf
    cases h1 : O.mkB k 0 with
    | none => simpa using (hP k 0).1 h1
    | some p =>
      have hk : P k := by_contra fun h => by rw [(hP k 0).2 h] at h1; cases h1
      cases h2 : O.mkB (R.neg k) 0 with
      | none => exact absurd ((hn k).2 hk) ((hP _ 0).1 h2)
      | some q => simpa using hk
  · exact (oneOf_invalid_iff ..).trans (hP ..)
  · exact (oneOf_invalid_iff ..).trans (hP ..)

theorem relOut_invalid_iff {O : DOps α} {P : R → Prop} (hP : ∀ k e, O.mkB k e = none ↔ ¬ P k)
    (hn : ∀ k, P (R.neg k) ↔ P k) (r : Rel) (left right : Lin) (hl : left.WF) (hr : right.WF) :
    relOut O r left right = .invalid ↔
      (let e := Lin.sub left right
       match e.vars with
       | [] => False
       | [(_, c)] => ¬ P (R.div e.known c)
       | [(_, c0), (_, c1)] => R.ne (R.div c1 c0) (R.neg R.one) = true ∨ ¬ P (R.div e.known c0)
       | _ => True) := by
  obtain ⟨hwf, -⟩ := Lin.sub_spec left right hl hr
  rw [relOut_eq_shape]
  generalize Lin.sub left right = e at hwf
  obtain ⟨vars, known⟩ := e
  match vars with
  | [] => exact ⟨fun h => (by cases h), False.elim⟩
  | [(x, c)] => exact (tail_invalid_iff hP hn ..).trans (by rw [R.divAssign_eq_div])
  | [(v0, c0), (v1, c1)] =>
    have hlt : v0 < v1 := (List.pairwise_cons.1 ((Lin.wf_iff _).1 hwf).1).1 (v1, c1) (by simp)
    rw [exprShape_two (Nat.ne_of_lt hlt)]
    by_cases h : R.ne (R.div c1 c0) (R.neg R.one) = true
    · rw [if_pos h]
      exact ⟨fun _ => Or.inl h, fun _ => rfl⟩
    · rw [if_neg h]
      exact (tail_invalid_iff hP hn ..).trans (by rw [R.divAssign_eq_div]; exact ⟨Or.inr, fun h' => h'.resolve_left h⟩)
  | _ :: _ :: _ :: _ => exact ⟨fun _ => trivial, fun _ => rfl⟩

def _root_.Oratio.RelOut.All (P : Nat → Nat → α → Prop) : RelOut α → Prop
  | .one s d w => P s d w
  | .two s1 d1 w1 s2 d2 w2 => P s1 d1 w1 ∧ P s2 d2 w2
  | _ => True

theorem tail_all {O : DOps α} {P : Nat → Nat → α → Prop} {a b : Nat}
    (hP : ∀ k e w, R.FinWF k → O.mkB k e = some w → P a b w ∧ P b a w) (r : Rel) {k : R} (hk : R.FinWF k) :
    (tail O r k a b).All P := by
  have hn := R.finWF_neg hk
  cases r
  · exact oneOf_elim trivial fun w h => (hP _ _ w hn h).2
  · exact oneOf_elim trivial fun w h => (hP _ _ w hn h).2
  · exact twoOf_elim trivial fun p q h1 h2 => ⟨(hP _ _ p hk h1).1, (hP _ _ q hn h2).2⟩
  · exact oneOf_elim trivial fun w h => (hP _ _ w hk h).1
  · exact oneOf_elim trivial fun w h => (hP _ _ w hk h).1

theorem relOut_all {O : DOps α} {P : Nat → Nat → α → Prop} (r : Rel) (left right : Lin) (hl : left.WF) (hr : right.WF)
    (hnz : ∀ x c, (Lin.sub left right).vars = [(x, c)] → c.num ≠ 0)
    (hP : ∀ a ∈ (0 :: (Lin.sub left right).vars.map (·.1)), ∀ b ∈ (0 :: (Lin.sub left right).vars.map (·.1)),
      ∀ k e w, R.FinWF k → O.mkB k e = some w → P a b w) :
    (relOut O r left right).All P := by
  obtain ⟨hwf, -⟩ := Lin.sub_spec left right hl hr
  rw [relOut_eq_shape]
  cases hs : exprShape (Lin.sub left right) with
  | const k => trivial
  | diff a b c k =>
    obtain ⟨hc, hk, -⟩ := exprShape_diff hwf hs
    obtain ⟨ha, hb⟩ := exprShape_diff_mem hwf hs
    exact tail_all (fun k e w hk h => ⟨hP a ha b hb k e w hk h, hP b hb a ha k e w hk h⟩) _
      (R.finWF_divAssign hk hc (exprShape_diff_nz hwf hs hnz))
  | other => trivial

theorem tail_two {O : DOps α} {r : Rel} {k : R} {a b s1 d1 s2 d2 : Nat} {w1 w2 : α}
    (h : tail O r k a b = .two s1 d1 w1 s2 d2 w2) : r = .eq := by
  have h1 : ∀ s d k e, oneOf O s d k e ≠ .two s1 d1 w1 s2 d2 w2 := fun s d k e =>
    oneOf_elim (Q := (· ≠ _)) nofun fun _ _ => nofun
  cases r
  case eq => rfl
  all_goals exact absurd h (h1 _ _ _ _)

theorem relOut_two {O : DOps α} {r : Rel} {left right : Lin} {s1 d1 s2 d2 : Nat} {w1 w2 : α}
    (h : relOut O r left right = .two s1 d1 w1 s2 d2 w2) : r = .eq := by
  rw [relOut_eq_shape] at h
  cases hs : exprShape (Lin.sub left right) with
  | const k => rw [hs] at h; cases h
  | other => rw [hs] at h; cases h
  | diff a b c k =>
    rw [hs] at h
    have := tail_two h
    revert this
    cases r <;> cases R.lt c R.zero <;> decide

theorem relOut_two_swap {O : DOps α} {r : Rel} {left right : Lin} {s1 d1 s2 d2 : Nat} {w1 w2 : α}
    (h : relOut O r left right = .two s1 d1 w1 s2 d2 w2) : s2 = d1 ∧ d2 = s1 := by
  obtain rfl := relOut_two h
  rw [relOut_eq_shape] at h
  cases hs : exprShape (Lin.sub left right) with
  | const k => rw [hs] at h; cases h
  | other => rw [hs] at h; cases h
  | diff a b c k =>
    rw [hs] at h
    have h' : twoOf O a b (R.divAssign k c) = .two s1 d1 w1 s2 d2 w2 := by
      dsimp only at h
      cases hc : R.lt c R.zero <;> rw [hc] at h <;> exact h
    revert h'
    exact twoOf_elim (Q := fun x => x = .two s1 d1 w1 s2 d2 w2 → s2 = d1 ∧ d2 = s1) nofun
      fun p q _ _ e => by cases e; exact ⟨rfl, rfl⟩

/-- `bounds(l)` scales and translates `distance(b, a)`, the ends swapped for `c ≤ 0` -/
theorem boundsLin_eq_shape (O : DOps α) (t : Dl α) (l : Lin) :
    boundsLin O t l = match exprShape l with
      | .const k => if O.valid k then some (O.addK O.zero k, O.addK O.zero k) else none
      | .diff a b c k =>
        if O.valid c && O.valid k then
          some (if c.isPositive then (O.addK (O.scale (distance O t b a).1 c) k, O.addK (O.scale (distance O t b a).2 c) k)
                else (O.addK (O.scale (distance O t b a).2 c) k, O.addK (O.scale (distance O t b a).1 c) k))
        else none
      | .other => none := by
  unfold boundsLin exprShape
  obtain ⟨vars, known⟩ := l
  match vars with
  | [] => rfl
  | [(x, c)] => dsimp only; cases (O.valid c && O.valid known) <;> cases c.isPositive <;> rfl
  | [(v0, c), (v1, c1)] =>
    dsimp only
    generalize R.ne _ _ = ne
    cases ne <;> simp only [Bool.true_or, Bool.false_or, Bool.false_eq_true, ↓reduceIte]
    cases (O.valid c && O.valid known) <;> cases c.isPositive <;> rfl
  | _ :: _ :: _ :: _ => rfl

theorem idl_mkB (k : R) (e : Int) : idlOps.mkB k e = if k.den = 1 then some (k.num + e) else none := by
  show (if (k.den == 1) = true then some (k.num + e) else none) = _
  by_cases h : k.den = 1 <;> simp [h]

theorem idl_mkB_none (k : R) (e : Int) : idlOps.mkB k e = none ↔ ¬ k.den = 1 := by
  rw [idl_mkB]; split <;> simp [*]

theorem idl_mkB_some {k : R} {e w : Int} (h : idlOps.mkB k e = some w) : k.den = 1 ∧ w = k.num + e := by
  rw [idl_mkB] at h
  split at h
  · exact ⟨‹_›, (Option.some.inj h).symm⟩
  · cases h

/-- over the integers `x ≤ k − 1` is `x < k` -/
theorem idl_reads (σ : Nat → Int) : Reads idlOps (fun v => (σ v : ℚ)) (edgeHolds σ) where
  strict s d hk h := by
    obtain ⟨hd, rfl⟩ := idl_mkB_some h
    rw [R.toRat_den_one hd, ← Int.cast_sub, Int.cast_lt]
    exact Int.le_sub_one_iff
  weak s d hk h := by
    obtain ⟨hd, rfl⟩ := idl_mkB_some h
    rw [R.toRat_den_one hd, ← Int.cast_sub, Int.cast_le, Int.add_zero]
    rfl

/-- a zero coefficient is rejected: `k / 0` is not an integer -/
theorem relOut_idl_zero (r : Rel) {left right : Lin} (hl : left.WF) (hr : right.WF) {x : Nat} {c : R}
    (hv : (Lin.sub left right).vars = [(x, c)]) (hc : c.num = 0) : relOut idlOps r left right = .invalid := by
  obtain ⟨hwf, -⟩ := Lin.sub_spec left right hl hr
  obtain ⟨-, hw, hk⟩ := (Lin.wf_iff _).1 hwf
  refine (relOut_invalid_iff idl_mkB_none (fun _ => Iff.rfl) r left right hl hr).2 ?_
  rw [hv] at hw
  have hz : c = R.zero := R.wf_num_zero (hw (x, c) (List.mem_singleton.2 rfl)).1 hc
  simp only [hv]
  rw [hz, ← R.divAssign_eq_div, divAssign_zero_den hk]
  decide

theorem affine_mono {c lo v hi : Int} (k : Int) (h1 : lo ≤ v) (h2 : v ≤ hi) :
    (0 ≤ c → lo * c + k ≤ v * c + k ∧ v * c + k ≤ hi * c + k) ∧
    (c ≤ 0 → hi * c + k ≤ v * c + k ∧ v * c + k ≤ lo * c + k) :=
  ⟨fun hc => ⟨Int.add_le_add_right (mul_le_mul_of_nonneg_right h1 hc) k, Int.add_le_add_right (mul_le_mul_of_nonneg_right h2 hc) k⟩,
   fun hc => ⟨Int.add_le_add_right (mul_le_mul_of_nonpos_right h2 hc) k, Int.add_le_add_right (mul_le_mul_of_nonpos_right h1 hc) k⟩⟩

theorem idl_valid (k : R) : idlOps.valid k = true ↔ k.den = 1 := by
  show (k.den == 1) = true ↔ _
  simp
theorem idl_scale (x : Int) (c : R) : idlOps.scale x c = x * c.num := rfl
theorem idl_addK (x : Int) (k : R) : idlOps.addK x k = x + k.num := rfl
theorem idl_zero : idlOps.zero = 0 := rfl
theorem idl_neg (x : Int) : idlOps.neg x = -x := rfl

theorem div_negOne (c : Int) (hc : c ≠ 0) : R.div (R.ofInt (-c)) (R.ofInt c) = R.neg R.one :=
  (div_eq_negOne_iff (R.finWF_ofInt c) (R.finWF_ofInt (-c))).2
    ⟨hc, by rw [R.toRat_ofInt, R.toRat_ofInt, Int.cast_neg]⟩

theorem boundsLin_idl_diff (t : Dl Int) {l : Lin} {a b : Nat} {c k : Int}
    (hs : exprShape l = .diff a b (R.ofInt c) (R.ofInt k)) :
    boundsLin idlOps t l =
      some (if c > 0 then (c * (Dl.distance idlOps t b a).1 + k, c * (Dl.distance idlOps t b a).2 + k)
            else (c * (Dl.distance idlOps t b a).2 + k, c * (Dl.distance idlOps t b a).1 + k)) := by
  rw [boundsLin_eq_shape, hs]
  show some (if decide (c > 0) = true then ((Dl.distance idlOps t b a).1 * c + k, (Dl.distance idlOps t b a).2 * c + k)
    else ((Dl.distance idlOps t b a).2 * c + k, (Dl.distance idlOps t b a).1 * c + k)) = _
  by_cases h : c > 0 <;> simp [h, Int.mul_comm]

end DlRel
end Oratio
