/-
`propagate(from, to, dist)` in closed form over `DLaws`: the denoted matrix becomes `DlW.upd`, an
entry's predecessor changes exactly when the entry improves.  Every cell of an intermediate state is
*old* (the entry of the start, with its predecessor) or *final* (improved: the entry of `DlW.upd`, with
the new predecessor), and one guarded relaxation through the new edge makes its cell final whichever
of the two it was (`Mid.hit`, `Mid.miss`).  Where the first test is unguarded (`L.spur`) pairs of
infinite entries enter `set_i`/`set_j` too and get junk predecessors, so the sets are only sandwiched
(`Cands`) and predecessors of infinite entries are not tracked.
-/
import OratioProofs.Lemmas.DlLaws

namespace Oratio
namespace DlG
open Dl DlW

variable {α G : Type} [AddCommGroup G] [LinearOrder G] [IsOrderedAddMonoid G] {O : DOps α} (L : DLaws O G)

def dn (t : Dl α) (a b : Nat) : WithTop G := L.den (d O t a b)

theorem dn_wr {t : Dl α} {n : Nat} (h : Fits n (shape t)) {i j : Nat} (hi : i < n) (hj : j < n) (x : α) (y : Nat)
    (a b : Nat) : dn L (wr O t i j x y) a b = if a = i ∧ b = j then L.den x else dn L t a b := by
  unfold dn
  rw [d_wr h hi hj]
  split <;> rfl

theorem dn_congr {t1 t2 : Dl α} (h : t1.dists = t2.dists) (a b : Nat) : dn L t1 a b = dn L t2 a b := by
  unfold dn; rw [d_congr h]

structure UHyp (n : Nat) (M : Mat G) (f g : Nat) (w : α) : Prop extends UpdHyp n M f g (L.val w) where
  hw : L.Wt w
  /-- every value the loops write is an entry of `upd`: these are representable, which `L.add` asks of a sum -/
  new : ∀ a b, a < n → b < n → L.GoodV (upd M f g (L.val w) a b)


/-- row `u` is improved in column `g` (the genuine members of `set_i`) -/
def Ci (M : Mat G) (f g : Nat) (wv : G) (u : Nat) : Prop := u ≠ f ∧ M u f + (wv : WithTop G) < M u g
/-- column `u` is improved in row `f` (the genuine members of `set_j`) -/
def Cj (M : Mat G) (f g : Nat) (wv : G) (u : Nat) : Prop := u ≠ g ∧ M g u + (wv : WithTop G) < M f u
/-- spurious members of `set_i` / `set_j`: both entries infinite -/
def Si (M : Mat G) (f g : Nat) (u : Nat) : Prop := M u f = ⊤ ∧ M u g = ⊤
def Sj (M : Mat G) (f g : Nat) (u : Nat) : Prop := M g u = ⊤ ∧ M f u = ⊤

theorem imp_cands {n : Nat} {M : Mat G} {f g : Nat} {wv : G} (h : UpdHyp n M f g wv) {a b : Nat} (ha : a < n) (hb : b < n)
    (haf : a ≠ f) (hbg : b ≠ g) (himp : Imp M f g wv a b) : Ci M f g wv a ∧ Cj M f g wv b := by
  refine ⟨⟨haf, not_le.mp fun h1 => ?_⟩, ⟨hbg, not_le.mp fun h1 => ?_⟩⟩ <;> refine absurd himp (not_lt.mpr ?_)
  · calc M a b ≤ M a g + M g b := h.closed a b g ha hb h.hg
      _ ≤ M a f + (wv : WithTop G) + M g b := add_le_add h1 le_rfl
  · calc M a b ≤ M a f + M f b := h.closed a b f ha hb h.hf
      _ ≤ M a f + (M g b + (wv : WithTop G)) := add_le_add le_rfl h1
      _ = M a f + (wv : WithTop G) + M g b := by ac_rfl

/-- what every intermediate state satisfies; `cell`: an entry is as at the start, or improved to its final value
    with the new predecessor -/
structure Mid (t0 : Dl α) (M : Mat G) (P0 : Nat → Nat → Nat) (f g : Nat) (wv : G) (n : Nat) (shp : List Nat × List Nat)
    (t : Dl α) : Prop where
  nv : t.nVars = n
  good : ∀ a b, a < n → b < n → L.Good (d O t a b)
  out : ∀ a b, ¬ (a < n ∧ b < n) → d O t a b = d O t0 a b
  cell : ∀ a b, (dn L t a b = M a b ∧ ((L.spur → M a b ≠ ⊤) → p t a b = P0 a b)) ∨
    (Imp M f g wv a b ∧ dn L t a b = upd M f g wv a b ∧ p t a b = newp P0 f g b)
  shp : shape t = shp

section
variable {L} {t0 : Dl α} {M : Mat G} {P0 : Nat → Nat → Nat} {f g : Nat} {wv : G} {n : Nat} {shp : List Nat × List Nat}
  {t : Dl α} (h : Mid L t0 M P0 f g wv n shp t)
include h

theorem Mid.le (a b : Nat) : dn L t a b ≤ M a b := by
  rcases h.cell a b with ⟨e, _⟩ | ⟨_, e, _⟩ <;> rw [e]
  exact upd_le_old M f g wv a b

theorem Mid.ge (a b : Nat) : upd M f g wv a b ≤ dn L t a b := by
  rcases h.cell a b with ⟨e, _⟩ | ⟨_, e, _⟩ <;> rw [e]
  exact upd_le_old M f g wv a b

theorem Mid.old {a b : Nat} (hn : ¬ Imp M f g wv a b) :
    dn L t a b = M a b ∧ ((L.spur → M a b ≠ ⊤) → p t a b = P0 a b) :=
  (h.cell a b).resolve_right fun e => hn e.1

theorem Mid.miss {i j : Nat} (hn : ¬ M i f + (wv : WithTop G) + M g j < dn L t i j) :
    dn L t i j = upd M f g wv i j := by
  rcases h.cell i j with ⟨e, _⟩ | ⟨_, e, _⟩
  · rw [e] at hn ⊢; exact (upd_of_nimp hn).symm
  · exact e

theorem Mid.hit_val {i j : Nat} (hc : M i f + (wv : WithTop G) + M g j < dn L t i j ∨
      (L.spur ∧ M i f + (wv : WithTop G) + M g j = ⊤ ∧ dn L t i j = ⊤)) :
    upd M f g wv i j = M i f + (wv : WithTop G) + M g j := by
  rcases hc with hlt | ⟨_, e1, e2⟩
  · exact upd_of_imp (lt_of_lt_of_le hlt (h.le i j))
  · have hM : M i j = ⊤ := top_le_iff.mp (e2 ▸ h.le i j)
    show min (M i j) _ = _
    rw [hM, min_eq_right le_top]

theorem Mid.hit (hfit : Fits n shp) (hfitP : FitsP n shp) {i j : Nat} (hi : i < n) (hj : j < n) {x : α} {y : Nat}
    (hc : M i f + (wv : WithTop G) + M g j < dn L t i j ∨
      (L.spur ∧ M i f + (wv : WithTop G) + M g j = ⊤ ∧ dn L t i j = ⊤))
    (gx : L.Good x) (dx : L.den x = M i f + (wv : WithTop G) + M g j)
    (hy : M i f + (wv : WithTop G) + M g j ≠ ⊤ → y = newp P0 f g j) :
    Mid L t0 M P0 f g wv n shp (wr O t i j x y) ∧
      ∀ a b, (a = i ∧ b = j) ∨ dn L t a b = upd M f g wv a b → dn L (wr O t i j x y) a b = upd M f g wv a b := by
  have hfitt : Fits n (shape t) := by rw [h.shp]; exact hfit
  have hU : L.den x = upd M f g wv i j := dx.trans (h.hit_val hc).symm
  refine ⟨⟨by rw [nVars_wr, h.nv], ?_, ?_, ?_, by rw [shape_wr, h.shp]⟩, ?_⟩
  · intro a b ha hb
    rw [d_wr hfitt hi hj]
    split
    · exact gx
    · exact h.good a b ha hb
  · intro a b hab
    rw [d_wr hfitt hi hj, if_neg (by omega)]
    exact h.out a b hab
  · intro a b
    have hp : p (wr O t i j x y) a b = if a = i ∧ b = j then y else p t a b :=
      p_wr (show FitsP n (shape t) by rw [h.shp]; exact hfitP) hi hj x y a b
    rw [dn_wr L hfitt hi hj]
    by_cases hab : a = i ∧ b = j
    · obtain ⟨rfl, rfl⟩ := hab
      rw [if_pos ⟨rfl, rfl⟩]
      rcases hc with hlt | ⟨hs, e1, e2⟩
      · exact .inr ⟨lt_of_lt_of_le hlt (h.le a b), hU, by rw [hp, if_pos ⟨rfl, rfl⟩]; exact hy (ne_top_of_lt hlt)⟩
      · have hM : M a b = ⊤ := top_le_iff.mp (e2 ▸ h.le a b)
        exact .inl ⟨by rw [dx, e1, hM], fun hne => absurd hM (hne hs)⟩
    · rw [if_neg hab]
      rw [hp, if_neg hab]
      exact h.cell a b
  · intro a b hab
    rw [dn_wr L hfitt hi hj]
    by_cases hab' : a = i ∧ b = j
    · rw [if_pos hab', hab'.1, hab'.2]; exact hU
    · rw [if_neg hab']; exact hab.resolve_left hab'

end

omit [AddCommGroup G] [IsOrderedAddMonoid G] in
theorem min_of_hit {c y : WithTop G} {spur : Prop} (h : c < y ∨ (spur ∧ c = ⊤ ∧ y = ⊤)) : min y c = c := by
  rcases h with h | ⟨_, h1, h2⟩
  · exact min_eq_right (le_of_lt h)
  · rw [h1, h2, min_self]

structure Cands (C S : Nat → Prop) (k : Nat) (l : List Nat) : Prop where
  sub : ∀ u ∈ l, u < k ∧ (C u ∨ S u)
  sup : ∀ u, u < k → C u → u ∈ l

theorem Cands.snoc {C S : Nat → Prop} {k : Nat} {l : List Nat} (h : Cands C S k l) (hc : C k ∨ S k) :
    Cands C S (k + 1) (l ++ [k]) := by
  constructor
  · intro u hu
    rcases List.mem_append.mp hu with h1 | h1
    · exact ⟨by have := (h.sub u h1).1; omega, (h.sub u h1).2⟩
    · rw [List.mem_singleton] at h1
      subst h1
      exact ⟨by omega, hc⟩
  · intro u hu hcu
    rw [List.mem_append, List.mem_singleton]
    by_cases huk : u = k
    · right; exact huk
    · left; exact h.sup u (by omega) hcu

theorem Cands.skip {C S : Nat → Prop} {k : Nat} {l : List Nat} (h : Cands C S k l) (hc : ¬ C k) :
    Cands C S (k + 1) l := by
  constructor
  · intro u hu
    exact ⟨by have := (h.sub u hu).1; omega, (h.sub u hu).2⟩
  · intro u hu hcu
    by_cases huk : u = k
    · subst huk; exact absurd hcu hc
    · exact h.sup u (by omega) hcu

/-! The cells a round of the first loop leaves final / untouched: the steps of the two regions of `PP`, as facts
about indices (a decision procedure run inside the steps, with the loop state in scope, is slow to check). -/

theorem fin_col {f g u a b : Nat} (h : (b = g ∧ (a < u + 1 ∨ a = f)) ∨ (a = f ∧ b < u)) (hne : ¬ (a = u ∧ b = g)) :
    (b = g ∧ (a < u ∨ a = f)) ∨ (a = f ∧ b < u) :=
  h.imp_left fun ⟨hb, ha⟩ => ⟨hb, ha.imp_left fun ha => Nat.lt_of_le_of_ne (Nat.le_of_lt_succ ha) fun e => hne ⟨e, hb⟩⟩

theorem fresh_col {f g u a b : Nat} (h : (b = g ∧ u + 1 ≤ a ∧ a ≠ f) ∨ (a = f ∧ u ≤ b ∧ b ≠ g)) :
    ¬ (a = u ∧ b = g) ∧ ((b = g ∧ u ≤ a ∧ a ≠ f) ∨ (a = f ∧ u ≤ b ∧ b ≠ g)) :=
  ⟨fun ⟨ea, eb⟩ => h.elim (fun h => Nat.not_succ_le_self u (ea ▸ h.2.1)) fun h => h.2.2 eb,
    h.imp_left fun ⟨hb, ha, hf⟩ => ⟨hb, Nat.le_of_succ_le ha, hf⟩⟩

theorem fin_row {f g u a b : Nat} (h : (b = g ∧ (a < u + 1 ∨ a = f)) ∨ (a = f ∧ b < u + 1)) (hne : ¬ (a = f ∧ b = u)) :
    (b = g ∧ (a < u + 1 ∨ a = f)) ∨ (a = f ∧ b < u) :=
  h.imp_right fun ⟨ha, hb⟩ => ⟨ha, Nat.lt_of_le_of_ne (Nat.le_of_lt_succ hb) fun e => hne ⟨ha, e⟩⟩

theorem fresh_row {f g u a b : Nat} (h : (b = g ∧ u + 1 ≤ a ∧ a ≠ f) ∨ (a = f ∧ u + 1 ≤ b ∧ b ≠ g)) :
    ¬ (a = f ∧ b = u) ∧ ((b = g ∧ u + 1 ≤ a ∧ a ≠ f) ∨ (a = f ∧ u ≤ b ∧ b ≠ g)) :=
  ⟨fun ⟨ea, eb⟩ => h.elim (fun h => h.2.2 ea) fun h => Nat.not_succ_le_self u (eb ▸ h.2.1),
    h.imp_right fun ⟨ha, hb, hg⟩ => ⟨ha, Nat.le_of_succ_le hb, hg⟩⟩

/-- invariant of the first loop: column `g` is final for the rows `< ki` and `f`, row `f` for the columns `< kj`;
    the rest of that column and of that row is as at the start -/
structure PP (t0 : Dl α) (M : Mat G) (P0 : Nat → Nat → Nat) (f g : Nat) (wv : G) (n : Nat) (shp : List Nat × List Nat)
    (ki kj : Nat) (t : Dl α) (si sj : List Nat) : Prop extends Mid L t0 M P0 f g wv n shp t where
  fin : ∀ a b, (b = g ∧ (a < ki ∨ a = f)) ∨ (a = f ∧ b < kj) → dn L t a b = upd M f g wv a b
  fresh : ∀ a b, (b = g ∧ ki ≤ a ∧ a ≠ f) ∨ (a = f ∧ kj ≤ b ∧ b ≠ g) → dn L t a b = M a b
  ci : Cands (Ci M f g wv) (fun u => L.spur ∧ Si M f g u) ki si
  cj : Cands (Cj M f g wv) (fun u => L.spur ∧ Sj M f g u) kj sj

section
variable {t0 : Dl α} {M : Mat G} {P0 : Nat → Nat → Nat} {f g : Nat} {w : α} {n : Nat} {shp : List Nat × List Nat}
  (hy : UHyp L n M f g w) (hfit : Fits n shp) (hfitP : FitsP n shp)
include hy hfit hfitP

theorem step_col {u : Nat} {t : Dl α} {si sj : List Nat} (hP : PP L t0 M P0 f g (L.val w) n shp u u t si sj) (hu : u < n)
    (ups : List (Nat × Nat)) {t1 : Dl α} {si1 : List Nat} {ups1 : List (Nat × Nat)}
    (heq : (if (O.finiteGuard (d O t u f) && O.lt (d O t u f) (O.sub (d O t u g) w)) = true then
        (wr O t u g (O.add (d O t u f) w) f, si ++ [u], ups ++ [(u, g), (g, u)])
      else (t, si, ups)) = (t1, si1, ups1)) :
    PP L t0 M P0 f g (L.val w) n shp (u + 1) u t1 si1 sj := by
  have hf := hy.hf; have hg := hy.hg
  have hm := hP.toMid
  -- the candidate of the cell `(u, g)` is what the test compares with
  have rf : L.den (d O t u f) + ((L.val w : G) : WithTop G) = M u f + ((L.val w : G) : WithTop G) + M g g := by
    rw [hy.diag g hg, add_zero]; exact congrArg (· + _) (hm.old (hy.not_imp_f u)).1
  have hV : L.GoodV (min (L.den (d O t u g)) (L.den (d O t u f) + ((L.val w : G) : WithTop G))) := by
    have : min (dn L t u g) (M u f + ((L.val w : G) : WithTop G) + M g g) = upd M f g (L.val w) u g :=
      le_antisymm (min_le_min (hm.le u g) le_rfl) (le_min (hm.ge u g) (upd_le_cand M f g _ u g))
    rw [rf]; exact this ▸ hy.new u g hu hg
  obtain ⟨g1, g2⟩ := L.guard (hP.good u f hu hf) (hP.good u g hu hg) hy.hw hV
  rw [rf] at g1 g2
  by_cases hc : (O.finiteGuard (d O t u f) && O.lt (d O t u f) (O.sub (d O t u g) w)) = true
  · rw [if_pos hc] at heq
    cases heq
    obtain ⟨hcase, gnew, dnew⟩ := g1 hc
    replace hcase : M u f + ((L.val w : G) : WithTop G) + M g g < dn L t u g ∨
        (L.spur ∧ M u f + ((L.val w : G) : WithTop G) + M g g = ⊤ ∧ dn L t u g = ⊤) :=
      hcase.imp_right fun ⟨hs, h1, h2⟩ => ⟨hs, by rw [← rf, h1, WithTop.top_add], h2⟩
    obtain ⟨hm', hfin⟩ := hm.hit hfit hfitP hu hg (y := f) hcase gnew (dnew.trans (min_of_hit hcase)) (fun _ => by simp [newp])
    -- `u` is a candidate: at `u = f` the entry is the weight already
    have huf : u ≠ f := by
      rintro rfl
      have e : dn L t u g = M u u + ((L.val w : G) : WithTop G) + M g g := by
        rw [hP.fin u g (.inl ⟨rfl, .inr rfl⟩)]; exact upd_of_imp hy.imp_fg
      rw [← e] at hcase
      exact hcase.elim (lt_irrefl _) fun ⟨_, h1, _⟩ => by
        rw [e, hy.diag u hf, hy.diag g hg, zero_add, add_zero] at h1; exact WithTop.coe_ne_top h1
    have hcs : Ci M f g (L.val w) u ∨ (L.spur ∧ Si M f g u) := by
      rw [hy.diag g hg, add_zero, hP.fresh u g (.inl ⟨rfl, le_rfl, huf⟩)] at hcase
      exact hcase.imp (fun h => ⟨huf, h⟩) fun ⟨hs, h1, h2⟩ => ⟨hs, (WithTop.add_eq_top.mp h1).resolve_right WithTop.coe_ne_top, h2⟩
    refine ⟨hm', fun a b hab => hfin a b ?_, fun a b hab => ?_, hP.ci.snoc hcs, hP.cj⟩
    · by_cases e : a = u ∧ b = g
      · exact .inl e
      · exact .inr (hP.fin a b (fin_col hab e))
    · rw [dn_wr L (hm.shp ▸ hfit) hu hg, if_neg (fresh_col hab).1]; exact hP.fresh a b (fresh_col hab).2
  · rw [if_neg hc] at heq
    cases heq
    obtain ⟨hn, -⟩ := g2 hc
    refine ⟨hm, fun a b hab => ?_, fun a b hab => hP.fresh a b (fresh_col hab).2, hP.ci.skip fun h => hn ?_, hP.cj⟩
    · by_cases e : a = u ∧ b = g
      · rw [e.1, e.2]; exact hm.miss hn
      · exact hP.fin a b (fin_col hab e)
    · show _ < dn L t u g
      rw [hy.diag g hg, add_zero, hP.fresh u g (.inl ⟨rfl, le_rfl, h.1⟩)]; exact h.2

theorem step_row {u : Nat} {t : Dl α} {si sj : List Nat} (hP : PP L t0 M P0 f g (L.val w) n shp (u + 1) u t si sj) (hu : u < n) :
    ((O.finiteGuard (d O t g u) && O.lt (d O t g u) (O.sub (d O t f u) w)) = true →
      PP L t0 M P0 f g (L.val w) n shp (u + 1) (u + 1)
        (wr O t f u (O.add (d O t g u) w) (p (setDist O t f u (O.add (d O t g u) w)) g u)) si (sj ++ [u])) ∧
    (¬ (O.finiteGuard (d O t g u) && O.lt (d O t g u) (O.sub (d O t f u) w)) = true →
      PP L t0 M P0 f g (L.val w) n shp (u + 1) (u + 1) t si sj) := by
  have hf := hy.hf; have hg := hy.hg
  have hm := hP.toMid
  have r2 := hm.old (hy.not_imp_row u)
  have rg : L.den (d O t g u) + ((L.val w : G) : WithTop G) = M f f + ((L.val w : G) : WithTop G) + M g u := by
    show dn L t g u + _ = _
    rw [r2.1, hy.diag f hf, zero_add, add_comm]
  have hV : L.GoodV (min (L.den (d O t f u)) (L.den (d O t g u) + ((L.val w : G) : WithTop G))) := by
    have : min (dn L t f u) (M f f + ((L.val w : G) : WithTop G) + M g u) = upd M f g (L.val w) f u :=
      le_antisymm (min_le_min (hm.le f u) le_rfl) (le_min (hm.ge f u) (upd_le_cand M f g _ f u))
    rw [rg]; exact this ▸ hy.new f u hf hu
  obtain ⟨g1, g2⟩ := L.guard (hP.good g u hg hu) (hP.good f u hf hu) hy.hw hV
  rw [rg] at g1 g2
  constructor
  · intro hc
    obtain ⟨hcase, gnew, dnew⟩ := g1 hc
    replace hcase : M f f + ((L.val w : G) : WithTop G) + M g u < dn L t f u ∨
        (L.spur ∧ M f f + ((L.val w : G) : WithTop G) + M g u = ⊤ ∧ dn L t f u = ⊤) :=
      hcase.imp_right fun ⟨hs, h1, h2⟩ => ⟨hs, by rw [← rg, h1, WithTop.top_add], h2⟩
    -- `u` is a candidate: at `u = g` the entry is the weight already
    have hug : u ≠ g := by
      rintro rfl
      have e : dn L t f u = M f f + ((L.val w : G) : WithTop G) + M u u := by
        rw [hP.fin f u (.inl ⟨rfl, .inr rfl⟩)]; exact upd_of_imp hy.imp_fg
      rw [← e] at hcase
      exact hcase.elim (lt_irrefl _) fun ⟨_, h1, _⟩ => by
        rw [e, hy.diag f hf, hy.diag u hg, zero_add, add_zero] at h1; exact WithTop.coe_ne_top h1
    obtain ⟨hm', hfin⟩ := hm.hit hfit hfitP hf hu (y := p (setDist O t f u (O.add (d O t g u) w)) g u) hcase gnew
      (dnew.trans (min_of_hit hcase)) (fun hne => by
        rw [p_congr (setDist_same _ _ _ _).2.2, r2.2 fun _ => (WithTop.add_ne_top.mp hne).2]
        simp [newp, hug])
    have hcs : Cj M f g (L.val w) u ∨ (L.spur ∧ Sj M f g u) := by
      rw [hy.diag f hf, zero_add, add_comm, hP.fresh f u (.inr ⟨rfl, le_rfl, hug⟩)] at hcase
      exact hcase.imp (fun h => ⟨hug, h⟩) fun ⟨hs, h1, h2⟩ =>
        ⟨hs, (WithTop.add_eq_top.mp h1).resolve_right WithTop.coe_ne_top, h2⟩
    refine ⟨hm', fun a b hab => hfin a b ?_, fun a b hab => ?_, hP.ci, hP.cj.snoc hcs⟩
    · by_cases e : a = f ∧ b = u
      · exact .inl e
      · exact .inr (hP.fin a b (fin_row hab e))
    · rw [dn_wr L (hm.shp ▸ hfit) hf hu, if_neg (fresh_row hab).1]; exact hP.fresh a b (fresh_row hab).2
  · intro hc
    obtain ⟨hn, -⟩ := g2 hc
    refine ⟨hm, fun a b hab => ?_, fun a b hab => hP.fresh a b (fresh_row hab).2, hP.ci, hP.cj.skip fun h => hn ?_⟩
    · by_cases e : a = f ∧ b = u
      · rw [e.1, e.2]; exact hm.miss hn
      · exact hP.fin a b (fin_row hab e)
    · show _ < dn L t f u
      rw [hy.diag f hf, zero_add, add_comm, hP.fresh f u (.inr ⟨rfl, le_rfl, h.1⟩)]; exact h.2

theorem phase1_spec : ∀ (fuel : Nat) (tz : Dl α) (u : Nat) (t : Dl α) (si sj : List Nat) (ups : List (Nat × Nat)),
    u + fuel = n → PP L t0 M P0 f g (L.val w) n shp u u t si sj →
    PP L t0 M P0 f g (L.val w) n shp n n (phase1 O tz f g w fuel u (t, si, sj, ups)).1
      (phase1 O tz f g w fuel u (t, si, sj, ups)).2.1
      (phase1 O tz f g w fuel u (t, si, sj, ups)).2.2.1 := by
  intro fuel
  induction fuel with
  | zero =>
    intro tz u t si sj ups hu hP
    have : u = n := by omega
    subst this
    simpa [phase1] using hP
  | succ m ih =>
    intro tz u t si sj ups hu hP
    rw [phase1]
    split
    rename_i t1 si1 ups1 heq1
    have q1 := step_col L hy hfit hfitP hP (by omega) ups heq1
    have q2 := step_row L hy hfit hfitP q1 (by omega)
    dsimp only
    split
    · rename_i hc
      exact ih _ _ _ _ _ _ (by omega) (q2.1 hc)
    · rename_i hc
      exact ih _ _ _ _ _ _ (by omega) (q2.2 hc)

def innerF (O : DOps α) (g i : Nat) : Dl α × List (Nat × Nat) → Nat → Dl α × List (Nat × Nat) :=
  fun acc j =>
    let (t, ups) := acc
    if i != j && O.lt (O.add (d O t i g) (d O t g j)) (d O t i j) then
      let t := setDist O t i j (O.add (d O t i g) (d O t g j))
      let t := setPred t i j (p t g j)
      (t, ups ++ [(i, j), (j, i)])
    else (t, ups)

omit hy hfit hfitP in
theorem phase2_eq (t : Dl α) (g : Nat) (si sj : List Nat) (ups : List (Nat × Nat)) :
    phase2 O t g si sj ups = si.foldl (fun acc i => sj.foldl (innerF O g i) acc) (t, ups) := rfl

/-- invariant of the second loop: column `g`, row `f` and the pairs in `S` are final -/
structure Q2 (t0 : Dl α) (M : Mat G) (P0 : Nat → Nat → Nat) (f g : Nat) (wv : G) (n : Nat) (shp : List Nat × List Nat)
    (S : Nat → Nat → Prop) (t : Dl α) : Prop extends Mid L t0 M P0 f g wv n shp t where
  fin : ∀ a b, ((b = g ∧ a < n) ∨ (a = f ∧ b < n)) ∨ S a b → dn L t a b = upd M f g wv a b

omit hy hfit hfitP in
theorem Q2.mono {S S' : Nat → Nat → Prop} {t : Dl α} {wv : G} (h : Q2 L t0 M P0 f g wv n shp S t)
    (hS : ∀ a b, S' a b → S a b) : Q2 L t0 M P0 f g wv n shp S' t :=
  ⟨h.toMid, fun a b hs => h.fin a b (hs.imp_right (hS a b))⟩

theorem inner_step {S : Nat → Nat → Prop} {i j : Nat} (hi : i < n) (hj : j < n)
    (ci : Ci M f g (L.val w) i ∨ (L.spur ∧ Si M f g i)) (cj : Cj M f g (L.val w) j ∨ (L.spur ∧ Sj M f g j))
    (acc : Dl α × List (Nat × Nat)) (hQ : Q2 L t0 M P0 f g (L.val w) n shp S acc.1) :
    Q2 L t0 M P0 f g (L.val w) n shp (fun a b => S a b ∨ (a = i ∧ b = j)) (innerF O g i acc j).1 := by
  obtain ⟨t, ups⟩ := acc
  replace hQ : Q2 L t0 M P0 f g (L.val w) n shp S t := hQ
  have hm := hQ.toMid
  have hg := hy.hg
  have hdg := hy.diag g hg
  have hjg : j ≠ g := by
    rcases cj with c | ⟨_, c⟩
    · exact c.1
    · rintro rfl; exact WithTop.zero_ne_top (hdg.symm.trans c.1)
  -- the two entries the test adds up are the candidate of the cell `(i, j)`
  have r1 : L.den (d O t i g) = M i f + ((L.val w : G) : WithTop G) := by
    show dn L t i g = _
    rw [hQ.fin i g (.inl (.inl ⟨rfl, hi⟩))]
    show min (M i g) (M i f + _ + M g g) = _
    rw [hdg, add_zero]
    rcases ci with c | ⟨_, c⟩
    · exact min_eq_right (le_of_lt c.2)
    · rw [c.1, c.2, WithTop.top_add, min_self]
  have r2 := hm.old (hy.not_imp_row j)
  have hfin : L.spur ∨ (L.den (d O t i g) ≠ ⊤ ∧ L.den (d O t g j) ≠ ⊤) := by
    rcases ci with c | ⟨hs, _⟩
    · rcases cj with c' | ⟨hs, _⟩
      · exact .inr ⟨by rw [r1]; exact ne_top_of_lt c.2, by
          rw [show L.den (d O t g j) = M g j from r2.1]; exact (WithTop.add_ne_top.mp (ne_top_of_lt c'.2)).1⟩
      · exact .inl hs
    · exact .inl hs
  obtain ⟨t2e, t2i⟩ := L.test2 (hQ.good i g hi hg) (hQ.good g j hg hj) (hQ.good i j hi hj) hfin
  rw [r1, show L.den (d O t g j) = M g j from r2.1] at t2e t2i
  unfold innerF
  dsimp only
  by_cases hc : (i != j && O.lt (O.add (d O t i g) (d O t g j)) (d O t i j)) = true
  · rw [if_pos hc]
    rw [Bool.and_eq_true] at hc
    have hcase := t2e hc.2
    obtain ⟨gnew, dnew⟩ := L.add (hQ.good i g hi hg) (hQ.good g j hg hj) hfin
      (by rw [r1, show L.den (d O t g j) = M g j from r2.1, ← hm.hit_val hcase]; exact hy.new i j hi hj)
    rw [r1, show L.den (d O t g j) = M g j from r2.1] at dnew
    obtain ⟨hm', hfin'⟩ := hm.hit hfit hfitP hi hj (y := p (setDist O t i j (O.add (d O t i g) (d O t g j))) g j) hcase gnew dnew
      (fun hne => by
        rw [p_congr (setDist_same _ _ _ _).2.2, r2.2 fun _ => (WithTop.add_ne_top.mp hne).2]
        simp [newp, hjg])
    exact ⟨hm', fun a b hab => hfin' a b (hab.elim (fun h => .inr (hQ.fin a b (.inl h)))
      fun h => h.elim (fun h => .inr (hQ.fin a b (.inr h))) .inl)⟩
  · rw [if_neg hc]
    refine ⟨hm, fun a b hab => hab.elim (fun h => hQ.fin a b (.inl h)) fun h => h.elim (fun h => hQ.fin a b (.inr h)) ?_⟩
    rintro ⟨rfl, rfl⟩
    by_cases hab : a = b
    · subst hab
      rw [(hm.old (hy.not_imp_diag hi)).1, hy.upd_diag a hi, hy.diag a hi]
    · exact hm.miss fun h => hc (by rw [Bool.and_eq_true]; exact ⟨by simpa using hab, t2i h⟩)

omit hy hfit hfitP in
theorem Q2.foldl {β : Type} {wv : G} (F : Dl α × List (Nat × Nat) → β → Dl α × List (Nat × Nat))
    (T : β → Nat → Nat → Prop) (P : β → Prop)
    (step : ∀ (S : Nat → Nat → Prop) (acc : Dl α × List (Nat × Nat)) (x : β), P x →
      Q2 L t0 M P0 f g wv n shp S acc.1 → Q2 L t0 M P0 f g wv n shp (fun a b => S a b ∨ T x a b) (F acc x).1) :
    ∀ (l : List β), (∀ x ∈ l, P x) → ∀ (S : Nat → Nat → Prop) (acc : Dl α × List (Nat × Nat)),
      Q2 L t0 M P0 f g wv n shp S acc.1 →
      Q2 L t0 M P0 f g wv n shp (fun a b => S a b ∨ ∃ x ∈ l, T x a b) (l.foldl F acc).1 := by
  intro l
  induction l with
  | nil =>
    intro _ S acc hQ
    exact hQ.mono L (fun a b h => h.elim id (fun ⟨x, hx, _⟩ => absurd hx List.not_mem_nil))
  | cons x l ih =>
    intro hl S acc hQ
    rw [List.foldl_cons]
    refine (ih (fun y hy => hl y (List.mem_cons_of_mem _ hy)) _ _ (step S acc x (hl x List.mem_cons_self) hQ)).mono L ?_
    rintro a b (h | ⟨y, hy, hT⟩)
    · exact Or.inl (Or.inl h)
    · rcases List.mem_cons.mp hy with rfl | hy
      · exact Or.inl (Or.inr hT)
      · exact Or.inr ⟨y, hy, hT⟩
end

section
variable {M : Mat G} {P0 : Nat → Nat → Nat} {f g : Nat} {w : α} {n : Nat} {shp : List Nat × List Nat}
  (hy : UHyp L n M f g w) (hfit : Fits n shp) (hfitP : FitsP n shp)
include hy hfit hfitP

theorem propagateEdge_spec (s : Sat) (t : Dl α) (hM : M = dn L t) (hP0 : P0 = p t) (hn : t.nVars = n) (hshp : shape t = shp)
    (hgood : ∀ a b, a < n → b < n → L.Good (d O t a b)) :
    let t' := (propagateEdge O s t f g w).2
    t'.nVars = n ∧ shape t' = shp ∧
    (∀ a b, a < n → b < n → L.Good (d O t' a b)) ∧
    (∀ a b, ¬ (a < n ∧ b < n) → d O t' a b = d O t a b) ∧
    ∀ a b, a < n → b < n → dn L t' a b = upd M f g (L.val w) a b ∧
      (Imp M f g (L.val w) a b → p t' a b = newp P0 f g b) ∧
        (¬ Imp M f g (L.val w) a b → (L.spur → M a b ≠ ⊤) → p t' a b = P0 a b) := by
  have hf := hy.hf; have hg := hy.hg
  obtain ⟨gw, dw⟩ := L.wt hy.hw
  have hS0 : Mid L t M P0 f g (L.val w) n shp t :=
    ⟨hn, hgood, fun _ _ _ => rfl, fun a b => Or.inl ⟨by rw [hM], fun _ => by rw [hP0]⟩, hshp⟩
  -- the first write: the weight into `(f, g)`
  obtain ⟨hS1, hfin1⟩ := hS0.hit hfit hfitP hf hg (y := f) (.inl (by rw [← hM]; exact hy.imp_fg)) gw
    (by rw [dw, hy.diag f hf, hy.diag g hg, zero_add, add_zero]) (fun _ => by simp [newp])
  have hP0' : PP L t M P0 f g (L.val w) n shp 0 0 (wr O t f g w f) [] [] := by
    refine ⟨hS1, fun a b hab => hfin1 a b (.inl (hab.elim
      (fun h => ⟨h.2.resolve_left (Nat.not_lt_zero a), h.1⟩) fun h => absurd h.2 (Nat.not_lt_zero b))), fun a b hab => ?_, ⟨by simp, by simp⟩, ⟨by simp, by simp⟩⟩
    rw [dn_wr L (hshp ▸ hfit) hf hg, if_neg fun e => hab.elim (fun h => h.2.2 e.1) fun h => h.2.2 e.2, hM]
  have hnv0 : (wr O t f g w f).nVars = n := by rw [nVars_wr, hn]
  have hP1 := phase1_spec L hy hfit hfitP n (wr O t f g w f) 0 (wr O t f g w f) [] [] [(f, g), (g, f)] (by omega) hP0'
  have e : ∀ m, m = (wr O t f g w f).nVars → (propagateEdge O s t f g w).2 =
      (phase2 O (phase1 O (wr O t f g w f) f g w m 0 (wr O t f g w f, [], [], [(f, g), (g, f)])).1 g
        (phase1 O (wr O t f g w f) f g w m 0 (wr O t f g w f, [], [], [(f, g), (g, f)])).2.1
        (phase1 O (wr O t f g w f) f g w m 0 (wr O t f g w f, [], [], [(f, g), (g, f)])).2.2.1
        (phase1 O (wr O t f g w f) f g w m 0 (wr O t f g w f, [], [], [(f, g), (g, f)])).2.2.2).1 := by
    intro m hm; subst hm; rfl
  have e' := e n hnv0.symm
  generalize phase1 O (wr O t f g w f) f g w n 0 (wr O t f g w f, [], [], [(f, g), (g, f)]) = r at hP1 e'
  obtain ⟨t1, si, sj, ups⟩ := r
  simp only at hP1 e'
  have hQ0 : Q2 L t M P0 f g (L.val w) n shp (fun _ _ => False) (t1, ups).1 :=
    ⟨hP1.toMid, fun a b h => hP1.fin a b (h.elim (Or.imp_left fun h => ⟨h.1, .inl h.2⟩) False.elim)⟩
  have hQ := Q2.foldl L (fun acc i => sj.foldl (innerF O g i) acc) (fun i a b => ∃ j ∈ sj, a = i ∧ b = j)
    (fun i => i < n ∧ (Ci M f g (L.val w) i ∨ (L.spur ∧ Si M f g i)))
    (fun S acc i hi hQ => Q2.foldl L (innerF O g i) (fun j a b => a = i ∧ b = j)
      (fun j => j < n ∧ (Cj M f g (L.val w) j ∨ (L.spur ∧ Sj M f g j)))
      (fun S acc j hj hQ => inner_step L hy hfit hfitP hi.1 hj.1 hi.2 hj.2 acc hQ) sj hP1.cj.sub S acc hQ)
    si hP1.ci.sub _ _ hQ0
  rw [← phase2_eq, ← e'] at hQ
  refine ⟨hQ.nv, hQ.shp, hQ.good, hQ.out, ?_⟩
  intro a b ha hb
  by_cases himp : Imp M f g (L.val w) a b
  · -- improved: in column `g`, in row `f`, or visited by the second loop
    have hd : dn L (propagateEdge O s t f g w).2 a b = upd M f g (L.val w) a b := by
      by_cases hbg : b = g
      · exact hQ.fin a b (.inl (.inl ⟨hbg, ha⟩))
      by_cases haf : a = f
      · exact hQ.fin a b (.inl (.inr ⟨haf, hb⟩))
      obtain ⟨hci, hcj⟩ := imp_cands hy.toUpdHyp ha hb haf hbg himp
      exact hQ.fin a b (.inr (.inr ⟨a, hP1.ci.sup a ha hci, b, hP1.cj.sup b hb hcj, rfl, rfl⟩))
    refine ⟨hd, fun _ => ?_, fun h => absurd himp h⟩
    rcases hQ.cell a b with ⟨h1, _⟩ | ⟨_, _, h2⟩
    · rw [hd, upd_of_imp himp] at h1
      exact absurd himp (by unfold Imp; rw [h1]; exact lt_irrefl _)
    · exact h2
  · obtain ⟨h1, h2⟩ := hQ.toMid.old himp
    exact ⟨h1.trans (upd_of_nimp himp).symm, fun h => absurd h himp, fun _ => h2⟩
end

end DlG
end Oratio
