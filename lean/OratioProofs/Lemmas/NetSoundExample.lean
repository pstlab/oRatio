/-
C07N, non-vacuity: the IDL cycle of C10X under three DECISIONS.

SAT core: three variables, `assume b1`, `assume ¬b2`, `assume b3` (run through the C07 step function,
so that C07's invariant is available).  IDL theory: `b1 : x3 - x1 ≤ 5`, `b2 : x3 - x2 ≤ 2`,
`b3 : x1 - x2 ≤ -3`, with `b1`, `¬b2` already propagated.  `theoryPropagate` of `b3` returns the conflict
clause `[b2, ¬b1, ¬b3]`; `learnFrom` analyses it (first UIP `b3`), backjumps to level 2 and records it.
-/
import OratioProofs.Lemmas.NetSatInv

namespace Oratio
namespace NetEx
open C10XExample Net

deriving instance DecidableEq for Sat

def runL (fuel : Nat) : Sat × Cnf → List Sat.Op → Option (Sat × Cnf)
  | st, [] => some st
  | st, op :: ops => match Sat.stepL fuel st.1 st.2 op with
    | none => none
    | some (s', o', _) => runL fuel (s', o') ops

theorem runL_inv (fuel : Nat) : ∀ (ops : List Sat.Op) (st st' : Sat × Cnf), Sat.InvB st.2 st.1 →
    runL fuel st ops = some st' → Sat.InvB st'.2 st'.1
  | [], st, st', h, he => by
    simp only [runL, Option.some.injEq] at he; subst he; exact h
  | op :: ops, st, st', h, he => by
    unfold runL at he
    split at he
    · cases he
    · rename_i s' o' b hs
      exact runL_inv fuel ops (s', o') st' (Sat.step_spec h hs).inv he

def exOps : List Sat.Op := [.newVar, .newVar, .newVar, .assume ⟨1, true⟩, .assume ⟨2, false⟩, .assume ⟨3, true⟩]
def exS : Sat × Cnf := (runL 100 (Sat.init, []) exOps).getD (Sat.init, [])

theorem exS_run : runL 100 (Sat.init, []) exOps = some exS := ListAux.eq_some_getD _ (by decide)

theorem exS_invB : Sat.InvB [] exS.1 := by
  have := runL_inv 100 exOps (Sat.init, []) exS Sat.init_invB exS_run
  rw [show exS.2 = [] by decide] at this
  exact this

/-- the IDL theory after `propagate(b1)`, `propagate(¬b2)` under the SAT state with the three decisions -/
def qA := getR (Dl.propagateLit idlOps exS.1 r3.2.2 ⟨1, true⟩)
def qB := getR (Dl.propagateLit idlOps qA.1 qA.2 ⟨2, false⟩)

def exCnfl : List Lit := [⟨2, true⟩, ⟨1, false⟩, ⟨3, false⟩]

theorem qB_sat : qB.1 = exS.1 := by decide

theorem exIdl : IdlBase exS.1 qB.2 ∧ Dl.propagateLit idlOps exS.1 qB.2 ⟨3, true⟩ = .inl exCnfl := by
  have q3 := r3_inv
  have hle : Dl.SatLe r3.2.1 exS.1 := Sat.satLe_of_vals (by decide)
  have pA0 : Dl.PathInv exS.1 r3.2.2 := C10X_assign_pathinv _ _ _ q3.2 hle
  have hs0 : Undo.SortedK r3.2.2.distConstr := by
    rw [show r3.2.2.distConstr = [] by decide]; exact Undo.sortedK_nil
  have hA : Dl.propagateLit idlOps exS.1 r3.2.2 ⟨c1.b, true⟩ = .inr (qA.1, qA.2) := inr_of _ (by decide)
  have sA' := C10X_propagate_pathinv 10 [] exS.1 qA.1 r3.2.2 qA.2 q3.1 pA0 c1 (by decide) true (by decide) (by decide) hA
  have hsA := propagateLit_sorted idlOps hs0 ⟨c1.b, true⟩ hA
  have hB : Dl.propagateLit idlOps qA.1 qA.2 ⟨c2.b, false⟩ = .inr (qB.1, qB.2) := inr_of _ (by decide)
  have sB' := C10X_propagate_pathinv 10 _ qA.1 qB.1 qA.2 qB.2 sA'.2.1 sA'.1 c2 (by decide) false (by decide) (by decide) hB
  have hsB := propagateLit_sorted idlOps hsA ⟨c2.b, false⟩ hB
  have hC : Dl.propagateLit idlOps qB.1 qB.2 ⟨c3.b, true⟩ = .inl exCnfl := inl_of _ _ (by decide) (by decide)
  rw [qB_sat] at hC sB'
  refine ⟨⟨⟨10, _, sB'.2.1, ?_⟩, sB'.1, hsB⟩, hC⟩
  intro c hc
  have hv : qB.2.varDists = [c1, c2, c3] := by decide
  rw [hv] at hc
  simp only [List.mem_cons, List.not_mem_nil, or_false] at hc
  rcases hc with rfl | rfl | rfl <;> decide

/-- the network: SAT core with the three decisions, the IDL theory above, empty LRA and RDL theories -/
def exNet : Net := ⟨exS.1, Lra.init, qB.2, Dl.init rdlOps, [(1, .idl), (2, .idl), (3, .idl)]⟩

theorem exNet_thInv : ThInv exNet [] [] :=
  ⟨LraBase.init (by decide), exIdl.1, RdlBase.init _⟩

theorem exNet_propagate : theoryPropagate exNet ⟨3, true⟩ = (some exCnfl, exNet) := by
  unfold theoryPropagate
  rw [show exNet.theoryOf (⟨3, true⟩ : Lit).var = some Th.idl by decide]
  simp only
  rw [show Dl.propagateLit idlOps exNet.sat exNet.idl ⟨3, true⟩ = .inl exCnfl from exIdl.2]

theorem exNet_conflict : TEntails exNet [] exCnfl ∧ ∀ l ∈ exCnfl, exNet.sat.value l = some false := by
  have h := (theoryPropagate_spec exNet_thInv ⟨3, true⟩ (by decide)).2.2.2.2 exCnfl (by rw [exNet_propagate])
  rw [exNet_propagate] at h
  exact h

theorem exNet_satInv : SatInv exNet [] [] :=
  ⟨(exS_invB.inv 0).wf, (exS_invB.inv 0).ent, fun c hc => by cases hc⟩

def exNet' : Net := (learnFrom exNet exCnfl).getD exNet

theorem exNet_learn : learnFrom exNet exCnfl = some exNet' := ListAux.eq_some_getD _ (by decide)

end NetEx
end Oratio
