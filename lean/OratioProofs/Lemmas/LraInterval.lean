/-
The interval evaluation `lb(lin)` / `ub(lin)` and the row sums of bound propagation, over bounds that may be infinite:
a positive factor keeps the side, a negative one exchanges the two, so `Side.lin` is at once the statement about
`lb(lin)` and about `ub(lin)`.  `value(lin)` over finite values is exact.
-/
import OratioModel
import OratioProofs.Lemmas.Lin
import OratioProofs.Lemmas.InfRational
import Mathlib.Algebra.Order.Field.Rat
import OratioProofs.Lemmas.LraSide

namespace Oratio
namespace Lra
open IR

/-- the left side is `LowOK` / `UpOK` (LraRelSemDefs) unfolded: the `ε` part is finite at infinity too -/
theorem sok_and_inf {d : Side} {b : IR} :
    (R.FinWF b.inf ∧ (R.FinWF b.rat ∨ b.rat = d.inf)) ↔ SOk d b ∧ R.FinWF b.inf :=
  ⟨fun h => ⟨h.2.imp (fun r => ⟨r, h.1⟩) id, h.1⟩, fun h => ⟨h.2, h.1.imp And.left id⟩⟩

theorem SOk.rat_wf {d : Side} {b : IR} (h : SOk d b) : b.rat.WF := h.elim (fun hf => hf.1.1) fun hi => hi ▸ d.inf_wf

theorem fin_mulR {b : IR} {c : R} (hb : IR.Fin b) (hc : R.FinWF c) :
    IR.Fin (IR.mulR b c) ∧ IR.val (IR.mulR b c) = c.toRat • IR.val b := by
  obtain ⟨a1, a2⟩ := R.mul_fin hb.1 hc
  obtain ⟨b1, b2⟩ := R.mul_fin hb.2 hc
  refine ⟨⟨a1, b1⟩, ?_⟩
  show (toLex ((R.mul b.rat c).toRat, (R.mul b.inf c).toRat) : QV) = _
  rw [a2, b2, mul_comm, mul_comm b.inf.toRat]; rfl

/-- `m` is the product `c·b` as the model computes it: `IR.mulR b c` in `lb(lin)`, `IR.rMul c b` in the row sums -/
structure IsMul (c : R) (b m : IR) : Prop where
  fin : IR.Fin b → IR.Fin m ∧ IR.val m = c.toRat • IR.val b
  rat : b.rat.den = 0 → m.rat = R.mul b.rat c

theorem isMul_mulR {c : R} (hc : R.FinWF c) (b : IR) : IsMul c b (IR.mulR b c) := ⟨fun hb => fin_mulR hb hc, fun _ => rfl⟩

theorem isMul_rMul {c : R} (hc : R.FinWF c) {d : Side} {b : IR} (hb : SOk d b) : IsMul c b (IR.rMul c b) :=
  ⟨fun hf => fin_rMul hc hf, fun hd => R.mul_inf_comm hc.1 hb.rat_wf (Or.inr hd)⟩

theorem Side.scale_pos (d : Side) {c : R} {b m : IR} (hm : IsMul c b m) (hc : R.FinWF c) (h : 0 < c.num) (hb : SOk d b) :
    SOk d m ∧ ∀ v, d.holds m (c.toRat • v) ↔ d.holds b v := by
  rcases hb with hf | hi
  · obtain ⟨t1, t2⟩ := hm.fin hf
    refine ⟨Or.inl t1, fun v => ?_⟩
    rw [d.holds_fin t1, d.holds_fin hf, t2]
    exact Side.smul_le_iff ((R.toRat_pos_iff hc).2 h)
  · have e : m.rat = d.inf := by rw [hm.rat (hi ▸ d.inf_den), hi, R.mul_inf_pos d.inf_wf d.inf_den hc.1 h]
    exact ⟨Or.inr e, fun v => iff_of_true (Side.holds_inf e _) (Side.holds_inf hi _)⟩

theorem Side.scale_neg (d : Side) {c : R} {b m : IR} (hm : IsMul c b m) (hc : R.FinWF c) (h : c.num < 0) (hb : SOk d.flip b) :
    SOk d m ∧ ∀ v, d.holds m (c.toRat • v) ↔ d.flip.holds b v := by
  rcases hb with hf | hi
  · obtain ⟨t1, t2⟩ := hm.fin hf
    refine ⟨Or.inl t1, fun v => ?_⟩
    rw [d.holds_fin t1, d.flip.holds_fin hf, t2]
    exact Side.smul_le_flip_iff ((R.toRat_neg_iff hc).2 h)
  · have e : m.rat = d.inf := by
      rw [hm.rat (hi ▸ d.flip.inf_den), hi, R.mul_inf_neg d.flip.inf_wf d.flip.inf_den hc.1 h, d.neg_flip_inf]
    exact ⟨Or.inr e, fun v => iff_of_true (Side.holds_inf e _) (Side.holds_inf hi _)⟩

/-- `c ≠ 0`: a zero coefficient would turn an infinite bound into `+∞` on either side -/
theorem Side.term (d : Side) {p n : IR} {c : R} (hp : SOk d p) (hn : SOk d.flip n) (hc : R.FinWF c) (hz : c.num ≠ 0) :
    SOk d (IR.mulR (if c.isPositive then p else n) c) ∧
      ∀ v, d.holds p v → d.flip.holds n v → d.holds (IR.mulR (if c.isPositive then p else n) c) (c.toRat • v) := by
  by_cases h : 0 < c.num
  · rw [if_pos ((R.isPositive_iff c).2 h)]
    exact (d.scale_pos (isMul_mulR hc p) hc h hp).imp_right fun k v hv _ => (k v).2 hv
  · rw [if_neg (mt (R.isPositive_iff c).1 h)]
    exact (d.scale_neg (isMul_mulR hc n) hc (by omega) hn).imp_right fun k v _ hv => (k v).2 hv

theorem SOk.addAssign {d : Side} {s0 term : IR} (h0 : SOk d s0) (ht : SOk d term) :
    SOk d (IR.addAssign s0 term) ∧ (IR.Fin (IR.addAssign s0 term) → IR.Fin s0 ∧ IR.Fin term) := by
  have inf : (IR.addAssign s0 term).rat = d.inf →
      SOk d (IR.addAssign s0 term) ∧ (IR.Fin (IR.addAssign s0 term) → IR.Fin s0 ∧ IR.Fin term) :=
    fun e => ⟨Or.inr e, fun hf => absurd hf (SOk.not_fin e)⟩
  rcases ht with ht | ht
  · rcases h0 with h0 | h0
    · exact ⟨Or.inl (fin_addAssign h0 ht).1, fun _ => ⟨h0, ht⟩⟩
    · refine inf ?_
      show R.addAssign s0.rat term.rat = d.inf
      rw [h0, R.addAssign_infinite_left d.inf_wf d.inf_den ht.1.2]
  · refine inf ?_
    show R.addAssign s0.rat term.rat = d.inf
    rw [ht, R.addAssign_infinite_right d.inf_den]

theorem Side.add {d : Side} {a b : IR} (ha : SOk d a) (hb : SOk d b) :
    SOk d (IR.addAssign a b) ∧ ∀ v w, d.holds a v → d.holds b w → d.holds (IR.addAssign a b) (v + w) := by
  obtain ⟨h1, h2⟩ := SOk.addAssign ha hb
  refine ⟨h1, fun v w hv hw => ?_⟩
  rcases h1 with hf | hi
  · obtain ⟨fa, fb⟩ := h2 hf
    rw [d.holds_fin hf, (fin_addAssign fa fb).2]
    exact Side.le_trans (Side.add_le_add_right ((d.holds_fin fa _).1 hv) _) (Side.add_le_add_left ((d.holds_fin fb _).1 hw) _)
  · exact Side.holds_inf hi _

theorem Side.fold (d : Side) {g : Nat × R → IR} : ∀ (vs : List (Nat × R)) (acc : IR),
    (∀ e ∈ vs, SOk d (g e)) → SOk d acc →
    SOk d (vs.foldl (fun b e => IR.addAssign b (g e)) acc) ∧
      ∀ ν : Nat → QV, (∀ e ∈ vs, d.holds (g e) (e.2.toRat • ν e.1)) → ∀ s, d.holds acc s →
        d.holds (vs.foldl (fun b e => IR.addAssign b (g e)) acc) (s + sumQ ν vs)
  | [], _, _, ha => ⟨ha, fun ν _ s hs => by rw [sumQ_nil, add_zero]; exact hs⟩
  | (k, c) :: vs, acc, hg, ha => by
    obtain ⟨g1, g2⟩ := List.forall_mem_cons.1 hg
    obtain ⟨a1, a2⟩ := Side.add ha g1
    obtain ⟨r1, r2⟩ := Side.fold d vs _ g2 a1
    refine ⟨r1, fun ν hb s hs => ?_⟩
    obtain ⟨b1, b2⟩ := List.forall_mem_cons.1 hb
    rw [sumQ_cons, ← add_assoc]
    exact r2 ν b2 _ (a2 _ _ hs b1)

def linBd (bp bn : Nat → IR) (l : Lin) : IR :=
  l.vars.foldl (fun b e => IR.addAssign b (IR.mulR (if e.2.isPositive then bp e.1 else bn e.1) e.2)) (IR.ofR l.known)

/-- `lb(lin)` (`d = lo`, `bp = lb`, `bn = ub`) and `ub(lin)` (`d = hi`, `bp = ub`, `bn = lb`) at once -/
theorem Side.lin (d : Side) {bp bn : Nat → IR} {l : Lin} (hl : l.WF) (hnz : ∀ p ∈ l.vars, p.2.num ≠ 0)
    (hb : ∀ p ∈ l.vars, SOk d (bp p.1) ∧ SOk d.flip (bn p.1)) :
    SOk d (linBd bp bn l) ∧
      ∀ ν : Nat → QV, (∀ p ∈ l.vars, d.holds (bp p.1) (ν p.1) ∧ d.flip.holds (bn p.1) (ν p.1)) →
        d.holds (linBd bp bn l) (evalQ l ν) := by
  obtain ⟨_, hw, hk⟩ := (Lin.wf_iff l).mp hl
  have ht := fun e he => d.term (hb e he).1 (hb e he).2 (hw e he) (hnz e he)
  obtain ⟨f0, v0⟩ := fin_ofR hk
  obtain ⟨f1, f2⟩ := d.fold l.vars (IR.ofR l.known) (fun e he => (ht e he).1) (Or.inl f0)
  refine ⟨f1, fun ν hν => ?_⟩
  unfold evalQ
  rw [add_comm, ← v0]
  exact f2 ν (fun e he => (ht e he).2 _ (hν e he).1 (hν e he).2) _ ((d.holds_fin f0 _).2 (d.le_refl _))

theorem lbLin_ubLin_holds {t : Lra} {l : Lin} (hl : l.WF) (hnz : ∀ p ∈ l.vars, p.2.num ≠ 0)
    (hb : ∀ p ∈ l.vars, LbOk (t.lb p.1) ∧ UbOk (t.ub p.1)) {ν : Nat → QV}
    (hν : ∀ p ∈ l.vars, BLe (t.lb p.1) (ν p.1) ∧ VLe (ν p.1) (t.ub p.1)) :
    BLe (t.lbLin l) (evalQ l ν) ∧ VLe (evalQ l ν) (t.ubLin l) :=
  ⟨(Side.lin .lo hl hnz hb).2 ν hν, (Side.lin .hi hl hnz fun p hp => (hb p hp).symm).2 ν fun p hp => (hν p hp).symm⟩

theorem fold_inf_fin {g : Nat × R → IR} : ∀ (vs : List (Nat × R)) (acc : IR), Lin.CoefWF vs → R.FinWF acc.inf →
    (∀ e ∈ vs, R.FinWF (g e).inf) →
    R.FinWF (vs.foldl (fun b e => IR.addAssign b (IR.mulR (g e) e.2)) acc).inf
  | [], _, _, ha, _ => ha
  | e :: vs, _, hw, ha, hg =>
    fold_inf_fin vs _ (Lin.coefWF_cons.1 hw).2
      (R.finWF_addAssign ha (R.mul_fin (hg e List.mem_cons_self) (Lin.coefWF_cons.1 hw).1).1)
      fun e' he' => hg e' (List.mem_cons_of_mem _ he')

theorem linBd_inf_fin {bp bn : Nat → IR} {l : Lin} (hl : l.WF)
    (h : ∀ p ∈ l.vars, R.FinWF (bp p.1).inf ∧ R.FinWF (bn p.1).inf) : R.FinWF (linBd bp bn l).inf :=
  fold_inf_fin l.vars _ ((Lin.wf_iff l).1 hl).2.1 R.finWF_zero fun e he => by
    split
    · exact (h e he).1
    · exact (h e he).2

theorem fold_exact {v : Nat → IR} (hv : ∀ x, R.FinWF (v x).rat ∧ R.FinWF (v x).inf) :
    ∀ (vs : List (Nat × R)) (acc : IR), Lin.CoefWF vs → R.FinWF acc.rat ∧ R.FinWF acc.inf →
    let r := vs.foldl (fun b e => IR.addAssign b (IR.mulR (v e.1) e.2)) acc
    (R.FinWF r.rat ∧ R.FinWF r.inf) ∧
      r.rat.toRat = acc.rat.toRat + Lin.sumS (fun x => (v x).rat.toRat) vs ∧
      r.inf.toRat = acc.inf.toRat + Lin.sumS (fun x => (v x).inf.toRat) vs
  | [], acc, _, ha => ⟨ha, by rw [Lin.sumS_nil, add_zero]; rfl, by rw [Lin.sumS_nil, add_zero]; rfl⟩
  | (k, c) :: vs, acc, hw, ha => by
    obtain ⟨hc, hw'⟩ := Lin.coefWF_cons.1 hw
    obtain ⟨m1, m1'⟩ := R.mul_fin (hv k).1 hc
    obtain ⟨m2, m2'⟩ := R.mul_fin (hv k).2 hc
    obtain ⟨r1, r2, r3⟩ := fold_exact hv vs (IR.addAssign acc (IR.mulR (v k) c)) hw'
      ⟨R.finWF_addAssign ha.1 m1, R.finWF_addAssign ha.2 m2⟩
    refine ⟨r1, r2.trans ?_, r3.trans ?_⟩
    · show (R.addAssign acc.rat (R.mul (v k).rat c)).toRat + _ = _
      rw [R.toRat_addAssign ha.1 m1, m1', Lin.sumS_cons, mul_comm, add_assoc]
    · show (R.addAssign acc.inf (R.mul (v k).inf c)).toRat + _ = _
      rw [R.toRat_addAssign ha.2 m2, m2', Lin.sumS_cons, mul_comm, add_assoc]

theorem valueLin_exact (t : Lra) {l : Lin} (hl : l.WF) (hv : ∀ x, IR.Fin (t.value x)) :
    IR.Fin (t.valueLin l) ∧ (t.valueLin l).rat.toRat = Lin.evalS l t.ratAssign ∧
    (t.valueLin l).inf.toRat = Lin.evalS { l with known := R.zero } t.infAssign := by
  obtain ⟨-, lw, lk⟩ := (Lin.wf_iff l).1 hl
  obtain ⟨f1, f2, f3⟩ := fold_exact hv l.vars (IR.ofR l.known) lw ⟨lk, R.finWF_zero⟩
  refine ⟨f1, f2.trans (add_comm _ _), f3.trans ?_⟩
  show R.zero.toRat + _ = _ + R.zero.toRat
  exact add_comm _ _

end Lra

end Oratio
