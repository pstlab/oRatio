/-
Lemmas on the pulse sweep: timelines, usage of a reusable resource.
-/
import OratioProofs.Lemmas.SweepInv

namespace Oratio.Sweep

theorem After.mem_iff {as : List TAtom} (hnd : (as.map (·.id)).Nodup) {cur : List Nat} {p : Time}
    (h : After as cur p) {a : TAtom} (ha : a ∈ as) : a.id ∈ cur ↔ covers a p = true := by
  rw [h a.id]
  constructor
  · rintro ⟨b, hb, hi, hc⟩
    rwa [List.inj_on_of_nodup_map hnd hb ha hi] at hc
  · intro hc; exact ⟨a, ha, rfl, hc⟩

theorem covers_lo_iff {as : List TAtom} {lo hi : Time} (hg : Gap as lo hi) (hlt : tlt lo hi = true)
    {a : TAtom} (ha : a ∈ as) :
    covers a lo = true ↔ (tle a.start lo = true ∧ tle hi a.stop = true ∧ tlt a.start a.stop = true) := by
  rw [covers_iff]
  exact ⟨fun ⟨h1, h2⟩ => ⟨h1, (hg a ha).2.resolve_left (not_tle_of_tlt h2), tlt_of_tle_of_tlt h1 h2⟩,
    fun ⟨h3, h4, _⟩ => ⟨h3, tlt_of_tlt_of_tle hlt h4⟩⟩

theorem covers_eq_of_no_pulse {a : TAtom} {lo t : Time} (h1 : tle lo t = true)
    (hs : tle a.start lo = true ∨ tlt t a.start = true) (he : tle a.stop lo = true ∨ tlt t a.stop = true) :
    covers a t = covers a lo := by
  have e1 : tle a.start t = tle a.start lo := by
    rcases hs with h | h
    · rw [h, tle_trans h h1]
    · rw [Bool.eq_false_iff.2 (not_tle_of_tlt h), Bool.eq_false_iff.2 (not_tle_of_tlt (tlt_of_tle_of_tlt h1 h))]
  have e2 : tlt t a.stop = tlt lo a.stop := by
    rcases he with h | h
    · rw [Bool.eq_false_iff.2 fun h' => not_tle_of_tlt h' (tle_trans h h1),
        Bool.eq_false_iff.2 fun h' => not_tle_of_tlt h' h]
    · rw [h, tlt_of_tle_of_tlt h1 h]
  rw [covers, covers, e1, e2]

theorem covers_eq_of_gap {as : List TAtom} {lo hi t : Time} (hg : Gap as lo hi)
    (h1 : tle lo t = true) (h2 : tlt t hi = true) {a : TAtom} (ha : a ∈ as) :
    covers a t = covers a lo :=
  covers_eq_of_no_pulse h1 ((hg a ha).1.imp_right (tlt_of_tlt_of_tle h2)) ((hg a ha).2.imp_right (tlt_of_tlt_of_tle h2))

theorem length_le_one_of_nodup : ∀ {l : List Nat}, l.Nodup → (∀ i ∈ l, ∀ j ∈ l, i = j) → l.length ≤ 1
  | [], _, _ => by simp
  | [_], _, _ => by simp
  | x :: y :: t, hn, h => by
    exfalso
    have hxy : x = y := h x List.mem_cons_self y (List.mem_cons_of_mem _ List.mem_cons_self)
    subst hxy
    exact (List.nodup_cons.1 hn).1 List.mem_cons_self

theorem states_of_pulse {as : List TAtom} (h : AtomsOk as) {p : Time} (hp : p ∈ pulsesOf as []) :
    ∃ s ∈ states as [] (pulsesOf as []), s.1 = p ∧ After as s.2 p ∧ s.2.Nodup := by
  obtain ⟨s, hs, hst⟩ := List.mem_map.1 ((states_map_fst as (pulsesOf as []) []).symm ▸ hp)
  obtain ⟨hA, hN⟩ := (pulses_spec h (fun _ => (0, 0)) []).1 s hs
  exact ⟨s, hs, hst, hst ▸ hA, hN⟩

/-- the amounts of the atoms covering `t`, summed (the body of `usageAt`) -/
def usageSum (as : List TAtom) (t : Time) : Time :=
  (as.filter (fun a => covers a t)).foldl (fun u a => tadd u a.amount) (0, 0)

theorem usageSum_congr {as : List TAtom} {t t' : Time} (h : ∀ a ∈ as, covers a t = covers a t') :
    usageSum as t = usageSum as t' := by
  unfold usageSum
  rw [List.filter_congr h]

theorem usageSum_eq_zero {as : List TAtom} {t : Time} (h : ∀ a ∈ as, covers a t = false) :
    usageSum as t = (0, 0) := by
  unfold usageSum
  rw [List.filter_eq_nil_iff.2 (fun a ha => by simp [h a ha])]
  rfl

theorem usageOf_foldl (as : List TAtom) : ∀ (cur : List Nat) (u0 : Time),
    cur.foldl (fun u i => match as.find? (fun a => a.id == i) with
      | some a => tadd u a.amount
      | none => u) u0
    = (cur.filterMap (fun i => as.find? (fun a => a.id == i))).foldl (fun u a => tadd u a.amount) u0 := by
  intro cur
  induction cur with
  | nil => intro u0; rfl
  | cons i r ih =>
    intro u0
    rw [List.foldl_cons, ih]
    cases h : as.find? (fun a => a.id == i) with
    | none => simp [h]
    | some a => simp [h]

theorem find?_id_eq_some_iff {as : List TAtom} (hnd : (as.map (·.id)).Nodup) {i : Nat} {b : TAtom} :
    as.find? (fun a => a.id == i) = some b ↔ b ∈ as ∧ b.id = i := by
  constructor
  · intro h
    exact ⟨List.mem_of_find?_eq_some h, by simpa using List.find?_some h⟩
  · rintro ⟨hb, hi⟩
    cases h : as.find? (fun a => a.id == i) with
    | none =>
      have := List.find?_eq_none.1 h b hb
      simp [hi] at this
    | some c =>
      have hc : c ∈ as := List.mem_of_find?_eq_some h
      have hci : c.id = i := by simpa using List.find?_some h
      rw [List.inj_on_of_nodup_map hnd hc hb (hci.trans hi.symm)]

theorem usageOf_eq_usageSum {as : List TAtom} (hnd : (as.map (·.id)).Nodup) {cur : List Nat} {p : Time}
    (hA : After as cur p) (hN : cur.Nodup) : usageOf as cur = usageSum as p := by
  unfold usageOf usageSum
  refine (usageOf_foldl as cur (0, 0)).trans ?_
  apply List.Perm.foldl_eq' _ (fun x _ y _ z => tadd_right_comm z x.amount y.amount)
  rw [List.perm_ext_iff_of_nodup]
  · intro b
    simp only [List.mem_filterMap, List.mem_filter, find?_id_eq_some_iff hnd]
    constructor
    · rintro ⟨i, hi, hb, rfl⟩
      exact ⟨hb, (hA.mem_iff hnd hb).1 hi⟩
    · rintro ⟨hb, hc⟩
      exact ⟨b.id, (hA.mem_iff hnd hb).2 hc, hb, rfl⟩
  · refine List.Nodup.filterMap ?_ hN
    intro i i' b hb hb'
    rw [Option.mem_def, find?_id_eq_some_iff hnd] at hb hb'
    exact hb.2.symm.trans hb'.2
  · exact (List.Nodup.of_map _ hnd).filter _

theorem peak_exceeds {as : List TAtom} (h : AtomsOk as) {cap p : Time} (hp : p ∈ rrPeaks as cap) :
    p ∈ pulsesOf as [] ∧ tlt cap (usageSum as p) = true := by
  obtain ⟨s, hs, rfl, hc⟩ := mem_rrPeaks.1 hp
  obtain ⟨hA, hN⟩ := (pulses_spec h (fun _ => (0, 0)) []).1 s hs
  rw [usageOf_eq_usageSum h.1 hA hN] at hc
  exact ⟨states_map_fst as (pulsesOf as []) [] ▸ List.mem_map.2 ⟨s, hs, rfl⟩, hc⟩

theorem peak_reported {as : List TAtom} (h : AtomsOk as) {cap p : Time} (hp : p ∈ pulsesOf as [])
    (hc : tlt cap (usageSum as p) = true) : p ∈ rrPeaks as cap := by
  obtain ⟨s, hs, hsp, hA, hN⟩ := states_of_pulse h hp
  exact mem_rrPeaks.2 ⟨s, hs, hsp, by rwa [usageOf_eq_usageSum h.1 hA hN]⟩

theorem exists_max : ∀ (ps : List Time), ps ≠ [] → ∃ m ∈ ps, ∀ q ∈ ps, tle q m = true
  | [], h => absurd rfl h
  | [x], _ => ⟨x, List.mem_cons_self, List.forall_mem_cons.2 ⟨tle_refl x, nofun⟩⟩
  | x :: y :: r, _ =>
    have ⟨m, hm, hmax⟩ := exists_max (y :: r) (List.cons_ne_nil _ _)
    (tlt_or_tle m x).elim
      (fun hx => ⟨x, List.mem_cons_self, List.forall_mem_cons.2
        ⟨tle_refl x, fun q hq => tle_of_tlt (tlt_of_tle_of_tlt (hmax q hq) hx)⟩⟩)
      (fun hx => ⟨m, List.mem_cons_of_mem _ hm, List.forall_mem_cons.2 ⟨hx, hmax⟩⟩)

theorem exists_greatest_le (ps : List Time) (t : Time) (h : ∃ q ∈ ps, tle q t = true) :
    ∃ p ∈ ps, tle p t = true ∧ ∀ q ∈ ps, tle q p = true ∨ tlt t q = true := by
  obtain ⟨q, hq, hqt⟩ := h
  obtain ⟨p, hp, hmax⟩ := exists_max (ps.filter (tle · t)) (List.ne_nil_of_mem (List.mem_filter.2 ⟨hq, hqt⟩))
  obtain ⟨hp, hpt⟩ := List.mem_filter.1 hp
  exact ⟨p, hp, hpt, fun q hq => (tlt_or_tle t q).symm.imp_left fun h => hmax q (List.mem_filter.2 ⟨hq, h⟩)⟩

/-- usage is piecewise constant: an instant has the usage of the greatest pulse before it, or no usage -/
theorem usageSum_eq_pulse_or_zero (as : List TAtom) (t : Time) :
    (∃ p ∈ pulsesOf as [], usageSum as t = usageSum as p) ∨ usageSum as t = (0, 0) := by
  by_cases h : ∃ q ∈ pulsesOf as [], tle q t = true
  · obtain ⟨p, hp, hpt, hmax⟩ := exists_greatest_le _ t h
    exact .inl ⟨p, hp, usageSum_congr fun a ha => covers_eq_of_no_pulse hpt
      (hmax a.start (mem_pulsesOf.2 (.inl ⟨a, ha, .inl rfl⟩))) (hmax a.stop (mem_pulsesOf.2 (.inl ⟨a, ha, .inr rfl⟩)))⟩
  · refine .inr (usageSum_eq_zero fun a ha => Bool.eq_false_iff.2 fun hc => ?_)
    exact h ⟨a.start, mem_pulsesOf.2 (.inl ⟨a, ha, .inl rfl⟩), (covers_iff.1 hc).1⟩

/-- when there are atoms the last pulse has no usage -/
theorem exists_pulse_usage_zero {as : List TAtom} (hne : as ≠ []) :
    ∃ p ∈ pulsesOf as [], usageSum as p = (0, 0) := by
  obtain ⟨a0, ha0⟩ := List.exists_mem_of_ne_nil as hne
  obtain ⟨m, hm, hmax⟩ := exists_max (pulsesOf as [])
    (List.ne_nil_of_mem (mem_pulsesOf.2 (.inl ⟨a0, ha0, .inl rfl⟩)))
  refine ⟨m, hm, usageSum_eq_zero fun a ha => Bool.eq_false_iff.2 fun hc => ?_⟩
  exact not_tle_of_tlt (covers_iff.1 hc).2 (hmax a.stop (mem_pulsesOf.2 (.inl ⟨a, ha, .inr rfl⟩)))

/-- `C05_no_peak_iff_within_capacity` without its `h0` fails for no atoms and a negative capacity -/
theorem no_peak_iff_within_capacity_counterexample :
    ¬ (rrPeaks [] (-1, 0) = [] ↔ ∀ t : Time, tle (usageSum [] t) (-1, 0) = true) := by
  intro h
  have := h.1 (by decide +kernel) (0, 0)
  revert this
  decide +kernel

end Oratio.Sweep
