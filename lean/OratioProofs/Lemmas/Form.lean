/-
Lemmas for property C01: the reified constructors `newConj / newDisj / newEq` under PARTIAL assignments at a
unit-propagation fixpoint.  `PInv`: for every cached `(key, l)` and every fixpoint `ρ` of the state, once the argument
literals of the key are decided, `l` is decided with the value of the expression; every constructor keeps it, only adds
clauses and root values (`Mono`), and returns such a literal.  `PAsg`, `plit`, `BcpFix` are defined here a second time
(`OratioProofs/Properties/C01.lean` imports this file; the two are definitionally equal).
-/
import OratioProofs.Lemmas.EncJunct

namespace Oratio
namespace FormL
open Enc EncL

abbrev PAsg := Nat → Option Bool
def plit (ρ : PAsg) (l : Lit) : Option Bool := (ρ l.var).map (fun b => if l.sign then b else !b)

/-- the value of a literal, `false` when undecided -/
def val (ρ : PAsg) (l : Lit) : Bool := (plit ρ l).getD false

/-- a clause is neither falsified nor unit under `ρ` -/
def Resp (ρ : PAsg) (c : List Lit) : Prop :=
  (∃ l ∈ c, plit ρ l = some true) ∨ (∃ l₁ ∈ c, ∃ l₂ ∈ c, l₁ ≠ l₂ ∧ plit ρ l₁ = none ∧ plit ρ l₂ = none)

def BcpFix (ρ : PAsg) (s : Enc) : Prop :=
  ρ 0 = some false ∧
  (∀ v b, s.vals.getD v none = some b → ρ v = some b) ∧
  ∀ c ∈ s.clauses, Resp ρ c

/-- `s'` has every clause and every root value of `s` -/
def Mono (s s' : Enc) : Prop :=
  (∀ c ∈ s.clauses, c ∈ s'.clauses) ∧ ∀ v b, s.vals.getD v none = some b → s'.vals.getD v none = some b

/-- meaning of a cached expression under a partial assignment -/
def PKeySem (ρ : PAsg) : Key → Lit → Prop
  | .eq a b, l => plit ρ a ≠ none → plit ρ b ≠ none → plit ρ l = some (val ρ a == val ρ b)
  | .conj ls, l => (∀ x ∈ ls, plit ρ x ≠ none) → plit ρ l = some (ls.all (val ρ))
  | .disj ls, l => (∀ x ∈ ls, plit ρ x ≠ none) → plit ρ l = some (ls.any (val ρ))
  | .amo _, _ => True
  | .exo _, _ => True

def PInv (s : Enc) : Prop := ∀ e ∈ s.exprs, ∀ ρ, BcpFix ρ s → PKeySem ρ e.1 e.2

theorem BcpFix.zero {ρ : PAsg} {s : Enc} (h : BcpFix ρ s) : ρ 0 = some false := h.1
theorem BcpFix.root {ρ : PAsg} {s : Enc} (h : BcpFix ρ s) :
    ∀ v b, s.vals.getD v none = some b → ρ v = some b := h.2.1
theorem BcpFix.resp {ρ : PAsg} {s : Enc} (h : BcpFix ρ s) {c : List Lit} (hc : c ∈ s.clauses) : Resp ρ c :=
  h.2.2 c hc

theorem plit_neg (ρ : PAsg) (l : Lit) : plit ρ l.neg = (plit ρ l).map (!·) := by
  cases l with | mk v sg =>
  simp only [plit, Lit.neg]
  cases ρ v <;> cases sg <;> simp

theorem plit_neg_some {ρ : PAsg} {l : Lit} {b : Bool} (h : plit ρ l = some b) : plit ρ l.neg = some (!b) := by
  rw [plit_neg, h]; rfl

theorem plit_neg_none {ρ : PAsg} {l : Lit} (h : plit ρ l = none) : plit ρ l.neg = none := by
  rw [plit_neg, h]; rfl

theorem val_of_some {ρ : PAsg} {l : Lit} {b : Bool} (h : plit ρ l = some b) : val ρ l = b := by
  simp [val, h]

theorem plit_eq_val {ρ : PAsg} {l : Lit} (h : plit ρ l ≠ none) : plit ρ l = some (val ρ l) := by
  cases hp : plit ρ l with
  | none => exact absurd hp h
  | some b => simp [val, hp]

theorem val_neg {ρ : PAsg} {l : Lit} (h : plit ρ l ≠ none) : val ρ l.neg = !val ρ l := by
  have := plit_eq_val h
  exact val_of_some (plit_neg_some this)

theorem plit_of_value {ρ : PAsg} {s : Enc} (h : ∀ v b, s.vals.getD v none = some b → ρ v = some b)
    {l : Lit} {b : Bool} (hv : s.value l = some b) : plit ρ l = some b := by
  unfold Enc.value litValue at hv
  split at hv
  · cases hv
  · next c hc =>
    simp only [plit, h _ _ hc, Option.map_some]
    exact hv

theorem Resp.mono {ρ : PAsg} {c c' : List Lit} (h : ∀ l ∈ c, l ∈ c') (hr : Resp ρ c) : Resp ρ c' := by
  rcases hr with ⟨l, hl, h1⟩ | ⟨l₁, h1, l₂, h2, hne, hn1, hn2⟩
  · exact Or.inl ⟨l, h l hl, h1⟩
  · exact Or.inr ⟨l₁, h l₁ h1, l₂, h l₂ h2, hne, hn1, hn2⟩

theorem Mono.refl (s : Enc) : Mono s s := ⟨fun _ h => h, fun _ _ h => h⟩
theorem Mono.trans {a b c : Enc} (h1 : Mono a b) (h2 : Mono b c) : Mono a c :=
  ⟨fun x hx => h2.1 x (h1.1 x hx), fun v b hv => h2.2 v b (h1.2 v b hv)⟩

theorem BcpFix.mono {ρ : PAsg} {s s' : Enc} (h : Mono s s') (hρ : BcpFix ρ s') : BcpFix ρ s :=
  ⟨hρ.zero, fun v b hv => hρ.root v b (h.2 v b hv), fun c hc => hρ.resp (h.1 c hc)⟩

theorem PInv.mono {s s' : Enc} (h : Mono s s') (he : s'.exprs = s.exprs) (hp : PInv s) : PInv s' := by
  intro e he' ρ hρ
  rw [he] at he'
  exact hp e he' ρ (BcpFix.mono h hρ)

def comp (ρ : PAsg) : Asg := fun v => (ρ v).getD false

theorem lit_comp {ρ : PAsg} {l : Lit} {b : Bool} (h : plit ρ l = some b) : (comp ρ).lit l = b := by
  cases l with | mk v sg =>
  simp only [plit] at h
  cases hv : ρ v with
  | none => rw [hv] at h; cases h
  | some c =>
    rw [hv] at h
    simp only [Option.map_some, Option.some.injEq] at h
    simp only [Asg.lit, comp, hv, Option.getD_some]
    exact h

theorem val_eq_comp {ρ : PAsg} {l : Lit} (h : plit ρ l ≠ none) : val ρ l = (comp ρ).lit l :=
  (lit_comp (plit_eq_val h)).symm

theorem plit_none_iff {ρ : PAsg} {l : Lit} : plit ρ l = none ↔ ρ l.var = none := by
  simp [plit]

/-- two different literals over `v` are `v` and `¬v` -/
theorem lit_cover {l₁ l₂ : Lit} {v : Nat} (e1 : l₁.var = v) (e2 : l₂.var = v) (hne : l₁ ≠ l₂) (b : Bool) :
    l₁ = ⟨v, b⟩ ∨ l₂ = ⟨v, b⟩ := by
  cases l₁ with | mk v1 s1 =>
  cases l₂ with | mk v2 s2 =>
  cases e1; cases e2
  cases s1 <;> cases s2 <;> cases b <;> first | exact Or.inl rfl | exact Or.inr rfl | exact absurd rfl hne

/-- Clauses `cs` that determine the literal `x` by a function `φ` of the other variables decide `x` by unit
    propagation once all their other literals are decided: were `x` open, every clause would be satisfied
    without it (none is unit), so both values of `x` would give a model; and once `x` is decided the
    completion of `ρ` is a model. -/
theorem decided_of_defines {ρ : PAsg} {cs : List (List Lit)} {x : Lit} {φ : Asg → Bool}
    (hdef : ∀ β : Asg, β.cnf cs = true → β.lit x = φ β)
    (hloc : ∀ β b, φ (upd β x.var b) = φ β)
    (hresp : ∀ c ∈ cs, Resp ρ c)
    (hdec : ∀ c ∈ cs, ∀ l ∈ c, l.var ≠ x.var → plit ρ l ≠ none) :
    plit ρ x = some (φ (comp ρ)) := by
  cases hx : ρ x.var with
  | none =>
    exfalso
    have sat : ∀ b, (upd (comp ρ) x.var b).cnf cs = true := fun b => by
      rw [Asg.cnf_iff]
      intro c hc
      rw [Asg.clause_iff]
      rcases hresp c hc with ⟨l, hl, ht⟩ | ⟨l₁, h1, l₂, h2, hne, hn1, hn2⟩
      · have hlv : l.var ≠ x.var := fun e => by
          rw [plit_none_iff.2 (e ▸ hx)] at ht; cases ht
        exact ⟨l, hl, by rw [lit_congr (upd_ne _ b hlv)]; exact lit_comp ht⟩
      · have e1 : l₁.var = x.var := Classical.byContradiction fun e => hdec c hc l₁ h1 e hn1
        have e2 : l₂.var = x.var := Classical.byContradiction fun e => hdec c hc l₂ h2 e hn2
        rcases lit_cover e1 e2 hne b with rfl | rfl
        · exact ⟨_, h1, (lit_mk_eq_true _ _ _).2 (upd_same _ _ _)⟩
        · exact ⟨_, h2, (lit_mk_eq_true _ _ _).2 (upd_same _ _ _)⟩
    have ht := hdef _ (sat true)
    have hf := hdef _ (sat false)
    rw [hloc] at ht hf
    have := ht.trans hf.symm
    rw [Asg.lit, Asg.lit, upd_same, upd_same] at this
    cases hsg : x.sign <;> rw [hsg] at this <;> cases this
  | some b0 =>
    have hpx : plit ρ x ≠ none := fun e => by rw [plit_none_iff.1 e] at hx; cases hx
    have sat : (comp ρ).cnf cs = true := by
      rw [Asg.cnf_iff]
      intro c hc
      rw [Asg.clause_iff]
      rcases hresp c hc with ⟨l, hl, ht⟩ | ⟨l₁, h1, _, _, _, hn1, _⟩
      · exact ⟨l, hl, lit_comp ht⟩
      · exfalso
        by_cases e : l₁.var = x.var
        · exact hpx (plit_none_iff.2 (e ▸ plit_none_iff.1 hn1))
        · exact hdec c hc l₁ h1 e hn1
    rw [plit_eq_val hpx, val_eq_comp hpx, hdef _ sat]

theorem junct_resp {ρ : PAsg} {abs : Bool} {ctr : Lit} {ls : List Lit}
    (hfresh : ∀ l ∈ ls, l.var ≠ ctr.var)
    (hcl : ∀ c ∈ junctCls abs ls ctr, Resp ρ c) (hd : ∀ x ∈ ls, plit ρ x ≠ none) :
    plit ρ ctr = some (junctVal abs (val ρ) ls) := by
  rw [decided_of_defines (φ := fun β => junctVal abs β.lit ls) (fun β h => (junct_clauses β abs ctr ls).1 h)
    (fun β b => junctVal_congr (exists_congr fun l => and_congr_right fun hl => by
      rw [lit_congr (upd_ne β b (hfresh l hl))])) hcl
    (fun c hc l hl hne => by
      rcases junctCls_vars hc hl with e | ⟨y, hy, e⟩
      · exact absurd e hne
      · exact fun hn => hd y hy (plit_none_iff.2 (e ▸ plit_none_iff.1 hn)))]
  exact congrArg some (junctVal_congr (exists_congr fun l => and_congr_right fun hl => by
    rw [val_eq_comp (hd l hl)]))

theorem eq_resp {ρ : PAsg} {ctr a b : Lit} (hfa : a.var ≠ ctr.var) (hfb : b.var ≠ ctr.var)
    (hcl : ∀ c ∈ eqCls a b ctr, Resp ρ c) (ha : plit ρ a ≠ none) (hb : plit ρ b ≠ none) :
    plit ρ ctr = some (val ρ a == val ρ b) := by
  rw [decided_of_defines (φ := fun β => β.lit a == β.lit b) (fun β h => (eq_clauses β ctr a b).1 h)
    (fun β c => by rw [lit_congr (upd_ne β c hfa), lit_congr (upd_ne β c hfb)]) hcl
    (fun c hc l hl hne => by
      rcases eqCls_vars hc hl with e | e | e
      · exact absurd e hne
      · exact fun hn => ha (plit_none_iff.2 (e ▸ plit_none_iff.1 hn))
      · exact fun hn => hb (plit_none_iff.2 (e ▸ plit_none_iff.1 hn))),
    val_eq_comp ha, val_eq_comp hb]

theorem val_root {ρ : PAsg} {s : Enc} (hρ : ∀ v b, s.vals.getD v none = some b → ρ v = some b) :
    ∀ l b, s.value l = some b → val ρ l = b := fun _ _ hv => val_of_some (plit_of_value hρ hv)

/-- two undecided literals over different variables: the clause is posted (or is a tautology) and no root value changes -/
theorem newClause_two {s : Enc} {c : List Lit} {a b : Lit} (ha : a ∈ c) (hb : b ∈ c) (hab : a.var ≠ b.var)
    (hva : s.value a = none) (hvb : s.value b = none) :
    (s.newClause c).1 = true ∧ (s.newClause c).2.vals = s.vals ∧ (s.newClause c).2.exprs = s.exprs ∧
    Mono s (s.newClause c).2 ∧ ∀ ρ, BcpFix ρ (s.newClause c).2 → Resp ρ c := by
  unfold Enc.newClause
  rw [scanClause_eq]
  cases h : scanJunct s true (sortByVar c) none [] with
  | none =>
    refine ⟨rfl, rfl, rfl, Mono.refl s, fun ρ hρ => ?_⟩
    rcases scan_none h with ⟨l, hl, hv⟩ | ⟨l, hl, _, hl2⟩
    · exact Or.inl ⟨l, mem_sortByVar.1 hl, plit_of_value hρ.root hv⟩
    · have hl : l ∈ c := mem_sortByVar.1 hl
      have hl2 : l.neg ∈ c := mem_sortByVar.1 hl2
      cases hp : plit ρ l with
      | none => exact Or.inr ⟨l, hl, l.neg, hl2, (Lit.neg_ne l).symm, hp, plit_neg_none hp⟩
      | some b =>
        cases b with
        | false => exact Or.inl ⟨l.neg, hl2, plit_neg_some hp⟩
        | true => exact Or.inl ⟨l, hl, hp⟩
  | some ls' =>
    obtain ⟨j1, _, j3⟩ := scan_some h
    have ha' : a ∈ ls' := (j3 a (mem_sortByVar.2 ha)).resolve_right (by rw [hva]; nofun)
    have hb' : b ∈ ls' := (j3 b (mem_sortByVar.2 hb)).resolve_right (by rw [hvb]; nofun)
    match ls', j1, ha', hb' with
    | [], _, ha', _ => cases ha'
    | [l], _, ha', hb' =>
      rw [List.mem_singleton.1 ha', List.mem_singleton.1 hb'] at hab
      exact absurd rfl hab
    | l1 :: l2 :: t, j1, _, _ =>
      exact ⟨rfl, rfl, rfl, ⟨fun c hc => List.mem_append_left _ hc, fun v b hv => hv⟩, fun ρ hρ =>
        Resp.mono (fun l hl => mem_sortByVar.1 (j1.subset hl)) (hρ.resp (by simp))⟩

theorem newClauses_p : ∀ (cs : List (List Lit)) {s : Enc},
    (∀ c ∈ cs, ∃ a ∈ c, ∃ b ∈ c, a.var ≠ b.var ∧ s.value a = none ∧ s.value b = none) →
    (s.newClauses cs).1 = true ∧ (s.newClauses cs).2.vals = s.vals ∧ (s.newClauses cs).2.exprs = s.exprs ∧
    Mono s (s.newClauses cs).2 ∧ ∀ ρ, BcpFix ρ (s.newClauses cs).2 → ∀ c ∈ cs, Resp ρ c
  | [], s, _ => ⟨rfl, rfl, rfl, Mono.refl s, fun _ _ c hc => nomatch hc⟩
  | c :: cs, s, hok => by
    obtain ⟨a, ha, b, hb, hab, hva, hvb⟩ := hok c (by simp)
    obtain ⟨k1, k2, k3, m1, m2⟩ := newClause_two ha hb hab hva hvb
    simp only [Enc.newClauses]
    generalize s.newClause c = p at k1 k2 k3 m1 m2
    obtain ⟨ok, s'⟩ := p
    dsimp only at k1 k2 k3 m1 m2
    subst k1
    obtain ⟨i1, i2, i3, i4, i5⟩ := newClauses_p cs (s := s') fun c' hc' => by
      obtain ⟨a, ha, b, hb, hab, hva, hvb⟩ := hok c' (by simp [hc'])
      exact ⟨a, ha, b, hb, hab, by rw [Enc.value, k2]; exact hva, by rw [Enc.value, k2]; exact hvb⟩
    refine ⟨i1, i2.trans k2, i3.trans k3, Mono.trans m1 i4, fun ρ hρ c' hc' => ?_⟩
    rcases List.mem_cons.1 hc' with rfl | hc'
    · exact m2 ρ (BcpFix.mono i4 hρ)
    · exact i5 ρ hρ c' hc'

theorem mono_newVar (s : Enc) : Mono s s.newVar.2 :=
  ⟨fun _ h => h, fun v b hv => by
    show (s.vals ++ List.replicate 1 none).getD v none = some b
    rw [ListAux.getD_append_replicate]; exact hv⟩

/-- `hok`: the clauses are posted as they stand and no root value changes; `hkey`: at a fixpoint they give the
    cache entry its meaning -/
theorem freshDef_p {s : Enc} (hp : PInv s) (k : Key) (cs : Lit → List (List Lit))
    (hok : ∀ c ∈ cs ⟨s.nvars, true⟩, OpenAt s.nvars (fun y => s.value y = none) c)
    (hkey : ∀ ρ, (∀ c ∈ cs ⟨s.nvars, true⟩, Resp ρ c) → PKeySem ρ k ⟨s.nvars, true⟩) {r : Lit × Enc}
    (hr : Cons.freshDef Enc.prim s k cs = r) :
    r.1 = ⟨s.nvars, true⟩ ∧ Mono s r.2 ∧ PInv r.2 ∧ ∀ ρ, BcpFix ρ r.2 → PKeySem ρ k ⟨s.nvars, true⟩ := by
  obtain ⟨i1, _, i3, i4, i5⟩ := newClauses_p (s := s.newVar.2) (cs ⟨s.nvars, true⟩)
    (fun c hc => by
      obtain ⟨_, ⟨a, ha, hav⟩, b, hb, hbv, hbn⟩ := hok c hc
      exact ⟨a, ha, b, hb, by omega, (value_addVars s 1 a).trans (value_none_of_ge (Nat.le_of_eq hav.symm)),
        (value_addVars s 1 b).trans hbn⟩)
  rw [Cons_enc_freshDef] at hr
  subst hr
  generalize s.newVar.2.newClauses (cs ⟨s.nvars, true⟩) = p at i1 i3 i4 i5 ⊢
  obtain ⟨b, s2⟩ := p
  dsimp only at i1 i3 i4 i5
  subst i1
  have hm : Mono s s2 := Mono.trans (mono_newVar s) i4
  have hk : ∀ ρ, BcpFix ρ (s2.remember k ⟨s.nvars, true⟩) → PKeySem ρ k ⟨s.nvars, true⟩ := fun ρ hρ =>
    hkey ρ (i5 ρ hρ)
  refine ⟨rfl, hm, fun e he ρ hρ => ?_, hk⟩
  rcases List.mem_append.1 he with he | he
  · exact hp e (i3 ▸ he) ρ (BcpFix.mono hm hρ)
  · rw [List.mem_singleton.1 he]; exact hk ρ hρ

/-- the partial counterpart of `Defines` -/
structure PDefines (s : Enc) (dec : PAsg → Prop) (φ : PAsg → Bool) (r : Lit × Enc) : Prop where
  mono : Mono s r.2
  pinv : PInv r.2
  sem : ∀ ρ, BcpFix ρ r.2 → dec ρ → plit ρ r.1 = some (φ ρ)

theorem PDefines.same {s : Enc} {dec : PAsg → Prop} {φ : PAsg → Bool} (hp : PInv s) {l : Lit}
    (hs : ∀ ρ, BcpFix ρ s → dec ρ → plit ρ l = some (φ ρ)) : PDefines s dec φ (l, s) :=
  ⟨Mono.refl s, hp, hs⟩

theorem PDefines.of_trans {s s' : Enc} {dec dec' : PAsg → Prop} {φ φ' : PAsg → Bool} {r : Lit × Enc}
    (hm : Mono s s') (g : PDefines s' dec φ r)
    (h : ∀ ρ, BcpFix ρ r.2 → dec' ρ → dec ρ ∧ φ ρ = φ' ρ) : PDefines s dec' φ' r :=
  ⟨hm.trans g.mono, g.pinv, fun ρ hρ hd => (h ρ hρ hd).2 ▸ g.sem ρ hρ (h ρ hρ hd).1⟩

theorem plit_zero {ρ : PAsg} (h : ρ 0 = some false) (b : Bool) : plit ρ ⟨0, b⟩ = some (!b) := by
  cases b <;> simp [plit, h]

theorem pkeySem_junct {ρ : PAsg} {abs : Bool} {ls : List Lit} {l : Lit} :
    PKeySem ρ (junctKey abs ls) l ↔
      ((∀ x ∈ ls, plit ρ x ≠ none) → plit ρ l = some (junctVal abs (val ρ) ls)) := by
  cases abs <;> exact Iff.rfl

theorem junct_p {abs : Bool} {s : Enc} (hp : PInv s) {ls : List Lit} (hl : InRange s ls) :
    PDefines s (fun ρ => ∀ x ∈ ls, plit ρ x ≠ none) (fun ρ => junctVal abs (val ρ) ls)
      (Cons.newJunct Enc.prim abs s ls) := by
  have kept : ∀ {ls'}, scanJunct s abs (sortByVar ls) none [] = some ls' →
      (∀ l ∈ ls', l ∈ ls) ∧ (∀ l ∈ ls', s.value l = none) ∧
      ∀ ρ, BcpFix ρ s → junctVal abs (val ρ) ls' = junctVal abs (val ρ) ls :=
    fun hsc => ⟨fun l hl' => mem_sortByVar.1 ((scan_some hsc).1.subset hl'), (scan_some hsc).2.1,
      fun ρ hρ => junctVal_congr ((scan_some_val (val_root hρ.root) hsc).trans exists_sorted)⟩
  refine Cons.newJunct_cases Enc.prim (M := PDefines s _ _) (Cons_enc_scanJunct s abs _ none [])
    (fun hsc => .same hp fun ρ hρ hd => ?_)
    (fun hsc => .same hp fun ρ hρ _ => by rw [plit_zero hρ.zero, ← (kept hsc).2.2 ρ hρ, junctVal_nil])
    (fun l hsc => .same hp fun ρ hρ hd => by
      rw [← (kept hsc).2.2 ρ hρ, junctVal_singleton]
      exact plit_eq_val (hd l ((kept hsc).1 l (by simp))))
    (fun ls' l hsc hlk => .same hp fun ρ hρ hd => by
      rw [← (kept hsc).2.2 ρ hρ]
      exact pkeySem_junct.1 (hp _ (lookup_some hlk) ρ hρ) fun x hx => hd x ((kept hsc).1 x hx))
    (fun l1 l2 t hsc hlk => ?_)
  · rw [plit_zero hρ.zero, Bool.not_not]
    refine congrArg some (junctVal_eq_abs.2 (exists_sorted.1 ?_)).symm
    exact scan_none_val (val_root hρ.root) (fun x hx => val_neg (hd x (mem_sortByVar.1 hx))) hsc
  · obtain ⟨hsub, hnone, hval⟩ := kept hsc
    have hrange : ∀ l ∈ l1 :: l2 :: t, l.var < s.nvars := fun l hl' => hl l (hsub l hl')
    obtain ⟨f1, f2, f3, f4⟩ := freshDef_p hp (junctKey abs (l1 :: l2 :: t)) (junctCls abs (l1 :: l2 :: t))
      (fun c hc => junctCls_open (fun l hl' =>
        ⟨hrange l hl', hnone l hl', (value_none_congr s (neg_var l)).2 (hnone l hl')⟩) hc)
      (fun ρ hcl => pkeySem_junct.2 (junct_resp (fun l hl' => Nat.ne_of_lt (hrange l hl')) hcl)) rfl
    refine ⟨f2, f3, fun ρ hρ hd => ?_⟩
    rw [f1, ← hval ρ (BcpFix.mono f2 hρ)]
    exact pkeySem_junct.1 (f4 ρ hρ) fun x hx => hd x (hsub x hx)

theorem pkeySem_eq {ρ : PAsg} {a b l : Lit} : PKeySem ρ (eqKey a b) l ↔
    (plit ρ a ≠ none → plit ρ b ≠ none → plit ρ l = some (val ρ a == val ρ b)) := by
  unfold eqKey
  split
  · exact Iff.rfl
  · show (plit ρ b ≠ none → plit ρ a ≠ none → plit ρ l = some (val ρ b == val ρ a)) ↔ _
    rw [Bool.beq_comm]
    exact ⟨fun h x y => h y x, fun h x y => h y x⟩

theorem eq_p {s : Enc} (hp : PInv s) {a b : Lit} (ha : a.var < s.nvars) (hb : b.var < s.nvars) :
    PDefines s (fun ρ => plit ρ a ≠ none ∧ plit ρ b ≠ none) (fun ρ => val ρ a == val ρ b) (s.newEq a b) := by
  rw [← Cons_enc_newEq]
  refine Cons.newEq_cases Enc.prim (M := PDefines s _ _)
    (fun va vb hva hvb => .same hp fun ρ hρ _ => by
      rw [plit_zero hρ.zero, Bool.not_not, val_root hρ.root _ _ hva, val_root hρ.root _ _ hvb])
    (fun va hva _ => .same hp fun ρ hρ hd => by
      rw [val_root hρ.root _ _ hva]
      cases va
      · show plit ρ b.neg = _
        rw [plit_neg_some (plit_eq_val hd.2)]; simp
      · show plit ρ b = _
        rw [plit_eq_val hd.2]; simp)
    (fun vb _ hvb => .same hp fun ρ hρ hd => by
      rw [val_root hρ.root _ _ hvb]
      cases vb
      · show plit ρ a.neg = _
        rw [plit_neg_some (plit_eq_val hd.1)]; simp
      · show plit ρ a = _
        rw [plit_eq_val hd.1]; simp)
    (fun l _ _ hlk => .same hp fun ρ hρ hd => pkeySem_eq.1 (hp _ (lookup_some hlk) ρ hρ) hd.1 hd.2)
    (fun _ hvb _ => ?_)
  obtain ⟨f1, f2, f3, f4⟩ := freshDef_p hp (eqKey a b) (eqCls a b)
    (fun c hc => eqCls_open ha hb ⟨hvb, (value_none_congr s (neg_var b)).2 hvb⟩ hc)
    (fun ρ hcl => pkeySem_eq.2 (eq_resp (Nat.ne_of_lt ha) (Nat.ne_of_lt hb) hcl)) rfl
  exact ⟨f2, f3, fun ρ hρ hd => f1 ▸ pkeySem_eq.1 (f4 ρ hρ) hd.1 hd.2⟩

end FormL
end Oratio
