/-
The notions in which property C19 (the executor dispatches the plan in time order) is stated:
what a run of the loop did, and the two invariants of the timelines.
-/
import OratioModel

namespace Oratio
open Exec Sweep

/-- what a piece of the loop did: the atoms it started / ended -/
def startedBy (ev : List Event) : List Nat := ev.flatMap (fun e => match e with | .start l => l | _ => [])
def endedBy (ev : List Event) : List Nat := ev.flatMap (fun e => match e with | .stop l => l | _ => [])
def delayedStartBy (ev : List Event) : List Nat := ev.flatMap (fun e => match e with | .delayStart i _ => [i] | _ => [])
def delayedEndBy (ev : List Event) : List Nat := ev.flatMap (fun e => match e with | .delayEnd i _ => [i] | _ => [])

/-- the timelines agree with the dispatch sets: no atom at a pulse still to be visited is already started
    (resp. ended), the pulses are distinct, and an atom sits at one pulse only, once (what `buildTimelines`
    establishes and the loop maintains).

    The simpler reading (`OrigOk` in C19.lean)
      `(∀ e ∈ x.sAtms, ∀ i ∈ e.2, i ∉ x.started) ∧ (∀ e ∈ x.eAtms, ∀ i ∈ e.2, i ∉ x.ended) ∧`
      `(x.sAtms.map (·.1)).Nodup ∧ (x.eAtms.map (·.1)).Nodup`
    is NOT maintained by the loop (an iteration records the atoms of the pulse as started and only drops the
    pulse: the entry stays in `sAtms`) and it does NOT give "at most once" (a pulse occurring twice in `pulses`, or
    an atom sitting at two pulses, is dispatched twice): see `C19_cex_*`.  So
    * the first two clauses are restricted to the pulses still in `x.pulses` and read through `atPulse` (the only
      way the loop reads the maps; with distinct keys `atPulse m e.1 = e.2` for `e ∈ m`);
    * `x.pulses.Nodup` is required (a `std::set`; `buildTimelines` builds it strictly sorted: `C19_build_sorted`);
    * "an atom sits at one pulse, once" is required for both maps. -/
def TimelinesOk (x : Exec) : Prop :=
  (∀ p ∈ x.pulses, ∀ i ∈ atPulse x.sAtms p, i ∉ x.started) ∧
  (∀ p ∈ x.pulses, ∀ i ∈ atPulse x.eAtms p, i ∉ x.ended) ∧
  (x.sAtms.map (·.1)).Nodup ∧ (x.eAtms.map (·.1)).Nodup ∧
  x.pulses.Nodup ∧
  (∀ p, (atPulse x.sAtms p).Nodup) ∧ (∀ p q i, i ∈ atPulse x.sAtms p → i ∈ atPulse x.sAtms q → p = q) ∧
  (∀ p, (atPulse x.eAtms p).Nodup) ∧ (∀ p q i, i ∈ atPulse x.eAtms p → i ∈ atPulse x.eAtms q → p = q)

/-- the kinds of the atoms are fixed (`imp`): a started impulse is ended, and the timelines start an impulse only
    where they end it.  Established by `buildTimelines` for every plan that respects the kinds, maintained by the
    loop, and it gives the hypothesis `himp` of `C19_build_timelines_ok` for the next plan. -/
def KindsOk (imp : Nat → Bool) (x : Exec) : Prop :=
  (∀ i, imp i = true → i ∈ x.started → i ∈ x.ended) ∧
  (∀ i, imp i = true → ∀ p, i ∈ atPulse x.sAtms p → i ∈ atPulse x.eAtms p)

end Oratio
