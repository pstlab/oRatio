/-
One step of `check` on the rows: the value moves of `pivot_and_update` are those of `update(x_j, β(x_j) + θ)`
(`pauPre_eq_update`), every pivot `check` performs meets the hypotheses of the pivot theorems, so `check` keeps
`TabWF` and the solutions of the tableau (`SameSol`, `check_induction_wf`).
-/
import OratioModel
import OratioProofs.Lemmas.LraTabWF
import OratioProofs.Lemmas.LraUpdate

namespace Oratio
namespace Lra
open Lin

/-- the relation "same solutions, invariant kept" between two states -/
def SameSol (t t' : Lra) : Prop :=
  TabWF t' ∧ ∀ σ : Nat → Rat, (∀ e ∈ t.tableau, σ e.1 = Lin.evalS e.2 σ) ↔ (∀ e ∈ t'.tableau, σ e.1 = Lin.evalS e.2 σ)

theorem SameSol.refl {t : Lra} (ht : TabWF t) : SameSol t t := ⟨ht, fun _ => Iff.rfl⟩

theorem SameSol.trans {t u w : Lra} (h1 : SameSol t u) (h2 : SameSol u w) : SameSol t w :=
  ⟨h2.1, fun σ => (h1.2 σ).trans (h2.2 σ)⟩

theorem pivotAndUpdate_eq (t : Lra) (xi xj : Nat) (v : IR) :
    ∃ u : Lra, u.tableau = t.tableau ∧ u.tWatches = t.tWatches ∧ u.vals.length = t.vals.length ∧
      t.pivotAndUpdate xi xj v = u.pivot xi xj := by
  obtain ⟨vs, h, hl⟩ := pauPre_only_vals t xi xj v
  exact ⟨_, by rw [h], by rw [h], by rw [h]; exact hl, pivotAndUpdate_def t xi xj v⟩

theorem sameSol_pivotAndUpdate {t : Lra} (ht : TabWF t) {xi xj : Nat} {l : Lin} (hl : t.rowOf xi = some l)
    (hxj : (l.coeff xj).num ≠ 0) (v : IR) : SameSol t (t.pivotAndUpdate xi xj v) := by
  obtain ⟨u, u1, u2, u3, u4⟩ := pivotAndUpdate_eq t xi xj v
  have hu : TabWF u := tabWF_congr u1 u2 u3 ht
  have hlu : u.rowOf xi = some l := by rw [rowOf_eq, u1, ← rowOf_eq]; exact hl
  rw [u4]
  refine ⟨tabWF_pivot hu hlu hxj, fun σ => ?_⟩
  rw [← pivot_holds hu hlu hxj σ, u1]

theorem check_pivot_hyps {t : Lra} (ht : TabWF t) {p : Nat × Lin → Bool} {xi : Nat} {fl : Lin}
    (hf : t.tableau.find? p = some (xi, fl)) {q : Nat × R → Bool} {xj : Nat} {c : R}
    (hq : fl.vars.find? q = some (xj, c)) (hsign : ∀ e, q e = true → e.2.isPositive = true ∨ e.2.isNegative = true) :
    t.rowOf xi = some fl ∧ (fl.coeff xj).num ≠ 0 := by
  have hmem := List.mem_of_find?_eq_some hf
  have hrow : t.rowOf xi = some fl := tabFind_of_mem ht.keys hmem
  refine ⟨hrow, ?_⟩
  have hcm := List.mem_of_find?_eq_some hq
  have hs : Sorted fl.vars := ((wf_iff fl).1 (ht.rows _ hmem)).1
  have hc : fl.coeff xj = c := by
    unfold Lin.coeff
    rw [find_of_mem hs hcm]
    rfl
  rw [hc]
  rcases hsign _ (List.find?_some hq) with h | h
  · exact Int.ne_of_gt ((R.isPositive_iff c).1 h)
  · exact Int.ne_of_lt ((R.isNegative_iff c).1 h)

theorem CheckStep.pivot_hyps {t u : Lra} (ht : TabWF t) (h : CheckStep t u) :
    ∃ xi xj l v, t.rowOf xi = some l ∧ (l.coeff xj).num ≠ 0 ∧
      ((v = t.lb xi ∧ IR.lt (t.value xi) (t.lb xi) = true) ∨ (v = t.ub xi ∧ IR.gt (t.value xi) (t.ub xi) = true)) ∧
      u = t.pivotAndUpdate xi xj v := by
  cases h with
  | @lower xi xj fl c hf hlt hq =>
    obtain ⟨hrow, hne⟩ := check_pivot_hyps ht hf hq (fun e he => by
      simp only [canGrow, Bool.or_eq_true, Bool.and_eq_true] at he
      exact he.imp (·.1) (·.1))
    exact ⟨xi, xj, fl, _, hrow, hne, Or.inl ⟨rfl, hlt⟩, rfl⟩
  | @upper xi xj fl c hf _ hgt hq =>
    obtain ⟨hrow, hne⟩ := check_pivot_hyps ht hf hq (fun e he => by
      simp only [canShrink, Bool.or_eq_true, Bool.and_eq_true] at he
      exact he.symm.imp (·.1) (·.1))
    exact ⟨xi, xj, fl, _, hrow, hne, Or.inr ⟨rfl, hgt⟩, rfl⟩

theorem CheckStep.sameSol {t u : Lra} (ht : TabWF t) (h : CheckStep t u) : SameSol t u := by
  obtain ⟨xi, xj, l, v, hrow, hne, -, rfl⟩ := h.pivot_hyps ht
  exact sameSol_pivotAndUpdate ht hrow hne v

theorem check_induction_wf {P : Lra → Prop}
    (hstep : ∀ (t : Lra) (xi xj : Nat) (l : Lin) (v : IR), TabWF t → P t → t.rowOf xi = some l →
      (l.coeff xj).num ≠ 0 →
      ((v = t.lb xi ∧ IR.lt (t.value xi) (t.lb xi) = true) ∨ (v = t.ub xi ∧ IR.gt (t.value xi) (t.ub xi) = true)) →
      P (t.pivotAndUpdate xi xj v))
    {fuel : Nat} {t t' : Lra} {c : Option (List Lit)} (ht : TabWF t) (hP : P t) (h : t.check fuel = some (c, t')) :
    TabWF t' ∧ P t' ∧ CheckExit t' c := by
  obtain ⟨⟨h1, h2⟩, h3⟩ := check_induction (P := fun u => TabWF u ∧ P u) (fun u w hu hs => by
    obtain ⟨xi, xj, l, v, hrow, hne, hv, rfl⟩ := hs.pivot_hyps hu.1
    exact ⟨(hs.sameSol hu.1).1, hstep u xi xj l v hu.1 hu.2 hrow hne hv⟩) fuel t t' c ⟨ht, hP⟩ h
  exact ⟨h1, h2, h3⟩

theorem sameSol_check (fuel : Nat) : ∀ (t t' : Lra) (c : Option (List Lit)), TabWF t →
    t.check fuel = some (c, t') → SameSol t t' := fun t t' c ht h =>
  (check_induction (P := fun u => SameSol t u) (fun _ _ hu hs => hu.trans (hs.sameSol hu.1)) fuel t t' c
    (SameSol.refl ht) h).1

theorem pau_fold (t : Lra) (xi xj : Nat) (θ : IR) : ∀ (W : List Nat) (u : Lra), u.tableau = t.tableau →
    W.foldl (fun t x =>
      if x != xi then
        let a := (Lin.find ((t.rowOf x).getD Lin.empty).vars xj).getD R.zero
        t.setVal x (IR.addAssign (t.value x) (IR.rMul a θ))
      else t) u =
      { u with vals := W.foldl (shiftStep (updCoef t xj) θ xi) u.vals } := by
  intro W
  induction W with
  | nil => intro u _; rfl
  | cons x W ih =>
    intro u hu
    rw [List.foldl_cons, List.foldl_cons]
    have hrow : u.rowOf x = t.rowOf x := by rw [rowOf_eq, rowOf_eq, hu]
    have hstep : (if x != xi then
          let a := (Lin.find ((u.rowOf x).getD Lin.empty).vars xj).getD R.zero
          u.setVal x (IR.addAssign (u.value x) (IR.rMul a θ))
        else u) = { u with vals := shiftStep (updCoef t xj) θ xi u.vals x } := by
      unfold shiftStep updCoef
      split
      · simp only [hrow]
        rfl
      · rfl
    rw [hstep, ih { u with vals := shiftStep (updCoef t xj) θ xi u.vals x } hu]

/-- the increment of `x_j` -/
def pauTheta (t : Lra) (xi xj : Nat) (v : IR) : IR := IR.divR (IR.sub v (t.value xi)) (updCoef t xj xi)

def pauVals (t : Lra) (xi xj : Nat) (v : IR) : List IR :=
  (t.tWatches.getD xj []).foldl (shiftStep (updCoef t xj) (pauTheta t xi xj v) xi)
    ((t.vals.set xi v).set xj (IR.addAssign ((t.vals.set xi v).getD xj (IR.ofR R.zero)) (pauTheta t xi xj v)))

theorem pauPre_eq (t : Lra) (xi xj : Nat) (v : IR) :
    pauPre t xi xj v =
      { t with vals := pauVals t xi xj v } := by
  unfold pauPre
  simp only
  have := pau_fold t xi xj (pauTheta t xi xj v) (t.tWatches.getD xj [])
    ((t.setVal xi v).setVal xj (IR.addAssign ((t.setVal xi v).value xj) (pauTheta t xi xj v))) rfl
  exact this

theorem pauPre_value {t : Lra} (hi : Inv t) (hlen : t.tWatches.length = t.vals.length) {xi xj : Nat}
    (hxilen : xi < t.vals.length) (hxjlen : xj < t.vals.length) (hne : xj ≠ xi) (hxjnb : t.rowOf xj = none) (v : IR) :
    (pauPre t xi xj v).vals.length = t.vals.length ∧
    ∀ y, (pauPre t xi xj v).value y =
      if y = xi then v
      else if y = xj then IR.addAssign (t.value xj) (pauTheta t xi xj v)
      else if y ∈ t.tWatches.getD xj [] then
        IR.addAssign (t.value y) (IR.rMul (updCoef t xj y) (pauTheta t xi xj v))
      else t.value y := by
  have hxjW : xj ∉ t.tWatches.getD xj [] := hi.not_mem_watch hxjnb xj
  -- the values before the loop
  have hlen0 : ((t.vals.set xi v).set xj (IR.addAssign ((t.vals.set xi v).getD xj (IR.ofR R.zero))
      (pauTheta t xi xj v))).length = t.vals.length := by
    rw [List.length_set, List.length_set]
  have hxj0 : (t.vals.set xi v).getD xj (IR.ofR R.zero) = t.value xj := by
    rw [getD_set_ne _ _ _ _ _ (fun h => hne h.symm)]
    rfl
  have hval0 : ∀ y, ((t.vals.set xi v).set xj (IR.addAssign ((t.vals.set xi v).getD xj (IR.ofR R.zero))
      (pauTheta t xi xj v))).getD y (IR.ofR R.zero) =
      if y = xj then IR.addAssign (t.value xj) (pauTheta t xi xj v) else if y = xi then v else t.value y := by
    intro y
    rw [hxj0, getD_set]
    by_cases hy : y = xj
    · subst hy
      rw [if_pos ⟨rfl, by rw [List.length_set]; exact hxjlen⟩, if_pos rfl]
    · rw [if_neg (fun h => hy h.1.symm), if_neg hy, getD_set]
      by_cases hy2 : y = xi
      · subst hy2
        rw [if_pos ⟨rfl, hxilen⟩, if_pos rfl]
      · rw [if_neg (fun h => hy2 h.1.symm), if_neg hy2]
        rfl
  obtain ⟨f1, f2⟩ := shiftFold_spec (updCoef t xj) (pauTheta t xi xj v) xi _ _ (hi.watch_nodup xj)
    (fun x hx => by rw [hlen0, ← hlen]; exact hi.watch_lt hx)
  refine ⟨?_, fun y => ?_⟩
  · rw [pauPre_eq]
    show ((t.tWatches.getD xj []).foldl (shiftStep (updCoef t xj) (pauTheta t xi xj v) xi) _).length = _
    rw [f1, hlen0]
  · rw [pauPre_eq]
    show ((t.tWatches.getD xj []).foldl (shiftStep (updCoef t xj) (pauTheta t xi xj v) xi) _).getD y (IR.ofR R.zero) = _
    rw [f2 y, hval0 y]
    by_cases hyi : y = xi
    · rw [hyi, if_neg (fun h => h.2 rfl), if_neg (fun h => hne h.symm), if_pos rfl, if_pos rfl]
    · by_cases hyj : y = xj
      · rw [hyj, if_neg (fun h => hxjW h.1), if_pos rfl, if_neg hne, if_pos rfl]
      · rw [if_neg hyj, if_neg hyi, if_neg hyi, if_neg hyj]
        by_cases hyW : y ∈ t.tWatches.getD xj []
        · rw [if_pos ⟨hyW, hyi⟩, if_pos hyW]
        · rw [if_neg (fun h => hyW h.1), if_neg hyW]

theorem Inv.entering {t : Lra} (hi : Inv t) (hlen : t.tWatches.length = t.vals.length) {xi xj : Nat} {l : Lin}
    (hl : t.rowOf xi = some l) (hk : (Lin.find l.vars xj).isSome = true) :
    t.rowOf xj = none ∧ xj < t.vals.length ∧ xi < t.vals.length ∧ xj ≠ xi := by
  have hnb : t.rowOf xj = none := hi.nonbasic xi l xj hl hk
  exact ⟨hnb, hlen ▸ (hi.bound xi l hl).2 xj hk, hlen ▸ (hi.bound xi l hl).1, fun e => by rw [e, hl] at hnb; cases hnb⟩

/-- `pivot_and_update(x_i, x_j, v)` moves the values as `update(x_j, β(x_j) + θ)` does (on finite values; the two
    loops differ - `x_i` is written first and skipped, where `update` reaches it through its row - and give the same
    state because a finite canonical rational is determined by its value). -/
theorem pauPre_eq_update {t : Lra} (ht : TabWF t) {xi xj : Nat} {l : Lin} (hl : t.rowOf xi = some l) {aij : R}
    (hcf : Lin.find l.vars xj = some aij) (hn : aij.num ≠ 0) (hfin : ∀ x, IR.Fin (t.value x)) {v : IR} (hv : IR.Fin v) :
    IR.Fin (IR.addAssign (t.value xj) (pauTheta t xi xj v)) ∧
    pauPre t xi xj v = t.update xj (IR.addAssign (t.value xj) (pauTheta t xi xj v)) ∧
    (pauPre t xi xj v).value xi = v := by
  obtain ⟨hi, hlen⟩ := (tabWF_iff t).1 ht
  have hkxj : (Lin.find l.vars xj).isSome = true := by rw [hcf]; rfl
  obtain ⟨hxjnb, hxjlen, hxilen, hne⟩ := hi.entering hlen hl hkxj
  obtain ⟨p1, p2⟩ := pauPre_value hi hlen hxilen hxjlen hne hxjnb v
  obtain ⟨u1, u2⟩ := update_value hi hlen hxjnb hxjlen (IR.addAssign (t.value xj) (pauTheta t xi xj v))
  have haij : updCoef t xj xi = aij := by rw [updCoef_of_row hl, hcf]; rfl
  have haw : R.FinWF aij := haij ▸ updCoef_fin hi xj xi
  have hth : IR.Fin (pauTheta t xi xj v) := by
    unfold pauTheta; rw [haij]
    exact ⟨(R.div_fin (R.sub_fin hv.1 (hfin xi).1).1 haw hn).1, (R.div_fin (R.sub_fin hv.2 (hfin xi).2).1 haw hn).1⟩
  have hsub : IR.sub (IR.addAssign (t.value xj) (pauTheta t xi xj v)) (t.value xj) = pauTheta t xi xj v :=
    congrArg₂ IR.mk (R.sub_add_cancel' (hfin xj).1 hth.1) (R.sub_add_cancel' (hfin xj).2 hth.2)
  have hvi : IR.addAssign (t.value xi) (IR.rMul aij (pauTheta t xi xj v)) = v := by
    unfold pauTheta; rw [haij]
    exact congrArg₂ IR.mk (R.add_mul_div_cancel (hfin xi).1 hv.1 haw hn) (R.add_mul_div_cancel (hfin xi).2 hv.2 haw hn)
  refine ⟨(IR.fin_addAssign (hfin xj) hth).1, ?_, by rw [p2, if_pos rfl]⟩
  rw [pauPre_eq, update_eq]
  congr 1
  refine ListAux.ext_getD (IR.ofR R.zero) ?_ fun y => ?_
  · have := p1; rw [pauPre_eq] at this; rw [this]
    have := u1; rw [update_eq] at this; exact this.symm
  · have h1 := p2 y; rw [pauPre_eq] at h1
    have h2 := u2 y; rw [update_eq] at h2
    refine h1.trans (Eq.trans ?_ h2.symm)
    rw [hsub]
    by_cases hyi : y = xi
    · subst hyi
      rw [if_pos rfl, if_neg (Ne.symm hne), if_pos ((hi.watch xj y).2 ⟨l, hl, hkxj⟩), haij, hvi]
    · rw [if_neg hyi]

end Lra

end Oratio
