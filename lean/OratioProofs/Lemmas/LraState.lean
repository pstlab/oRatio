/-
The state of the LRA model (OratioModel/Net/Lra.lean) read as lists and key-searched maps, and the invariant of its
tableau (`TabWF`).
-/
import OratioModel
import OratioProofs.Lemmas.InfRational
import OratioProofs.Lemmas.UndoLog
import OratioProofs.Lemmas.ListAux
import OratioProofs.Lemmas.Lin

namespace Oratio
namespace Lra
open Lin IR

export ListAux (getD_set_self getD_set_ne getD_set getD_append_default)

theorem getD_append_left {α : Type} (l l' : List α) (i : Nat) (d : α) (h : i < l.length) :
    (l ++ l').getD i d = l.getD i d := by
  simp [List.getD_eq_getElem?_getD, List.getElem?_append_left h]

theorem getD_append_right0 {α : Type} (l : List α) (a b d : α) : (l ++ [a, b]).getD l.length d = a := by
  simp [List.getD_eq_getElem?_getD]

theorem getD_append_right1 {α : Type} (l : List α) (a b d : α) : (l ++ [a, b]).getD (l.length + 1) d = b := by
  simp [List.getD_eq_getElem?_getD]

/-! `exprs`, `s_asrts`, `v_asrts` and the tableau are all read by `(find? (·.1 == k)).map (·.2)`: `findKey m k`, `t.rowOf x` and
`t.asrtOf b` are `ListAux.lookupBy` of the list by definition, and its lemmas apply to them as they stand. -/
theorem mem_of_asrtOf {t : Lra} {b : Nat} {a : LAsrt} (h : t.asrtOf b = some a) : (b, a) ∈ t.vAsrts :=
  ListAux.mem_of_lookupBy h

theorem mem_of_findKey {β : Type} {m : List (String × β)} {k : String} {v : β} (h : findKey m k = some v) :
    (k, v) ∈ m :=
  ListAux.mem_of_lookupBy h

theorem bnd_eq_of_bounds {t u : Lra} (h : u.bounds = t.bounds) (i : Nat) : u.bnd i = t.bnd i := by
  unfold bnd; rw [h]
theorem lb_eq_of_bounds {t u : Lra} (h : u.bounds = t.bounds) (x : Nat) : u.lb x = t.lb x := by
  unfold lb; rw [bnd_eq_of_bounds h]
theorem ub_eq_of_bounds {t u : Lra} (h : u.bounds = t.bounds) (x : Nat) : u.ub x = t.ub x := by
  unfold ub; rw [bnd_eq_of_bounds h]
theorem lbReason_eq_of_bounds {t u : Lra} (h : u.bounds = t.bounds) (x : Nat) : u.lbReason x = t.lbReason x := by
  unfold lbReason; rw [bnd_eq_of_bounds h]
theorem ubReason_eq_of_bounds {t u : Lra} (h : u.bounds = t.bounds) (x : Nat) : u.ubReason x = t.ubReason x := by
  unfold ubReason; rw [bnd_eq_of_bounds h]
theorem value_eq_of_vals {t u : Lra} (h : u.vals = t.vals) (x : Nat) : u.value x = t.value x := by
  unfold value; rw [h]
theorem rowOf_eq_of_tableau {t u : Lra} (h : u.tableau = t.tableau) (x : Nat) : u.rowOf x = t.rowOf x := by
  unfold rowOf; rw [h]
theorem isBasic_eq_of_tableau {t u : Lra} (h : u.tableau = t.tableau) (x : Nat) : u.isBasic x = t.isBasic x := by
  unfold isBasic; rw [rowOf_eq_of_tableau h]
theorem asrtOf_eq_of_vAsrts {t u : Lra} (h : u.vAsrts = t.vAsrts) (b : Nat) : u.asrtOf b = t.asrtOf b := by
  unfold asrtOf; rw [h]

theorem foldl_ext_mem {α β : Type} {f g : β → α → β} : ∀ {l : List α}, (∀ b, ∀ a ∈ l, f b a = g b a) →
    ∀ b, l.foldl f b = l.foldl g b
  | [], _, _ => rfl
  | a :: l, h, b => by
    rw [List.foldl_cons, List.foldl_cons, h b a List.mem_cons_self]
    exact foldl_ext_mem (fun b a ha => h b a (List.mem_cons_of_mem _ ha)) _

theorem lbLin_ubLin_eq_of_agree {t u : Lra} {l : Lin} (h : ∀ p ∈ l.vars, u.lb p.1 = t.lb p.1 ∧ u.ub p.1 = t.ub p.1) :
    u.lbLin l = t.lbLin l ∧ u.ubLin l = t.ubLin l :=
  ⟨foldl_ext_mem (fun b a ha => by rw [(h a ha).1, (h a ha).2]) _,
    foldl_ext_mem (fun b a ha => by rw [(h a ha).1, (h a ha).2]) _⟩

theorem valueLin_eq_of_agree {t u : Lra} {l : Lin} (h : ∀ p ∈ l.vars, u.value p.1 = t.value p.1) : u.valueLin l = t.valueLin l :=
  foldl_ext_mem (fun b a ha => by rw [h a ha]) _

theorem bnd_set (t u : Lra) (k : Nat) (b : LBound) (hu : u.bounds = t.bounds.set k b) (i : Nat) :
    u.bnd i = if k = i ∧ k < t.bounds.length then b else t.bnd i := by
  unfold bnd
  rw [hu, getD_set]

/-- `save` of the first-write-wins log: the layers after `saveBound i`, given the bounds `bs` -/
def savedLayers (bs : List LBound) (i : Nat) : List (List (Nat × LBound)) → List (List (Nat × LBound))
  | [] => []
  | l :: ls => if l.any (fun e => e.1 == i) then l :: ls
      else (l ++ [(i, bs.getD i ⟨IR.ofR R.zero, Lit.trueLit⟩)]) :: ls

/-- `pop()` on `c_bounds` -/
def restoreB (bs : List LBound) (l : List (Nat × LBound)) : List LBound := l.foldl (fun bs e => bs.set e.1 e.2) bs

theorem restoreB_cons (bs : List LBound) (e : Nat × LBound) (l : List (Nat × LBound)) :
    restoreB bs (e :: l) = restoreB (bs.set e.1 e.2) l := rfl

theorem restoreB_length : ∀ (l : List (Nat × LBound)) (bs : List LBound), (restoreB bs l).length = bs.length := by
  intro l
  induction l with
  | nil => intro bs; rfl
  | cons e l ih => intro bs; rw [restoreB_cons, ih, List.length_set]

theorem saveBound_def (t : Lra) (i : Nat) : t.saveBound i = { t with layers := savedLayers t.bounds i t.layers } := by
  unfold saveBound savedLayers
  cases h : t.layers with
  | nil => simp only; rw [← h]
  | cons l ls =>
    simp only
    split
    · rw [← h]
    · rfl

theorem saveBound_setBound (t : Lra) (i : Nat) (b : LBound) :
    (t.saveBound i).setBound i b = { t with bounds := t.bounds.set i b, layers := savedLayers t.bounds i t.layers } := by
  rw [saveBound_def]; rfl

theorem setBound_foldl (l : List (Nat × LBound)) : ∀ t : Lra,
    l.foldl (fun t e => t.setBound e.1 e.2) t = { t with bounds := restoreB t.bounds l } := by
  induction l with
  | nil => intro t; rfl
  | cons e l ih => intro t; rw [List.foldl_cons, ih]; rfl

theorem pop_def (t : Lra) : t.pop = match t.layers with
    | [] => t
    | l :: ls => { t with bounds := restoreB t.bounds l, layers := ls } := by
  unfold pop
  cases t.layers with
  | nil => rfl
  | cons l ls => simp only; rw [setBound_foldl]

/-! No operation after the root-level constructors touches the registries, the assertion watches or the number of
variables and bounds (`Kept`).  The simplex side (`update`, `pivot`, `pivot_and_update`, `check`) writes values,
tableau and watch lists only (`OnlyVT`); the bound side (`assert_*`, `propagate`, `push`, `pop`) writes bounds, undo
log and values only (`OnlyBLV`). -/
structure Kept (t u : Lra) : Prop where
  exprs : u.exprs = t.exprs
  sAsrts : u.sAsrts = t.sAsrts
  vAsrts : u.vAsrts = t.vAsrts
  aWatches : u.aWatches = t.aWatches
  nvars : u.vals.length = t.vals.length
  nbounds : u.bounds.length = t.bounds.length

theorem C09_bnd_of_bounds_set (t u : Lra) (k : Nat) (b : LBound) (hu : u.bounds = t.bounds.set k b)
    (hk : k < t.bounds.length) : u.bnd k = b ∧ ∀ i, i ≠ k → u.bnd i = t.bnd i :=
  ⟨by rw [bnd_set t u k b hu, if_pos ⟨rfl, hk⟩], fun i hi => by rw [bnd_set t u k b hu, if_neg (fun h => hi h.1.symm)]⟩

theorem findKey_eq_none {β : Type} {m : List (String × β)} {k : String} :
    findKey m k = none ↔ ∀ e ∈ m, (e.1 == k) = false :=
  ListAux.lookupBy_eq_none.trans (by simp only [beq_eq_false_iff_ne])

theorem mem_emplaceKey {β : Type} {m : List (String × β)} {k : String} {v : β} {e : String × β}
    (h : e ∈ emplaceKey m k v) : e ∈ m ∨ e = (k, v) :=
  (ListAux.mem_emplace.1 h).imp_right And.left

theorem mem_emplaceKey_of_mem {β : Type} {m : List (String × β)} {k : String} {v : β} {e : String × β}
    (h : e ∈ m) : e ∈ emplaceKey m k v :=
  ListAux.mem_emplace.2 (.inl h)

theorem findKey_emplaceKey_self {β : Type} {m : List (String × β)} {k : String} {v : β}
    (h : findKey m k = none) : findKey (emplaceKey m k v) k = some v := by
  rw [show findKey (emplaceKey m k v) k = ListAux.lookupBy (ListAux.emplace m k v) k from rfl, ListAux.lookupBy_emplace,
    show ListAux.lookupBy m k = none from h]
  simp

theorem find_append_new {m : List (Nat × LAsrt)} {n : Nat} {a : LAsrt} (h : ∀ e ∈ m, e.1 < n) :
    ((m ++ [(n, a)]).find? (fun e => e.1 == n)).map (·.2) = some a := by
  refine (ListAux.lookupBy_append m [(n, a)] n).trans ?_
  rw [ListAux.lookupBy_eq_none.2 fun e he => Nat.ne_of_lt (h e he)]
  simp [ListAux.lookupBy]

theorem tabInsert_eq_insertK (m : List (Nat × Lin)) (x : Nat) (l : Lin) :
    tabInsert m x l = ListAux.insertK Prod.fst (· < ·) (x, l) m := by
  induction m with
  | nil => rfl
  | cons e r ih =>
    rw [tabInsert, ListAux.insertK, ih]
    simp only [beq_iff_eq]

theorem mem_tabInsert {m : List (Nat × Lin)} {x : Nat} {l : Lin} {e : Nat × Lin} (h : e ∈ m) :
    e ∈ tabInsert m x l :=
  tabInsert_eq_insertK m x l ▸ ListAux.mem_insertK_of_mem h

theorem lb_ub_append {t u : Lra} (hbl : t.bounds.length = 2 * t.vals.length) {ext : List LBound}
    (hb : u.bounds = t.bounds ++ ext) {x : Nat} (hx : x < t.vals.length) : u.lb x = t.lb x ∧ u.ub x = t.ub x := by
  unfold lb ub bnd
  rw [hb, getD_append_left _ _ _ _ (by rw [hbl]; unfold lbIdx; omega),
    getD_append_left _ _ _ _ (by rw [hbl]; unfold ubIdx; omega)]
  exact ⟨rfl, rfl⟩

theorem lb_ub_new {t u : Lra} (hbl : t.bounds.length = 2 * t.vals.length) {a b : LBound}
    (hb : u.bounds = t.bounds ++ [a, b]) : u.lb t.vals.length = a.value ∧ u.ub t.vals.length = b.value := by
  unfold lb ub bnd lbIdx ubIdx
  rw [hb, ← hbl, getD_append_right0, getD_append_right1]
  exact ⟨rfl, rfl⟩

def relKey (up : Bool) (slack : Nat) (c : IR) : String :=
  "x" ++ toString slack ++ (if up then " <= " else " >= ") ++ irToStr c

/-- The invariant of the tableau and its watch lists.  Every clause is maintained by the model
    (`init`, `newVar`, `newVarLin`, `pivot`: `tabWF_init`, `tabWF_newVar`, `tabWF_newVarLin`,
    `tabWF_pivot`). -/
structure TabWF (t : Lra) : Prop where
  /-- `tableau` is a `std::map`: basic variables strictly ascending (hence distinct) -/
  keys : (t.tableau.map Prod.fst).Pairwise (· < ·)
  /-- every row is a canonical `lin`: variables strictly ascending, coefficients and known term canonical and finite -/
  rows : ∀ e ∈ t.tableau, e.2.WF
  /-- every variable of the tableau has been created by `new_var` (which extends `t_watches`) -/
  bound : ∀ e ∈ t.tableau, e.1 < t.tWatches.length ∧ ∀ p ∈ e.2.vars, p.1 < t.tWatches.length
  /-- no basic variable occurs in a row -/
  nonbasic : ∀ e ∈ t.tableau, ∀ p ∈ e.2.vars, t.isBasic p.1 = false
  /-- every `t_watches[v]` is kept as a strictly ascending list (the model's rendering of the set) -/
  wsorted : ∀ w ∈ t.tWatches, w.Pairwise (· < ·)
  /-- the row of `r` has an entry for `v` iff `r ∈ t_watches[v]` -/
  watch : ∀ v r, r ∈ t.tWatches.getD v [] ↔ ∃ e ∈ t.tableau, e.1 = r ∧ ∃ p ∈ e.2.vars, p.1 = v
  /-- `t_watches` and `vals` have one entry per variable -/
  wlen : t.tWatches.length = t.vals.length

theorem isBasic_false_iff (t : Lra) (v : Nat) : t.isBasic v = false ↔ t.rowOf v = none := by
  unfold isBasic
  cases t.rowOf v <;> simp

/-- the rational / infinitesimal parts of the current assignment -/
def ratAssign (t : Lra) : Nat → Rat := fun x => (t.value x).rat.toRat
def infAssign (t : Lra) : Nat → Rat := fun x => (t.value x).inf.toRat

theorem evalS_homog (l : Lin) (σ : Nat → Rat) :
    Lin.evalS { l with known := R.zero } σ = Lin.evalS l σ - l.known.toRat := by
  rw [evalS_eq, evalS_eq]
  show _ + R.zero.toRat = _
  rw [R.toRat_zero]
  ring

theorem lbIdx_ne {x y : Nat} (h : x ≠ y) : lbIdx x ≠ lbIdx y := by unfold lbIdx; omega
theorem ubIdx_ne {x y : Nat} (h : x ≠ y) : ubIdx x ≠ ubIdx y := by unfold ubIdx; omega
theorem lbIdx_ne_ubIdx (x y : Nat) : lbIdx x ≠ ubIdx y := by unfold lbIdx ubIdx; omega

theorem lb_ub_set_lb {t u : Lra} {xi : Nat} {b : LBound} (hu : u.bounds = t.bounds.set (lbIdx xi) b)
    (hi : lbIdx xi < t.bounds.length) :
    u.lb xi = b.value ∧ u.ub xi = t.ub xi ∧ ∀ x, x ≠ xi → u.lb x = t.lb x ∧ u.ub x = t.ub x := by
  obtain ⟨b1, b2⟩ := C09_bnd_of_bounds_set t u _ _ hu hi
  unfold lb ub
  exact ⟨by rw [b1], by rw [b2 _ (lbIdx_ne_ubIdx xi xi).symm],
    fun x hx => ⟨by rw [b2 _ (lbIdx_ne hx)], by rw [b2 _ (lbIdx_ne_ubIdx xi x).symm]⟩⟩

theorem lb_ub_set_ub {t u : Lra} {xi : Nat} {b : LBound} (hu : u.bounds = t.bounds.set (ubIdx xi) b)
    (hi : ubIdx xi < t.bounds.length) :
    u.lb xi = t.lb xi ∧ u.ub xi = b.value ∧ ∀ x, x ≠ xi → u.lb x = t.lb x ∧ u.ub x = t.ub x := by
  obtain ⟨b1, b2⟩ := C09_bnd_of_bounds_set t u _ _ hu hi
  unfold lb ub
  exact ⟨by rw [b2 _ (lbIdx_ne_ubIdx xi xi)], by rw [b1],
    fun x hx => ⟨by rw [b2 _ (lbIdx_ne_ubIdx x xi)], by rw [b2 _ (ubIdx_ne hx)]⟩⟩

theorem value_append {t u : Lra} {v : IR} (hv : u.vals = t.vals ++ [v]) (x : Nat) :
    u.value x = if x = t.vals.length then v else t.value x := by
  unfold value
  rw [hv, List.getD_eq_getElem?_getD, List.getD_eq_getElem?_getD, List.getElem?_append]
  split
  · next h => rw [if_neg (Nat.ne_of_lt h)]
  · next h =>
    rw [List.getElem?_eq_none (Nat.le_of_not_lt h)]
    split
    · next hx => rw [hx, Nat.sub_self]; rfl
    · next hx =>
      rw [List.getElem?_eq_none]
      show 1 ≤ x - t.vals.length
      omega

theorem newVar_value (t : Lra) (x : Nat) : t.newVar.2.value x = t.value x := getD_append_default t.vals x _

theorem value_ge (t : Lra) {x : Nat} (h : t.vals.length ≤ x) : t.value x = IR.ofR R.zero := by
  unfold value
  rw [List.getD_eq_getElem?_getD, List.getElem?_eq_none h]
  rfl

theorem lb_ub_ge {t : Lra} (hl : t.bounds.length = 2 * t.vals.length) {x : Nat} (hx : t.vals.length ≤ x) :
    t.lb x = IR.ofR R.zero ∧ t.ub x = IR.ofR R.zero := by
  unfold lb ub bnd lbIdx ubIdx
  rw [List.getD_eq_getElem?_getD, List.getD_eq_getElem?_getD, List.getElem?_eq_none (by omega),
    List.getElem?_eq_none (by omega)]
  exact ⟨rfl, rfl⟩

theorem findKey_emplaceKey_of_some {β : Type} {m : List (String × β)} {k k' : String} {v w : β}
    (h : findKey m k' = some w) : findKey (emplaceKey m k v) k' = some w := by
  rw [show findKey (emplaceKey m k v) k' = ListAux.lookupBy (ListAux.emplace m k v) k' from rfl, ListAux.lookupBy_emplace,
    show ListAux.lookupBy m k' = some w from h]
  rfl

theorem findKey_emplaceKey_same {β : Type} (m : List (String × β)) (k : String) (v : β) :
    ∃ w, findKey (emplaceKey m k v) k = some w ∧ (findKey m k = some w ∨ (findKey m k = none ∧ w = v)) := by
  cases h : findKey m k with
  | some w => exact ⟨w, findKey_emplaceKey_of_some h, Or.inl rfl⟩
  | none => exact ⟨v, findKey_emplaceKey_self h, Or.inr ⟨rfl, rfl⟩⟩

end Lra

end Oratio
