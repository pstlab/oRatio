/-
C08: the first-write-wins undo log, once for every store that keeps one (the matrices and the
responsible-constraint table of the difference-logic theories, the bounds of linear arithmetic).  A store
`S` is read through `get : S → κ → V`; nested levels are a `ChainTo`.
-/

namespace Oratio
namespace Undo

variable {S κ V W : Type} {get : S → κ → V} {ok : κ → W → Prop} {B D : S} {log : List (κ × W)}

/-- `ok k w`: in the instances, `w` is what the base store `B` holds at `k` -/
def FLog (get : S → κ → V) (ok : κ → W → Prop) (B D : S) (log : List (κ × W)) : Prop :=
  (∀ e ∈ log, ok e.1 e.2) ∧ ∀ k, (∃ e ∈ log, e.1 = k) ∨ get D k = get B k

theorem FLog.iff_forall : FLog get ok B D log ↔
    (∀ e ∈ log, ok e.1 e.2) ∧ ∀ k, (∀ e ∈ log, e.1 ≠ k) → get D k = get B k :=
  and_congr_right fun _ => forall_congr' fun _ =>
    ⟨fun h hk => h.resolve_left fun ⟨e, he, hek⟩ => hk e he hek,
     fun h => Classical.or_iff_not_imp_left.2 fun hn => h fun e he hek => hn ⟨e, he, hek⟩⟩

theorem FLog.write (h : FLog get ok B D log) {k : κ} (hk : ∃ e ∈ log, e.1 = k) {D' : S}
    (hD : ∀ k', k' ≠ k → get D' k' = get D k') : FLog get ok B D' log :=
  ⟨h.1, fun k' => by
    by_cases hkk : k' = k
    · exact Or.inl (hkk ▸ hk)
    · exact (h.2 k').imp_right (hD k' hkk).trans⟩

theorem FLog.save (h : FLog get ok B D log) {k : κ} {w : W} (hk : ∀ e ∈ log, e.1 ≠ k)
    (hw : get D k = get B k → ok k w) {log' : List (κ × W)} (hsub : ∀ e ∈ log', e ∈ log ∨ e = (k, w))
    (hsup : ∀ e ∈ log, e ∈ log') : FLog get ok B D log' :=
  ⟨fun e he => (hsub e he).elim (h.1 e)
      fun e' => e' ▸ hw ((h.2 k).resolve_left fun ⟨e, he, hek⟩ => hk e he hek),
   fun k' => (h.2 k').imp_left fun ⟨e, he, hek⟩ => ⟨e, hsup e he, hek⟩⟩

/-- `P`: whatever of the shape of the store the write-back needs and keeps -/
theorem FLog.restore {wr : S → κ × W → S} {P : S → Prop} (hP : ∀ s e, P s → P (wr s e))
    (hne : ∀ s e k, e.1 ≠ k → get (wr s e) k = get s k)
    (heq : ∀ s e, P s → ok e.1 e.2 → get (wr s e) e.1 = get B e.1) :
    ∀ (log : List (κ × W)) (D : S), P D → FLog get ok B D log →
      P (log.foldl wr D) ∧ ∀ k, get (log.foldl wr D) k = get B k
  | [], _, hD, h => ⟨hD, fun k => (h.2 k).resolve_left fun ⟨_, he, _⟩ => nomatch he⟩
  | e :: log, D, hD, h => by
    refine FLog.restore hP hne heq log (wr D e) (hP D e hD)
      ⟨fun e' he' => h.1 e' (List.mem_cons_of_mem _ he'), fun k => ?_⟩
    by_cases hk : e.1 = k
    · exact Or.inr (hk ▸ heq D e hD (h.1 e List.mem_cons_self))
    · rcases h.2 k with ⟨e', he', hek⟩ | h2
      · rcases List.mem_cons.1 he' with rfl | he'
        · exact absurd hek hk
        · exact Or.inl ⟨e', he', hek⟩
      · exact Or.inr ((hne D e k hk).trans h2)

/-- the open levels, innermost first: the current state is inside (`In`) the innermost one, the state each
    was opened on (`base`) is inside the next, and the outermost base is the initial state `root` up to `R` -/
def ChainTo {β σ : Type} (In : β → σ → Prop) (R : σ → σ → Prop) (base : β → σ) (root : σ) : List β → σ → Prop
  | [], cur => R root cur
  | b :: bs, cur => In b cur ∧ ChainTo In R base root bs (base b)

theorem ChainTo.congr {β σ : Type} {In : β → σ → Prop} {R : σ → σ → Prop} {base : β → σ} {root B u : σ} :
    ∀ {bs : List β}, ChainTo In R base root bs B → (∀ {b}, In b B → In b u) → (R root B → R root u) →
      ChainTo In R base root bs u
  | [], h, _, hR => hR h
  | _ :: _, h, hIn, _ => ⟨hIn h.1, h.2⟩

end Undo
end Oratio
