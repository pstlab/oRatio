/-
C07: literals, entailment, values of the state; what `WfA` says about trail, values and levels, and what `Ent` says about
the assignments that satisfy the formula and the decisions (a trail literal is true, a falsified clause refutes them).
-/
import OratioProofs.Lemmas.SatCoreDefs
import OratioProofs.Lemmas.LitBasic
import OratioProofs.Lemmas.ListAux

set_option linter.unusedVariables false

namespace Oratio

theorem getD_some_lt {α : Type} {l : List (Option α)} {i : Nat} {a : α} (h : l.getD i none = some a) : i < l.length :=
  ListAux.lt_of_getD_ne (by rw [h]; nofun)

theorem set_getD_self {α : Type} (l : List α) (i : Nat) (d : α) : l.set i (l.getD i d) = l :=
  ListAux.ext_getD d (List.length_set ..) fun j => by
    rw [ListAux.getD_set]
    split
    · next h => rw [h.1]
    · rfl

theorem length_filter_mono {α} (l : List α) (p q : α → Bool) (h : ∀ x ∈ l, p x = true → q x = true) :
    (l.filter p).length ≤ (l.filter q).length := by
  induction l with
  | nil => simp
  | cons x t ih =>
    have ih' := ih (fun y hy => h y (List.mem_cons_of_mem _ hy))
    have hx := h x (List.mem_cons_self ..)
    simp only [List.filter_cons]
    cases hp : p x <;> cases hq : q x <;> simp_all <;> omega

theorem forall_mem_snoc {α} {p : α → Prop} {l : List α} {a : α} (h : ∀ x ∈ l, p x) (ha : p a) : ∀ x ∈ l ++ [a], p x :=
  List.forall_mem_append.2 ⟨h, List.forall_mem_singleton.2 ha⟩

@[simp] theorem Lit.neg_sign (l : Lit) : l.neg.sign = !l.sign := rfl

theorem Lit.ext' {a b : Lit} (h1 : a.var = b.var) (h2 : a.sign = b.sign) : a = b := by
  cases a; cases b; simp_all

theorem Lit.eq_or_neg {a b : Lit} (h : a.var = b.var) : a = b ∨ a = b.neg := by
  cases a with | mk v s => cases b with | mk w t =>
  simp only [Lit.neg, Lit.mk.injEq] at *
  subst h; cases s <;> cases t <;> simp

theorem Lit.idx_lt {a : Lit} {n : Nat} (h : a.var < n) : a.idx < 2 * n := by
  cases a with | mk v s => simp only [Lit.idx] at *; split <;> omega

theorem Lit.neg_idx_ne {a b : Lit} (h : a.var ≠ b.var) : a.neg.idx ≠ b.neg.idx := by
  intro e; exact h (by have := Lit.idx_inj e; simpa using congrArg Lit.var this)

theorem Dl.clause_true_of {α : Asg} {cl : List Lit} (h : (∀ l ∈ cl, α.lit l = false) → False) : α.clause cl = true := by
  cases hc : α.clause cl with
  | true => rfl
  | false => exact (h (Asg.clause_eq_false_iff.1 hc)).elim

theorem Asg.cnf_units (α : Asg) (ls : List Lit) : α.cnf (units ls) = ls.all α.lit := by
  simp [Asg.cnf, units, List.all_map, Asg.clause_singleton, Function.comp_def]

/-- the unit clauses of a list of literals, under the name the statements of C07 use (`units` is the same function) -/
def unitsOf (ls : List Lit) : Cnf := ls.map (fun l => [l])

theorem Ents.mono {F G : Cnf} {c : Clause} (h : Ents F c) (hs : ∀ d ∈ F, d ∈ G) : Ents G c := by
  intro α h0 hG
  exact h α h0 (Asg.cnf_of_sub hs hG)

theorem Ents.of_mem {F : Cnf} {c : Clause} (h : c ∈ F) : Ents F c := by
  intro α _ hF
  exact Asg.cnf_iff.1 hF c h

theorem Ents.weaken {F : Cnf} {c d : Clause} (h : Ents F c) (hs : ∀ l ∈ c, l ∈ d) : Ents F d := by
  intro α h0 hF
  have := h α h0 hF
  rw [Asg.clause_iff] at this ⊢
  obtain ⟨l, hl, hv⟩ := this
  exact ⟨l, hs l hl, hv⟩

theorem Lit.an_map_neg_neg (l : List Lit) : (l.map Lit.neg).map Lit.neg = l := by
  induction l with
  | nil => rfl
  | cons a l ih => simp [ih]

theorem Ents.an_weaken {F : Cnf} {c c' : Clause} (h : Ents F c)
    (hs : ∀ x ∈ c, x ∈ c' ∨ Ents F [x.neg]) : Ents F c' := by
  intro α h0 hF
  have := h α h0 hF
  rw [Asg.clause_iff] at this ⊢
  obtain ⟨x, hx, hα⟩ := this
  rcases hs x hx with h1 | h1
  · exact ⟨x, h1, hα⟩
  · have := h1 α h0 hF
    rw [Asg.clause_singleton, Asg.lit_neg, hα] at this; cases this

theorem Ents.an_resolve {F : Cnf} {c1 c2 c' : Clause} (p : Lit) (h1 : Ents F c1) (h2 : Ents F c2)
    (hs1 : ∀ x ∈ c1, x = p.neg ∨ x ∈ c') (hs2 : ∀ x ∈ c2, x = p ∨ x ∈ c') : Ents F c' := by
  intro α h0 hF
  have a1 := h1 α h0 hF
  have a2 := h2 α h0 hF
  rw [Asg.clause_iff] at a1 a2 ⊢
  obtain ⟨x, hx, hα⟩ := a1
  obtain ⟨y, hy, hβ⟩ := a2
  rcases hs1 x hx with e1 | e1
  · rcases hs2 y hy with e2 | e2
    · subst e1 e2
      simp [Asg.lit_neg, hβ] at hα
    · exact ⟨y, e2, hβ⟩
  · exact ⟨x, e1, hα⟩

theorem ents_trueLit (F : Cnf) : Ents F [Lit.falseLit.neg] := by
  intro α h0 _
  rw [Asg.clause_singleton]; exact Asg.lit_trueLit h0

theorem Lra.value_of_var {s : Sat} {p : Lit} (hp : s.value p = some true) : s.value ⟨p.var, true⟩ = some p.sign := by
  unfold Sat.value litValue at hp ⊢
  cases hv : s.vals.getD p.var none with
  | none => simp only [hv] at hp; cases hp
  | some b =>
    simp only [hv] at hp ⊢
    cases hsg : p.sign <;> simp [hsg] at hp ⊢ <;> exact hp

namespace Sat

theorem value_def (s : Sat) (l : Lit) : s.value l = litValue s.vals l := rfl

theorem value_eq_none {s : Sat} {l : Lit} : s.value l = none ↔ s.vals.getD l.var none = none := litValue_eq_none

theorem value_eq_true {s : Sat} {l : Lit} : s.value l = some true ↔ s.vals.getD l.var none = some l.sign := by
  simp only [value, litValue]
  split
  · simp_all
  · rename_i b hb; rw [hb]; cases b <;> cases h : l.sign <;> simp

theorem value_eq_false {s : Sat} {l : Lit} : s.value l = some false ↔ s.vals.getD l.var none = some (!l.sign) := by
  simp only [value, litValue]
  split
  · simp_all
  · rename_i b hb; rw [hb]; cases b <;> cases h : l.sign <;> simp

theorem value_neg_true {s : Sat} {l : Lit} : s.value l.neg = some true ↔ s.value l = some false := by
  rw [value_eq_true, value_eq_false]; simp

theorem value_neg_false {s : Sat} {l : Lit} : s.value l.neg = some false ↔ s.value l = some true := by
  rw [value_eq_true, value_eq_false]; simp

theorem value_congr {s t : Sat} {l : Lit} (h : t.vals.getD l.var none = s.vals.getD l.var none) :
    t.value l = s.value l := by
  simp only [value, litValue, h]

theorem lvl_congr {s t : Sat} {l : Lit} (h : t.level.getD l.var 0 = s.level.getD l.var 0) : t.lvl l = s.lvl l := h

@[simp] theorem an_lvl_neg (s : Sat) (l : Lit) : s.lvl l.neg = s.lvl l := rfl

theorem WfA.value_true {s : Sat} (h : s.WfA) {l : Lit} :
    s.value l = some true ↔ l ∈ s.trail ∨ l = Lit.trueLit := by
  rw [value_eq_true]
  constructor
  · intro hv
    rcases h.valTrail _ _ hv with h0 | ht
    · right
      rw [h0, h.val0] at hv
      exact Lit.ext' h0 (by simpa [Lit.trueLit] using hv.symm)
    · left; simpa using ht
  · rintro (ht | rfl)
    · exact (h.trailVal l ht).1
    · simpa [Lit.trueLit] using h.val0

theorem WfA.value_false {s : Sat} (h : s.WfA) {l : Lit} :
    s.value l = some false ↔ l.neg ∈ s.trail ∨ l = Lit.falseLit := by
  rw [← value_neg_true, h.value_true]
  constructor
  · rintro (a | a)
    · exact Or.inl a
    · right; have := congrArg Lit.neg a; rw [Lit.neg_neg] at this; rw [this]; rfl
  · rintro (a | a)
    · exact Or.inl a
    · right; subst a; rfl

theorem WfA.trail_var_ne {s : Sat} (h : s.WfA) {l p : Lit} (hl : l ∈ s.trail) (hp : s.value p = none) :
    l.var ≠ p.var := by
  intro e
  have := (h.trailVal l hl).1
  rw [value_eq_none] at hp
  rw [e, hp] at this
  cases this

theorem WfA.var_ne_zero_of_none {s : Sat} (h : s.WfA) {p : Lit} (hp : s.value p = none) : p.var ≠ 0 := by
  intro e
  rw [value_eq_none, e, h.val0] at hp
  cases hp

theorem WfA.trail_lt {s : Sat} (h : s.WfA) {l : Lit} (hl : l ∈ s.trail) : l.var < s.vals.length :=
  getD_some_lt (h.trailVal l hl).1

theorem WfA.trail_var_inj {s : Sat} (h : s.WfA) {a b : Lit} (ha : a ∈ s.trail) (hb : b ∈ s.trail)
    (e : a.var = b.var) : a = b := by
  apply Lit.ext' e
  have h1 := (h.trailVal a ha).1
  have h2 := (h.trailVal b hb).1
  rw [e, h2] at h1
  simpa using h1.symm

theorem WfA.not_both {s : Sat} (h : s.WfA) {a : Lit} (ha : a ∈ s.trail) (hb : a.neg ∈ s.trail) : False :=
  Lit.neg_ne a (h.trail_var_inj hb ha rfl)

theorem WfA.lvl_le {s : Sat} (h : s.WfA) {l : Lit} (hl : l ∈ s.trail) : s.lvl l ≤ s.decisionLevel := by
  obtain ⟨a, b, e⟩ := List.append_of_mem hl
  have := h.levelOK l b ⟨a, e.symm⟩
  rw [this]
  exact List.length_filter_le _ _

theorem WfA.lvl_mono {s : Sat} (h : s.WfA) {l : Lit} {b : List Lit} (hs : (l :: b) <:+ s.trail) {x : Lit}
    (hx : x ∈ b) : s.lvl x ≤ s.lvl l := by
  obtain ⟨a', b', e⟩ := List.append_of_mem hx
  have hs' : (x :: b') <:+ s.trail := by
    obtain ⟨pre, hpre⟩ := hs
    exact ⟨pre ++ l :: a', by rw [← hpre, e]; simp⟩
  rw [h.levelOK l b hs, h.levelOK x b' hs']
  have hlen : b'.length ≤ b.length := by rw [e]; simp; omega
  apply length_filter_mono
  intro lim _ hl
  simp only [decide_eq_true_eq] at hl ⊢
  omega

theorem WfA.root_lvl {s : Sat} (h : s.WfA) (hr : s.trailLim = []) {l : Lit} (hl : l ∈ s.trail) : s.lvl l = 0 := by
  have := h.lvl_le hl
  simp [decisionLevel, hr] at this
  exact this

theorem value_neg (s : Sat) (l : Lit) : s.value l.neg = (s.value l).map (!·) := litValue_neg s.vals l

theorem newVar_nvars (s : Sat) : s.newVar.2.nvars = s.nvars + 1 := by
  simp [Sat.newVar, Sat.nvars]

theorem decsUpTo_all {s : Sat} (h : s.WfA) : s.decsUpTo s.decisionLevel = s.decisions := by
  simp [decsUpTo, decisionLevel, h.decLen]

theorem decsUpTo_sub (s : Sat) (k : Nat) : ∀ d ∈ s.decsUpTo k, d ∈ s.decisions :=
  fun d hd => (List.drop_suffix _ _).subset hd

theorem Ent.trail_true {orig K : Cnf} {s : Sat} (h : s.Ent orig K) {α : Asg} (h0 : α 0 = false)
    (hF : α.cnf (orig ++ units s.decisions) = true) {l : Lit} (hl : l ∈ s.trail) : α.lit l = true := by
  have := h.trail l hl α h0 (by
    rw [Asg.cnf_append, Bool.and_eq_true] at hF ⊢
    refine ⟨hF.1, ?_⟩
    have h2 := hF.2
    rw [Asg.cnf_units, List.all_eq_true] at h2 ⊢
    exact fun d hd => h2 d (decsUpTo_sub _ _ d hd))
  rwa [Asg.clause_singleton] at this

theorem Ent.lit_false {orig K : Cnf} {s : Sat} (h : s.Ent orig K) {α : Asg} (h0 : α 0 = false)
    (hF : α.cnf (orig ++ units s.decisions) = true) {l : Lit} (hl : l.neg ∈ s.trail ∨ l = Lit.falseLit) :
    α.lit l = false := by
  rcases hl with hl | rfl
  · have := h.trail_true h0 hF hl
    rw [Asg.lit_neg] at this
    simpa using this
  · exact Asg.lit_falseLit h0

theorem uns_iff {F : Cnf} : Uns F ↔ Ents F [] :=
  ⟨fun h α h0 hF => absurd ((h α h0).symm.trans hF) Bool.false_ne_true,
    fun h α h0 => Bool.eq_false_iff.2 fun hF => Bool.false_ne_true (h α h0 hF)⟩

theorem Ent.drop_false {orig K : Cnf} {s : Sat} (he : s.Ent orig K) {c r : Clause} (hc : Ents orig c)
    (h : ∀ l ∈ c, l ∈ r ∨ l.neg ∈ s.trail ∨ l = Lit.falseLit) : Ents (orig ++ units s.decisions) r := by
  intro α h0 hF
  have h1 := hc α h0 (by rw [Asg.cnf_append, Bool.and_eq_true] at hF; exact hF.1)
  rw [Asg.clause_iff] at h1 ⊢
  obtain ⟨l, hl, hv⟩ := h1
  refine (h l hl).elim (fun hr => ⟨l, hr, hv⟩) (fun hf => ?_)
  rw [he.lit_false h0 hF hf] at hv; cases hv

theorem ents_unitN {orig K : Cnf} {s : Sat} (he : s.Ent orig K) {a : Lit} {rest : List Lit}
    (hcl : Ents orig (a :: rest)) (hr : ∀ r ∈ rest, r.neg ∈ s.trail ∨ r = Lit.falseLit) :
    Ents (orig ++ units s.decisions) [a] :=
  he.drop_false hcl fun _ hl => (List.mem_cons.1 hl).imp List.mem_singleton.2 (hr _)

theorem ents_unit {orig K : Cnf} {s : Sat} (he : s.Ent orig K) {a : Lit} {rest : List Lit}
    (hcl : Ents orig (a :: rest)) (hr : ∀ r ∈ rest, r.neg ∈ s.trail) : Ents (orig ++ units s.decisions) [a] :=
  ents_unitN he hcl (fun r h => .inl (hr r h))

theorem Ent.uns_of_false {orig K : Cnf} {s : Sat} (he : s.Ent orig K) {c : Clause} (hc : Ents orig c)
    (hf : ∀ l ∈ c, l.neg ∈ s.trail ∨ l = Lit.falseLit) : Uns (orig ++ units s.decisions) :=
  uns_iff.2 (he.drop_false hc fun l hl => .inr (hf l hl))

theorem uns_of_false {orig : Cnf} {s : Sat} (ha : s.WfA) (he : s.Ent orig) {p : Lit} (hv : s.value p = some false) :
    Uns (orig ++ units (p :: s.decisions)) := by
  intro α h0
  cases hF : α.cnf (orig ++ units (p :: s.decisions)) with
  | false => rfl
  | true =>
    rw [Asg.cnf_append, Asg.cnf_units, List.all_cons, ← Asg.cnf_units, Bool.and_eq_true, Bool.and_eq_true] at hF
    have := he.lit_false h0 (by rw [Asg.cnf_append, hF.1, hF.2.2]; rfl) (ha.value_false.1 hv)
    rw [hF.2.1] at this; cases this

theorem Uns.mono {F G : Cnf} (h : Uns F) (hs : ∀ d ∈ F, d ∈ G) : Uns G := uns_iff.2 ((uns_iff.1 h).mono hs)

theorem units_mono {a b : List Lit} (h : a <:+ b) {orig : Cnf} : ∀ d ∈ orig ++ units a, d ∈ orig ++ units b := by
  intro d hd
  rcases List.mem_append.1 hd with hd | hd
  · exact List.mem_append_left _ hd
  · apply List.mem_append_right
    simp only [units, List.mem_map] at hd ⊢
    obtain ⟨l, hl, rfl⟩ := hd
    exact ⟨l, h.subset hl, rfl⟩

theorem an_lvl_congr (s : Sat) {x y : Lit} (h : x.var = y.var) : s.lvl x = s.lvl y := by
  simp [lvl, h]

end Sat
end Oratio
