/-
C11S: the variable `newVarLin` returns has the value of the expression in every solution of the tableau, and the
assertion behind a non-constant answer of `newRel` says exactly the requested relation.
-/
import OratioModel
import OratioProofs.Lemmas.LraBoundKinds
import OratioProofs.Lemmas.LraNewRel
import OratioProofs.Lemmas.LraTabWF

namespace Oratio
namespace Lra
open Lin

theorem relE_spec {t : Lra} (ht : TabWF t) {left right : Lin} (hl : left.WF) (hr : right.WF)
    (hlv : ∀ p ∈ left.vars, p.1 < t.vals.length) (hrv : ∀ p ∈ right.vars, p.1 < t.vals.length) :
    (relE t left right).WF ∧ (∀ p ∈ (relE t left right).vars, p.1 < t.vals.length) ∧
    R.FinWF (substBasic t (Lin.sub left right)).known ∧
    ∀ σ, RowsS t σ → Lin.evalS (relE t left right) σ =
      Lin.evalS left σ - Lin.evalS right σ - (substBasic t (Lin.sub left right)).known.toRat := by
  obtain ⟨hi, hlen⟩ := (tabWF_iff t).1 ht
  obtain ⟨d1, -, -, d4, -⟩ := Lin.sub_spec left right hl hr
  obtain ⟨s1, s2, -, -⟩ := substBasic_spec (t := t) hi.rows d1
  obtain ⟨w1, w2, w3⟩ := (wf_iff _).1 s1
  refine ⟨(wf_iff _).2 ⟨w1, w2, R.finWF_zero⟩,
    substBasic_vars_lt ht d1 (sub_vars_lt hl hr hlv hrv), w3, ?_⟩
  · intro σ hσ
    have h2 := s2 σ ((holdsR_iff hi.keys σ).1 hσ)
    rw [d4, evalS_eq] at h2
    show sumS σ (substBasic t (Lin.sub left right)).vars + R.zero.toRat = _
    rw [R.toRat_zero]
    linarith

theorem rowsS_congr {t u : Lra} (h : u.tableau = t.tableau) (σ : Nat → Rat) : RowsS u σ ↔ RowsS t σ := by
  unfold RowsS; rw [h]

theorem newVarLin_sem {s : Sat} {t : Lra} (ht : TabWF t) (si : SemInv t) {l : Lin} (hl : l.WF)
    (hlv : ∀ p ∈ l.vars, p.1 < t.vals.length) {slack : Nat} {t1 : Lra}
    (h : newVarLin s t l = some (slack, t1)) :
    (∀ σ, RowsS t1 σ → RowsS t σ ∧ σ slack = Lin.evalS l σ) ∧
    (∀ σ, RowsS t σ → ∃ σ', RowsS t1 σ' ∧ ∀ x, x < t.vals.length → σ' x = σ x) := by
  have same : ∀ {u : Lra} {v : Nat}, u.tableau = t.tableau → (∀ σ, RowsS t σ → σ v = Lin.evalS l σ) →
      (∀ σ, RowsS u σ → RowsS t σ ∧ σ v = Lin.evalS l σ) ∧
      (∀ σ, RowsS t σ → ∃ σ', RowsS u σ' ∧ ∀ x, x < t.vals.length → σ' x = σ x) := fun hu hv =>
    ⟨fun σ hσ => ⟨(rowsS_congr hu σ).1 hσ, hv σ ((rowsS_congr hu σ).1 hσ)⟩,
      fun σ hσ => ⟨σ, (rowsS_congr hu σ).2 hσ, fun _ _ => rfl⟩⟩
  cases (newVarLin_nf h).2 with
  | found hf ht1 => exact same (ht1 ▸ rfl) (si.exprs_sem _ (mem_of_findKey hf) l hl rfl)
  | foundRewritten h0 hf ht1 =>
    obtain ⟨s1, s2⟩ := substBasic_holds (t := t) ht.rows hl
    exact same (ht1 ▸ rfl) fun σ hσ => (si.exprs_sem _ (mem_of_findKey hf) _ s1 rfl σ hσ).trans (s2 σ hσ)
  | created h0 h1 hroot hs ht1 =>
    rcases newVarLin_sound ht hl hlv h with ⟨-, -, h3⟩ | ⟨hs, -, -, -, h5, h6⟩
    · have := congrArg List.length h3
      rw [ht1, withSlack_vals_length] at this
      exact absurd this (Nat.succ_ne_self _)
    · refine ⟨h6, fun σ hσ => ⟨_, (h5 σ hσ).2, fun x hx => ?_⟩⟩
      rw [hs]
      exact Function.update_of_ne (Nat.ne_of_lt hx) _ _

def relEps : LRel → R
  | .lt => R.ofInt (-1)
  | .gt => R.ofInt 1
  | _ => R.zero

theorem relC_eq (t : Lra) (r : LRel) (left right : Lin) :
    relC t r left right = ⟨R.neg (substBasic t (Lin.sub left right)).known, relEps r⟩ := by
  cases r <;> rfl

theorem relC_simple {t : Lra} (r : LRel) {left right : Lin}
    (hk : R.FinWF (substBasic t (Lin.sub left right)).known) : SimpleC (relC t r left right) := by
  rw [relC_eq]
  refine ⟨R.finWF_neg hk, ?_⟩
  cases r
  · exact Or.inr (Or.inr rfl)
  · exact Or.inl rfl
  · exact Or.inl rfl
  · exact Or.inr (Or.inl rfl)

/-- what each relation says of the difference `d = x - y`, as a comparison of `(d, 0)` with `(0, e)` -/
theorem relEps_means (r : LRel) (x y : Rat) :
    (if relUp r then (toLex (x - y, 0) : QV) ≤ toLex (0, (relEps r).toRat)
      else (toLex (0, (relEps r).toRat) : QV) ≤ toLex (x - y, 0)) ↔ RelHolds r x y := by
  have hm : (R.ofInt (-1)).toRat < 0 := by decide
  have hp : (0 : Rat) < (R.ofInt 1).toRat := by decide
  have hz : ¬ R.zero.toRat < 0 ∧ ¬ 0 < R.zero.toRat := by decide
  cases r
  · exact QV.le_reading.trans ((iff_of_eq (if_pos hm)).trans sub_neg)
  · exact QV.le_reading.trans ((iff_of_eq (if_neg hz.1)).trans sub_nonpos)
  · exact QV.le_reading.trans ((iff_of_eq (if_neg hz.2)).trans sub_nonneg)
  · exact QV.le_reading.trans ((iff_of_eq (if_pos hp)).trans sub_pos)

theorem bound_neg_means {k : R} (hk : R.FinWF k) (e : R) (d : Rat) :
    (IRAbove ⟨R.neg k, e⟩ (d - k.toRat) ↔ (toLex (d, 0) : QV) ≤ toLex (0, e.toRat)) ∧
    (IRBelow ⟨R.neg k, e⟩ (d - k.toRat) ↔ (toLex (0, e.toRat) : QV) ≤ toLex (d, 0)) := by
  have hf := R.finWF_neg hk
  rw [irAbove_fin hf, irBelow_fin hf]
  show ((toLex (d - k.toRat, 0) : QV) ≤ toLex ((R.neg k).toRat, e.toRat) ↔ _) ∧
    ((toLex ((R.neg k).toRat, e.toRat) : QV) ≤ toLex (d - k.toRat, 0) ↔ _)
  rw [R.toRat_neg hk, ← zero_sub, QV.le_iff, QV.le_iff, QV.le_iff, QV.le_iff, sub_lt_sub_iff_right, sub_lt_sub_iff_right,
    sub_left_inj, sub_left_inj]
  exact ⟨Iff.rfl, Iff.rfl⟩

/-- the slack variable has the value `d - k`: `d` the difference of the two sides, `k` the known term of the rewritten
    difference -/
theorem relC_means {t : Lra} (r : LRel) {left right : Lin}
    (hk : R.FinWF (substBasic t (Lin.sub left right)).known) (x y : Rat) :
    (if relUp r then IRAbove (relC t r left right) (x - y - (substBasic t (Lin.sub left right)).known.toRat)
      else IRBelow (relC t r left right) (x - y - (substBasic t (Lin.sub left right)).known.toRat)) ↔
    RelHolds r x y := by
  rw [relC_eq, ← relEps_means]
  cases relUp r
  · exact (bound_neg_means hk _ _).2
  · exact (bound_neg_means hk _ _).1

theorem asrtOf_append_old {t : Lra} {b : Nat} {a : LAsrt} {n : Nat} {a' : LAsrt}
    (h : t.asrtOf b = some a) :
    ((t.vAsrts ++ [(n, a')]).find? (fun e => e.1 == b)).map (·.2) = some a :=
  (ListAux.lookupBy_append t.vAsrts _ b).trans (by rw [show ListAux.lookupBy t.vAsrts b = some a from h]; rfl)

/-- what both non-constant outcomes of `newRel` have in common -/
theorem newRel_nonconst {s : Sat} {t : Lra} {r : LRel} {left right : Lin} {l : Lit} {s' : Sat} {t' : Lra}
    {b : Option Nat} (ri : RelInv s t) (si : SemInv t)
    (hkf : R.FinWF (substBasic t (Lin.sub left right)).known)
    (h : newRel s t r left right = some (l, s', t', b)) (hc : l ≠ Lit.trueLit ∧ l ≠ Lit.falseLit) :
    ∃ slack t1, newVarLin s t (relE t left right) = some (slack, t1) ∧ t'.tableau = t1.tableau ∧
      t'.vals = t1.vals ∧ t'.bounds = t1.bounds ∧
      t'.asrtOf l.var = some ⟨if relUp r then .leq else .geq, l, slack, relC t r left right⟩ := by
  obtain ⟨slack, t1, -, hv, -, ⟨hf, -, rfl, -⟩ | ⟨hf, rfl, -, rfl, -⟩⟩ := (newRel_outcome h).of_nonconst hc
  · refine ⟨slack, t', hv, rfl, rfl, rfl, ?_⟩
    obtain ⟨hsa, hva, -⟩ := newVarLin_spec hv
    exact (asrtOf_eq_of_vAsrts hva _).trans
      (si.sAsrts_sem _ (hsa ▸ mem_of_findKey hf) (relUp r) slack (relC t r left right) (relC_simple r hkf) rfl)
  · exact ⟨slack, t1, hv, rfl, rfl, rfl, find_append_new fun e he => ri.vAsrts_lt e ((newVarLin_spec hv).2.1 ▸ he)⟩

theorem newRel_meaning {s : Sat} {t : Lra} {r : LRel} {left right : Lin} {l : Lit} {s' : Sat} {t' : Lra}
    {b : Option Nat} (ht : TabWF t) (ri : RelInv s t) (si : SemInv t) (hl : left.WF) (hr : right.WF)
    (hlv : ∀ p ∈ left.vars, p.1 < t.vals.length) (hrv : ∀ p ∈ right.vars, p.1 < t.vals.length)
    (h : newRel s t r left right = some (l, s', t', b)) (hc : l ≠ Lit.trueLit ∧ l ≠ Lit.falseLit) :
    ∃ a, t'.asrtOf l.var = some a ∧ a.b = l ∧ a.o = (if relUp r then .leq else .geq) ∧
      a.x < t'.vals.length ∧ SimpleC a.v ∧
      ∀ σ, RowsS t' σ → (RelHolds r (Lin.evalS left σ) (Lin.evalS right σ) ↔ AsrtSays a σ) := by
  obtain ⟨e1, e2, e3, e4⟩ := relE_spec ht hl hr hlv hrv
  obtain ⟨slack, t1, hv, htab, hvals, -, ha⟩ := newRel_nonconst ri si e3 h hc
  obtain ⟨n1, -⟩ := newVarLin_sem ht si e1 e2 hv
  refine ⟨_, ha, rfl, rfl, ?_, relC_simple r e3, ?_⟩
  · show slack < t'.vals.length
    rw [hvals]; exact (ri.newVarLin hv).2
  · intro σ hσ
    obtain ⟨hσt, hsl⟩ := n1 σ ((rowsS_congr htab σ).1 hσ)
    rw [e4 σ hσt] at hsl
    rw [← relC_means r e3 (Lin.evalS left σ) (Lin.evalS right σ)]
    cases hu : relUp r
    · simp only [AsrtSays, Bool.false_eq_true, if_false, hsl]
    · simp only [AsrtSays, if_true, hsl]

theorem newRel_conservative {s : Sat} {t : Lra} {r : LRel} {left right : Lin} {l : Lit} {s' : Sat} {t' : Lra}
    {b : Option Nat} (ht : TabWF t) (si : SemInv t) (hl : left.WF) (hr : right.WF)
    (hlv : ∀ p ∈ left.vars, p.1 < t.vals.length) (hrv : ∀ p ∈ right.vars, p.1 < t.vals.length)
    (h : newRel s t r left right = some (l, s', t', b)) :
    (∀ σ, RowsS t' σ → RowsS t σ) ∧
    (∀ σ, RowsS t σ → ∃ σ', RowsS t' σ' ∧ ∀ x, x < t.vals.length → σ' x = σ x) := by
  obtain ⟨e1, e2, -, -⟩ := relE_spec ht hl hr hlv hrv
  exact (newRel_outcome h).induct
    (P := fun _ u => (∀ σ, RowsS u σ → RowsS t σ) ∧ ∀ σ, RowsS t σ → ∃ σ', RowsS u σ' ∧ ∀ x, x < t.vals.length → σ' x = σ x)
    ⟨fun σ hσ => hσ, fun σ hσ => ⟨σ, hσ, fun _ _ => rfl⟩⟩
    (fun slack t1 hv => ⟨fun σ hσ => ((newVarLin_sem ht si e1 e2 hv).1 σ hσ).1, (newVarLin_sem ht si e1 e2 hv).2⟩)
    (fun _ _ _ h => h)

theorem newRel_asrtOf_stable {s : Sat} {t : Lra} {r : LRel} {left right : Lin} {l : Lit} {s' : Sat} {t' : Lra}
    {b : Option Nat} (h : newRel s t r left right = some (l, s', t', b)) {v : Nat} {a : LAsrt}
    (ha : t.asrtOf v = some a) : t'.asrtOf v = some a := by
  exact (newRel_outcome h).induct (P := fun _ u => u.asrtOf v = some a) ha
    (fun slack t1 hv => (asrtOf_eq_of_vAsrts (newVarLin_spec hv).2.1 v).trans ha) (fun _ _ _ h => asrtOf_append_old h)

theorem tabWF_newRel {s : Sat} {t : Lra} {r : LRel} {left right : Lin} {l : Lit} {s' : Sat} {t' : Lra}
    {b : Option Nat} (ht : TabWF t) (hl : left.WF) (hr : right.WF)
    (hlv : ∀ p ∈ left.vars, p.1 < t.vals.length) (hrv : ∀ p ∈ right.vars, p.1 < t.vals.length)
    (h : newRel s t r left right = some (l, s', t', b)) : TabWF t' := by
  obtain ⟨e1, e2, -, -⟩ := relE_spec ht hl hr hlv hrv
  exact (newRel_outcome h).induct (P := fun _ u => TabWF u) ht (fun slack t1 hv => tabWF_newVarLin ht e1 e2 hv)
    (fun _ t1 _ h => tabWF_congr (t := t1) rfl rfl rfl h)

end Lra

end Oratio
