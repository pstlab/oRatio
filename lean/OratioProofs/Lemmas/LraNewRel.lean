/-
What `new_lt … new_gt` and `new_eq` return, as outcomes (`RelOutcome`: a constant, a cached literal, a fresh literal
with its registration), and the invariant `Lra.RelInv` of the pair (SAT core, theory) under which the statements of
C11 hold.  `Lra.Reg N t`: the registries `v_asrts`, `a_watches`, `s_asrts` against a SAT core with `N` variables.
-/
import OratioModel
import OratioProofs.Lemmas.LraExplDefs
import OratioProofs.Lemmas.LraNewVarLin
import OratioProofs.Lemmas.SatCoreBasic

namespace Oratio
namespace Lra
open Lin

/-- the rewritten difference, the constant and the direction of `newRel` -/
def relE (t : Lra) (left right : Lin) : Lin := { substBasic t (Lin.sub left right) with known := R.zero }
def relC (t : Lra) (r : LRel) (left right : Lin) : IR :=
  let k := (substBasic t (Lin.sub left right)).known
  match r with
  | .lt => ⟨R.neg k, R.ofInt (-1)⟩
  | .leq => IR.neg (IR.ofR k)
  | .geq => IR.neg (IR.ofR k)
  | .gt => ⟨R.neg k, R.ofInt 1⟩
def relUp (r : LRel) : Bool := r = .lt ∨ r = .leq

/-- the test `sat?` of `newRel` -/
def relSat (up : Bool) (c lo hi : IR) : Option Lit :=
  if up then (if IR.le hi c then some Lit.trueLit else if IR.gt lo c then some Lit.falseLit else none)
  else (if IR.ge lo c then some Lit.trueLit else if IR.lt hi c then some Lit.falseLit else none)

/-- the registration of a new assertion controlled by the SAT variable `ctr` -/
def relReg (t : Lra) (up : Bool) (slack : Nat) (c : IR) (ctr : Nat) : Lra :=
  { t with sAsrts := emplaceKey t.sAsrts (relKey up slack c) ⟨ctr, true⟩,
           vAsrts := t.vAsrts ++ [(ctr, ⟨if up then .leq else .geq, ⟨ctr, true⟩, slack, c⟩)],
           aWatches := t.aWatches.set slack (t.aWatches.getD slack [] ++ [ctr]) }

/-- `newRel` with the direction as a `Bool` and the expression and constant as parameters -/
def newRelAux (s : Sat) (t : Lra) (up : Bool) (e : Lin) (c : IR) : Option (Lit × Sat × Lra × Option Nat) :=
  match relSat up c (t.lbLin e) (t.ubLin e) with
  | some l => some (l, s, t, none)
  | none =>
    match newVarLin s t e with
    | none => none
    | some (slack, t1) =>
      match relSat up c (t1.lb slack) (t1.ub slack) with
      | some l => some (l, s, t1, none)
      | none =>
        match findKey t1.sAsrts (relKey up slack c) with
        | some l => some (l, s, t1, none)
        | none => some (⟨s.nvars, true⟩, s.newVar.2, relReg t1 up slack c s.nvars, some s.nvars)

theorem newRel_eq_aux (s : Sat) (t : Lra) (r : LRel) (left right : Lin) :
    newRel s t r left right = newRelAux s t (relUp r) (relE t left right) (relC t r left right) := by
  cases r <;> rfl

/-- the outcomes of `newRel`: decided by the bounds of the expression, decided by the bounds of
    the slack variable, an assertion found in `sAsrts`, a new assertion -/
inductive RelOutcome (s : Sat) (t : Lra) (up : Bool) (e : Lin) (c : IR) (l : Lit) (s' : Sat) (t' : Lra) (b : Option Nat) : Prop where
  | decidedExpr (h0 : relSat up c (t.lbLin e) (t.ubLin e) = some l) (hs : s' = s) (ht : t' = t) (hb : b = none)
  | decidedSlack (slack : Nat) (h0 : relSat up c (t.lbLin e) (t.ubLin e) = none)
      (hv : newVarLin s t e = some (slack, t')) (h1 : relSat up c (t'.lb slack) (t'.ub slack) = some l)
      (hs : s' = s) (hb : b = none)
  | cached (slack : Nat) (h0 : relSat up c (t.lbLin e) (t.ubLin e) = none)
      (hv : newVarLin s t e = some (slack, t')) (h1 : relSat up c (t'.lb slack) (t'.ub slack) = none)
      (hf : findKey t'.sAsrts (relKey up slack c) = some l) (hs : s' = s) (hb : b = none)
  | fresh (slack : Nat) (t1 : Lra) (h0 : relSat up c (t.lbLin e) (t.ubLin e) = none)
      (hv : newVarLin s t e = some (slack, t1)) (h1 : relSat up c (t1.lb slack) (t1.ub slack) = none)
      (hf : findKey t1.sAsrts (relKey up slack c) = none) (hl : l = ⟨s.nvars, true⟩) (hs : s' = s.newVar.2)
      (ht : t' = relReg t1 up slack c s.nvars) (hb : b = some s.nvars)

theorem newRelAux_outcome {s : Sat} {t : Lra} {up : Bool} {e : Lin} {c : IR} {l : Lit} {s' : Sat} {t' : Lra}
    {b : Option Nat} (h : newRelAux s t up e c = some (l, s', t', b)) : RelOutcome s t up e c l s' t' b := by
  unfold newRelAux at h
  split at h
  · rename_i l0 h0
    cases h
    exact .decidedExpr h0 rfl rfl rfl
  · rename_i h0
    split at h
    · cases h
    · rename_i slack t1 hv
      split at h
      · rename_i l1 h1
        cases h
        exact .decidedSlack slack h0 hv h1 rfl rfl
      · rename_i h1
        split at h
        · rename_i l2 hf
          cases h
          exact .cached slack h0 hv h1 hf rfl rfl
        · rename_i hf
          cases h
          exact .fresh slack t1 h0 hv h1 hf rfl rfl rfl rfl

theorem newRel_outcome {s : Sat} {t : Lra} {r : LRel} {left right : Lin} {l : Lit} {s' : Sat} {t' : Lra}
    {b : Option Nat} (h : newRel s t r left right = some (l, s', t', b)) :
    RelOutcome s t (relUp r) (relE t left right) (relC t r left right) l s' t' b :=
  newRelAux_outcome (newRel_eq_aux s t r left right ▸ h)

theorem RelOutcome.induct {P : Sat → Lra → Prop} {s : Sat} {t : Lra} {up : Bool} {e : Lin} {c : IR} {l : Lit}
    {s' : Sat} {t' : Lra} {b : Option Nat} (ho : RelOutcome s t up e c l s' t' b) (h0 : P s t)
    (hv : ∀ slack t1, newVarLin s t e = some (slack, t1) → P s t1)
    (hr : ∀ slack t1, newVarLin s t e = some (slack, t1) → P s t1 → P s.newVar.2 (relReg t1 up slack c s.nvars)) :
    P s' t' := by
  cases ho with
  | decidedExpr _ hs ht _ => subst hs ht; exact h0
  | decidedSlack slack _ h _ hs _ => subst hs; exact hv _ _ h
  | cached slack _ h _ _ hs _ => subst hs; exact hv _ _ h
  | fresh slack t1 _ h _ _ _ hs ht _ => subst hs ht; exact hr _ _ h (hv _ _ h)

theorem newEq_nf {s : Sat} {t : Lra} {left right : Lin} {l : Lit} {s' : Sat} {t' : Lra} {bs : List Nat}
    (h : newEq s t left right = some (l, s', t', bs)) :
    ∃ l1 s1 t1 b1 l2 s2 b2, newRel s t .geq left right = some (l1, s1, t1, b1) ∧
      newRel s1 t1 .leq left right = some (l2, s2, t', b2) ∧ (l, s') = s2.newConj [l1, l2] ∧
      bs = b1.toList ++ b2.toList := by
  unfold Lra.newEq at h
  split at h
  · cases h
  · next l1 s1 t1 b1 h1 =>
    split at h
    · cases h
    · next l2 s2 t2 b2 h2 =>
      cases h
      exact ⟨l1, s1, t1, b1, l2, s2, b2, h1, h2, rfl, rfl⟩

theorem relSat_some {up : Bool} {c lo hi : IR} {l : Lit} (h : relSat up c lo hi = some l) :
    (up = true ∧ l = Lit.trueLit ∧ IR.le hi c = true) ∨ (up = true ∧ l = Lit.falseLit ∧ IR.gt lo c = true) ∨
    (up = false ∧ l = Lit.trueLit ∧ IR.ge lo c = true) ∨ (up = false ∧ l = Lit.falseLit ∧ IR.lt hi c = true) := by
  unfold relSat at h
  cases up
  · simp only [Bool.false_eq_true, if_false] at h
    split at h
    · cases h; exact Or.inr (Or.inr (Or.inl ⟨rfl, rfl, ‹_›⟩))
    · split at h
      · cases h; exact Or.inr (Or.inr (Or.inr ⟨rfl, rfl, ‹_›⟩))
      · cases h
  · simp only [if_true] at h
    split at h
    · cases h; exact Or.inl ⟨rfl, rfl, ‹_›⟩
    · split at h
      · cases h; exact Or.inr (Or.inl ⟨rfl, rfl, ‹_›⟩)
      · cases h

theorem relSat_const {up : Bool} {c lo hi : IR} {l : Lit} (h : relSat up c lo hi = some l) :
    l = Lit.trueLit ∨ l = Lit.falseLit := by
  rcases relSat_some h with h | h | h | h
  · exact Or.inl h.2.1
  · exact Or.inr h.2.1
  · exact Or.inl h.2.1
  · exact Or.inr h.2.1

theorem ctrLit_nonconst {n : Nat} (hn : 0 < n) : (⟨n, true⟩ : Lit) ≠ Lit.trueLit ∧ (⟨n, true⟩ : Lit) ≠ Lit.falseLit := by
  constructor
  · intro hc
    cases (congrArg Lit.sign hc : true = false)
  · intro hc
    have : n = 0 := congrArg Lit.var hc
    omega

theorem RelOutcome.of_nonconst {s : Sat} {t : Lra} {up : Bool} {e : Lin} {c : IR} {l : Lit} {s' : Sat} {t' : Lra}
    {b : Option Nat} (ho : RelOutcome s t up e c l s' t' b) (hc : l ≠ Lit.trueLit ∧ l ≠ Lit.falseLit) :
    ∃ slack t1, relSat up c (t.lbLin e) (t.ubLin e) = none ∧ newVarLin s t e = some (slack, t1) ∧
      relSat up c (t1.lb slack) (t1.ub slack) = none ∧
      ((findKey t1.sAsrts (relKey up slack c) = some l ∧ s' = s ∧ t' = t1 ∧ b = none) ∨
       (findKey t1.sAsrts (relKey up slack c) = none ∧ l = ⟨s.nvars, true⟩ ∧ s' = s.newVar.2 ∧
        t' = relReg t1 up slack c s.nvars ∧ b = some s.nvars)) := by
  cases ho with
  | decidedExpr h0 => exact absurd (relSat_const h0) (not_or.2 hc)
  | decidedSlack slack h0 hv h1 => exact absurd (relSat_const h1) (not_or.2 hc)
  | cached slack h0 hv h1 hf hs hb => exact ⟨slack, t', h0, hv, h1, Or.inl ⟨hf, hs, rfl, hb⟩⟩
  | fresh slack t1 h0 hv h1 hf hl hs ht hb => exact ⟨slack, t1, h0, hv, h1, Or.inr ⟨hf, hl, hs, ht, hb⟩⟩

theorem RelOutcome.of_const {s : Sat} {t : Lra} {up : Bool} {e : Lin} {c : IR} {l : Lit} {s' : Sat} {t' : Lra}
    {b : Option Nat} (ho : RelOutcome s t up e c l s' t' b) (hc : l = Lit.trueLit ∨ l = Lit.falseLit)
    (hs : 0 < s.nvars) (hA : ∀ e ∈ t.sAsrts, e.2 ≠ Lit.trueLit ∧ e.2 ≠ Lit.falseLit) :
    b = none ∧ s' = s ∧
    ((relSat up c (t.lbLin e) (t.ubLin e) = some l ∧ t' = t) ∨
     ∃ slack, relSat up c (t.lbLin e) (t.ubLin e) = none ∧ newVarLin s t e = some (slack, t') ∧
       relSat up c (t'.lb slack) (t'.ub slack) = some l) := by
  cases ho with
  | decidedExpr h0 hs' ht hb => exact ⟨hb, hs', Or.inl ⟨h0, ht⟩⟩
  | decidedSlack slack h0 hv h1 hs' hb => exact ⟨hb, hs', Or.inr ⟨slack, h0, hv, h1⟩⟩
  | cached slack h0 hv h1 hf hs' hb =>
    have := hA _ ((newVarLin_spec hv).1 ▸ mem_of_findKey hf)
    exact absurd hc (not_or.2 this)
  | fresh slack t1 h0 hv h1 hf hl hs' ht hb => exact absurd (hl ▸ hc) (not_or.2 (ctrLit_nonconst hs))

/-- Well-formedness of the pair (SAT core, LRA theory) that `newRel` relies on; it holds of
    `(Sat.init, Lra.init)` and is kept by `newVarLin` and `newRel`.
    * variable 0 of the SAT core exists (it is the constant);
    * no literal in `s_asrts` is a constant;
    * every assertion in `v_asrts` is controlled by an existing SAT variable;
    * `c_bounds` has two entries and `a_watches` one entry per variable;
    * the variables named in `exprs` exist. -/
structure RelInv (s : Sat) (t : Lra) : Prop where
  nvars_pos : 0 < s.nvars
  sAsrts_nonconst : ∀ e ∈ t.sAsrts, e.2 ≠ Lit.trueLit ∧ e.2 ≠ Lit.falseLit
  vAsrts_lt : ∀ e ∈ t.vAsrts, e.1 < s.nvars
  bounds_len : t.bounds.length = 2 * t.vals.length
  aWatches_len : t.aWatches.length = t.vals.length
  exprs_lt : ∀ e ∈ t.exprs, e.2 < t.vals.length

theorem RelInv.init : RelInv Sat.init Lra.init :=
  ⟨by decide, fun e he => (by cases he), fun e he => (by cases he), rfl, rfl, fun e he => (by cases he)⟩

theorem RelInv.newVarLin {s : Sat} {t : Lra} {l : Lin} {slack : Nat} {t1 : Lra} (inv : RelInv s t)
    (h : newVarLin s t l = some (slack, t1)) : RelInv s t1 ∧ slack < t1.vals.length := by
  rcases (newVarLin_nf h).2.found_or_created with ⟨⟨e, he, rfl⟩, ex, rfl, hex⟩ | ⟨rfl, rfl⟩
  · have hlt := inv.exprs_lt e he
    refine ⟨⟨inv.nvars_pos, inv.sAsrts_nonconst, inv.vAsrts_lt, inv.bounds_len, inv.aWatches_len, fun e' he' => ?_⟩, hlt⟩
    rcases hex e' he' with he' | he'
    · exact inv.exprs_lt e' he'
    · exact he' ▸ hlt
  · have hlen := withSlack_vals_length t (substBasic t l) (slackExprs t l)
    refine ⟨⟨inv.nvars_pos, by rw [withSlack_sAsrts]; exact inv.sAsrts_nonconst,
      by rw [withSlack_vAsrts]; exact inv.vAsrts_lt, by rw [withSlack_bounds_length, hlen, inv.bounds_len]; omega,
      by rw [withSlack_aWatches, hlen, List.length_append, inv.aWatches_len]; rfl, fun e he => ?_⟩, by omega⟩
    rw [withSlack_exprs] at he
    rcases mem_slackExprs he with he | he
    · have := inv.exprs_lt e he; omega
    · omega

theorem relReg_sAsrts_nonconst {s : Sat} {t : Lra} (up : Bool) (slack : Nat) (c : IR) (hs : 0 < s.nvars)
    (hA : ∀ e ∈ t.sAsrts, e.2 ≠ Lit.trueLit ∧ e.2 ≠ Lit.falseLit) :
    ∀ e ∈ (relReg t up slack c s.nvars).sAsrts, e.2 ≠ Lit.trueLit ∧ e.2 ≠ Lit.falseLit := by
  intro e he
  rcases mem_emplaceKey (show e ∈ emplaceKey t.sAsrts _ _ from he) with he | rfl
  · exact hA e he
  · exact ctrLit_nonconst hs

theorem relReg_vAsrts_lt {s : Sat} {t : Lra} (up : Bool) (slack : Nat) (c : IR) (hV : ∀ e ∈ t.vAsrts, e.1 < s.nvars) :
    ∀ e ∈ (relReg t up slack c s.nvars).vAsrts, e.1 < s.newVar.2.nvars := by
  intro e he
  rw [Sat.newVar_nvars]
  rcases List.mem_append.1 (show e ∈ t.vAsrts ++ _ from he) with he | he
  · exact Nat.lt_succ_of_lt (hV e he)
  · rw [List.mem_singleton.1 he]; exact Nat.lt_succ_self _

theorem newRel_sAsrts_nonconst {s : Sat} {t : Lra} {r : LRel} {left right : Lin} {l : Lit} {s' : Sat} {t' : Lra}
    {b : Option Nat} (h : newRel s t r left right = some (l, s', t', b)) (hs : 0 < s.nvars)
    (hA : ∀ e ∈ t.sAsrts, e.2 ≠ Lit.trueLit ∧ e.2 ≠ Lit.falseLit) :
    0 < s'.nvars ∧ ∀ e ∈ t'.sAsrts, e.2 ≠ Lit.trueLit ∧ e.2 ≠ Lit.falseLit :=
  (newRel_outcome h).induct (P := fun s t => 0 < s.nvars ∧ ∀ e ∈ t.sAsrts, e.2 ≠ Lit.trueLit ∧ e.2 ≠ Lit.falseLit)
    ⟨hs, hA⟩ (fun _ _ hv => ⟨hs, (newVarLin_spec hv).1 ▸ hA⟩)
    (fun _ _ _ h1 => ⟨by rw [Sat.newVar_nvars]; omega, relReg_sAsrts_nonconst _ _ _ hs h1.2⟩)

theorem newRel_vAsrts_lt {s : Sat} {t : Lra} {r : LRel} {left right : Lin} {l : Lit} {s' : Sat} {t' : Lra}
    {b : Option Nat} (h : newRel s t r left right = some (l, s', t', b)) (hV : ∀ e ∈ t.vAsrts, e.1 < s.nvars) :
    s.nvars ≤ s'.nvars ∧ ∀ e ∈ t'.vAsrts, e.1 < s'.nvars :=
  (newRel_outcome h).induct (P := fun s1 t1 => s.nvars ≤ s1.nvars ∧ ∀ e ∈ t1.vAsrts, e.1 < s1.nvars)
    ⟨Nat.le_refl _, hV⟩ (fun _ _ hv => ⟨Nat.le_refl _, (newVarLin_spec hv).2.1 ▸ hV⟩)
    (fun _ _ _ h1 => ⟨by rw [Sat.newVar_nvars]; omega, relReg_vAsrts_lt _ _ _ h1.2⟩)

theorem RelInv.relReg {s : Sat} {t : Lra} (inv : RelInv s t) (up : Bool) (slack : Nat) (c : IR) :
    RelInv s.newVar.2 (relReg t up slack c s.nvars) :=
  ⟨by rw [Sat.newVar_nvars]; omega, relReg_sAsrts_nonconst _ _ _ inv.nvars_pos inv.sAsrts_nonconst,
    relReg_vAsrts_lt _ _ _ inv.vAsrts_lt, inv.bounds_len,
    (List.length_set (as := t.aWatches)).trans inv.aWatches_len, inv.exprs_lt⟩

theorem RelInv.newRel {s : Sat} {t : Lra} {r : LRel} {left right : Lin} {l : Lit} {s' : Sat} {t' : Lra}
    {b : Option Nat} (inv : RelInv s t) (h : newRel s t r left right = some (l, s', t', b)) : RelInv s' t' :=
  (newRel_outcome h).induct inv (fun _ _ hv => (inv.newVarLin hv).1) (fun _ _ _ i => i.relReg _ _ _)

theorem RelInv.mono {s s' : Sat} {t : Lra} (inv : RelInv s t) (h : s.nvars ≤ s'.nvars) : RelInv s' t :=
  ⟨Nat.lt_of_lt_of_le inv.nvars_pos h, inv.sAsrts_nonconst, fun e he => Nat.lt_of_lt_of_le (inv.vAsrts_lt e he) h,
    inv.bounds_len, inv.aWatches_len, inv.exprs_lt⟩

/-- `newEq`: the invariant holds of the theory returned with the SAT core to which `new_conj` is applied
    (and so, by `RelInv.mono`, with any SAT core having at least its variables) -/
theorem RelInv.newEq {s : Sat} {t : Lra} {left right : Lin} {l : Lit} {s' : Sat} {t' : Lra} {bs : List Nat}
    (inv : RelInv s t) (h : newEq s t left right = some (l, s', t', bs)) :
    ∃ s2 l1 l2, (l, s') = s2.newConj [l1, l2] ∧ RelInv s2 t' := by
  obtain ⟨l1, s1, t1, b1, l2, s2, b2, h1, h2, hl, -⟩ := newEq_nf h
  exact ⟨s2, l1, l2, hl, (inv.newRel h1).newRel h2⟩

theorem RelInv.newVar {s : Sat} {t : Lra} (ri : RelInv s t) : RelInv s t.newVar.2 := by
  have hlen : t.newVar.2.vals.length = t.vals.length + 1 := by
    show (t.vals ++ [_]).length = _
    rw [List.length_append]; rfl
  refine ⟨ri.nvars_pos, ri.sAsrts_nonconst, ri.vAsrts_lt, ?_, ?_, ?_⟩
  · rw [hlen]
    show (t.bounds ++ [_, _]).length = _
    rw [List.length_append, ri.bounds_len]; simp only [List.length_cons, List.length_nil]; omega
  · rw [hlen]
    show (t.aWatches ++ [[]]).length = _
    rw [List.length_append, ri.aWatches_len]; rfl
  · intro e he
    rw [hlen]
    rcases mem_emplaceKey (show e ∈ emplaceKey t.exprs _ _ from he) with he | he
    · have := ri.exprs_lt e he; omega
    · subst he; exact Nat.lt_succ_self _

/-- the registries `v_asrts`, `a_watches`, `s_asrts` of the theory against a SAT core with `N` variables: every assertion
    is registered under an existing SAT variable and controlled by its positive literal, watched by the variable it is
    on, and the watch lists and the cached literals name existing SAT variables -/
structure Reg (N : Nat) (t : Lra) : Prop where
  lt : ∀ e ∈ t.vAsrts, e.1 < N
  key : AsrtKey t
  awatch : AWatchOK t
  aw : ∀ x, ∀ b ∈ t.aWatches.getD x [], b < N
  sa : ∀ e ∈ t.sAsrts, e.2.var < N

theorem Reg.of_eq {N : Nat} {t u : Lra} (r : Reg N t) (h1 : u.vAsrts = t.vAsrts)
    (h2 : ∀ x, u.aWatches.getD x [] = t.aWatches.getD x []) (h3 : u.sAsrts = t.sAsrts) : Reg N u :=
  ⟨h1 ▸ r.lt, by unfold AsrtKey; rw [h1]; exact r.key,
    fun x b hb a ha => r.awatch x b (h2 x ▸ hb) a ((asrtOf_eq_of_vAsrts h1 b).symm.trans ha),
    fun x b hb => r.aw x b (h2 x ▸ hb), h3 ▸ r.sa⟩

theorem Reg.kept {N : Nat} {t u : Lra} (r : Reg N t) (k : Kept t u) : Reg N u :=
  r.of_eq k.vAsrts (fun _ => by rw [k.aWatches]) k.sAsrts

theorem Reg.newVar {N : Nat} {t : Lra} (r : Reg N t) : Reg N t.newVar.2 :=
  r.of_eq rfl (fun x => ListAux.getD_append_default t.aWatches x []) rfl

theorem Reg.exprs {N : Nat} {t : Lra} (r : Reg N t) (ex : List (String × Nat)) : Reg N { t with exprs := ex } :=
  r.of_eq rfl (fun _ => rfl) rfl

theorem Reg.withSlack {N : Nat} {t : Lra} (r : Reg N t) (e : Lin) (ex : List (String × Nat)) : Reg N (withSlack t e ex) :=
  r.of_eq (withSlack_vAsrts ..) (fun x => by rw [withSlack_aWatches, ListAux.getD_append_default]) (withSlack_sAsrts ..)

theorem Reg.asrt {N : Nat} {t : Lra} (r : Reg N t) {b : Nat} {a : LAsrt} (hab : t.asrtOf b = some a) : a.b.var < N := by
  have hm := mem_of_asrtOf hab
  rw [r.key _ hm]
  exact r.lt _ hm

theorem mem_getD_set_append {l : List (List Nat)} {k x b c : Nat} (h : b ∈ (l.set k (l.getD k [] ++ [c])).getD x []) :
    b ∈ l.getD x [] ∨ (b = c ∧ k = x) := by
  rw [ListAux.getD_set] at h
  split at h
  · rename_i hk
    rw [hk.1] at h
    exact (List.mem_append.1 h).imp_right fun hb => ⟨List.mem_singleton.1 hb, hk.1⟩
  · exact .inl h

theorem Reg.relReg {N : Nat} {t : Lra} (r : Reg N t) (up : Bool) (slack : Nat) (c : IR) :
    Reg (N + 1) (relReg t up slack c N) := by
  -- the new assertion is the only one of the new SAT variable
  have hold : ∀ b, (Lra.relReg t up slack c N).asrtOf b =
      (t.asrtOf b).or (if N = b then some ⟨if up then .leq else .geq, ⟨N, true⟩, slack, c⟩ else none) := by
    intro b
    refine (ListAux.lookupBy_append t.vAsrts [(N, _)] b).trans ?_
    congr 1
    by_cases hb : N = b <;> simp [ListAux.lookupBy, hb]
  have hnone : t.asrtOf N = none := ListAux.lookupBy_eq_none.2 fun e he => Nat.ne_of_lt (r.lt e he)
  refine ⟨fun e he => ?_, fun e he => ?_, fun x b hb a ha => ?_, fun x b hb => ?_, fun e he => ?_⟩
  · exact (List.mem_append.1 (show e ∈ t.vAsrts ++ [(N, _)] from he)).elim (fun h => Nat.lt_succ_of_lt (r.lt e h))
      fun h => List.mem_singleton.1 h ▸ Nat.lt_succ_self _
  · exact (List.mem_append.1 (show e ∈ t.vAsrts ++ [(N, _)] from he)).elim (r.key e) fun h => by rw [List.mem_singleton.1 h]
  · rw [hold b] at ha
    rcases mem_getD_set_append (l := t.aWatches) hb with hb | ⟨rfl, rfl⟩
    · rw [if_neg (Nat.ne_of_gt (r.aw x b hb)), Option.or_none] at ha
      exact r.awatch x b hb a ha
    · rw [hnone, if_pos rfl, Option.none_or] at ha
      rw [← Option.some.inj ha]
  · exact (mem_getD_set_append (l := t.aWatches) hb).elim (fun h => Nat.lt_succ_of_lt (r.aw _ b h))
      fun h => h.1 ▸ Nat.lt_succ_self _
  · exact (mem_emplaceKey (show e ∈ emplaceKey t.sAsrts (relKey up slack c) ⟨N, true⟩ from he)).elim
      (fun h => Nat.lt_succ_of_lt (r.sa e h)) fun h => h ▸ Nat.lt_succ_self _

end Lra

end Oratio
