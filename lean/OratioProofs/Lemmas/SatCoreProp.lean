/-
C07: the writes to the clause database - a clause is looked up, watched, added, replaced by a permutation or a sub-clause -
against every component of the invariants (`WfS` included); the scan `findNonFalse` and the exchange `swap1` of
`clause::propagate`.
-/
import OratioProofs.Lemmas.SatCorePop

set_option linter.unusedVariables false

namespace Oratio
namespace Sat

theorem clauseOf_of_mem' {s : Sat} (hnd : (s.cls.map (·.1)).Nodup) {id : Nat} {c : Clause} (hm : (id, c) ∈ s.cls) :
    s.clauseOf id = c := by
  show (ListAux.lookupBy s.cls id).getD [] = c
  rw [ListAux.lookupBy_of_mem hnd hm]; rfl

theorem mem_unique' {s : Sat} (hnd : (s.cls.map (·.1)).Nodup) {id : Nat} {c d : Clause} (h1 : (id, c) ∈ s.cls)
    (h2 : (id, d) ∈ s.cls) : c = d := by
  rw [← clauseOf_of_mem' hnd h1, clauseOf_of_mem' hnd h2]

theorem clauseOf_of_mem {s : Sat} (h : s.WfC) {id : Nat} {c : Clause} (hm : (id, c) ∈ s.cls) :
    s.clauseOf id = c := clauseOf_of_mem' h.clsIdNodup hm

theorem mem_unique {s : Sat} (h : s.WfC) {id : Nat} {c d : Clause} (h1 : (id, c) ∈ s.cls) (h2 : (id, d) ∈ s.cls) :
    c = d := mem_unique' h.clsIdNodup h1 h2

theorem WfW.mem_iff {s : Sat} (h : s.WfW) {i id : Nat} : id ∈ s.watches.getD i [] ↔
    ∃ l0 l1 rest, (id, l0 :: l1 :: rest) ∈ s.cls ∧ (l0.neg.idx = i ∨ l1.neg.idx = i) := by
  refine ⟨h.sound i id, ?_⟩
  rintro ⟨l0, l1, rest, hm, rfl | rfl⟩
  · exact (h.complete _ _ _ _ hm).1
  · exact (h.complete _ _ _ _ hm).2

theorem watched_iff {s : Sat} (hnd : (s.cls.map (·.1)).Nodup) {id : Nat} {l0 l1 : Lit} {r : List Lit}
    (hm : (id, l0 :: l1 :: r) ∈ s.cls) {i : Nat} :
    (∃ a b r', (id, a :: b :: r') ∈ s.cls ∧ (a.neg.idx = i ∨ b.neg.idx = i)) ↔ l0.neg.idx = i ∨ l1.neg.idx = i := by
  refine ⟨?_, fun hh => ⟨l0, l1, r, hm, hh⟩⟩
  rintro ⟨a, b, r', hm', hh⟩
  have e := mem_unique' hnd hm hm'
  simp only [List.cons.injEq] at e
  rw [e.1, e.2.1]; exact hh

theorem WfW.mem_iff_of_mem {s : Sat} (hc : s.WfC) (h : s.WfW) {id : Nat} {l0 l1 : Lit} {r : List Lit}
    (hm : (id, l0 :: l1 :: r) ∈ s.cls) {i : Nat} : id ∈ s.watches.getD i [] ↔ l0.neg.idx = i ∨ l1.neg.idx = i :=
  h.mem_iff.trans (watched_iff hc.clsIdNodup hm)

/-- `t` differs from `s` in clause `id` and in where `id` is watched only: the watchers of `id` are all there is to check,
    those of any other clause are read off `s` through `WfW.mem_iff` -/
theorem WfW.change {s t : Sat} (h : s.WfW) (id : Nat) (hlen : t.watches.length = 2 * t.vals.length)
    (hnd : ∀ i, (t.watches.getD i []).Nodup) (hcls : ∀ e : Nat × Clause, e.1 ≠ id → (e ∈ t.cls ↔ e ∈ s.cls))
    (hw : ∀ i id', id' ≠ id → (id' ∈ t.watches.getD i [] ↔ id' ∈ s.watches.getD i []))
    (hid : ∀ i, id ∈ t.watches.getD i [] ↔
      ∃ l0 l1 rest, (id, l0 :: l1 :: rest) ∈ t.cls ∧ (l0.neg.idx = i ∨ l1.neg.idx = i)) : t.WfW := by
  have key : ∀ i id', id' ∈ t.watches.getD i [] ↔
      ∃ l0 l1 rest, (id', l0 :: l1 :: rest) ∈ t.cls ∧ (l0.neg.idx = i ∨ l1.neg.idx = i) := by
    intro i id'
    by_cases e : id' = id
    · rw [e]; exact hid i
    · rw [hw i id' e, h.mem_iff]
      exact exists_congr fun _ => exists_congr fun _ => exists_congr fun _ => and_congr_left' (hcls (id', _) e).symm
  exact ⟨hlen, fun i id' => (key i id').1, fun id' l0 l1 rest hm =>
    ⟨(key _ _).2 ⟨l0, l1, rest, hm, Or.inl rfl⟩, (key _ _).2 ⟨l0, l1, rest, hm, Or.inr rfl⟩⟩, hnd⟩

theorem watch_getD (s : Sat) (l : Lit) (id : Nat) (i : Nat) :
    (s.watch l id).watches.getD i [] =
      if l.idx = i ∧ l.idx < s.watches.length then s.watches.getD i [] ++ [id] else s.watches.getD i [] := by
  simp only [watch, ListAux.getD_set]
  split
  · rename_i h; rw [h.1]
  · rfl

theorem WfA.watch {s : Sat} (h : s.WfA) (l : Lit) (id : Nat) : (s.watch l id).WfA := h.of_eq rfl rfl rfl rfl rfl rfl rfl rfl

theorem Ent.watch {orig K : Cnf} {s : Sat} (h : s.Ent orig K) (l : Lit) (id : Nat) : (s.watch l id).Ent orig K :=
  h.of_eq rfl rfl rfl rfl rfl rfl

theorem addClause_eq (s : Sat) (l0 l1 : Lit) (rest : List Lit) :
    (s.addClause (l0 :: l1 :: rest)).2 =
      (({ s with cls := s.cls ++ [(s.nextId, l0 :: l1 :: rest)], nextId := s.nextId + 1 } : Sat).watch l0.neg s.nextId).watch
        l1.neg s.nextId := rfl

theorem addClause_fst (s : Sat) (c : Clause) : (s.addClause c).1 = s.nextId := by
  unfold addClause; split <;> rfl

section
variable {s : Sat} {l0 l1 : Lit} {rest : List Lit}

theorem addClause_cls : (s.addClause (l0 :: l1 :: rest)).2.cls = s.cls ++ [(s.nextId, l0 :: l1 :: rest)] := rfl

theorem WfA.addClause (h : s.WfA) : (s.addClause (l0 :: l1 :: rest)).2.WfA :=
  h.of_eq rfl rfl rfl rfl rfl rfl rfl rfl

theorem addClause_ids (hid : ∀ e ∈ s.cls, e.1 < s.nextId) (hnd : (s.cls.map (·.1)).Nodup) (c : Clause) :
    (∀ e ∈ s.cls ++ [(s.nextId, c)], e.1 < s.nextId + 1) ∧ ((s.cls ++ [(s.nextId, c)]).map (·.1)).Nodup := by
  refine ⟨forall_mem_snoc (fun e he => Nat.lt_succ_of_lt (hid e he)) (Nat.lt_succ_self _), ?_⟩
  rw [List.map_append, List.nodup_append]
  refine ⟨hnd, by simp, ?_⟩
  intro a ha b hb
  simp only [List.map_cons, List.map_nil, List.mem_singleton] at hb
  obtain ⟨e, he, rfl⟩ := List.mem_map.1 ha
  have := hid e he
  omega

theorem WfC.addClause (h : s.WfC) (hnd : ((l0 :: l1 :: rest).map Lit.var).Nodup)
    (hr : ∀ l ∈ l0 :: l1 :: rest, l.var < s.vals.length) (h0 : ∀ l ∈ l0 :: l1 :: rest, l.var ≠ 0) :
    (s.addClause (l0 :: l1 :: rest)).2.WfC :=
  have hi := addClause_ids h.clsId h.clsIdNodup (l0 :: l1 :: rest)
  ⟨hi.1, hi.2, forall_mem_snoc h.clsLen (by simp), forall_mem_snoc h.clsNodup hnd, forall_mem_snoc h.clsRange hr,
    forall_mem_snoc h.clsVar0 h0⟩

theorem WfR.addClause (h : s.WfR) : (s.addClause (l0 :: l1 :: rest)).2.WfR :=
  ReasonG.of_sub h (fun _ he => List.mem_append_left _ he) rfl fun _ => rfl

theorem WfW.addClause (hc : s.WfC) (h : s.WfW) (hnd : ((l0 :: l1 :: rest).map Lit.var).Nodup)
    (hr : ∀ l ∈ l0 :: l1 :: rest, l.var < s.vals.length) : (s.addClause (l0 :: l1 :: rest)).2.WfW := by
  have h0 : l0.neg.idx < s.watches.length := by
    rw [h.lenWatches]; exact Lit.idx_lt (hr l0 (by simp))
  have h1 : l1.neg.idx < s.watches.length := by
    rw [h.lenWatches]; exact Lit.idx_lt (hr l1 (by simp))
  have hne : l0.neg.idx ≠ l1.neg.idx := by
    apply Lit.neg_idx_ne
    simp only [List.map_cons, List.nodup_cons, List.mem_cons, not_or] at hnd
    exact hnd.1.1
  have hfresh : ∀ i, s.nextId ∉ s.watches.getD i [] := by
    intro i hm
    obtain ⟨a, b, r, hm', _⟩ := h.sound i _ hm
    have := hc.clsId _ hm'
    simp at this
  -- all is read off `hw`: the id, in no list before (`hfresh`), is appended to two different lists (`hne`, from `hnd`)
  have hw : ∀ i, (s.addClause (l0 :: l1 :: rest)).2.watches.getD i [] =
      if l0.neg.idx = i ∨ l1.neg.idx = i then s.watches.getD i [] ++ [s.nextId] else s.watches.getD i [] := by
    intro i
    rw [addClause_eq, watch_getD, watch_getD]
    simp only [watch, List.length_set]
    by_cases e0 : l0.neg.idx = i <;> by_cases e1 : l1.neg.idx = i
    · exact absurd (e0.trans e1.symm) hne
    · subst e0; simp [h0, e1]
    · subst e1; simp [h1, e0]
    · simp [e0, e1]
  refine h.change s.nextId ?_ ?_ ?_ ?_ ?_
  · rw [addClause_eq]; simp only [watch, List.length_set]; exact h.lenWatches
  · intro i
    rw [hw]
    split
    · rw [List.nodup_append]
      refine ⟨h.nodup i, by simp, ?_⟩
      intro a ha b hb
      simp only [List.mem_singleton] at hb; subst hb
      intro e; subst e
      exact hfresh i ha
    · exact h.nodup i
  · intro e he
    rw [addClause_cls, List.mem_append, List.mem_singleton]
    exact or_iff_left fun e' => he (e' ▸ rfl)
  · intro i id hid
    rw [hw]
    split
    · rw [List.mem_append, List.mem_singleton]; exact or_iff_left hid
    · rfl
  · intro i
    rw [watched_iff (addClause_ids hc.clsId hc.clsIdNodup _).2 (List.mem_append_right _ (List.mem_singleton.2 rfl)), hw]
    split
    · rename_i hi; exact iff_of_true (List.mem_append_right _ (List.mem_singleton.2 rfl)) hi
    · rename_i hi; exact iff_of_false (hfresh i) hi

theorem W2.addClause {P : Nat → Lit → Prop} (h : s.W2 P)
    (hnew : (s.value l0 = some false → P s.nextId l0.neg ∨ (s.value l1 = some true ∧ s.lvl l1 ≤ s.lvl l0)) ∧
      (s.value l1 = some false → P s.nextId l1.neg ∨ (s.value l0 = some true ∧ s.lvl l0 ≤ s.lvl l1))) :
    (s.addClause (l0 :: l1 :: rest)).2.W2 P := by
  intro id a b r hm
  rcases List.mem_append.1 hm with hm | hm
  · exact h id a b r hm
  · simp only [List.mem_singleton, Prod.mk.injEq, List.cons.injEq] at hm
    obtain ⟨rfl, rfl, rfl, rfl⟩ := hm
    exact hnew

theorem Wf.addClause (h : s.Wf) (hnd : ((l0 :: l1 :: rest).map Lit.var).Nodup)
    (hr : ∀ l ∈ l0 :: l1 :: rest, l.var < s.vals.length) (h0 : ∀ l ∈ l0 :: l1 :: rest, l.var ≠ 0) :
    (s.addClause (l0 :: l1 :: rest)).2.Wf :=
  ⟨h.a.addClause, h.c.addClause hnd hr h0, h.r.addClause, h.w.addClause h.c hnd hr⟩

end

theorem Ent.addClause {orig K : Cnf} {s : Sat} {l0 l1 : Lit} {rest : List Lit} (h : s.Ent orig K)
    (hc : Ents orig (l0 :: l1 :: rest)) : (s.addClause (l0 :: l1 :: rest)).2.Ent orig K := by
  refine ⟨fun e he => ?_, h.trail, h.log, h.dead, fun hd α h0 hcl hroot => h.keeps hd α h0 ?_ hroot⟩
  · rw [addClause_cls] at he
    exact (List.mem_append.1 he).elim (h.clauses e) (fun e' => List.mem_singleton.1 e' ▸ hc)
  · rw [addClause_cls, List.map_append, Asg.cnf_append, Bool.and_eq_true] at hcl
    exact hcl.1

theorem WfS.watch {s : Sat} (h : s.WfS) {l : Lit} {id : Nat} {c : Clause} (hm : (id, c) ∈ s.cls) (hl : l.neg ∈ c) :
    (s.watch l id).WfS := by
  refine ⟨h.a.watch l id, h.lvl0, h.idlt, h.ids, h.rng, h.r, ?_⟩
  intro i id' hid
  rw [watch_getD] at hid
  split at hid
  · rename_i hc
    rcases List.mem_append.1 hid with hid | hid
    · exact h.w i id' hid
    · rw [List.mem_singleton.1 hid]
      exact ⟨c, hm, l.neg, hl, by rw [Lit.neg_neg]; exact hc.1⟩
  · exact h.w i id' hid

theorem WfS.addClause {s : Sat} {l0 l1 : Lit} {rest : List Lit} (h : s.WfS)
    (hr : ∀ l ∈ l0 :: l1 :: rest, l.var < s.vals.length) : (s.addClause (l0 :: l1 :: rest)).2.WfS := by
  have hi := addClause_ids h.idlt h.ids (l0 :: l1 :: rest)
  have h1 : ({ s with cls := s.cls ++ [(s.nextId, l0 :: l1 :: rest)], nextId := s.nextId + 1 } : Sat).WfS :=
    ⟨h.a.of_eq rfl rfl rfl rfl rfl rfl rfl rfl, h.lvl0, hi.1, hi.2, forall_mem_snoc h.rng hr,
      ReasonG.of_sub h.r (fun _ he => List.mem_append_left _ he) rfl fun _ => rfl,
      fun i id hid => (h.w i id hid).imp fun _ hh => ⟨List.mem_append_left _ hh.1, hh.2⟩⟩
  rw [addClause_eq]
  have hm : (s.nextId, l0 :: l1 :: rest) ∈
      ({ s with cls := s.cls ++ [(s.nextId, l0 :: l1 :: rest)], nextId := s.nextId + 1 } : Sat).cls :=
    List.mem_append_right _ (List.mem_singleton.2 rfl)
  have h2 := h1.watch (l := l0.neg) hm (by rw [Lit.neg_neg]; simp)
  exact h2.watch (l := l1.neg) (c := l0 :: l1 :: rest) hm (by rw [Lit.neg_neg]; simp)

theorem mem_setClause' {s : Sat} {id : Nat} {c c' : Clause} (hm : (id, c) ∈ s.cls) {e : Nat × Clause} :
    e ∈ (s.setClause id c').cls ↔ (e ∈ s.cls ∧ e.1 ≠ id) ∨ e = (id, c') := by
  simp only [setClause, List.mem_map]
  constructor
  · rintro ⟨x, hx, rfl⟩
    by_cases hid : x.1 = id
    · right; simp [hid]
    · left; simp [hid, hx]
  · rintro (⟨he, hne⟩ | rfl)
    · exact ⟨e, he, by simp [hne]⟩
    · exact ⟨(id, c), hm, by simp⟩

theorem mem_setClause_ne {s : Sat} {id : Nat} {c c' : Clause} (hm : (id, c) ∈ s.cls) {e : Nat × Clause} (he : e.1 ≠ id) :
    e ∈ (s.setClause id c').cls ↔ e ∈ s.cls := by
  rw [mem_setClause' hm]
  exact ⟨fun h => h.elim And.left (fun e' => absurd (e' ▸ rfl) he), fun h => Or.inl ⟨h, he⟩⟩

theorem forall_mem_setClause {s : Sat} {id : Nat} {c c' : Clause} (hm : (id, c) ∈ s.cls) {P : Nat × Clause → Prop}
    (h : ∀ e ∈ s.cls, P e) (hn : P (id, c')) : ∀ e ∈ (s.setClause id c').cls, P e := fun e he =>
  ((mem_setClause' hm).1 he).elim (fun he => h e he.1) (fun e' => e' ▸ hn)

theorem setClause_ids (s : Sat) (id : Nat) (c' : Clause) : (s.setClause id c').cls.map (·.1) = s.cls.map (·.1) := by
  simp only [setClause, List.map_map]
  apply List.map_congr_left
  intro e he
  simp only [Function.comp]
  split
  · rename_i h; have : e.1 = id := by simpa using h
    exact this.symm
  · rfl

theorem WfC.setClause_of {s : Sat} (h : s.WfC) {id : Nat} {c c' : Clause} (hm : (id, c) ∈ s.cls) (hlen : 2 ≤ c'.length)
    (hnd : (c'.map Lit.var).Nodup) (hs : ∀ l ∈ c', l ∈ c) : (s.setClause id c').WfC := by
  exact ⟨forall_mem_setClause hm h.clsId (h.clsId (id, c) hm), by rw [setClause_ids]; exact h.clsIdNodup,
    forall_mem_setClause hm h.clsLen hlen, forall_mem_setClause hm h.clsNodup hnd,
    forall_mem_setClause hm h.clsRange (fun l hl => h.clsRange _ hm l (hs l hl)),
    forall_mem_setClause hm h.clsVar0 (fun l hl => h.clsVar0 _ hm l (hs l hl))⟩

theorem WfC.setClause {s : Sat} (h : s.WfC) {id : Nat} {c c' : Clause} (hm : (id, c) ∈ s.cls)
    (hp : c'.Perm c) : (s.setClause id c').WfC :=
  h.setClause_of hm (by rw [hp.length_eq]; exact h.clsLen _ hm) ((hp.map Lit.var).nodup_iff.2 (h.clsNodup _ hm))
    (fun _ hl => hp.mem_iff.1 hl)

theorem Ent.setClause_of {orig K : Cnf} {s : Sat} (hnd : (s.cls.map (·.1)).Nodup) (h : s.Ent orig K) {id : Nat}
    {c c' : Clause} (hm : (id, c) ∈ s.cls) (hE : Ents orig c')
    (hk : ∀ α : Asg, α.clause c' = true → α.clause c = true) : (s.setClause id c').Ent orig K := by
  have hmem := fun e => @mem_setClause' s id c c' hm e
  refine ⟨forall_mem_setClause hm h.clauses hE, h.trail, h.log, h.dead, ?_⟩
  · intro hd α h0 hcl hroot
    apply h.keeps hd α h0 _ hroot
    simp only [Asg.cnf_iff, List.forall_mem_map] at hcl ⊢
    intro e he
    by_cases hid : e.1 = id
    · have e2 : e.2 = c := mem_unique' hnd (by rw [← hid]; exact he) hm
      rw [e2]; exact hk α (hcl (id, c') ((hmem _).2 (Or.inr rfl)))
    · exact hcl e ((hmem e).2 (Or.inl ⟨he, hid⟩))

theorem Ent.setClause' {orig K : Cnf} {s : Sat} (hnd : (s.cls.map (·.1)).Nodup) (h : s.Ent orig K) {id : Nat}
    {c c' : Clause} (hm : (id, c) ∈ s.cls) (hp : c'.Perm c) : (s.setClause id c').Ent orig K :=
  h.setClause_of hnd hm ((h.clauses _ hm).weaken (fun l hl => hp.mem_iff.2 hl)) (fun α hc => Asg.clause_perm α hp ▸ hc)

theorem ReasonG.setClause {Q : Lit → List Lit → Prop} {s : Sat} (hnd : (s.cls.map (·.1)).Nodup) (h : s.ReasonG Q) {id : Nat}
    {c c' : Clause} (hm : (id, c) ∈ s.cls)
    (hh : ∀ l r, c = l :: r → l ∈ s.trail → s.reason.getD l.var none = some id → ∃ r', c' = l :: r' ∧ ∀ x ∈ r', x ∈ r) :
    (s.setClause id c').ReasonG Q := by
  intro l b hs id' hr
  obtain ⟨rest, hmr, hb⟩ := h l b hs id' hr
  by_cases hid : id' = id
  · subst hid
    have e : c = l :: rest := mem_unique' hnd hm hmr
    obtain ⟨r', e', hsub⟩ := hh l rest e (hs.subset (List.mem_cons_self ..)) hr
    exact ⟨r', (mem_setClause' hm).2 (Or.inr (by rw [e'])), fun x hx => hb x (hsub x hx)⟩
  · exact ⟨rest, (mem_setClause' hm).2 (Or.inl ⟨hmr, hid⟩), hb⟩

theorem WfR.setClause {s : Sat} (hc : s.WfC) (h : s.WfR) {id : Nat} {c c' : Clause} (hm : (id, c) ∈ s.cls)
    (hh : ∀ l r, c = l :: r → l ∈ s.trail → ∃ r', c' = l :: r' ∧ ∀ x ∈ r', x ∈ r) : (s.setClause id c').WfR :=
  ReasonG.setClause hc.clsIdNodup h hm fun l r e hl _ => hh l r e hl

theorem WfW.setClause_pair {s : Sat} (hc : s.WfC) (h : s.WfW) {id : Nat} {l0 l1 a b : Lit} {r r' : List Lit}
    (hm : (id, l0 :: l1 :: r) ∈ s.cls) (hab : (a = l0 ∧ b = l1) ∨ (a = l1 ∧ b = l0)) :
    (s.setClause id (a :: b :: r')).WfW := by
  refine h.change id h.lenWatches h.nodup (fun _ => mem_setClause_ne hm) (fun _ _ _ => Iff.rfl) (fun i => ?_)
  rw [watched_iff (by rw [setClause_ids]; exact hc.clsIdNodup) ((mem_setClause' hm).2 (Or.inr rfl))]
  refine (h.mem_iff_of_mem hc hm).trans ?_
  rcases hab with ⟨rfl, rfl⟩ | ⟨rfl, rfl⟩
  · rfl
  · exact Or.comm

theorem W2.setClause_pair {P : Nat → Lit → Prop} {s : Sat} (h : s.W2 P) {id : Nat} {l0 l1 a b : Lit}
    {r r' : List Lit} (hm : (id, l0 :: l1 :: r) ∈ s.cls) (hab : (a = l0 ∧ b = l1) ∨ (a = l1 ∧ b = l0)) :
    (s.setClause id (a :: b :: r')).W2 P := by
  intro id' x y r'' hm'
  rcases (mem_setClause' hm).1 hm' with ⟨hm'', _⟩ | e
  · exact h id' x y r'' hm''
  · simp only [Prod.mk.injEq, List.cons.injEq] at e
    obtain ⟨rfl, rfl, rfl, rfl⟩ := e
    rcases hab with ⟨rfl, rfl⟩ | ⟨rfl, rfl⟩
    · exact h _ _ _ _ hm
    · exact (h _ _ _ _ hm).symm

theorem W2.at_clause {P P' : Nat → Lit → Prop} {s : Sat} (hc : s.WfC) (h : s.W2 P) {id : Nat} {l0 l1 : Lit}
    {r : List Lit} (hm : (id, l0 :: l1 :: r) ∈ s.cls) (hP : ∀ id' x, id' ≠ id → P id' x → P' id' x)
    (hnew : (s.value l0 = some false → P' id l0.neg ∨ (s.value l1 = some true ∧ s.lvl l1 ≤ s.lvl l0)) ∧
      (s.value l1 = some false → P' id l1.neg ∨ (s.value l0 = some true ∧ s.lvl l0 ≤ s.lvl l1))) : s.W2 P' := by
  intro id' a b r' hm'
  by_cases hid : id' = id
  · subst hid
    have e := mem_unique hc hm hm'
    simp only [List.cons.injEq] at e
    obtain ⟨e1, e2, e3⟩ := e
    subst e1 e2 e3
    exact hnew
  · obtain ⟨h1, h2⟩ := h id' a b r' hm'
    exact ⟨fun hv => (h1 hv).imp (hP _ _ hid) (fun x => x), fun hv => (h2 hv).imp (hP _ _ hid) (fun x => x)⟩

theorem WfA.setClause {s : Sat} (h : s.WfA) (id : Nat) (c : Clause) : (s.setClause id c).WfA :=
  h.of_eq rfl rfl rfl rfl rfl rfl rfl rfl

theorem DecOK.setClause {m : Nat} {s : Sat} (h : s.DecOK m) (id : Nat) (c : Clause) : (s.setClause id c).DecOK m := h

theorem WfS.setClause {s : Sat} (h : s.WfS) {id : Nat} {c c' : Clause} (hm : (id, c) ∈ s.cls) (hp : c'.Perm c)
    (hh : ∀ l r, c = l :: r → l ∈ s.trail → s.reason.getD l.var none = some id → ∃ r', c' = l :: r') :
    (s.setClause id c').WfS := by
  have hmem := fun e => @mem_setClause' s id c c' hm e
  refine ⟨h.a.setClause id c', h.lvl0, forall_mem_setClause hm h.idlt (h.idlt (id, c) hm), by rw [setClause_ids]; exact h.ids,
    forall_mem_setClause hm h.rng (fun l hl => h.rng _ hm l (hp.mem_iff.1 hl)), ?_, ?_⟩
  · refine ReasonG.setClause h.ids h.r hm fun l r e hl hr => ?_
    obtain ⟨r', e'⟩ := hh l r e hl hr
    exact ⟨r', e', fun x hx => (List.Perm.cons_inv (e ▸ e' ▸ hp)).mem_iff.1 hx⟩
  · intro i id' hid
    obtain ⟨d, hd, l, hl, hi⟩ := h.w i id' hid
    by_cases hid' : id' = id
    · subst hid'
      have e : d = c := mem_unique' h.ids hd hm
      exact ⟨c', (hmem _).2 (Or.inr rfl), l, hp.mem_iff.2 (e ▸ hl), hi⟩
    · exact ⟨d, (hmem _).2 (Or.inl ⟨hd, hid'⟩), l, hl, hi⟩

theorem setClause_self {s : Sat} (h : s.WfC) {id : Nat} {c : Clause} (hm : (id, c) ∈ s.cls) :
    s.setClause id c = s := by
  have : s.cls.map (fun e => if e.1 == id then (id, c) else e) = s.cls := by
    conv => rhs; rw [← List.map_id s.cls]
    apply List.map_congr_left
    intro e he
    split
    · rename_i hid
      have hid' : e.1 = id := by simpa using hid
      have : e.2 = c := mem_unique h (by rw [← hid']; exact he) hm
      rw [← hid', ← this]; rfl
    · rfl
  simp only [setClause, this]

theorem findNonFalse_some {s : Sat} {c : Clause} {k j : Nat} (h : findNonFalse s c k = some j) :
    k ≤ j ∧ j < c.length ∧ s.value (c.getD j Lit.falseLit) ≠ some false := by
  unfold findNonFalse at h
  have h1 := List.find?_some h
  have h2 := List.mem_of_find?_eq_some h
  have h3 := List.mem_range.1 ((List.drop_sublist _ _).subset h2)
  refine ⟨?_, h3, by simpa using h1⟩
  obtain ⟨i, hi, e⟩ := List.getElem_of_mem h2
  simp only [List.getElem_drop, List.getElem_range] at e
  omega

theorem findNonFalse_none {s : Sat} {c : Clause} {k : Nat} (h : findNonFalse s c k = none) :
    ∀ j, k ≤ j → j < c.length → s.value (c.getD j Lit.falseLit) = some false := by
  unfold findNonFalse at h
  intro j hk hj
  have := List.find?_eq_none.1 h j (by
    rw [List.mem_iff_getElem]
    exact ⟨j - k, by simp; omega, by simp; omega⟩)
  simpa using this

theorem perm_set_swap {x y : Lit} : ∀ (r : List Lit) (k : Nat), r[k]? = some x → (x :: r.set k y).Perm (y :: r)
  | [], k, h => by simp at h
  | z :: r, 0, h => by
    simp only [List.getElem?_cons_zero, Option.some.injEq] at h; subst h
    simp only [List.set_cons_zero]
    exact List.Perm.swap _ _ _
  | z :: r, k + 1, h => by
    simp only [List.getElem?_cons_succ] at h
    simp only [List.set_cons_succ]
    have := perm_set_swap (x := x) (y := y) r k h
    exact (List.Perm.swap _ _ _).trans ((this.cons z).trans (List.Perm.swap _ _ _))

theorem swap1_spec {a np : Lit} {r : List Lit} {k : Nat} (hk : 2 ≤ k) (hlt : k < (a :: np :: r).length) :
    ∃ x r', swap1 (a :: np :: r) k = a :: x :: r' ∧ x = (a :: np :: r).getD k Lit.falseLit ∧ x ∈ r ∧
      (x :: r').Perm (np :: r) ∧ (∀ y ∈ r', y = np ∨ y ∈ r) := by
  obtain ⟨k', rfl⟩ : ∃ k', k = k' + 2 := ⟨k - 2, by omega⟩
  simp only [List.length_cons] at hlt
  have hk' : k' < r.length := by omega
  refine ⟨r[k'], r.set k' np, ?_, ?_, List.getElem_mem _, perm_set_swap r k' (by simp [hk']), ?_⟩
  · simp [swap1, hk']
  · simp [List.getD_eq_getElem?_getD, hk']
  · intro y hy
    rcases List.mem_or_eq_of_mem_set hy with h | h
    · exact Or.inr h
    · exact Or.inl h

end Sat
end Oratio
