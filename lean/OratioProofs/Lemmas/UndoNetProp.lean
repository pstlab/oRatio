/-
C08N, the whole network.  A conflict-free `assume(p)` (propagation with theory calls,
recorded theory lemmas, simplex runs) keeps the network "inside the level opened on top of `B`";
`Net.pop` then gives `B` back; any conflict-free search history followed by `Net.popTo · 0` gives the
root-level network back.
-/
import OratioProofs.Lemmas.UndoNetLra
import OratioProofs.Lemmas.UndoNetTh
import OratioProofs.Lemmas.UndoDl
import OratioProofs.Lemmas.NetRound
import OratioProofs.Lemmas.NetStart

namespace Oratio
namespace Net
open Sat

structure InLevelN (B : Net) (p : Lit) (c : Net) : Prop where
  sat : Step (B.sat.pushLevel p) c.sat
  lra : Lra.InLevel B.lra c.lra
  idl : Undo.Lg idlOps B.idl c.idl
  rdl : Undo.Lg rdlOps B.rdl c.rdl
  bound : c.bound = B.bound

/-- what a level has to be opened on for `pop` to give the network back (`Net.Undoable` of Properties/C08Net.lean) -/
structure Good (n : Net) : Prop where
  clean : Clean n.sat
  tab : Lra.TabWF n.lra
  idl : Undo.SortedK n.idl.distConstr
  rdl : Undo.SortedK n.rdl.distConstr

theorem InLevelN.setSat {B c : Net} {p : Lit} (h : InLevelN B p c) {s' : Sat} (hs : Step c.sat s') :
    InLevelN B p { c with sat := s' } :=
  ⟨h.sat.trans hs, h.lra, h.idl, h.rdl, h.bound⟩

theorem InLevelN.good {B c : Net} {p : Lit} (h : InLevelN B p c) (hB : Clean B.sat) : Good c :=
  ⟨h.sat.clean (clean_of_same hB rfl rfl rfl), h.lra.sol.1, (Undo.Lg_sorted idlOps h.idl).1, (Undo.Lg_sorted rdlOps h.rdl).1⟩

theorem InLevelN.theoryPropagate {B c : Net} {p : Lit} (h : InLevelN B p c) (q : Lit) :
    InLevelN B p (theoryPropagate c q).2 := by
  unfold Net.theoryPropagate
  cases c.theoryOf q.var with
  | none => exact h
  | some th =>
    cases th with
    | lra =>
      exact ⟨h.sat.trans (Lra.propagateLit_rec c.sat c.lra q).toStep, h.lra.propagateLit c.sat q, h.idl, h.rdl, h.bound⟩
    | idl =>
      simp only
      cases he : Dl.propagateLit idlOps c.sat c.idl q with
      | inl cl => exact h
      | inr r =>
        obtain ⟨s, t⟩ := r
        exact ⟨h.sat.trans (Dl.propagateLit_rec idlOps c.sat c.idl q he).toStep, h.lra,
          Undo.Lg_propagateLit idlOps h.idl c.sat q he, h.rdl, h.bound⟩
    | rdl =>
      simp only
      cases he : Dl.propagateLit rdlOps c.sat c.rdl q with
      | inl cl => exact h
      | inr r =>
        obtain ⟨s, t⟩ := r
        exact ⟨h.sat.trans (Dl.propagateLit_rec rdlOps c.sat c.rdl q he).toStep, h.lra, h.idl,
          Undo.Lg_propagateLit rdlOps h.rdl c.sat q he, h.bound⟩

theorem quiet_succ (n : Net) (fuel : Nat) : quiet n (fuel + 1) =
    match round n fuel with
    | .stuck => true
    | .done _ => true
    | .go n1 => quiet n1 fuel
    | .conflict _ _ _ => false := by
  rw [quiet]
  unfold round
  cases n.sat.queue with
  | nil => rcases n.lra.check fuel with _ | ⟨_ | c, t⟩ <;> rfl
  | cons p q =>
    dsimp only
    rcases Sat.visitWatchers { n.sat with queue := q, watches := n.sat.watches.set p.idx [] } p
      (n.sat.watches.getD p.idx []) with ⟨s, _ | id⟩
    · dsimp only
      rcases theoryPropagate { n with sat := s } p with ⟨_ | c, n'⟩ <;> rfl
    · rfl

theorem InLevelN.round {B c : Net} {p : Lit} (h : InLevelN B p c) (fuel : Nat) :
    match round c fuel with
    | .done n' => InLevelN B p n'
    | .go n' => InLevelN B p n'
    | _ => True := by
  unfold Net.round
  cases c.sat.queue with
  | nil =>
    dsimp only
    rcases hchk : c.lra.check fuel with _ | ⟨_ | cn, t⟩
    · trivial
    · exact ⟨h.sat, h.lra.check hchk, h.idl, h.rdl, h.bound⟩
    · trivial
  | cons l q =>
    dsimp only
    have hv := (Step.of_same (s := c.sat) (t := { c.sat with queue := q, watches := c.sat.watches.set l.idx [] })
      rfl rfl rfl rfl rfl rfl rfl rfl rfl rfl).trans (step_visitWatchers l (c.sat.watches.getD l.idx []) _)
    generalize Sat.visitWatchers { c.sat with queue := q, watches := c.sat.watches.set l.idx [] } l
      (c.sat.watches.getD l.idx []) = r at hv ⊢
    obtain ⟨s, _ | id⟩ := r
    · dsimp only
      have h2 := (h.setSat hv).theoryPropagate l
      generalize Net.theoryPropagate { c with sat := s } l = r at h2 ⊢
      obtain ⟨_ | cn, n''⟩ := r
      · exact h2
      · trivial
    · trivial

theorem propagate_quiet {B : Net} {p : Lit} (fuel : Nat) : ∀ (c : Net) (b : Bool) (n' : Net), InLevelN B p c →
    quiet c fuel = true → propagate c fuel = some (b, n') → InLevelN B p n' ∧ b = true := by
  induction fuel with
  | zero => intro c b n' _ _ he; simp [Net.propagate] at he
  | succ fuel ih =>
    intro c b n' h hq he
    rw [propagate_succ] at he
    rw [quiet_succ] at hq
    have hr := h.round fuel
    cases hround : Net.round c fuel with
    | stuck => rw [hround] at he; cases he
    | done n1 => rw [hround] at he hr; cases he; exact ⟨hr, rfl⟩
    | go n1 => rw [hround] at he hq hr; exact ih n1 b n' hr hq he
    | conflict => rw [hround] at hq; cases hq

theorem pushed_inLevel {n : Net} (hg : Good n) (p : Lit) : InLevelN n p (pushed n p) :=
  ⟨Step.refl _, Lra.inLevel_push hg.tab, Undo.Lg_push idlOps n.idl hg.idl, Undo.Lg_push rdlOps n.rdl hg.rdl, rfl⟩

theorem quietAssume_start (n : Net) (p : Lit) (fuel : Nat) : quietAssume n p fuel =
    if n.sat.value p = some false then true else quiet (NetCheck.startOf n p) fuel := by
  have e : quietAssume n p fuel = match (n.sat.pushLevel p).enqueue p none with
    | (false, _) => true
    | (true, s) => quiet { NetCheck.pushStart n p with sat := s } fuel := rfl
  rw [e, NetCheck.startOf]
  rcases hv : n.sat.value p with _ | _ | _
  · rw [enqueue_none (s := n.sat.pushLevel p) none hv]; rfl
  · rw [enqueue_some (s := n.sat.pushLevel p) none hv]; rfl
  · rw [enqueue_some (s := n.sat.pushLevel p) none hv]; rfl

theorem assume_quiet {n : Net} (hg : Good n) {p : Lit} {fuel : Nat} {b : Bool} {n' : Net}
    (hq : quietAssume n p fuel = true) (he : n.assume p fuel = some (b, n')) :
    InLevelN n p n' ∧ (((pushed n p).sat.enqueue p none).1 = true → b = true) := by
  rw [assume_start] at he
  rw [quietAssume_start] at hq
  by_cases hf : n.sat.value p = some false
  · rw [if_pos hf] at he
    cases he
    exact ⟨pushed_inLevel hg p, fun h => by
      rw [show (pushed n p).sat.enqueue p none = _ from enqueue_some (s := n.sat.pushLevel p) none hf] at h; cases h⟩
  · rw [if_neg hf] at he hq
    have r := propagate_quiet fuel _ b n' ((pushed_inLevel hg p).setSat (step_enqueue _ p none)) hq he
    exact ⟨r.1, fun _ => r.2⟩

/-- `u` shows what `B` shows: literally, but for the clause database (grown / permuted) and the LRA tableau
    (same solutions) -/
structure RestoredN (B u : Net) : Prop where
  sat : SameAssignment B.sat u.sat
  dead : u.sat.dead = B.sat.dead
  cls : IdsOK B.sat → IdsOK u.sat ∧ ClsKept B.sat u.sat
  lra : Lra.Restored B.lra u.lra
  idl : u.idl = B.idl
  rdl : u.rdl = B.rdl
  bound : u.bound = B.bound

theorem RestoredN.refl {B : Net} (hB : Lra.TabWF B.lra) : RestoredN B B :=
  ⟨⟨rfl, rfl, rfl, rfl, rfl, rfl, rfl⟩, rfl, fun h => ⟨h, ClsKept.refl _⟩, Lra.Restored.refl hB, rfl, rfl, rfl⟩

theorem RestoredN.step {B u : Net} (h : RestoredN B u) : Step B.sat u.sat :=
  ⟨Grow.of_same h.sat.vals h.sat.level h.sat.reason h.sat.trail h.sat.trailLim h.sat.decisions h.sat.exprs h.dead,
    h.cls, fun hc => clean_of_same hc h.sat.vals h.sat.level h.sat.reason⟩

theorem RestoredN.trans {A B C : Net} (h1 : RestoredN A B) (h2 : RestoredN B C) : RestoredN A C :=
  ⟨⟨h2.sat.vals.trans h1.sat.vals, h2.sat.level.trans h1.sat.level, h2.sat.reason.trans h1.sat.reason,
    h2.sat.trail.trans h1.sat.trail, h2.sat.trailLim.trans h1.sat.trailLim, h2.sat.decisions.trans h1.sat.decisions,
    h2.sat.exprs.trans h1.sat.exprs⟩, h2.dead.trans h1.dead,
    fun h => ⟨(h2.cls (h1.cls h).1).1, (h1.cls h).2.trans (h2.cls (h1.cls h).1).2⟩,
    h1.lra.trans h2.lra, h2.idl.trans h1.idl, h2.rdl.trans h1.rdl, h2.bound.trans h1.bound⟩

theorem RestoredN.good {B u : Net} (h : RestoredN B u) (hB : Good B) : Good u :=
  ⟨clean_of_same hB.clean h.sat.vals h.sat.level h.sat.reason, h.lra.sol.1, by rw [h.idl]; exact hB.idl,
    by rw [h.rdl]; exact hB.rdl⟩

theorem InLevelN.pop {B c : Net} {p : Lit} (hB : Clean B.sat) (h : InLevelN B p c) : RestoredN B c.pop := by
  obtain ⟨f1, f2, _, _, _, _, f7, _⟩ := pop_frame c.sat
  refine ⟨pop_of_grow p h.sat.grow fun l _ => hB.2.2 l.var, f7.trans h.sat.grow.dead, fun hi => ?_, h.lra.pop,
    Undo.pop_of_Lg idlOps h.idl, Undo.pop_of_Lg rdlOps h.rdl, h.bound⟩
  have hc := h.sat.cls hi
  refine ⟨?_, ?_⟩
  · show IdsOK c.sat.pop
    unfold IdsOK; rw [f1, f2]; exact hc.1
  · exact hc.2.trans (ClsKept.of_eq f1)

theorem InLevelN.congr {B' B u : Net} {p : Lit} (h : InLevelN B' p B) (r : RestoredN B u) : InLevelN B' p u :=
  ⟨h.sat.trans r.step, h.lra.congr r.lra, by rw [r.idl]; exact h.idl, by rw [r.rdl]; exact h.rdl, r.bound.trans h.bound⟩

theorem assume_pop {n : Net} (hg : Good n) {p : Lit} {fuel : Nat} {b : Bool} {n' : Net}
    (hq : quietAssume n p fuel = true) (he : n.assume p fuel = some (b, n')) : RestoredN n n'.pop :=
  (assume_quiet hg hq he).1.pop hg.clean

theorem inLevelN_level {B c : Net} {p : Lit} (h : InLevelN B p c) :
    c.sat.decisionLevel = B.sat.decisionLevel + 1 := by
  show c.sat.trailLim.length = B.sat.trailLim.length + 1
  rw [h.sat.grow.trailLim]; rfl

/-- a level is the network its `assume` started from, with the literal assumed -/
abbrev NChain (root : Net) : List (Net × Lit) → Net → Prop :=
  Undo.ChainTo (fun b c => InLevelN b.1 b.2 c ∧ Good b.1) RestoredN Prod.fst root

theorem NChain.good {root : Net} (hr : Good root) : ∀ {bs : List (Net × Lit)} {cur : Net}, NChain root bs cur → Good cur
  | [], _, h => RestoredN.good h hr
  | _ :: _, _, h => h.1.1.good h.1.2.clean

theorem NChain.level {root : Net} (hroot : root.sat.trailLim = []) : ∀ {bs : List (Net × Lit)} {cur : Net},
    NChain root bs cur → cur.sat.decisionLevel = bs.length
  | [], cur, h => by
    show cur.sat.trailLim.length = 0
    rw [h.sat.trailLim, hroot]; rfl
  | _ :: _, _, h => by
    rw [inLevelN_level h.1.1, NChain.level hroot h.2]; rfl

theorem NChain.pop {root : Net} {b : Net × Lit} {bs : List (Net × Lit)} {cur : Net} (h : NChain root (b :: bs) cur) :
    NChain root bs cur.pop :=
  have r := h.1.1.pop h.1.2.clean
  h.2.congr (fun hb => ⟨hb.1.congr r, hb.2⟩) (·.trans r)

theorem popTo_nchain {root : Net} (hroot : root.sat.trailLim = []) {bs : List (Net × Lit)} {cur : Net}
    (h : NChain root bs cur) (lvl : Nat) : ∃ bs', NChain root bs' (popTo cur lvl) ∧ bs'.length = min lvl bs.length := by
  obtain ⟨bs', h'⟩ : ∃ bs', NChain root bs' (popTo cur lvl) :=
    popTo_go_induct (P := fun n => ∃ bs, NChain root bs n) lvl (fun n hgt ⟨bs, h⟩ => by
      cases bs with
      | nil => exact absurd (NChain.level hroot h ▸ hgt) (Nat.not_lt_zero _)
      | cons b bs => exact ⟨bs, h.pop⟩) _ cur ⟨bs, h⟩
  exact ⟨bs', h', by rw [← NChain.level hroot h', ← NChain.level hroot h, popTo_sat, popTo_level]⟩

theorem popTo_chain {root : Net} (hroot : root.sat.trailLim = []) {bs : List (Net × Lit)} {cur : Net}
    (h : NChain root bs cur) : RestoredN root (popTo cur 0) := by
  obtain ⟨bs', h', hl⟩ := popTo_nchain hroot h 0
  rw [Nat.zero_min, List.length_eq_zero_iff] at hl
  subst hl
  exact h'

theorem runQuiet_chain {root : Net} (hr : Good root) (hroot : root.sat.trailLim = []) (fuel : Nat) (ops : List SOp) :
    ∀ (bs : List (Net × Lit)) (cur n : Net), NChain root bs cur → runQuiet fuel cur ops = some n →
    ∃ bs', NChain root bs' n := by
  induction ops with
  | nil =>
    intro bs cur n h he
    cases he
    exact ⟨bs, h⟩
  | cons op rest ih =>
    intro bs cur n h he
    cases op with
    | assume p =>
      have hg := NChain.good hr h
      rw [runQuiet] at he
      split at he
      · next hq =>
        split at he
        · next n1 ha => exact ih ((cur, p) :: bs) n1 n ⟨⟨(assume_quiet hg hq ha).1, hg⟩, h⟩ he
        · cases he
      · cases he
    | propagate =>
      rw [runQuiet] at he
      split at he
      · next hq =>
        simp only [Bool.and_eq_true, Bool.not_eq_true'] at hq
        split at he
        · next b n1 ha =>
          cases bs with
          | nil =>
            -- at root level `propagate` is not admitted
            have hl : cur.sat.trailLim.length = 0 := NChain.level hroot h
            rw [Sat.rootLevel, List.length_eq_zero_iff.1 hl] at hq
            cases hq.1
          | cons b bs => exact ih (b :: bs) n1 n ⟨⟨(propagate_quiet fuel cur _ n1 h.1.1 hq.2 ha).1, h.1.2⟩, h.2⟩ he
        · cases he
      · cases he

theorem popTo_root {r : Net} (hr : Good r) (hroot : r.sat.trailLim = []) (fuel : Nat) (ops : List SOp) {n : Net}
    (he : runQuiet fuel r ops = some n) : RestoredN r (popTo n 0) := by
  obtain ⟨bs, h⟩ := runQuiet_chain hr hroot fuel ops [] r n (RestoredN.refl hr.tab) he
  exact popTo_chain hroot h

end Net
end Oratio
