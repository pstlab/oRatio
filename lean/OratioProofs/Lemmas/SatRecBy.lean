/-
`Sat.RecBy Q s s'`: the SAT state `s'` is reached from `s` by `record`ing clauses, each of which satisfies `Q` in the
state it is recorded in - what a theory call does to the SAT core.  It gives `Sat.Ext` (SatCoreStep); the other readings
of such a run (`RecTo`, `Recs`) are inductions on it where those relations are defined.
-/
import OratioProofs.Lemmas.SatCoreStep

namespace Oratio
namespace Sat

inductive RecBy (Q : Sat → Clause → Prop) : Sat → Sat → Prop
  | refl (s : Sat) : RecBy Q s s
  | step {s s1 : Sat} {c : Clause} : RecBy Q s s1 → Q s1 c → RecBy Q s (s1.record c)

variable {Q : Sat → Clause → Prop}

theorem RecBy.trans {a b c : Sat} (h1 : RecBy Q a b) (h2 : RecBy Q b c) : RecBy Q a c := by
  induction h2 with
  | refl => exact h1
  | step _ hq ih => exact .step ih hq

theorem RecBy.mono {Q' : Sat → Clause → Prop} {s s' : Sat} (h : RecBy Q s s')
    (hq : ∀ s1 c, RecBy Q s s1 → Q s1 c → Q' s1 c) : RecBy Q' s s' := by
  induction h with
  | refl => exact .refl _
  | step h1 hc ih => exact .step ih (hq _ _ h1 hc)

theorem RecBy.ext {s s' : Sat} (h : RecBy Q s s') :
    ∃ new, Ext new s s' ∧ ∀ c ∈ new, ∃ s1, RecBy Q s s1 ∧ Q s1 c := by
  induction h with
  | refl => exact ⟨[], .refl _, fun _ hc => nomatch hc⟩
  | @step s1 c h1 hc ih =>
    obtain ⟨new, e, hn⟩ := ih
    exact ⟨new ++ [c], e.trans (ext_record _ _), fun c' hc' => (List.mem_append.1 hc').elim (hn c')
      fun h' => List.mem_singleton.1 h' ▸ ⟨s1, h1, hc⟩⟩

theorem RecBy.le {s s' : Sat} (h : RecBy Q s s') : Dl.SatLe s s' := let ⟨_, e, _⟩ := h.ext; e.le

theorem RecBy.lenVals {s s' : Sat} (h : RecBy Q s s') : s'.vals.length = s.vals.length := let ⟨_, e, _⟩ := h.ext; e.lenVals

end Sat
end Oratio
