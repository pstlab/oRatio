/-
The vocabulary of Properties/C10Rdl.lean (which imports this file), body for body; `ExactM` is
`DlG.Exact rdlLaws` stated field by field on optional entries.
-/
import OratioProofs.Lemmas.DlRdl
import OratioProofs.Lemmas.DlExactG


namespace Oratio
namespace DlR
open Dl

abbrev QEdge := Nat × Nat × IR

/-- the body of `QEdge.holds` -/
def qholds (σ : Nat → QV) (e : QEdge) : Prop := σ e.2.1 - σ e.1 ≤ IR.val e.2.2
/-- the body of `Dl.rdist?` -/
def distOpt (t : Dl IR) (i j : Nat) : Option QV :=
  let x := Dl.d rdlOps t i j; if x.rat.den = 0 then none else some (IR.val x)

/-- the body of `Dl.ExactR` -/
structure ExactM (E : List QEdge) (t : Dl IR) : Prop where
  size_ok : 1 ≤ t.nVars ∧ t.nVars ≤ t.dists.length ∧ (∀ r ∈ t.dists, r.length = t.dists.length) ∧
    t.preds.length = t.dists.length ∧ (∀ r ∈ t.preds, r.length = t.dists.length)
  fresh : ∀ i j, i < t.dists.length → j < t.dists.length → (t.nVars ≤ i ∨ t.nVars ≤ j) →
    Dl.d rdlOps t i j = if i = j then rdlOps.zero else rdlOps.inf
  wf : ∀ i j, i < t.nVars → j < t.nVars → IR.Good (Dl.d rdlOps t i j)
  edges_in : ∀ e ∈ E, e.1 < t.nVars ∧ e.2.1 < t.nVars ∧ IR.Fin e.2.2
  diag : ∀ i, i < t.nVars → distOpt t i i = some 0
  respects : ∀ e ∈ E, ∃ x, distOpt t e.1 e.2.1 = some x ∧ x ≤ IR.val e.2.2
  closed : ∀ i j k, i < t.nVars → j < t.nVars → k < t.nVars →
    ∀ a b, distOpt t i k = some a → distOpt t k j = some b → ∃ c, distOpt t i j = some c ∧ c ≤ a + b
  implied : ∀ i j, i < t.nVars → j < t.nVars → ∀ x, distOpt t i j = some x →
    ∀ σ : Nat → QV, (∀ e ∈ E, qholds σ e) → σ j - σ i ≤ x

theorem distOpt_some {t : Dl IR} {i j : Nat} {x : QV} : distOpt t i j = some x ↔ dn t i j = (x : WithTop QV) := Iff.rfl

theorem distOpt_none {t : Dl IR} {i j : Nat} : distOpt t i j = none ↔ dn t i j = ⊤ := Iff.rfl

theorem ExactM.toG {E : List QEdge} {t : Dl IR} (h : ExactM E t) : DlG.Exact rdlLaws E t :=
  ⟨(sizeOk_iff t).mp h.size_ok, h.fresh, h.wf, fun e he => (h.edges_in e he).2.2,
    (DlG.weak_iff_opt (M := dn t) rdlLaws fun e he => ⟨(h.edges_in e he).1, (h.edges_in e he).2.1⟩).mpr
      ⟨h.diag, h.respects, h.closed, h.implied⟩⟩

theorem ExactM.ofG {E : List QEdge} {t : Dl IR} (h : DlG.Exact rdlLaws E t) : ExactM E t :=
  have hin := fun (e : QEdge) he => h.weak.edges_in (e.1, e.2.1, IR.val e.2.2) (List.mem_map.mpr ⟨e, he, rfl⟩)
  have ⟨h1, h2, h3, h4⟩ := (DlG.weak_iff_opt (M := dn t) rdlLaws hin).mp h.weak
  ⟨(sizeOk_iff t).mpr h.size, h.fresh, h.good, fun e he => ⟨(hin e he).1, (hin e he).2, h.wts e he⟩, h1, h2, h3, h4⟩

theorem ExactM.congr_state {E : List QEdge} {t t2 : Dl IR} (h : ExactM E t)
    (h1 : t2.nVars = t.nVars) (h2 : t2.dists = t.dists) (h3 : t2.preds = t.preds) : ExactM E t2 :=
  ExactM.ofG (DlG.Exact.congr_state rdlLaws h.toG h1 h2 h3)

theorem room (t : Dl IR) (f g : Nat) (w : IR) : DlG.Room rdlLaws t f g w := fun _ _ _ _ => trivial

theorem QV.not_le_iff (u v : QV) (k : ℤ) (h : (ofLex u).2 - (ofLex v).2 = (k : ℚ)) :
    ¬ (u ≤ v) ↔ -u ≤ -v - QV.eps := by
  have := QV.int_step u v k h
  rw [this]
  constructor <;> intro h' <;> grind

theorem QV.of_rev (u v : QV) (h : -u ≤ -v - QV.eps) : ¬ (u ≤ v) := by
  have := QV.eps_pos
  grind

end DlR
end Oratio
