/-
`assert_lower`, `assert_upper` (hence `set_lb`, `set_ub`, `set`, `propagate`), `push` and `pop` keep the invariant
`Lra.GoodState`.
-/
import OratioModel
import OratioProofs.Lemmas.LraExplLoops
import OratioProofs.Lemmas.LraGoodVals
import OratioProofs.Lemmas.LraUndoLog

namespace Oratio
namespace Lra
open Lin

theorem GoodCore.transfer {t u : Lra} (g : GoodCore t) (h1 : u.tableau = t.tableau) (h2 : u.tWatches = t.tWatches)
    (h3 : u.vals = t.vals) (h4 : u.vAsrts = t.vAsrts) (h5 : u.exprs = t.exprs) (hbl : u.bounds.length = t.bounds.length)
    (hbwf : ∀ x, x < u.vals.length → LowerOK (u.lb x) ∧ UpperOK (u.ub x) ∧ IR.le (u.lb x) (u.ub x) = true)
    (hlay : LayersOK u.bounds u.layers) : GoodCore u :=
  have hn : u.vals.length = t.vals.length := by rw [h3]
  .ofGroups (g.gtab.congr h1 h2 hn) (g.gvals.congr h1 h3) ⟨by rw [hbl, hn]; exact g.blen, hbwf, hlay⟩ (g.greg.congr h4 h5 hn)

theorem boundOK_lb (x : Nat) (a : IR) : BoundOK (lbIdx x) a ↔ LowerOK a := by
  unfold BoundOK lbIdx
  rw [if_pos (by omega)]
theorem boundOK_ub (x : Nat) (a : IR) : BoundOK (ubIdx x) a ↔ UpperOK a := by
  unfold BoundOK ubIdx
  rw [if_neg (by omega)]
theorem looser_lb (x : Nat) (a b : IR) : Looser (lbIdx x) a b ↔ IR.le a b = true := by
  unfold Looser lbIdx
  rw [if_pos (by omega)]
theorem looser_ub (x : Nat) (a b : IR) : Looser (ubIdx x) a b ↔ IR.le b a = true := by
  unfold Looser ubIdx
  rw [if_neg (by omega)]

theorem GoodCore.boundOK {t : Lra} (g : GoodCore t) {i : Nat} (hi : i < t.bounds.length) : BoundOK i (t.bnd i).value := by
  obtain ⟨hlo, hup, -⟩ := g.bwf (i / 2) (by have := g.blen; omega)
  unfold BoundOK
  split
  · have h : i = lbIdx (i / 2) := by unfold lbIdx; omega
    rw [h]; exact hlo
  · have h : i = ubIdx (i / 2) := by unfold ubIdx; omega
    rw [h]; exact hup

theorem storeBound_good {t : Lra} (g : GoodState t) {i xi : Nat} (hi : i < t.bounds.length) (hxi : xi < t.vals.length)
    {val : IR} {p : Lit} (hold : BoundOK i (t.bnd i).value) (hnew : BoundOK i val) (hl : Looser i (t.bnd i).value val)
    {lo up : IR}
    (hb : ∀ u : Lra, u.bounds = t.bounds.set i ⟨val, p⟩ →
      u.lb xi = lo ∧ u.ub xi = up ∧ ∀ x, x ≠ xi → u.lb x = t.lb x ∧ u.ub x = t.ub x)
    (hok : LowerOK lo ∧ UpperOK up ∧ IR.le lo up = true) {outside : IR → Bool}
    (hfin : outside (t.value xi) = true → IR.Fin val) (hval : IR.lt val lo = false ∧ IR.gt val up = false)
    (hkeep : outside (t.value xi) = false → t.isBasic xi = false →
      IR.lt (t.value xi) lo = false ∧ IR.gt (t.value xi) up = false) :
    GoodState (storeBound t i xi val p outside) ∧ (storeBound t i xi val p outside).vals.length = t.vals.length := by
  obtain ⟨hlo, hup, hbx⟩ := hb (stored t i ⟨val, p⟩) rfl
  have gc : GoodCore (stored t i ⟨val, p⟩) :=
    g.toGoodCore.transfer rfl rfl rfl rfl rfl List.length_set (fun x hx => by
      by_cases hxx : x = xi
      · rw [hxx, hlo, hup]; exact hok
      · rw [(hbx x hxx).1, (hbx x hxx).2]; exact g.bwf x hx) (layersOK_tighten g.lay hi hold hnew hl)
  have hin : ∀ x, x < t.vals.length → t.isBasic x = false → x ≠ xi → InB (stored t i ⟨val, p⟩) x :=
    fun x hx hxb hxx => by
      unfold InB
      rw [(hbx x hxx).1, (hbx x hxx).2]
      exact g.nbin x hx hxb
  rcases storeBound_cases t i xi val p outside with ⟨hc, e⟩ | ⟨ho, hnb, e⟩ <;> rw [e]
  · refine ⟨⟨gc, fun x hx hxb => ?_⟩, rfl⟩
    by_cases hxx : x = xi
    · unfold InB
      rw [hxx, hlo, hup]
      refine hkeep ?_ (hxx ▸ hxb)
      cases hm : outside (t.value xi)
      · rfl
      · exact absurd ⟨hm, hxx ▸ hxb⟩ hc
    · exact hin x hx hxb hxx
  · obtain ⟨u1, u2, u3, u4, u5, u6⟩ := gc.update hnb hxi (hfin ho)
    refine ⟨⟨u1, fun x hx hxb => ?_⟩, u5⟩
    rw [u5] at hx
    rw [isBasic_eq_of_tableau u4] at hxb
    by_cases hxx : x = xi
    · unfold InB
      rw [lb_eq_of_bounds u6, ub_eq_of_bounds u6, hxx, u2, hlo, hup]
      exact hval
    · exact inB_congr u6 (u3 x hxb hxx) (hin x hx hxb hxx)

theorem asState_good {t : Lra} (g : GoodState t) {xi : Nat} (hxi : xi < t.vals.length) {val : IR} {p : Lit} :
    ∀ d : Side, OKs d.flip.inf val → d.flip.geB val (d.bd t xi) = false → d.flip.ltB val (d.flip.bd t xi) = false →
      GoodState (asState d t xi val p) ∧ (asState d t xi val p).vals.length = t.vals.length
  | .lo, hval, h1, h2 => by
    have h1' : IR.le val (t.lb xi) = false := h1
    have h2' : IR.gt val (t.ub xi) = false := h2
    obtain ⟨hlo, hup, -⟩ := g.bwf xi hxi
    have hi : lbIdx xi < t.bounds.length := by rw [g.blen]; unfold lbIdx; omega
    have hvu : IR.le val (t.ub xi) = true := by
      rw [IR.gt_swap] at h2'
      exact IR.le_of_not_lt hup.wf hval.wf h2'
    have hlv : IR.le (t.lb xi) val = true :=
      IR.le_of_lt hlo.wf hval.wf (IR.lt_of_not_le hval.wf hlo.wf h1')
    exact storeBound_good g hi hxi ((boundOK_lb _ _).2 hlo) ((boundOK_lb _ _).2 hval) ((looser_lb _ _ _).2 hlv)
      (fun u hu => lb_ub_set_lb hu hi) ⟨hval, hup, hvu⟩
      (fun h => (SOk.of_ltB (d := .lo) (value_fin_of_vals g.vfin xi) (lowerOK_iff.1 hval).1 h).1)
      ⟨IR.not_lt_of_le hval.wf hval.wf (IR.le_refl' hval.wf), h2'⟩ fun hm hxb => ⟨hm, (g.nbin xi hxi hxb).2⟩
  | .hi, hval, h1, h2 => by
    have h1' : IR.ge val (t.ub xi) = false := h1
    have h2' : IR.lt val (t.lb xi) = false := h2
    obtain ⟨hlo, hup, -⟩ := g.bwf xi hxi
    have hi : ubIdx xi < t.bounds.length := by rw [g.blen]; unfold ubIdx; omega
    have hlv : IR.le (t.lb xi) val = true := IR.le_of_not_lt hval.wf hlo.wf h2'
    have hvu : IR.le val (t.ub xi) = true := by
      rw [IR.ge_swap] at h1'
      exact IR.le_of_lt hval.wf hup.wf (IR.lt_of_not_le hup.wf hval.wf h1')
    have hvv : IR.gt val val = false := by
      rw [IR.gt_swap]; exact IR.not_lt_of_le hval.wf hval.wf (IR.le_refl' hval.wf)
    exact storeBound_good g hi hxi ((boundOK_ub _ _).2 hup) ((boundOK_ub _ _).2 hval) ((looser_ub _ _ _).2 hvu)
      (fun u hu => lb_ub_set_ub hu hi) ⟨hlo, hval, hlv⟩
      (fun h => (SOk.of_ltB (d := .hi) (value_fin_of_vals g.vfin xi) (upperOK_iff.1 hval).1 h).1)
      ⟨h2', hvv⟩ fun hm hxb => ⟨(g.nbin xi hxi hxb).1, hm⟩

theorem assertWith_good (d : Side) (un row : Lra → Sat → Nat → Option (List Lit) × Sat) {s : Sat} {t : Lra} {xi : Nat}
    {val : IR} {p : Lit} (g : GoodState t) (hxi : xi < t.vals.length) (hval : OKs d.flip.inf val) :
    GoodState (assertWith d un row s t xi val p).th ∧ (assertWith d un row s t xi val p).th.vals.length = t.vals.length := by
  rcases assertWith_th d un row s t xi val p with e | ⟨h1, h2, e⟩ <;> rw [e]
  exacts [⟨g, rfl⟩, asState_good g hxi d hval h1 h2]

theorem assertLower_good {s : Sat} {t : Lra} {xi : Nat} {val : IR} {p : Lit} (g : GoodState t)
    (hxi : xi < t.vals.length) (hval : LowerOK val) :
    GoodState (assertLower s t xi val p).th ∧ (assertLower s t xi val p).th.vals.length = t.vals.length := by
  rw [assertLower_with]; exact assertWith_good .lo _ _ g hxi hval

theorem assertUpper_good {s : Sat} {t : Lra} {xi : Nat} {val : IR} {p : Lit} (g : GoodState t)
    (hxi : xi < t.vals.length) (hval : UpperOK val) :
    GoodState (assertUpper s t xi val p).th ∧ (assertUpper s t xi val p).th.vals.length = t.vals.length := by
  rw [assertUpper_with]; exact assertWith_good .hi _ _ g hxi hval

theorem setEq_good {s : Sat} {t : Lra} {xi : Nat} {val : IR} {p : Lit} (g : GoodState t)
    (hxi : xi < t.vals.length) (hval : IR.Fin val) : GoodState (setEq s t xi val p).th := by
  obtain ⟨g1, l1⟩ := assertLower_good (s := s) (p := p) g hxi hval.lower
  rcases setEq_cases s t xi val p with e | e <;> rw [e]
  exacts [g1, (assertUpper_good g1 (l1 ▸ hxi) hval.upper).1]

theorem propagateLit_good {s : Sat} {t : Lra} {p : Lit} (g : GoodState t) : GoodState (propagateLit s t p).th :=
  propagateLit_th_ind s t p g fun a d val hab hf h1 h2 =>
    have ⟨hx, hv⟩ := g.asrts _ (mem_of_asrtOf hab)
    (asState_good g hx d (match d with | .lo => (hf hv).lower | .hi => (hf hv).upper) h1 h2).1

theorem push_good {t : Lra} (g : GoodState t) : GoodState t.push := by
  refine ⟨g.toGoodCore.transfer rfl rfl rfl rfl rfl rfl g.bwf ?_, g.nbin⟩
  exact (layersOK_cons _ _ _).2 ⟨fun e he => (by cases he), g.lay⟩

/-- `pop()` restores older, looser bounds: the values (which are not restored) stay within them -/
theorem pop_good {t : Lra} (g : GoodState t) : GoodState t.pop := by
  rw [pop_def]
  cases hl : t.layers with
  | nil => exact g
  | cons l ls =>
    simp only
    have hlay := g.lay
    rw [hl] at hlay
    obtain ⟨h1, h2⟩ := (layersOK_cons _ _ _).1 hlay
    -- every bound after the pop is the old one or a looser saved one of the same kind
    have hnew : ∀ i, i < t.bounds.length → BoundOK i ((restoreB t.bounds l).getD i bndD).value ∧
        Looser i ((restoreB t.bounds l).getD i bndD).value (t.bnd i).value := by
      intro i hi
      have hok := g.toGoodCore.boundOK hi
      rcases restoreB_getD l t.bounds i with h | ⟨e, he, hk, h⟩
      · rw [h]; exact ⟨hok, Looser.refl hok.wf⟩
      · rw [h]
        obtain ⟨-, a2, a3⟩ := h1 e he
        rw [hk] at a2 a3
        exact ⟨a2, a3⟩
    have hlb : ∀ x, x < t.vals.length →
        LowerOK (({ t with bounds := restoreB t.bounds l, layers := ls } : Lra).lb x) ∧
        IR.le (({ t with bounds := restoreB t.bounds l, layers := ls } : Lra).lb x) (t.lb x) = true := fun x hx =>
      have h := hnew (lbIdx x) (by rw [g.blen]; unfold lbIdx; omega)
      ⟨(boundOK_lb _ _).1 h.1, (looser_lb _ _ _).1 h.2⟩
    have hub : ∀ x, x < t.vals.length →
        UpperOK (({ t with bounds := restoreB t.bounds l, layers := ls } : Lra).ub x) ∧
        IR.le (t.ub x) (({ t with bounds := restoreB t.bounds l, layers := ls } : Lra).ub x) = true := fun x hx =>
      have h := hnew (ubIdx x) (by rw [g.blen]; unfold ubIdx; omega)
      ⟨(boundOK_ub _ _).1 h.1, (looser_ub _ _ _).1 h.2⟩
    refine ⟨g.toGoodCore.transfer rfl rfl rfl rfl rfl (restoreB_length _ _) ?_ h2, ?_⟩
    · intro x hx
      obtain ⟨l1, l2⟩ := hlb x hx
      obtain ⟨u1, u2⟩ := hub x hx
      obtain ⟨hlo, hup, hle⟩ := g.bwf x hx
      exact ⟨l1, u1, IR.le_trans' l1.wf hlo.wf u1.wf l2 (IR.le_trans' hlo.wf hup.wf u1.wf hle u2)⟩
    · intro x hx hxb
      obtain ⟨l1, l2⟩ := hlb x hx
      obtain ⟨u1, u2⟩ := hub x hx
      obtain ⟨hlo, hup, -⟩ := g.bwf x hx
      have hv := (value_fin_of_vals g.vfin x).wf
      obtain ⟨c1, c2⟩ := (IR.within_iff hv hlo.wf hup.wf).1 (g.nbin x hx hxb)
      exact (IR.within_iff hv l1.wf u1.wf).2 ⟨IR.le_trans' l1.wf hlo.wf hv l2 c1, IR.le_trans' hv hup.wf u1.wf c2 u2⟩

end Lra

end Oratio
