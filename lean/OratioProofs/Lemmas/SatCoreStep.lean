/-
What an operation of the CDCL core does inside a decision level, with no hypothesis on the state: unassigned variables
are assigned on top of the trail, clauses are added or permuted under their ids, the log grows (`Sat.Ext`).  It is
proved once per operation; what the users ask for (`Frame`, `Dl.SatLe`, `AssignedKeep`, `Step`, the suffix and level
facts) are its projections.
-/
import OratioProofs.Lemmas.SatCoreProp

namespace Oratio
namespace Sat

theorem swap1_perm (c : Clause) (k : Nat) : (swap1 c k).Perm c := by
  unfold swap1
  split
  · next a b h1 hk =>
    match c, h1, hk with
    | h :: a' :: t, h1, hk =>
      simp only [List.getElem?_cons_succ, List.getElem?_cons_zero, Option.some.injEq] at h1
      subst h1
      match k, hk with
      | 0, hk =>
        simp only [List.getElem?_cons_zero, Option.some.injEq] at hk
        subst hk
        simp only [List.set_cons_succ, List.set_cons_zero]
        exact List.Perm.swap _ _ _
      | 1, hk =>
        simp only [List.getElem?_cons_succ, List.getElem?_cons_zero, Option.some.injEq] at hk
        subst hk
        simp only [List.set_cons_succ, List.set_cons_zero]
        exact List.Perm.refl _
      | k + 2, hk =>
        simp only [List.getElem?_cons_succ] at hk
        simp only [List.set_cons_succ, List.set_cons_zero]
        exact (perm_set_swap t k hk).cons h
  · exact List.Perm.refl _

/-- the clause after the normalisation `if (variable(lits[0]) == variable(p)) swap(lits[0], lits[1])` -/
def normCl (c : Clause) (p : Lit) : Clause :=
  match c with
  | l0 :: l1 :: rest => if l0.var == p.var then l1 :: l0 :: rest else c
  | _ => c

theorem normCl_perm (c : Clause) (p : Lit) : (normCl c p).Perm c := by
  unfold normCl
  split
  · split
    · exact List.Perm.swap _ _ _
    · exact List.Perm.refl _
  · exact List.Perm.refl _

/-- `clausePropagate` after the normalisation of the clause -/
def cpTail (s : Sat) (id : Nat) (p : Lit) (c : Clause) : Bool × Sat :=
  let s := s.setClause id c
  if s.value (c.headD Lit.falseLit) = some true then (true, s.watch p id)
  else match findNonFalse s c 1 with
    | some k =>
      let c' := swap1 c k
      (true, (s.setClause id c').watch (c'.getD 1 Lit.falseLit).neg id)
    | none => (s.watch p id).enqueue (c.headD Lit.falseLit) (some id)

theorem clausePropagate_eq_tail (s : Sat) (id : Nat) (p : Lit) :
    s.clausePropagate id p = cpTail s id p (match s.clauseOf id with
      | l0 :: l1 :: rest => if l0.var == p.var then l1 :: l0 :: rest else s.clauseOf id
      | _ => s.clauseOf id) := rfl

theorem clausePropagate_eq_norm (s : Sat) (id : Nat) (p : Lit) :
    s.clausePropagate id p = cpTail s id p (normCl (s.clauseOf id) p) := by
  rw [clausePropagate_eq_tail]
  congr 1

theorem normCl_of_ne {a b p : Lit} {r : List Lit} (h : a.var ≠ p.var) : normCl (a :: b :: r) p = a :: b :: r := by
  simp [normCl, h]

theorem normCl_swap (p b : Lit) (r : List Lit) : normCl (p.neg :: b :: r) p = b :: p.neg :: r := by
  simp [normCl]

theorem cpTail_setClause (s : Sat) (id : Nat) (p : Lit) (c c' : Clause) :
    cpTail (s.setClause id c') id p c = cpTail s id p c := by
  have : (s.setClause id c').setClause id c = s.setClause id c := by
    simp only [setClause, List.map_map]
    congr 1
    apply List.map_congr_left
    intro e _
    by_cases h : e.1 = id <;> simp [h]
  simp only [cpTail, this]

theorem clausePropagate_swap {s : Sat} (h : s.WfC) {id : Nat} {p l1 : Lit} {r : List Lit}
    (hm : (id, p.neg :: l1 :: r) ∈ s.cls) :
    s.clausePropagate id p = (s.setClause id (l1 :: p.neg :: r)).clausePropagate id p := by
  have hne : l1.var ≠ p.var := by
    have := h.clsNodup _ hm
    simp only [List.map_cons, List.nodup_cons, List.mem_cons, Lit.neg_var, not_or] at this
    exact fun e => this.1.1 e.symm
  rw [clausePropagate_eq_norm, clausePropagate_eq_norm, clauseOf_of_mem h hm,
    clauseOf_of_mem (h.setClause hm (List.Perm.swap _ _ _)) ((mem_setClause' hm).2 (Or.inr rfl)), normCl_swap,
    normCl_of_ne hne, cpTail_setClause]

theorem cpTail_cases {P : Bool × Sat → Prop} {s : Sat} {id : Nat} {p : Lit} {c : Clause}
    (keep : (s.setClause id c).value (c.headD Lit.falseLit) = some true → P (true, (s.setClause id c).watch p id))
    (move : ∀ k, findNonFalse (s.setClause id c) c 1 = some k →
      P (true, ((s.setClause id c).setClause id (swap1 c k)).watch ((swap1 c k).getD 1 Lit.falseLit).neg id))
    (unit : findNonFalse (s.setClause id c) c 1 = none → (s.setClause id c).value (c.headD Lit.falseLit) = none →
      P (true, ((s.setClause id c).watch p id).enq (c.headD Lit.falseLit) (some id)))
    (confl : findNonFalse (s.setClause id c) c 1 = none → (s.setClause id c).value (c.headD Lit.falseLit) = some false →
      P (false, (s.setClause id c).watch p id)) : P (cpTail s id p c) := by
  unfold cpTail
  simp only
  split
  · exact keep ‹_›
  · split
    · exact move _ ‹_›
    · cases hv : (s.setClause id c).value (c.headD Lit.falseLit) with
      | none =>
        rw [enqueue_none _ (show ((s.setClause id c).watch p id).value _ = none from hv)]
        exact unit ‹_› hv
      | some b =>
        rw [enqueue_some _ (show ((s.setClause id c).watch p id).value _ = some b from hv)]
        cases b with
        | true => exact absurd hv ‹_›
        | false => exact confl ‹_› hv

structure Frame (s s' : Sat) : Prop where
  dead : s'.dead = s.dead
  decisions : s'.decisions = s.decisions
  trailLim : s'.trailLim = s.trailLim
  log : s'.log = s.log
  lenVals : s'.vals.length = s.vals.length
  exprs : s'.exprs = s.exprs

def AssignedKeep (s s' : Sat) : Prop :=
  ∀ v b, s.vals.getD v none = some b → s'.vals.getD v none = some b ∧ s'.level.getD v 0 = s.level.getD v 0

theorem AssignedKeep.refl (s : Sat) : AssignedKeep s s := fun _ _ h => ⟨h, rfl⟩

theorem AssignedKeep.le {s s' : Sat} (h : AssignedKeep s s') : Dl.SatLe s s' := fun v b hv => (h v b hv).1

theorem satLe_of_vals {s s' : Sat}
    (h : ∀ v, v < s.vals.length → s.vals.getD v none = none ∨ s.vals.getD v none = s'.vals.getD v none) :
    Dl.SatLe s s' := by
  intro v b hv
  rcases h v (getD_some_lt hv) with h1 | h1
  · rw [h1] at hv; cases hv
  · rw [← h1]; exact hv

structure Grow (s s' : Sat) : Prop where
  trailLim : s'.trailLim = s.trailLim
  decisions : s'.decisions = s.decisions
  exprs : s'.exprs = s.exprs
  dead : s'.dead = s.dead
  lenV : s'.vals.length = s.vals.length
  lenL : s'.level.length = s.level.length
  lenR : s'.reason.length = s.reason.length
  added : ∃ add, s'.trail = add ++ s.trail ∧ (∀ l ∈ add, s.vals.getD l.var none = none) ∧
    ∀ v, (∀ l ∈ add, l.var ≠ v) → s'.vals.getD v none = s.vals.getD v none ∧
      s'.level.getD v 0 = s.level.getD v 0 ∧ s'.reason.getD v none = s.reason.getD v none

theorem Grow.of_same {s t : Sat} (hv : t.vals = s.vals) (hl : t.level = s.level) (hr : t.reason = s.reason)
    (ht : t.trail = s.trail) (hlim : t.trailLim = s.trailLim) (hd : t.decisions = s.decisions)
    (he : t.exprs = s.exprs) (hdd : t.dead = s.dead) : Grow s t :=
  ⟨hlim, hd, he, hdd, by rw [hv], by rw [hl], by rw [hr], [], by simpa using ht, by simp, fun v _ => by rw [hv, hl, hr]; exact ⟨rfl, rfl, rfl⟩⟩

theorem Grow.refl (s : Sat) : Grow s s := Grow.of_same rfl rfl rfl rfl rfl rfl rfl rfl

theorem Grow.trans {a b c : Sat} (h1 : Grow a b) (h2 : Grow b c) : Grow a c := by
  obtain ⟨add1, t1, f1, k1⟩ := h1.added
  obtain ⟨add2, t2, f2, k2⟩ := h2.added
  refine ⟨h2.trailLim.trans h1.trailLim, h2.decisions.trans h1.decisions, h2.exprs.trans h1.exprs,
    h2.dead.trans h1.dead, h2.lenV.trans h1.lenV, h2.lenL.trans h1.lenL, h2.lenR.trans h1.lenR, add2 ++ add1, ?_, ?_, ?_⟩
  · rw [t2, t1, List.append_assoc]
  · intro l hl
    rcases List.mem_append.1 hl with hl | hl
    · by_cases hex : ∃ l' ∈ add1, l'.var = l.var
      · obtain ⟨l', hl', e⟩ := hex
        rw [← e]; exact f1 l' hl'
      · have hk := k1 l.var (fun l' hl' e => hex ⟨l', hl', e⟩)
        rw [← hk.1]; exact f2 l hl
    · exact f1 l hl
  · intro v hv
    have a1 := k1 v (fun l hl => hv l (List.mem_append_right _ hl))
    have a2 := k2 v (fun l hl => hv l (List.mem_append_left _ hl))
    exact ⟨a2.1.trans a1.1, a2.2.1.trans a1.2.1, a2.2.2.trans a1.2.2⟩

theorem grow_enq (s : Sat) (p : Lit) (c : Option Nat) (h : s.value p = none) : Grow s (s.enq p c) := by
  refine ⟨rfl, rfl, rfl, rfl, by simp [enq], by simp [enq], by simp [enq], [p], rfl, ?_, ?_⟩
  · intro l hl
    rw [List.mem_singleton.1 hl]
    exact value_eq_none.1 h
  · intro v hv
    have hne : p.var ≠ v := hv p (by simp)
    simp only [enq]
    exact ⟨ListAux.getD_set_ne _ _ _ _ _ hne, ListAux.getD_set_ne _ _ _ _ _ hne, ListAux.getD_set_ne _ _ _ _ _ hne⟩

theorem ClsKept.refl (s : Sat) : ClsKept s s := fun e he => ⟨e.2, he, List.Perm.refl _⟩

theorem ClsKept.trans {a b c : Sat} (h1 : ClsKept a b) (h2 : ClsKept b c) : ClsKept a c := by
  intro e he
  obtain ⟨c1, m1, p1⟩ := h1 e he
  obtain ⟨c2, m2, p2⟩ := h2 (e.1, c1) m1
  exact ⟨c2, m2, p2.trans p1⟩

theorem ClsKept.of_eq {s t : Sat} (h : t.cls = s.cls) : ClsKept s t := fun e he => ⟨e.2, by rw [h]; exact he, List.Perm.refl _⟩

theorem mem_setClause_elim {s : Sat} {id : Nat} {c' : Clause} {e : Nat × Clause} (he : e ∈ (s.setClause id c').cls) :
    (e ∈ s.cls ∧ e.1 ≠ id) ∨ e = (id, c') := by
  simp only [setClause, List.mem_map] at he
  obtain ⟨x, hx, rfl⟩ := he
  by_cases hid : x.1 = id
  · right; simp [hid]
  · left; simp [hid, hx]

theorem clsKept_setClause {s : Sat} (hi : IdsOK s) {id : Nat} {c' : Clause} (hp : ∀ c, (id, c) ∈ s.cls → c'.Perm c) :
    IdsOK (s.setClause id c') ∧ ClsKept s (s.setClause id c') := by
  refine ⟨⟨?_, by rw [setClause_ids]; exact hi.2⟩, ?_⟩
  · intro e he
    rcases mem_setClause_elim he with ⟨h, _⟩ | rfl
    · exact hi.1 e h
    · -- the id occurs in `s.cls`, otherwise the map creates no such entry
      have : id ∈ (s.setClause id c').cls.map (·.1) := List.mem_map.2 ⟨_, he, rfl⟩
      rw [setClause_ids] at this
      obtain ⟨x, hx, e'⟩ := List.mem_map.1 this
      have := hi.1 x hx
      have e'' : x.1 = id := e'
      show id < s.nextId
      omega
  · intro e he
    by_cases hid : e.1 = id
    · have hm : (id, e.2) ∈ s.cls := by rw [← hid]; exact he
      refine ⟨c', ?_, hp _ hm⟩
      rw [hid]
      exact (mem_setClause' hm).2 (Or.inr rfl)
    · refine ⟨e.2, ?_, List.Perm.refl _⟩
      simp only [setClause, List.mem_map]
      exact ⟨e, he, by simp [hid]⟩

theorem clean_of_same {s t : Sat} (h : Clean s) (hv : t.vals = s.vals) (hl : t.level = s.level) (hr : t.reason = s.reason) :
    Clean t := by
  unfold Clean; rw [hv, hl, hr]; exact h

theorem clean_enq {s : Sat} (h : Clean s) (p : Lit) (c : Option Nat) : Clean (s.enq p c) := by
  refine ⟨by simp [enq, h.1], by simp [enq, h.2.1], fun v hv => ?_⟩
  simp only [enq, ListAux.getD_set] at hv ⊢
  split at hv
  · cases hv
  · next hn =>
    rw [if_neg (by rw [h.1]; exact hn), if_neg (by rw [h.2.1]; exact hn)]
    exact h.2.2 v hv

structure Step (s s' : Sat) : Prop where
  grow : Grow s s'
  cls : IdsOK s → IdsOK s' ∧ ClsKept s s'
  clean : Clean s → Clean s'

theorem Step.refl (s : Sat) : Step s s := ⟨Grow.refl s, fun h => ⟨h, ClsKept.refl s⟩, fun h => h⟩

theorem Step.trans {a b c : Sat} (h1 : Step a b) (h2 : Step b c) : Step a c :=
  ⟨h1.grow.trans h2.grow, fun h => ⟨(h2.cls (h1.cls h).1).1, (h1.cls h).2.trans (h2.cls (h1.cls h).1).2⟩,
    fun h => h2.clean (h1.clean h)⟩

theorem Step.of_same {s t : Sat} (hv : t.vals = s.vals) (hl : t.level = s.level) (hr : t.reason = s.reason)
    (ht : t.trail = s.trail) (hlim : t.trailLim = s.trailLim) (hd : t.decisions = s.decisions)
    (he : t.exprs = s.exprs) (hdd : t.dead = s.dead) (hc : t.cls = s.cls) (hn : t.nextId = s.nextId) : Step s t :=
  ⟨Grow.of_same hv hl hr ht hlim hd he hdd, fun h => ⟨by unfold IdsOK; rw [hc, hn]; exact h, ClsKept.of_eq hc⟩,
    fun h => clean_of_same h hv hl hr⟩

structure Ext (new : List Clause) (s s' : Sat) : Prop where
  grow : Grow s s'
  log : s'.log = s.log ++ new
  cls : IdsOK s → IdsOK s' ∧ ClsKept s s'
  clean : Clean s → Clean s'

namespace Ext

theorem of_same {s t : Sat} (hv : t.vals = s.vals) (hl : t.level = s.level) (hr : t.reason = s.reason)
    (ht : t.trail = s.trail) (hlim : t.trailLim = s.trailLim) (hd : t.decisions = s.decisions)
    (he : t.exprs = s.exprs) (hdd : t.dead = s.dead) (hc : t.cls = s.cls) (hn : t.nextId = s.nextId)
    (hlog : t.log = s.log) : Ext [] s t :=
  ⟨Grow.of_same hv hl hr ht hlim hd he hdd, by rw [hlog, List.append_nil],
    fun h => ⟨by unfold IdsOK; rw [hc, hn]; exact h, ClsKept.of_eq hc⟩, fun h => clean_of_same h hv hl hr⟩

theorem refl (s : Sat) : Ext [] s s := of_same rfl rfl rfl rfl rfl rfl rfl rfl rfl rfl rfl

theorem trans {n1 n2 : List Clause} {a b c : Sat} (h1 : Ext n1 a b) (h2 : Ext n2 b c) : Ext (n1 ++ n2) a c :=
  ⟨h1.grow.trans h2.grow, by rw [h2.log, h1.log, List.append_assoc],
    fun h => ⟨(h2.cls (h1.cls h).1).1, (h1.cls h).2.trans (h2.cls (h1.cls h).1).2⟩, fun h => h2.clean (h1.clean h)⟩

theorem andThen {n1 : List Clause} {a b c : Sat} (h1 : Ext n1 a b) (h2 : Ext [] b c) : Ext n1 a c := by
  simpa using h1.trans h2

theorem toStep {new : List Clause} {s s' : Sat} (h : Ext new s s') : Step s s' := ⟨h.grow, h.cls, h.clean⟩

theorem frame {s s' : Sat} (h : Ext [] s s') : Frame s s' :=
  ⟨h.grow.dead, h.grow.decisions, h.grow.trailLim, by simpa using h.log, h.grow.lenV, h.grow.exprs⟩

theorem keep {new : List Clause} {s s' : Sat} (h : Ext new s s') : AssignedKeep s s' := by
  obtain ⟨add, _, hf, hk⟩ := h.grow.added
  intro v b hv
  have := hk v (fun l hl e => by rw [← e, hf l hl] at hv; cases hv)
  exact ⟨this.1.trans hv, this.2.1⟩

theorem le {new : List Clause} {s s' : Sat} (h : Ext new s s') : Dl.SatLe s s' := h.keep.le

theorem trail {new : List Clause} {s s' : Sat} (h : Ext new s s') : s.trail <:+ s'.trail := by
  obtain ⟨add, ht, _, _⟩ := h.grow.added
  exact ⟨add, ht.symm⟩

theorem lvl {new : List Clause} {s s' : Sat} (h : Ext new s s') (ha : s.WfA) {x : Lit} (hx : x ∈ s.trail) :
    s'.lvl x = s.lvl x := (h.keep x.var _ (ha.trailVal x hx).1).2

theorem lenVals {new : List Clause} {s s' : Sat} (h : Ext new s s') : s'.vals.length = s.vals.length := h.grow.lenV

theorem mem_cls {new : List Clause} {s s' : Sat} (h : Ext new s s') (hi : IdsOK s) {id : Nat} {c : Clause}
    (hc : (id, c) ∈ s.cls) {l : Lit} (hl : l ∈ c) : ∃ c', (id, c') ∈ s'.cls ∧ l ∈ c' :=
  let ⟨c', hc', hp⟩ := (h.cls hi).2 (id, c) hc
  ⟨c', hc', hp.mem_iff.2 hl⟩

theorem decOK {new : List Clause} {s s' : Sat} (h : Ext new s s') (ha : s.WfA) {m : Nat} (hd : s.DecOK m) :
    s'.DecOK m := fun a d b e hb =>
  have ⟨h1, h2⟩ := hd a d b (h.grow.decisions ▸ e) hb
  ⟨h.trail.subset h1, (h.lvl ha h1).trans h2⟩

end Ext

theorem ext_enq (s : Sat) (p : Lit) (c : Option Nat) (h : s.value p = none) : Ext [] s (s.enq p c) :=
  ⟨grow_enq s p c h, by simp [enq], fun hi => ⟨hi, ClsKept.refl s⟩, fun hc => clean_enq hc p c⟩

theorem ext_enqueue (s : Sat) (p : Lit) (c : Option Nat) : Ext [] s (s.enqueue p c).2 := by
  cases hv : s.value p with
  | none => rw [enqueue_none c hv]; exact ext_enq s p c hv
  | some b => rw [enqueue_some c hv]; exact .refl s

theorem ext_watch (s : Sat) (l : Lit) (id : Nat) : Ext [] s (s.watch l id) :=
  .of_same rfl rfl rfl rfl rfl rfl rfl rfl rfl rfl rfl

theorem ext_logged (s : Sat) (c : Clause) : Ext [c] s (s.logged c) :=
  ⟨Grow.of_same rfl rfl rfl rfl rfl rfl rfl rfl, rfl, fun h => ⟨h, ClsKept.refl s⟩, fun h => h⟩

theorem ext_setClause (s : Sat) (id : Nat) (c' : Clause) (hp : IdsOK s → ∀ c, (id, c) ∈ s.cls → c'.Perm c) :
    Ext [] s (s.setClause id c') :=
  ⟨Grow.of_same rfl rfl rfl rfl rfl rfl rfl rfl, by simp [setClause], fun h => clsKept_setClause h (hp h),
    fun h => clean_of_same h rfl rfl rfl⟩

theorem ext_addClause (s : Sat) (lits : Clause) : Ext [] s (s.addClause lits).2 := by
  have base : Ext [] s { s with cls := s.cls ++ [(s.nextId, lits)], nextId := s.nextId + 1 } :=
    ⟨Grow.of_same rfl rfl rfl rfl rfl rfl rfl rfl, by simp, fun h =>
      ⟨addClause_ids h.1 h.2 lits, fun e he => ⟨e.2, List.mem_append_left _ he, .refl _⟩⟩,
      fun h => clean_of_same h rfl rfl rfl⟩
  unfold addClause
  split
  · exact (base.andThen (ext_watch _ _ _)).andThen (ext_watch _ _ _)
  · exact base

theorem ext_record (s : Sat) (lits : List Lit) : Ext [lits] s (s.record lits) := by
  have h0 := ext_logged s lits
  unfold record
  simp only
  split
  · exact h0
  · exact h0.andThen (ext_enqueue _ _ _)
  · exact (h0.andThen (ext_addClause _ _)).andThen (ext_enqueue _ _ _)

theorem ext_cpTail (s : Sat) (id : Nat) (p : Lit) (c : Clause) (hp : IdsOK s → ∀ d, (id, d) ∈ s.cls → c.Perm d) :
    Ext [] s (cpTail s id p c).2 := by
  have h1 := ext_setClause s id c hp
  refine cpTail_cases (P := fun r => Ext [] s r.2) (fun _ => h1.andThen (ext_watch _ _ _)) (fun k _ => ?_)
    (fun _ hv => (h1.andThen (ext_watch _ _ _)).andThen (ext_enq _ _ _ hv)) (fun _ _ => h1.andThen (ext_watch _ _ _))
  refine (h1.andThen (ext_setClause _ id (swap1 c k) fun _ d hd => ?_)).andThen (ext_watch _ _ _)
  rcases mem_setClause_elim hd with ⟨_, hne⟩ | e
  · exact absurd rfl hne
  · rw [show d = c by simpa using e]; exact swap1_perm c k

theorem ext_clausePropagate (s : Sat) (id : Nat) (p : Lit) : Ext [] s (s.clausePropagate id p).2 := by
  rw [clausePropagate_eq_norm]
  exact ext_cpTail _ _ _ _ fun hi d hd => by rw [clauseOf_of_mem' hi.2 hd]; exact normCl_perm d p

theorem ext_visitWatchers (p : Lit) : ∀ (ws : List Nat) (s : Sat), Ext [] s (s.visitWatchers p ws).1
  | [], s => .refl s
  | id :: rest, s => by
    have h1 := ext_clausePropagate s id p
    unfold visitWatchers
    rcases hcp : s.clausePropagate id p with ⟨b, s'⟩
    rw [hcp] at h1
    cases b with
    | true => exact h1.andThen (ext_visitWatchers p rest s')
    | false => exact h1.andThen (.of_same rfl rfl rfl rfl rfl rfl rfl rfl rfl rfl rfl)

end Sat
end Oratio
