/-
C07: `record`, conflict handling and `propagate` keep the invariants.
-/
import OratioProofs.Lemmas.SatCoreVisit
import OratioProofs.Lemmas.SatCoreAnalyze

namespace Oratio
namespace Sat

theorem insertByLevel_eq (s : Sat) : insertByLevel s = ListAux.insertBy (fun a b => s.lvl b ≤ s.lvl a) := by
  funext x l
  induction l with
  | nil => rfl
  | cons y t ih => simp only [insertByLevel, ListAux.insertBy, ih]; rfl

theorem sortByLevel_perm (s : Sat) (l : List Lit) : (l.foldr (insertByLevel s) []).Perm l := by
  rw [insertByLevel_eq]; exact ListAux.sortBy_perm l

theorem sortByLevel_sorted (s : Sat) (l : List Lit) :
    (l.foldr (insertByLevel s) []).Pairwise (fun a b => s.lvl b ≤ s.lvl a) := by
  rw [insertByLevel_eq]
  exact ListAux.sortBy_sorted (le := fun a b => s.lvl b ≤ s.lvl a) (fun h1 h2 => Nat.le_trans h2 h1)
    (fun h => Nat.le_of_lt (Nat.lt_of_not_le h)) l

theorem record_eq {t : Sat} {l0 : Lit} (rest : List Lit) (hv : t.value l0 = none) :
    (rest = [] ∧ t.record (l0 :: rest) = (t.logged (l0 :: rest)).enq l0 none) ∨
    ∃ z zs, (z :: zs).Perm rest ∧ (z :: zs).Pairwise (fun a b => t.lvl b ≤ t.lvl a) ∧
      t.record (l0 :: rest) = ((t.logged (l0 :: rest)).addClause (l0 :: z :: zs)).2.enq l0 (some t.nextId) := by
  cases rest with
  | nil =>
    refine .inl ⟨rfl, ?_⟩
    show ((t.logged [l0]).enqueue l0 none).2 = _
    rw [enqueue_none none (show (t.logged [l0]).value l0 = none from hv)]
  | cons y ys =>
    right
    have hperm := sortByLevel_perm (t.logged (l0 :: y :: ys)) (y :: ys)
    have hsorted := sortByLevel_sorted (t.logged (l0 :: y :: ys)) (y :: ys)
    have hrec : t.record (l0 :: y :: ys) =
        (((t.logged (l0 :: y :: ys)).addClause (l0 :: (y :: ys).foldr (insertByLevel (t.logged (l0 :: y :: ys))) [])).2.enqueue l0
          (some ((t.logged (l0 :: y :: ys)).addClause (l0 :: (y :: ys).foldr (insertByLevel (t.logged (l0 :: y :: ys))) [])).1)).2 := rfl
    generalize (y :: ys).foldr (insertByLevel (t.logged (l0 :: y :: ys))) [] = sorted at hperm hsorted hrec
    cases sorted with
    | nil => exact absurd hperm.length_eq (by simp)
    | cons z zs =>
      refine ⟨z, zs, hperm, hsorted, ?_⟩
      rw [hrec, addClause_fst,
        enqueue_none _ (show ((t.logged (l0 :: y :: ys)).addClause (l0 :: z :: zs)).2.value l0 = none from hv)]
      rfl

structure RecRel (s s' : Sat) (c : Clause) (l0 : Lit) : Prop where
  queue : s'.queue = s.queue ++ [l0]
  trail : s'.trail = l0 :: s.trail
  decisions : s'.decisions = s.decisions
  trailLim : s'.trailLim = s.trailLim
  log : s'.log = s.log ++ [c]
  dead : s'.dead = s.dead
  lenVals : s'.vals.length = s.vals.length
  exprs : s'.exprs = s.exprs
  lvl : ∀ x ∈ s.trail, s'.lvl x = s.lvl x

theorem record_rel {t : Sat} (ha : t.WfA) {l0 : Lit} (rest : List Lit) (hv : t.value l0 = none) :
    RecRel t (t.record (l0 :: rest)) (l0 :: rest) l0 := by
  rcases record_eq rest hv with ⟨_, e⟩ | ⟨z, zs, _, _, e⟩ <;> rw [e]
  · exact ⟨rfl, rfl, rfl, rfl, rfl, rfl, by simp [enq, logged], rfl, fun x hx => enq_lvl_ne (ha.trail_var_ne hx hv)⟩
  · exact ⟨rfl, rfl, rfl, rfl, rfl, rfl, by rw [addClause_eq]; simp [enq, logged, watch], rfl,
      fun x hx => enq_lvl_ne (ha.trail_var_ne hx hv)⟩

theorem PopRel.record {s t t' : Sat} (hrel : PopRel s t) {c : Clause} {l0 : Lit} (rr : RecRel t t' c l0)
    (hq : s.queue = []) :
    t'.log = s.log ++ [c] ∧ t'.dead = s.dead ∧ t'.decisions <:+ s.decisions ∧ t'.decisionLevel = t.decisionLevel ∧
      t'.vals.length = s.vals.length ∧ t'.exprs = s.exprs ∧ t'.queue = [l0] :=
  ⟨by rw [rr.log, hrel.log], by rw [rr.dead, hrel.dead], by rw [rr.decisions, hrel.decisions]; exact List.drop_suffix _ _,
    by simp only [decisionLevel, rr.trailLim], by rw [rr.lenVals, hrel.lenVals], by rw [rr.exprs, hrel.exprs],
    by rw [rr.queue, hrel.queue, hq]; rfl⟩

theorem record_sem {orig K : Cnf} {m : Nat} {t : Sat} (ha : t.WfA) (he : t.Ent orig K) (hd : t.DecOK m)
    {l0 : Lit} {rest : List Lit} (hv : t.value l0 = none) (hlt : l0.var < t.vals.length)
    (hrest : ∀ x ∈ rest, x.neg ∈ t.trail ∨ x = Lit.falseLit)
    (h0 : rest = [] → t.decisionLevel = 0 ∨ ∀ x ∈ t.trail, t.lvl x < t.decisionLevel)
    (hent : Ents orig (l0 :: rest)) :
    (t.record (l0 :: rest)).WfA ∧ (t.record (l0 :: rest)).Ent orig K ∧ (t.record (l0 :: rest)).DecOK m := by
  have hau := ha.logged (l0 :: rest)
  have heu := he.logged hent
  rcases record_eq rest hv with ⟨rfl, e⟩ | ⟨z, zs, hperm, _, e⟩ <;> rw [e]
  · exact ⟨hau.enq hv hlt (fun _ => h0 rfl), heu.enq hau hv hlt (hent.mono fun d hd => List.mem_append_left _ hd),
      DecOK.enq hau hd hv⟩
  · have hew := heu.addClause (hent.weaken fun l hl => by
      rcases List.mem_cons.1 hl with rfl | hl
      · exact List.mem_cons_self ..
      · exact List.mem_cons_of_mem _ (hperm.mem_iff.2 hl))
    refine ⟨hau.addClause.enq hv hlt (fun e => by cases e), hew.enq hau.addClause hv hlt ?_,
      DecOK.enq (s := ((t.logged (l0 :: rest)).addClause (l0 :: z :: zs)).2) hau.addClause hd hv⟩
    exact ents_unitN hew
      (hew.clauses (t.nextId, l0 :: z :: zs) (List.mem_append_right _ (List.mem_singleton.2 rfl)))
      (fun x hx => hrest x (hperm.mem_iff.1 hx))

theorem record_keeps {t : Sat} (ha : t.WfA) {l0 : Lit} {rest : List Lit} (hv : t.value l0 = none)
    (hlt : l0.var < t.vals.length) (h0 : rest = [] → t.decisionLevel = 0) {α : Asg}
    (hcl : α.cnf ((t.record (l0 :: rest)).cls.map (·.2)) = true)
    (hroot : ∀ l ∈ (t.record (l0 :: rest)).trail, (t.record (l0 :: rest)).lvl l = 0 → α.lit l = true) :
    α.clause (l0 :: rest) = true := by
  rcases record_eq rest hv with ⟨hnil, e⟩ | ⟨z, zs, hperm, _, e⟩ <;> rw [e] at hcl hroot
  · have := hroot l0 (List.mem_cons_self ..) (by rw [enq_lvl_self (ha.logged _) hlt]; exact h0 hnil)
    rw [Asg.clause_cons, this, Bool.true_or]
  · simp only [Asg.cnf_iff, List.forall_mem_map] at hcl
    rw [← Asg.clause_perm α (hperm.cons l0)]
    exact hcl (t.nextId, l0 :: z :: zs) (List.mem_append_right _ (List.mem_singleton.2 rfl))

theorem Wf.record {t : Sat} (hw : t.Wf) {l0 : Lit} {rest : List Lit} (hv : t.value l0 = none)
    (hlt : l0.var < t.vals.length) (hrest : ∀ x ∈ rest, x.neg ∈ t.trail) (h0 : rest = [] → t.decisionLevel = 0)
    (hnd : ((l0 :: rest).map Lit.var).Nodup) : (t.record (l0 :: rest)).Wf := by
  have hu := hw.logged (l0 :: rest)
  rcases record_eq rest hv with ⟨hnil, e⟩ | ⟨z, zs, hperm, _, e⟩ <;> rw [e]
  · exact hu.enq hv hlt (fun _ => .inl (h0 hnil)) (fun id e => by cases e)
  · have hzt : ∀ x ∈ z :: zs, x.neg ∈ t.trail := fun x hx => hrest x (hperm.mem_iff.1 hx)
    have hwf := hu.addClause (((hperm.cons l0).map Lit.var).nodup_iff.2 hnd)
      (fun l hl => (List.mem_cons.1 hl).elim (fun e => e ▸ hlt) (fun hl => hw.a.trail_lt (l := l.neg) (hzt l hl)))
      (fun l hl => (List.mem_cons.1 hl).elim (fun e => e ▸ hw.a.var_ne_zero_of_none hv)
        (fun hl => (hw.a.trailVal l.neg (hzt l hl)).2))
    refine hwf.enq hv hlt (fun e => by cases e) (fun id e => ?_)
    rw [← Option.some.inj e]
    exact ⟨z :: zs, List.mem_append_right _ (List.mem_singleton.2 rfl), hzt⟩

theorem record_spec {orig K : Cnf} {m : Nat} {t : Sat} (h : InvC orig m (fun _ _ => False) t K) (hq : t.queue = [])
    (l0 : Lit) (rest : List Lit) (hv : t.value l0 = none) (hlt : l0.var < t.vals.length)
    (hrest : ∀ x ∈ rest, x.neg ∈ t.trail) (h0 : rest = [] → t.decisionLevel = 0)
    (hmax : rest ≠ [] → ∃ x ∈ rest, t.lvl x = t.decisionLevel)
    (hent : Ents orig (l0 :: rest)) (hnd : ((l0 :: rest).map Lit.var).Nodup) :
    InvC orig m (fun _ x => x ∈ (t.record (l0 :: rest)).queue) (t.record (l0 :: rest)) (K ++ [l0 :: rest]) ∧
      (t.record (l0 :: rest)).queue = [l0] ∧ (t.record (l0 :: rest)).decisions = t.decisions ∧
      (t.record (l0 :: rest)).trailLim = t.trailLim ∧ (t.record (l0 :: rest)).log = t.log ++ [l0 :: rest] ∧
      (t.record (l0 :: rest)).dead = t.dead ∧ (t.record (l0 :: rest)).vals.length = t.vals.length ∧
      (t.record (l0 :: rest)).exprs = t.exprs := by
  have ha := h.wf.a
  have rr := record_rel ha rest hv
  obtain ⟨_, he, hd⟩ := record_sem ha h.ent h.dec hv hlt (fun x hx => .inl (hrest x hx)) (fun e => .inl (h0 e)) hent
  have hwf := h.wf.record hv hlt hrest h0 hnd
  refine ⟨⟨hwf, he.keeps_add _ (fun _ α _ => record_keeps ha hv hlt h0), hd, fun hdd => ?_⟩,
    by rw [rr.queue, hq]; rfl, rr.decisions, rr.trailLim, rr.log, rr.dead, rr.lenVals, rr.exprs⟩
  have hw2 : (t.logged (l0 :: rest)).W2 (fun _ _ => False) := (h.w2 (rr.dead ▸ hdd)).of_eq rfl rfl rfl
  clear rr he hd
  have hau := ha.logged (l0 :: rest)
  rcases record_eq rest hv with ⟨_, e⟩ | ⟨z, zs, hperm, hsorted, e⟩ <;> rw [e] at hwf ⊢
  · exact hw2.enq hv hlt (fun _ _ hf => hf.elim) (fun _ => List.mem_append_right _ (List.mem_singleton.2 rfl))
  · have hzt : z.neg ∈ t.trail := hrest z (hperm.mem_iff.1 (List.mem_cons_self ..))
    -- the second watch is of the backjump level
    have hzl : t.lvl z = t.decisionLevel := by
      obtain ⟨x, hx, hxl⟩ := hmax (fun e => by rw [e] at hperm; simpa using hperm.length_eq)
      have h1 : t.lvl x ≤ t.lvl z := (List.mem_cons.1 (hperm.mem_iff.2 hx)).elim (fun e => e ▸ Nat.le_refl _)
        (fun hx' => (List.pairwise_cons.1 hsorted).1 x hx')
      have h2 := ha.lvl_le hzt
      simp only [an_lvl_neg] at h2
      omega
    generalize hA : ((t.logged (l0 :: rest)).addClause (l0 :: z :: zs)).2 = w at hwf ⊢
    have hwa : w.WfA := hA ▸ hau.addClause
    have hw2 : w.W2 (fun id' _ => id' = t.nextId) := by
      rw [← hA]
      exact (hw2.mono (fun _ _ hf => hf.elim)).addClause ⟨fun _ => Or.inl rfl, fun _ => Or.inl rfl⟩
    have hwv : w.value l0 = none := hA ▸ hv
    have hwlt : l0.var < w.vals.length := hA ▸ hlt
    have hw2' := hw2.enq (P' := fun id' x => x ∈ (w.enq l0 (some t.nextId)).queue ∨ id' = t.nextId)
      (c := some t.nextId) hwv hwlt (fun _ _ hP => Or.inr hP)
      (fun _ => Or.inl (List.mem_append_right _ (List.mem_singleton.2 rfl)))
    apply hw2'.at_clause hwf.c (show (t.nextId, l0 :: z :: zs) ∈ (w.enq l0 (some t.nextId)).cls from
      hA ▸ List.mem_append_right _ (List.mem_singleton.2 rfl))
    · intro id' x hne hP
      exact hP.resolve_right hne
    · have hl0 : (w.enq l0 (some t.nextId)).value l0 = some true := enq_value_self hwlt
      refine ⟨fun hv' => ?_, fun _ => Or.inr ⟨hl0, ?_⟩⟩
      · rw [hl0] at hv'; cases hv'
      · have hne : z.var ≠ l0.var := fun e => ha.trail_var_ne hzt hv (by simpa using e)
        rw [enq_lvl_self hwa hwlt, enq_lvl_ne hne, ← hA]
        exact Nat.le_of_eq hzl.symm

/-- what `analyze` followed by `popTo bt` hands to `record`; the literals popped inside `analyze` do not matter (`same`) -/
structure Learnt (orig : Cnf) (Q : Sat → Prop) (s : Sat) (noGood : List Lit) (bt : Nat) (s3 : Sat) (l0 : Lit)
    (rest : List Lit) : Prop where
  lits : noGood = l0 :: rest
  same : s3.popTo bt = s.popTo bt
  dl3 : s3.decisionLevel = s.decisionLevel
  queue : s.queue = []
  inv : Q (s.popTo bt)
  wfa : (s.popTo bt).WfA
  rel : PopRel s (s.popTo bt)
  lev : (s.popTo bt).decisionLevel = bt
  lt : bt < s.decisionLevel
  ent : Ents orig (l0 :: rest)
  nodup : ((l0 :: rest).map Lit.var).Nodup
  undef : (s.popTo bt).value l0 = none
  range : l0.var < (s.popTo bt).vals.length
  restF : ∀ x ∈ rest, x.neg ∈ (s.popTo bt).trail
  root : rest = [] → (s.popTo bt).decisionLevel = 0
  max : rest ≠ [] → ∃ x ∈ rest, (s.popTo bt).lvl x = (s.popTo bt).decisionLevel

theorem analyze_learnt {orig K : Cnf} {Q : Sat → Prop} {s : Sat} (ha : s.WfA) (hids : (s.cls.map (·.1)).Nodup)
    (hr : s.ReasonsOK orig) (he : s.Ent orig K) (hq : s.queue = []) (hL : 0 < s.decisionLevel)
    (hQa : ∀ t, Q t → t.WfA) (hpop : ∀ t, Q t → t.queue = [] → t.trailLim ≠ [] → Q t.pop) (h1 : Q s.pop)
    {cnfl : Clause} (hcE : Ents orig cnfl) (hcF : ∀ l ∈ cnfl, l.neg ∈ s.trail ∨ (s.lvl l = 0 ∧ Ents orig [l.neg]))
    (hcL : ∃ l ∈ cnfl, l.neg ∈ s.trail ∧ s.lvl l = s.decisionLevel) {noGood : List Lit} {bt : Nat} {s3 : Sat}
    (han : s.analyze cnfl = some (noGood, bt, s3)) : ∃ l0 rest, Learnt orig Q s noGood bt s3 l0 rest := by
  obtain ⟨p', learnt, k, hlits, hpt, hpl, hent, hlearnt, hbt, hbt0, hbtx, hnd, hs3, hk⟩ :=
    analyze_sound orig K s ha hids hr he hL cnfl hcE hcF hcL noGood bt s3 han
  obtain ⟨hT, hrel, hlev⟩ := popTo_rel ha hq hbt hQa hpop h1
  obtain ⟨hpv, hplt, hrest, hlvl⟩ := hrel.ready ha hlev hpt hpl hbt hlearnt
  exact ⟨p'.neg, learnt, hlits, hs3 ▸ popN_popTo s k bt hbt hk, hs3 ▸ an_popN_decisionLevel k s, hq, hT, hQa _ hT, hrel,
    hlev, hbt, hlits ▸ hent, hlits ▸ hnd, hpv, hplt, hrest, fun e => hlev.trans (hbt0 e), fun e =>
      let ⟨x, hx, hxl⟩ := hbtx e; ⟨x, hx, by rw [hlvl x hx, hlev]; exact hxl⟩⟩

theorem Learnt.frame {orig : Cnf} {Q : Sat → Prop} {s s3 : Sat} {noGood : List Lit} {bt : Nat} {l0 : Lit} {rest : List Lit}
    (r : Learnt orig Q s noGood bt s3 l0 rest) :
    ((s3.popTo bt).record noGood).log = s.log ++ [noGood] ∧ ((s3.popTo bt).record noGood).dead = s.dead ∧
    ((s3.popTo bt).record noGood).decisions <:+ s.decisions ∧ ((s3.popTo bt).record noGood).decisionLevel = bt ∧
    ((s3.popTo bt).record noGood).vals.length = s.vals.length ∧ ((s3.popTo bt).record noGood).exprs = s.exprs ∧
    ((s3.popTo bt).record noGood).queue = [l0] := by
  rw [r.same, r.lits]
  have f := r.rel.record (record_rel r.wfa rest r.undef) r.queue
  exact ⟨f.1, f.2.1, f.2.2.1, f.2.2.2.1.trans r.lev, f.2.2.2.2⟩

theorem visitWatchers_frame (p : Lit) (tmp : List Nat) (s : Sat) : Frame s (visitWatchers s p tmp).1 :=
  (ext_visitWatchers p tmp s).frame

theorem Conf.uns {orig : Cnf} {m : Nat} {t : Sat} {id : Nat} (h : Conf orig m t id) :
    Uns (orig ++ units t.decisions) := by
  obtain ⟨c, hm, hf, _⟩ := h.cnfl
  exact h.inv.ent.uns_of_false (h.inv.ent.clauses _ hm) (fun l hl => .inl (hf l hl))

structure PropRel (orig : Cnf) (s s' : Sat) : Prop where
  decs : s'.decisions <:+ s.decisions
  uns : s'.decisions.length < s.decisions.length ∨ s'.dead = true → Uns (orig ++ units s.decisions)
  log : s.log <+: s'.log
  lenVals : s'.vals.length = s.vals.length
  exprs : s'.exprs = s.exprs

theorem PropRel.refl (orig : Cnf) (s : Sat) (hd : s.dead = false) : PropRel orig s s :=
  ⟨List.suffix_refl _, (fun h => by
    rcases h with h | h
    · omega
    · rw [hd] at h; cases h), List.prefix_refl _, rfl, rfl⟩

theorem PropRel.trans {orig : Cnf} {a b c : Sat} (h1 : PropRel orig a b) (h2 : PropRel orig b c) :
    PropRel orig a c := by
  refine ⟨h2.decs.trans h1.decs, ?_, h1.log.trans h2.log, h2.lenVals.trans h1.lenVals, h2.exprs.trans h1.exprs⟩
  intro h
  by_cases hb : b.decisions.length < a.decisions.length
  · exact h1.uns (Or.inl hb)
  · have hlen : b.decisions.length = a.decisions.length := by
      have := h1.decs.length_le; omega
    have heq : b.decisions = a.decisions := h1.decs.eq_of_length hlen
    have := h2.uns (by
      rcases h with h | h
      · left; omega
      · exact Or.inr h)
    rw [heq] at this; exact this

theorem propagate_spec {orig : Cnf} {m : Nat} : ∀ (fuel : Nat) (s : Sat),
    InvC orig m (fun _ x => x ∈ s.queue) s → s.dead = false → ∀ b s', s.propagate fuel = some (b, s') →
      InvC orig m (fun _ x => x ∈ s'.queue) s' ∧ s'.queue = [] ∧ s'.dead = (!b) ∧ (b = false → s'.trailLim = []) ∧
        PropRel orig s s'
  | 0, s, _, _, b, s', he => by simp [propagate] at he
  | fuel + 1, s, h, hd, b, s', he => by
    unfold propagate at he
    cases hq : s.queue with
    | nil =>
      rw [hq] at he
      simp only [Option.some.injEq, Prod.mk.injEq] at he
      obtain ⟨rfl, rfl⟩ := he
      exact ⟨h, hq, by simp [hd], (fun e => by cases e), PropRel.refl orig _ hd⟩
    | cons p q =>
      rw [hq] at he
      simp only at he
      -- One round.  What the two-watch condition leaves pending (`P` of `InvC`) is the queue between rounds, `PendV` during the visit,
      -- the literals of the current level at a conflict (`Conf`), nothing after the backjump; `record` then enqueues the asserting literal.
      have hV := VInv.start h hq
      obtain ⟨hvn, hvc⟩ := visit_spec _ _ hV
      have hfr := visitWatchers_frame p (s.watches.getD p.idx [])
        { s with queue := q, watches := s.watches.set p.idx [] }
      rcases hvw : visitWatchers { s with queue := q, watches := s.watches.set p.idx [] } p
        (s.watches.getD p.idx []) with ⟨s2, _ | id⟩
      · rw [hvw] at he hfr
        simp only at he
        have h2 := hvn s2 hvw
        have hinv : InvC orig m (fun _ x => x ∈ s2.queue) s2 := by
          have := h2.inv
          rw [putBack_nil] at this
          exact ⟨this.wf, this.ent, this.dec, fun hd' => (this.w2 hd').mono (fun id x hP => by
            rcases hP with hP | ⟨_, hP⟩
            · exact hP
            · cases hP)⟩
        have hd2 : s2.dead = false := by rw [hfr.dead]; exact hd
        obtain ⟨r1, r2, r3, r4, r5⟩ := propagate_spec fuel s2 hinv hd2 b s' he
        refine ⟨r1, r2, r3, r4, PropRel.trans ⟨?_, ?_, ?_, hfr.lenVals, hfr.exprs⟩ r5⟩
        · rw [hfr.decisions]; exact List.suffix_refl _
        · rw [hfr.decisions, hfr.dead]
          intro hh; rcases hh with hh | hh
          · exact absurd hh (Nat.lt_irrefl _)
          · rw [hd] at hh; cases hh
        · rw [hfr.log]; exact List.prefix_refl _
      · rw [hvw] at he hfr
        simp only at he
        have hC := hvc s2 id hvw
        have hd2 : s2.dead = false := by rw [hfr.dead]; exact hd
        have hUns : Uns (orig ++ units s.decisions) := by
          have := hC.uns; rw [hfr.decisions] at this; exact this
        by_cases hroot : s2.rootLevel = true
        · rw [if_pos hroot] at he
          simp only [Option.some.injEq, Prod.mk.injEq] at he
          obtain ⟨rfl, rfl⟩ := he
          have hlim : s2.trailLim = [] := by simpa [rootLevel] using hroot
          have hdec : s2.decisions = [] := by
            have := hC.inv.wf.a.decLen; rw [hlim] at this; simpa using this
          have hU : Uns orig := by
            have h3 : Uns (orig ++ units []) := by rw [← hdec]; exact hC.uns
            exact Uns.mono h3 (fun d hd' => by simpa [units] using hd')
          refine ⟨hC.inv.setDead hU, hC.queue, rfl, fun _ => hlim, ⟨?_, fun _ => hUns, ?_, hfr.lenVals, hfr.exprs⟩⟩
          · show s2.decisions <:+ s.decisions
            rw [hfr.decisions]; exact List.suffix_refl _
          · show s.log <+: s2.log
            rw [hfr.log]; exact List.prefix_refl _
        · rw [if_neg hroot] at he
          have hL : 0 < s2.decisionLevel := by
            simp only [rootLevel, List.isEmpty_iff] at hroot
            simp only [decisionLevel]
            exact List.length_pos_iff.2 hroot
          obtain ⟨c, hcm, hcf, hcl⟩ := hC.cnfl
          rw [clauseOf_of_mem hC.inv.wf.c hcm] at he
          cases han : s2.analyze c with
          | none => rw [han] at he; simp at he
          | some res =>
            obtain ⟨noGood, bt, s3⟩ := res
            rw [han] at he
            simp only at he
            obtain ⟨l0, rest, r⟩ := analyze_learnt (Q := fun t => InvC orig m (fun _ _ => False) t) hC.inv.wf.a
              hC.inv.wf.c.clsIdNodup hC.inv.wf.r.reasonsOK hC.inv.ent hC.queue hL (fun _ a => a.wf.a)
              (fun _ a e hne => a.pop e (fun _ _ hf => hf.elim) hne)
              (hC.inv.pop hC.queue (fun _ _ hP => hP) (trailLim_ne_of_lt hL)) (hC.inv.ent.clauses _ hcm)
              (fun l hl => .inl (hcf l hl)) (let ⟨l, hl, e⟩ := hcl; ⟨l, hl, hcf l hl, e⟩) han
            obtain ⟨f1, f2, f3, _, f5, f6, _⟩ := r.frame
            rw [r.same, r.lits] at he f1 f2 f3 f5 f6
            have r1 := (record_spec r.inv (r.rel.queue.trans hC.queue) l0 rest r.undef r.range r.restF r.root r.max r.ent
              r.nodup).1.keeps_weaken (K := orig) (fun d hd' => List.mem_append_left _ hd')
            obtain ⟨q1, q2, q3, q4, q5⟩ := propagate_spec fuel _ r1 (f2.trans hd2) b s' he
            refine ⟨q1, q2, q3, q4, PropRel.trans ⟨hfr.decisions ▸ f3, fun _ => hUns, ?_, ?_, ?_⟩ q5⟩
            · rw [f1, hfr.log]; exact List.prefix_append _ _
            · rw [f5, hfr.lenVals]
            · rw [f6, hfr.exprs]

end Sat
end Oratio
