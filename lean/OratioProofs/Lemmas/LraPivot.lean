/-
`Lra.pivot`.  What `pivotRow` writes into a row is a function of two expressions (`substRow`, LraSubst); the state only matters
for the watch lists.  The two results, in `rowOf` form: the invariant is kept (`pivot_spec`), the solutions are kept
(`pivot_holdsR`).
-/
import OratioModel
import Mathlib.Tactic.LinearCombination
import OratioProofs.Lemmas.LraSubst
import OratioProofs.Lemmas.PivotCore

namespace Oratio
namespace Lra
open Lin

/-- the loop body of `pivotRow` on (coefficients of the row, watch lists) -/
def pivStepW (cc : R) (r : Nat) (acc : List (Nat × R) × List (List Nat)) (e : Nat × R) :
    List (Nat × R) × List (List Nat) :=
  match Lin.find acc.1 e.1 with
  | none => (Lin.insert acc.1 e.1 (R.mul e.2 cc), acc.2.set e.1 (setInsert r (acc.2.getD e.1 [])))
  | some old =>
    let c' := R.addAssign old (R.mul e.2 cc)
    if R.eq c' R.zero then (Lin.erase acc.1 e.1, acc.2.set e.1 (setErase r (acc.2.getD e.1 [])))
    else (Lin.set acc.1 e.1 c', acc.2)

/-- the loop body of `pivotRow`, verbatim -/
def pivStep (cc : R) (r : Nat) (acc : Lin × Lra) (e : Nat × R) : Lin × Lra :=
  let (rl, t) := acc
  match Lin.find rl.vars e.1 with
  | none => ({ rl with vars := Lin.insert rl.vars e.1 (R.mul e.2 cc) }, watchRow t e.1 r)
  | some old =>
    let c' := R.addAssign old (R.mul e.2 cc)
    if R.eq c' R.zero then ({ rl with vars := Lin.erase rl.vars e.1 }, unwatchRow t e.1 r)
    else ({ rl with vars := Lin.set rl.vars e.1 c' }, t)

theorem pivotRow_eq (t : Lra) (xj : Nat) (expr : Lin) (r : Nat) :
    pivotRow t xj expr r =
      (let rl := (t.rowOf r).getD Lin.empty
       let cc := (Lin.find rl.vars xj).getD R.zero
       let p := expr.vars.foldl (pivStep cc r) (⟨Lin.erase rl.vars xj, rl.known⟩, t)
       p.2.tabSet r ⟨p.1.vars, R.addAssign p.1.known (R.mul expr.known cc)⟩) := rfl

theorem pivStep_eq (cc : R) (r : Nat) (m : List (Nat × R)) (k : R) (t : Lra) (e : Nat × R) :
    pivStep cc r (⟨m, k⟩, t) e =
      (⟨(pivStepW cc r (m, t.tWatches) e).1, k⟩, { t with tWatches := (pivStepW cc r (m, t.tWatches) e).2 }) := by
  unfold pivStep pivStepW
  simp only
  cases hf : Lin.find m e.1 with
  | none => rfl
  | some old =>
    simp only
    split <;> rfl

theorem pivStep_fold (cc : R) (r : Nat) (k : R) : ∀ (es : List (Nat × R)) (m : List (Nat × R)) (t : Lra),
    es.foldl (pivStep cc r) (⟨m, k⟩, t) =
      (⟨(es.foldl (pivStepW cc r) (m, t.tWatches)).1, k⟩,
       { t with tWatches := (es.foldl (pivStepW cc r) (m, t.tWatches)).2 }) := by
  intro es
  induction es with
  | nil => intro m t; rfl
  | cons e es ih =>
    intro m t
    rw [List.foldl_cons, List.foldl_cons, pivStep_eq, ih]

/-- the state of the inner loop: the row `r` under construction has coefficient list `m`, the
    watch lists are `tw`; `r` watches exactly the keys of `m` (`xj` excepted) -/
structure StepInv (xj r : Nat) (m : List (Nat × R)) (tw : List (List Nat)) : Prop where
  sorted : Sorted m
  coef : CoefWF m
  wsorted : ∀ w ∈ tw, w.Pairwise (· < ·)
  watch : ∀ v, v ≠ xj → (r ∈ tw.getD v [] ↔ (Lin.find m v).isSome = true)

/-- what one step / the whole loop changes -/
structure StepRel (r : Nat) (es : List (Nat × R)) (m : List (Nat × R)) (tw : List (List Nat))
    (m' : List (Nat × R)) (tw' : List (List Nat)) : Prop where
  len : tw'.length = tw.length
  frame : ∀ v r', r' ≠ r → (r' ∈ tw'.getD v [] ↔ r' ∈ tw.getD v [])
  other : ∀ v, (∀ e ∈ es, e.1 ≠ v) → tw'.getD v [] = tw.getD v []

theorem pivStepW_addTerm (cc : R) (r : Nat) (m : List (Nat × R)) (tw : List (List Nat)) (e : Nat × R) :
    (pivStepW cc r (m, tw) e).1 = addTerm m (e.1, R.mul e.2 cc) := by
  unfold pivStepW addTerm
  simp only
  cases hf : Lin.find m e.1 with
  | none => rfl
  | some old =>
    simp only
    split <;> rfl

theorem pivStepW_snd {xj r : Nat} (cc : R) {m : List (Nat × R)} {tw : List (List Nat)}
    (inv : StepInv xj r m tw) (e : Nat × R) (hlen : e.1 < tw.length) :
    ∃ w, (pivStepW cc r (m, tw) e).2 = tw.set e.1 w ∧ w.Pairwise (· < ·) ∧
      (∀ r', r' ≠ r → (r' ∈ w ↔ r' ∈ tw.getD e.1 [])) ∧
      (e.1 ≠ xj → (r ∈ w ↔ (Lin.find (pivStepW cc r (m, tw) e).1 e.1).isSome = true)) := by
  have hs := getD_sorted inv.wsorted e.1
  unfold pivStepW
  simp only
  cases hf : Lin.find m e.1 with
  | none =>
    refine ⟨_, rfl, sorted_setInsert hs, fun r' hr' => by simp [mem_setInsert, hr'], fun _ => ?_⟩
    simp only
    rw [find_insert _ _ hf, if_pos rfl]
    simp [mem_setInsert]
  | some old =>
    simp only
    split
    · refine ⟨_, rfl, sorted_setErase hs, fun r' hr' => by simp [mem_setErase, hr'], fun _ => ?_⟩
      simp only
      rw [find_erase _ _ inv.sorted, if_pos rfl]
      simp [mem_setErase]
    · refine ⟨tw.getD e.1 [], ?_, hs, fun _ _ => Iff.rfl, fun hne => ?_⟩
      · simp only
        rw [List.getD_eq_getElem?_getD, List.getElem?_eq_getElem hlen, Option.getD_some, List.set_getElem_self]
      · simp only
        rw [find_set _ _ _ hf, if_pos rfl, inv.watch _ hne, hf]
        exact Iff.rfl

theorem pivStepW_spec {xj r : Nat} {cc : R} (hcc : R.FinWF cc) {m : List (Nat × R)} {tw : List (List Nat)}
    (inv : StepInv xj r m tw) {e : Nat × R} (he : R.FinWF e.2) (hlen : e.1 < tw.length) :
    StepInv xj r (pivStepW cc r (m, tw) e).1 (pivStepW cc r (m, tw) e).2 ∧
    StepRel r [e] m tw (pivStepW cc r (m, tw) e).1 (pivStepW cc r (m, tw) e).2 := by
  obtain ⟨as, ac, -, -⟩ := addTerm_spec (t := (e.1, R.mul e.2 cc)) inv.sorted inv.coef (R.mul_fin he hcc).1
  have hfst := pivStepW_addTerm cc r m tw e
  obtain ⟨w, htw, hws, hfr, hself⟩ := pivStepW_snd cc inv e hlen
  refine ⟨⟨hfst ▸ as, hfst ▸ ac, htw ▸ forall_mem_set inv.wsorted hws, fun v hv => ?_⟩,
    by rw [htw]; exact List.length_set, fun v r' hr' => ?_, fun v hv => ?_⟩
  · rw [htw, getD_set]
    by_cases hve : e.1 = v
    · rw [if_pos ⟨hve, hlen⟩, ← hve]
      exact hself (hve ▸ hv)
    · rw [if_neg (fun h => hve h.1), hfst, find_addTerm_of_ne (t := (e.1, R.mul e.2 cc)) inv.sorted (fun h => hve h.symm)]
      exact inv.watch v hv
  · rw [htw, getD_set]
    split
    · next h => rw [← h.1]; exact hfr r' hr'
    · rfl
  · rw [htw, getD_set_ne _ _ _ _ _ (hv e (List.mem_singleton.2 rfl))]

theorem pivStepW_fold_fst (cc : R) (r : Nat) : ∀ (es : List (Nat × R)) (m : List (Nat × R)) (tw : List (List Nat)),
    (es.foldl (pivStepW cc r) (m, tw)).1 = (mapC (fun x => R.mul x cc) es).foldl addTerm m := by
  intro es
  induction es with
  | nil => intro m tw; rfl
  | cons e es ih =>
    intro m tw
    rw [List.foldl_cons]
    have : pivStepW cc r (m, tw) e = ((pivStepW cc r (m, tw) e).1, (pivStepW cc r (m, tw) e).2) := rfl
    rw [this, ih, pivStepW_addTerm]
    rfl

theorem pivStepW_fold_spec {xj r : Nat} {cc : R} (hcc : R.FinWF cc) :
    ∀ (es : List (Nat × R)) (m : List (Nat × R)) (tw : List (List Nat)),
      StepInv xj r m tw → CoefWF es → (∀ e ∈ es, e.1 < tw.length) →
      StepInv xj r (es.foldl (pivStepW cc r) (m, tw)).1 (es.foldl (pivStepW cc r) (m, tw)).2 ∧
      StepRel r es m tw (es.foldl (pivStepW cc r) (m, tw)).1 (es.foldl (pivStepW cc r) (m, tw)).2 := by
  intro es
  induction es with
  | nil =>
    intro m tw inv _ _
    exact ⟨inv, ⟨rfl, fun _ _ _ => Iff.rfl, fun _ _ => rfl⟩⟩
  | cons e es ih =>
    intro m tw inv hw hb
    obtain ⟨s2, s3⟩ := pivStepW_spec (cc := cc) hcc inv (coefWF_cons.1 hw).1
      (hb e List.mem_cons_self)
    have hb' : ∀ e' ∈ es, e'.1 < (pivStepW cc r (m, tw) e).2.length := by
      intro e' he'
      rw [s3.len]
      exact hb e' (List.mem_cons_of_mem _ he')
    obtain ⟨i2, i3⟩ := ih (pivStepW cc r (m, tw) e).1 (pivStepW cc r (m, tw) e).2 s2
      (coefWF_cons.1 hw).2 hb'
    rw [List.foldl_cons]
    refine ⟨i2, i3.len.trans s3.len, ?_, ?_⟩
    · intro v r' hr'
      exact (i3.frame v r' hr').trans (s3.frame v r' hr')
    · intro v hv
      rw [i3.other v (fun e' he' => hv e' (List.mem_cons_of_mem _ he')),
        s3.other v (fun e' he' => by rw [List.mem_singleton.1 he']; exact hv e List.mem_cons_self)]

def pivW (xj : Nat) (ex : Lin) (r : Nat) (rl : Lin) (tw : List (List Nat)) : List (Nat × R) × List (List Nat) :=
  ex.vars.foldl (pivStepW (pivCC xj rl) r) (Lin.erase rl.vars xj, tw)

theorem pivotRow_explicit {u : Lra} {xj : Nat} {ex : Lin} {r : Nat} {rl : Lin} (hr : u.rowOf r = some rl) :
    pivotRow u xj ex r =
      { u with
        tableau := u.tableau.map (fun e => if e.1 == r then (r, substRow xj ex rl) else e)
        tWatches := (pivW xj ex r rl u.tWatches).2 } := by
  rw [pivotRow_eq, hr]
  simp only [Option.getD_some]
  rw [pivStep_fold, pivStepW_fold_fst]
  rfl

theorem pivotRow_rowOf {u : Lra} {xj : Nat} {ex : Lin} {r : Nat} {rl : Lin} (hr : u.rowOf r = some rl) (r' : Nat) :
    (pivotRow u xj ex r).rowOf r' = if r' = r then some (substRow xj ex rl) else u.rowOf r' := by
  rw [pivotRow_explicit hr, rowOf_eq]
  show tabFind (u.tableau.map _) r' = _
  rw [tabFind_mapset, ← rowOf_eq, hr]
  rfl

theorem pivotRow_pinv {xj : Nat} {ex : Lin} {u : Lra} (hu : PInv xj u) (hex : ExOk xj ex u)
    {r : Nat} {rl : Lin} (hr : u.rowOf r = some rl) :
    PInv xj (pivotRow u xj ex r) ∧ ExOk xj ex (pivotRow u xj ex r) ∧ (pivotRow u xj ex r).vals = u.vals ∧
    (pivotRow u xj ex r).tWatches.length = u.tWatches.length := by
  obtain ⟨rs, rw', -⟩ := (wf_iff rl).1 (hu.rows r rl hr)
  obtain ⟨-, ew, -⟩ := (wf_iff ex).1 hex.wf
  obtain ⟨s1, s2, -⟩ := substRow_spec hex.wf (hu.rows r rl hr) (xj := xj)
  have hcc : R.FinWF (pivCC xj rl) := by
    unfold pivCC
    cases h : Lin.find rl.vars xj with
    | none => exact R.finWF_zero
    | some c => exact coefWF_find rw' h
  have inv0 : StepInv xj r (Lin.erase rl.vars xj) u.tWatches := by
    refine ⟨sorted_erase _ rs, coefWF_erase rw', hu.wsorted, fun v hv => ?_⟩
    rw [hu.watch v hv r, find_erase_isSome _ _ rs, hr]
    exact ⟨fun ⟨l, hl, h⟩ => ⟨hv, Option.some.inj hl ▸ h⟩, fun h => ⟨rl, rfl, h.2⟩⟩
  have w1 : (pivW xj ex r rl u.tWatches).1 = (substRow xj ex rl).vars := pivStepW_fold_fst _ _ _ _ _
  obtain ⟨w2, w3⟩ : StepInv xj r (pivW xj ex r rl u.tWatches).1 (pivW xj ex r rl u.tWatches).2 ∧
      StepRel r ex.vars (Lin.erase rl.vars xj) u.tWatches (pivW xj ex r rl u.tWatches).1 (pivW xj ex r rl u.tWatches).2 :=
    pivStepW_fold_spec (xj := xj) (r := r) hcc ex.vars _ _ inv0 ew
      (fun e he => (hex.vars e.1 (find_isSome_iff.2 ⟨e, he, rfl⟩)).1)
  have hnoxj : ∀ e ∈ ex.vars, e.1 ≠ xj := find_none_iff.1 hex.noxj
  have hrow : RowsUpd u (pivotRow u xj ex r) r (some (substRow xj ex rl)) := pivotRow_rowOf hr
  have htw : (pivotRow u xj ex r).tWatches = (pivW xj ex r rl u.tWatches).2 := by rw [pivotRow_explicit hr]
  have hlen : (pivotRow u xj ex r).tWatches.length = u.tWatches.length := htw ▸ w3.len
  have hcore : Core (pivotRow u xj ex r) := by
    refine hu.toCore.setRow hr hrow ?_ (htw ▸ w2.wsorted) hlen s1 (fun v hv => ?_)
    · rw [pivotRow_explicit hr]
      show ((u.tableau.map _).map Prod.fst).Pairwise _
      rw [keys_mapset]
      exact hu.keys
    · rcases s2 v hv with ⟨-, h⟩ | h
      · exact ⟨(hu.bound r rl hr).2 v h, hu.nonbasic r rl v hr h⟩
      · exact hex.vars v h
  refine ⟨⟨hcore, fun v hv => ?_, ?_⟩, ⟨hex.wf, fun v hv => ?_, hex.noxj⟩, by rw [pivotRow_explicit hr], hlen⟩
  · refine (hu.watch v hv).rowsUpd hrow (fun r' h => by rw [htw]; exact w3.frame v r' h) ?_
    rw [htw, w2.watch v hv, w1]
    exact ⟨fun h => ⟨_, rfl, h⟩, fun ⟨l, e, h⟩ => by cases e; exact h⟩
  · rw [htw, w3.other xj hnoxj]
    exact hu.empty
  · rw [hlen]
    refine ⟨(hex.vars v hv).1, hrow.eq_none (hex.vars v hv).2 (fun e => ?_)⟩
    have := (hex.vars v hv).2
    rw [e, hr] at this
    cases this

theorem pivotLoop_spec (xj : Nat) (ex : Lin) : ∀ (rs : List Nat) (u : Lra),
    PInv xj u → ExOk xj ex u → rs.Nodup → (∀ r ∈ rs, (u.rowOf r).isSome = true) →
    PInv xj (rs.foldl (fun t r => pivotRow t xj ex r) u) ∧
    ExOk xj ex (rs.foldl (fun t r => pivotRow t xj ex r) u) ∧
    (rs.foldl (fun t r => pivotRow t xj ex r) u).vals = u.vals ∧
    (rs.foldl (fun t r => pivotRow t xj ex r) u).tWatches.length = u.tWatches.length ∧
    ∀ r', (rs.foldl (fun t r => pivotRow t xj ex r) u).rowOf r' =
      if r' ∈ rs then (u.rowOf r').map (substRow xj ex) else u.rowOf r' := by
  intro rs
  induction rs with
  | nil => intro u hu hex _ _; exact ⟨hu, hex, rfl, rfl, fun r' => by simp⟩
  | cons r rs ih =>
    intro u hu hex hnd hsome
    obtain ⟨hr', hnd'⟩ := List.nodup_cons.1 hnd
    obtain ⟨rl, hr⟩ := Option.isSome_iff_exists.1 (hsome r List.mem_cons_self)
    obtain ⟨p1, p2, p3, p4⟩ := pivotRow_pinv hu hex hr
    obtain ⟨i1, i2, i3, i4, i5⟩ := ih (pivotRow u xj ex r) p1 p2 hnd' (fun r2 h2 => by
      rw [pivotRow_rowOf hr, if_neg fun e : r2 = r => hr' (e ▸ h2)]; exact hsome r2 (List.mem_cons_of_mem _ h2))
    rw [List.foldl_cons]
    refine ⟨i1, i2, i3.trans p3, i4.trans p4, fun r' => ?_⟩
    rw [i5, pivotRow_rowOf hr]
    by_cases h1 : r' = r
    · subst h1; simp [hr', hr]
    · simp [h1]

/-- the row of `xi` solved for `xj` -/
def pivExpr (l : Lin) (xi xj : Nat) : Lin :=
  let cf := (Lin.find l.vars xj).getD R.zero
  let e := Lin.divAssignR { l with vars := Lin.erase l.vars xj } (R.neg cf)
  { e with vars := Lin.insert e.vars xi (R.div R.one cf) }

theorem pivExpr_spec {l : Lin} (hl : l.WF) {xi xj : Nat} {cf : R} (hcf : Lin.find l.vars xj = some cf)
    (hn : cf.num ≠ 0) (hxi : Lin.find l.vars xi = none) :
    (pivExpr l xi xj).WF ∧
    (∀ v, (Lin.find (pivExpr l xi xj).vars v).isSome = true ↔ v = xi ∨ (v ≠ xj ∧ (Lin.find l.vars v).isSome = true)) ∧
    (∀ σ, σ xj = Lin.evalS (pivExpr l xi xj) σ ↔ σ xi = Lin.evalS l σ) := by
  obtain ⟨ls, lw, lk⟩ := (wf_iff l).1 hl
  have hcfw : R.FinWF cf := coefWF_find lw hcf
  have hcf0 : cf.toRat ≠ 0 := R.toRat_ne_zero hcfw hn
  have hl0 : ({ l with vars := Lin.erase l.vars xj } : Lin).WF :=
    (wf_iff _).2 ⟨sorted_erase _ ls, coefWF_erase lw, lk⟩
  have hnegw : R.FinWF (R.neg cf) := R.finWF_neg hcfw
  obtain ⟨d1, -, -, d4, d5⟩ := scalar_div_spec { l with vars := Lin.erase l.vars xj } (R.neg cf) hl0
    hnegw.1 hnegw.2 (by show -cf.num ≠ 0; omega)
  have hdivw : R.FinWF (R.div R.one cf) := (R.div_fin R.finWF_one hcfw hn).1
  have hdivv : (R.div R.one cf).toRat = 1 / cf.toRat := by
    rw [(R.div_fin R.finWF_one hcfw hn).2, R.toRat_one]
  -- `l = cf·xj + rest`, and `pivExpr` is `rest / (-cf)` with the new term `(1/cf)·xi` (`xi` is no key of `l`): keys and
  -- value are read off this form, the value by `sumS_erase`, `sumS_insert` and the division (`d4`)
  have hE : pivExpr l xi xj =
      { Lin.divR { l with vars := Lin.erase l.vars xj } (R.neg cf) with
        vars := Lin.insert (Lin.divR { l with vars := Lin.erase l.vars xj } (R.neg cf)).vars xi (R.div R.one cf) } := by
    unfold pivExpr
    simp only [hcf, Option.getD_some]
    rw [d5]
  have hvars : (Lin.divR { l with vars := Lin.erase l.vars xj } (R.neg cf)).vars =
      mapC (fun x => R.divAssign x (R.neg cf)) (Lin.erase l.vars xj) := rfl
  have hfind : ∀ v, (Lin.find (Lin.divR { l with vars := Lin.erase l.vars xj } (R.neg cf)).vars v).isSome = true ↔
      (v ≠ xj ∧ (Lin.find l.vars v).isSome = true) := by
    intro v
    rw [hvars, find_mapC_isSome, find_erase_isSome _ _ ls]
  have hxi' : Lin.find (Lin.divR { l with vars := Lin.erase l.vars xj } (R.neg cf)).vars xi = none :=
    Option.not_isSome_iff_eq_none.1 fun h => by
      have := ((hfind xi).1 h).2
      rw [hxi] at this
      cases this
  obtain ⟨ds, dw, dk⟩ := (wf_iff _).1 d1
  rw [hE]
  refine ⟨(wf_iff _).2 ⟨sorted_insert _ _ ds, coefWF_insert dw hdivw, dk⟩, ?_, ?_⟩
  · intro v
    show (Lin.find (Lin.insert _ xi _) v).isSome = true ↔ _
    rw [find_insert _ _ hxi']
    by_cases hv : v = xi
    · simp [hv]
    · rw [if_neg hv, hfind]
      simp [hv]
  · intro σ
    rw [evalS_eq]
    show σ xj = sumS σ (Lin.insert _ xi _) + (Lin.divR { l with vars := Lin.erase l.vars xj } (R.neg cf)).known.toRat ↔ _
    rw [sumS_insert _ σ hxi', hdivv]
    have h5 : Lin.evalS { l with vars := Lin.erase l.vars xj } σ = Lin.evalS l σ - cf.toRat * σ xj := by
      rw [evalS_eq, evalS_eq]
      show sumS σ (Lin.erase l.vars xj) + l.known.toRat = _
      rw [sumS_erase _ σ hcf]
      ring
    have h4 := d4 σ
    rw [evalS_eq, R.toRat_neg hcfw, h5, eq_div_iff (neg_ne_zero.2 hcf0)] at h4
    have hw : cf.toRat * (1 / cf.toRat) = 1 := mul_one_div_cancel hcf0
    generalize 1 / cf.toRat = w at hw ⊢
    exact ⟨fun h => by linear_combination (-cf.toRat) * h + h4 - σ xi * hw,
      fun h => mul_left_cancel₀ hcf0 (by linear_combination -h + h4 - σ xi * hw)⟩

theorem rowsUpd_filter (t : Lra) (xi : Nat) (tw : List (List Nat)) :
    RowsUpd t { t with tableau := t.tableau.filter (fun e => e.1 != xi), tWatches := tw } xi none := by
  intro r
  rw [rowOf_eq]
  show tabFind (t.tableau.filter _) r = _
  rw [tabFind_filter]
  rfl

theorem removeRow_spec {t : Lra} (ht : Inv t) {xi : Nat} {l : Lin} (hl : t.rowOf xi = some l) :
    ∃ tw, l.vars.foldl (fun t e => unwatchRow t e.1 xi) { t with tableau := t.tableau.filter (fun e => e.1 != xi) } =
        { t with tableau := t.tableau.filter (fun e => e.1 != xi), tWatches := tw } ∧
      tw.length = t.tWatches.length ∧
      Inv { t with tableau := t.tableau.filter (fun e => e.1 != xi), tWatches := tw } := by
  obtain ⟨tw, h1, h2, h3, h4⟩ := watchFold_spec (sorted_mem_setErase xi) l.vars
    { t with tableau := t.tableau.filter (fun e => e.1 != xi) }
    (fun e he => (ht.bound xi l hl).2 e.1 (find_isSome_iff.2 ⟨e, he, rfl⟩)) ht.wsorted
  have hrow := rowsUpd_filter t xi tw
  refine ⟨tw, h1, h2, ht.toCore.rowsUpd hrow (keys_filter_sorted xi ht.keys) h3 h2 (fun _ e => by cases e)
    (fun e => by cases e), fun v => (ht.watch v).rowsUpd hrow (fun r' hr' => ?_) ?_⟩
  · show r' ∈ tw.getD v [] ↔ _
    rw [h4, if_neg (fun h => hr' h.1)]
  · show xi ∈ tw.getD v [] ↔ _
    rw [h4]
    refine ⟨fun h => ?_, fun ⟨_, e, _⟩ => by cases e⟩
    split at h
    · exact h.elim
    · next hno =>
      obtain ⟨l', hl', hk⟩ := (ht.watch v xi).1 h
      rw [hl] at hl'
      cases hl'
      obtain ⟨p, hp, hpv⟩ := find_isSome_iff.1 hk
      exact absurd ⟨rfl, p, hp, hpv⟩ hno

theorem newRow_spec {xj : Nat} {ex : Lin} {u : Lra} (hu : PInv xj u) (hex : ExOk xj ex u)
    (hxj : u.rowOf xj = none) (hlen : xj < u.tWatches.length)
    (hno : ∀ r l, u.rowOf r = some l → Lin.find l.vars xj = none) :
    Inv (u.newRow xj ex) ∧ (u.newRow xj ex).vals = u.vals ∧
    (u.newRow xj ex).tWatches.length = u.tWatches.length ∧
    ∀ r, (u.newRow xj ex).rowOf r = if r = xj then some ex else u.rowOf r := by
  obtain ⟨tw, h1, h2, h3, h4⟩ := watchFold_spec (sorted_mem_setInsert xj) ex.vars
    { u with tableau := tabInsert u.tableau xj ex }
    (fun e he => (hex.vars e.1 (find_isSome_iff.2 ⟨e, he, rfl⟩)).1) hu.wsorted
  -- the fold of `watch` over `ex.vars` is one write of watch lists `tw`, in which `xj` watches `v` iff `v` is a key of `ex`
  -- (`h4`); only the row of `xj` differs (`hrow`), and `WatchAt u xj` holds because no row of `u` mentions `xj` (`hw`)
  have hE : u.newRow xj ex = { u with tableau := tabInsert u.tableau xj ex, tWatches := tw } := h1
  have hrow : RowsUpd u (u.newRow xj ex) xj (some ex) := by
    intro r
    rw [hE, rowOf_eq]
    show tabFind (tabInsert u.tableau xj ex) r = _
    rw [tabFind_tabInsert _ _ (by rw [← rowOf_eq]; exact hxj)]
    rfl
  have hlen' : (u.newRow xj ex).tWatches.length = u.tWatches.length := by rw [hE]; exact h2
  have hnoxj : ∀ v, (Lin.find ex.vars v).isSome = true → v ≠ xj := by
    rintro v hv rfl
    rw [hex.noxj] at hv
    cases hv
  have hw : ∀ v, WatchAt u v := by
    intro v
    by_cases hv : v = xj
    · intro r
      rw [hv, hu.empty]
      exact ⟨fun h => (by cases h), fun ⟨l, hl, hk⟩ => by rw [hno r l hl] at hk; cases hk⟩
    · exact hu.watch v hv
  refine ⟨⟨hu.toCore.rowsUpd hrow (by rw [hE]; exact keys_tabInsert_sorted xj ex hu.keys) (by rw [hE]; exact h3) hlen'
      (fun l e => ?_) (fun _ r' l hl _ => hno r' l hl), fun v => (hw v).rowsUpd hrow (fun r' hr' => ?_) ?_⟩,
    by rw [hE], hlen', hrow⟩
  · cases e
    exact ⟨hex.wf, hlen, fun v hv => ⟨(hex.vars v hv).1, hnoxj v hv, (hex.vars v hv).2⟩⟩
  · rw [hE]
    show r' ∈ tw.getD v [] ↔ _
    rw [h4, if_neg (fun h => hr' h.1)]
  · rw [hE]
    show xj ∈ tw.getD v [] ↔ _
    rw [h4]
    constructor
    · intro h
      split at h
      · next hk =>
        obtain ⟨e, he, rfl⟩ := hk.2
        exact ⟨ex, rfl, find_isSome_iff.2 ⟨e, he, rfl⟩⟩
      · obtain ⟨l, hl, -⟩ := (hw v xj).1 h
        rw [hxj] at hl
        cases hl
    · rintro ⟨l, e, hk⟩
      cases e
      obtain ⟨p, hp, hpv⟩ := find_isSome_iff.1 hk
      rw [if_pos ⟨rfl, p, hp, hpv⟩]
      trivial

theorem pivot_eq (t : Lra) (xi xj : Nat) {l : Lin} (hl : t.rowOf xi = some l) (tw : List (List Nat))
    (htw : l.vars.foldl (fun t e => unwatchRow t e.1 xi) { t with tableau := t.tableau.filter (fun e => e.1 != xi) } =
        { t with tableau := t.tableau.filter (fun e => e.1 != xi), tWatches := tw }) :
    t.pivot xi xj =
      ((tw.getD xj []).foldl (fun t r => pivotRow t xj (pivExpr l xi xj) r)
        { t with tableau := t.tableau.filter (fun e => e.1 != xi), tWatches := tw.set xj [] }).newRow xj (pivExpr l xi xj) := by
  unfold pivot
  simp only [hl, Option.getD_some]
  rw [htw]
  rfl

/-- on the rows, `pivot(x_i, x_j)` is `C09A.pivot` -/
theorem pivot_spec {t : Lra} (ht : Inv t) {xi xj : Nat} {l : Lin} (hl : t.rowOf xi = some l)
    {cf : R} (hcf : Lin.find l.vars xj = some cf) (hn : cf.num ≠ 0) :
    Inv (t.pivot xi xj) ∧ (t.pivot xi xj).vals = t.vals ∧
    (t.pivot xi xj).tWatches.length = t.tWatches.length ∧
    ∀ r, (t.pivot xi xj).rowOf r =
      if r = xj then some (pivExpr l xi xj) else if r = xi then none
      else (t.rowOf r).map fun rl =>
        if (Lin.find rl.vars xj).isSome = true then substRow xj (pivExpr l xi xj) rl else rl := by
  have hkxj : (Lin.find l.vars xj).isSome = true := by rw [hcf]; rfl
  have hxjnb : t.rowOf xj = none := ht.nonbasic xi l xj hl hkxj
  have hxjlen : xj < t.tWatches.length := (ht.bound xi l hl).2 xj hkxj
  have hxi : Lin.find l.vars xi = none :=
    Option.not_isSome_iff_eq_none.1 fun h => by rw [ht.nonbasic xi l xi hl h] at hl; cases hl
  have hne : xj ≠ xi := fun e => by rw [e, hl] at hxjnb; cases hxjnb
  obtain ⟨e1, e2, -⟩ := pivExpr_spec (ht.rows xi l hl) hcf hn hxi
  obtain ⟨tw, a1, a2, a3⟩ := removeRow_spec ht hl
  rw [pivot_eq t xi xj hl tw a1]
  have hrow3 := rowsUpd_filter t xi (tw.set xj [])
  have hlen3 : (tw.set xj []).length = t.tWatches.length := List.length_set.trans a2
  have hp3 : PInv xj { t with tableau := t.tableau.filter (fun e => e.1 != xi), tWatches := tw.set xj [] } := by
    refine ⟨a3.toCore.congr (fun _ => rfl) a3.keys (forall_mem_set a3.wsorted List.Pairwise.nil)
      (Nat.le_of_eq List.length_set.symm), fun v hv r => ?_, ?_⟩
    · show r ∈ (tw.set xj []).getD v [] ↔ _
      rw [getD_set, if_neg (fun h => hv h.1.symm)]
      exact a3.watch v r
    · show (tw.set xj []).getD xj [] = []
      rw [getD_set, if_pos ⟨rfl, by rw [a2]; exact hxjlen⟩]
  have hnoxj : Lin.find (pivExpr l xi xj).vars xj = none := Option.not_isSome_iff_eq_none.1 fun h =>
    ((e2 xj).1 h).elim (fun h' => absurd h' hne) (fun h' => absurd rfl h'.1)
  have hex3 : ExOk xj (pivExpr l xi xj)
      { t with tableau := t.tableau.filter (fun e => e.1 != xi), tWatches := tw.set xj [] } := by
    refine ⟨e1, fun v hv => ?_, hnoxj⟩
    show v < (tw.set xj []).length ∧ _
    rw [hlen3]
    rcases (e2 v).1 hv with rfl | ⟨-, hk⟩
    · exact ⟨(ht.bound v l hl).1, hrow3.self⟩
    · exact ⟨(ht.bound xi l hl).2 v hk, hrow3.eq_none (ht.nonbasic xi l v hl hk) (fun _ => rfl)⟩
  -- the rows watching `xj`, once `xi` has lost its row
  have hmem : ∀ r, r ∈ tw.getD xj [] ↔ r ≠ xi ∧ ∃ l', t.rowOf r = some l' ∧ (Lin.find l'.vars xj).isSome = true := by
    intro r
    rw [a3.watch xj r]
    show (∃ l', Lra.rowOf { t with tableau := _, tWatches := tw } r = some l' ∧ _) ↔ _
    rw [rowsUpd_filter t xi tw r]
    by_cases h : r = xi <;> simp [h]
  obtain ⟨c1, c2, c3, c4, c5⟩ := pivotLoop_spec xj (pivExpr l xi xj) (tw.getD xj []) _ hp3 hex3 (a3.watch_nodup xj)
    (fun r hr => by
      obtain ⟨-, l', hl', -⟩ := (hmem r).1 hr
      rw [hrow3 r, if_neg ((hmem r).1 hr).1, hl']; rfl)
  have hrows : ∀ r, Lra.rowOf ((tw.getD xj []).foldl (fun t r => pivotRow t xj (pivExpr l xi xj) r)
      { t with tableau := t.tableau.filter (fun e => e.1 != xi), tWatches := tw.set xj [] }) r =
      if r = xi then none else (t.rowOf r).map fun rl =>
        if (Lin.find rl.vars xj).isSome = true then substRow xj (pivExpr l xi xj) rl else rl := by
    intro r
    rw [c5, hrow3 r]
    by_cases h2 : r = xi
    · subst h2; simp
    rw [if_neg h2, if_neg h2]
    cases hr : t.rowOf r with
    | none => simp
    | some rl =>
      simp only [Option.map_some]
      by_cases hk : (Lin.find rl.vars xj).isSome = true
      · rw [if_pos ((hmem r).2 ⟨h2, rl, hr, hk⟩), if_pos hk]
      · rw [if_neg (fun h => hk (by obtain ⟨-, l', e, h'⟩ := (hmem r).1 h; rw [hr] at e; cases e; exact h')), if_neg hk]
  have hxj4 := hrows xj
  rw [if_neg hne, hxjnb] at hxj4
  obtain ⟨d1, d2, d3, d4⟩ := newRow_spec c1 c2 hxj4 (by rw [c4]; exact hlen3 ▸ hxjlen) (fun r l' hr => by
    rw [hrows r] at hr
    split at hr
    · cases hr
    · obtain ⟨rl, hrl, e⟩ := Option.map_eq_some_iff.1 hr
      split at e <;> rw [← e]
      · exact Option.not_isSome_iff_eq_none.1 fun h =>
          ((substRow_spec e1 (ht.rows r rl hrl)).2.1 xj h).elim (·.1 rfl) fun h' => by rw [hnoxj] at h'; cases h'
      · next hk => exact Option.not_isSome_iff_eq_none.1 hk)
  refine ⟨d1, d2.trans c3, by rw [d3, c4]; exact hlen3, fun r => ?_⟩
  rw [d4 r, hrows r]

theorem pivot_holdsR {t : Lra} (ht : Inv t) {xi xj : Nat} {l : Lin} (hl : t.rowOf xi = some l)
    {cf : R} (hcf : Lin.find l.vars xj = some cf) (hn : cf.num ≠ 0) (σ : Nat → Rat) :
    HoldsR t σ ↔ HoldsR (t.pivot xi xj) σ := by
  have hkxj : (Lin.find l.vars xj).isSome = true := by rw [hcf]; rfl
  have hxjnb : t.rowOf xj = none := ht.nonbasic xi l xj hl hkxj
  have hxi : Lin.find l.vars xi = none :=
    Option.not_isSome_iff_eq_none.1 fun h => by rw [ht.nonbasic xi l xi hl h] at hl; cases hl
  obtain ⟨e1, e2, halg⟩ := pivExpr_spec (ht.rows xi l hl) hcf hn hxi
  have hnoxj : Lin.find (pivExpr l xi xj).vars xj = none := Option.not_isSome_iff_eq_none.1 fun h =>
    ((e2 xj).1 h).elim (fun h' => by rw [h', hl] at hxjnb; cases hxjnb) (fun h' => absurd rfl h'.1)
  refine pivot_sat Lin.evalS (T := t.rowOf) hl hxjnb (pivot_spec ht hl hcf hn).2.2.2 σ (halg σ) fun r rl hr hσ => ?_
  -- where the new row of `xj` holds, replacing `xj` by it does not change the value of a row
  split
  · rw [(substRow_spec e1 (ht.rows r rl hr)).2.2 σ, ← hσ]; ring
  · rfl

end Lra

end Oratio
