/-
Lemmas for property C17 (model: OratioModel/Core/Types.lean): the breadth-first walk up the type hierarchy.
-/
import OratioModel
import OratioProofs.Lemmas.ListAux

namespace Oratio
open Types ListAux

theorem bfs_sound_queue (h : Hier) : ∀ (fuel : Nat) (q : List Nat) (u : Nat),
    u ∈ bfs h fuel q → ∃ t, t ∈ q ∧ Sub h t u := by
  intro fuel
  induction fuel with
  | zero => intro q u hu; simp [bfs] at hu
  | succ n ih =>
    intro q u hu
    cases q with
    | nil => simp [bfs] at hu
    | cons t q =>
      simp only [bfs, List.mem_cons] at hu
      rcases hu with rfl | hu
      · exact ⟨u, List.mem_cons_self, Sub.refl u⟩
      · obtain ⟨s, hs, hsu⟩ := ih _ _ hu
        rcases List.mem_append.1 hs with hs | hs
        · exact ⟨s, List.mem_cons_of_mem _ hs, hsu⟩
        · exact ⟨t, List.mem_cons_self, Sub.step hs hsu⟩

theorem bfs_sound (h : Hier) (fuel : Nat) (t u : Nat) (hu : u ∈ bfs h fuel [t]) : Sub h t u := by
  obtain ⟨s, hs, hsub⟩ := bfs_sound_queue h fuel [t] u hu
  rwa [← List.mem_singleton.1 hs]

theorem foldl_register_mem (i : Nat) (l : List Nat) (st : Store) (x j : Nat) :
    j ∈ (l.foldl (fun st u => fun x => if x = u then st x ++ [i] else st x) st) x ↔
      (j ∈ st x ∨ (j = i ∧ x ∈ l)) :=
  (mem_foldl (fun (st : Store) (b : Nat × Nat) => b.2 ∈ st b.1) _ (fun u b => b.2 = i ∧ b.1 = u)
    (fun s a b => by by_cases h : b.1 = a <;> simp [h]) l st (x, j)).trans
    (or_congr_right ⟨fun ⟨_, ha, h1, h2⟩ => ⟨h1, (show x = _ from h2) ▸ ha⟩, fun ⟨h1, h2⟩ => ⟨x, h2, h1, rfl⟩⟩)

theorem newInstance_mem (h : Hier) (fuel : Nat) (st : Store) (t i x j : Nat) :
    j ∈ newInstance h fuel st t i x ↔ (j ∈ st x ∨ (j = i ∧ x ∈ bfs h fuel [t])) :=
  foldl_register_mem i _ st x j

theorem mem_run_from (h : Hier) (fuel : Nat) (ops : List (Nat × Nat)) (st : Store) (t i : Nat) :
    i ∈ (ops.foldl (fun st op => newInstance h fuel st op.1 op.2) st) t ↔
      (i ∈ st t ∨ ∃ op ∈ ops, op.2 = i ∧ t ∈ bfs h fuel [op.1]) :=
  mem_foldl (fun (st : Store) (b : Nat × Nat) => b.2 ∈ st b.1) _ (fun op b => op.2 = b.2 ∧ b.1 ∈ bfs h fuel [op.1])
    (fun s a b => by rw [newInstance_mem, @eq_comm _ b.2]) ops st (t, i)

end Oratio
