/-
Vocabulary of property C12 (difference-logic relation literals): the normal form `relOut` of a
request `left REL right` — which difference constraints it amounts to — and how the relation and
the constraints are read under an integer valuation.
-/
import OratioModel.Net.Dl
import OratioProofs.Lemmas.Lin

namespace Oratio
open Dl

/-- the constraints a request amounts to: `x_dst - x_src ≤ w` -/
inductive RelOut (α : Type) where
  | const (b : Bool)
  | one (src dst : Nat) (w : α)
  | two (src1 dst1 : Nat) (w1 : α) (src2 dst2 : Nat) (w2 : α)
  | invalid

/-- specification-side normal form of `left REL right` -/
def relOut {α : Type} (O : DOps α) (r : Rel) (left right : Lin) : RelOut α :=
  let expr := Lin.sub left right
  match expr.vars with
  | [] => .const (relConst r expr.known)
  | [(x, c)] =>
    let k := (Lin.divR expr c).known
    -- (x REL' -k) with REL' flipped when c < 0
    let flip := R.lt c R.zero
    let strict : Int := if r = .lt ∨ r = .gt then -1 else 0
    match r with
    | .eq => match O.mkB k 0, O.mkB (R.neg k) 0 with
      | some a, some b => .two x 0 a 0 x b
      | _, _ => .invalid
    | _ =>
      if (r = .lt ∨ r = .leq) == flip then (match O.mkB k strict with | some a => .one x 0 a | none => .invalid)
      else (match O.mkB (R.neg k) strict with | some a => .one 0 x a | none => .invalid)
  | [(v0, c0), (v1, _)] =>
    let e := Lin.divR expr c0
    let k := e.known
    let c1 := (Lin.find e.vars v1).getD R.zero
    if R.ne c1 (R.neg R.one) then .invalid
    else
      let flip := R.lt c0 R.zero
      let strict : Int := if r = .lt ∨ r = .gt then -1 else 0
      match r with
      | .eq => match O.mkB k 0, O.mkB (R.neg k) 0 with
        | some a, some b => .two v0 v1 a v1 v0 b
        | _, _ => .invalid
      | _ =>
        if (r = .lt ∨ r = .leq) == flip then (match O.mkB k strict with | some a => .one v0 v1 a | none => .invalid)
        else (match O.mkB (R.neg k) strict with | some a => .one v1 v0 a | none => .invalid)
  | _ => .invalid

/-- value of a linear expression under an integer valuation -/
def Lin.evalI (l : Lin) (σ : Nat → Int) : Rat := (l.vars.map (fun t => t.2.toRat * (σ t.1 : Rat))).sum + l.known.toRat

def relHolds (r : Rel) (a b : Rat) : Prop :=
  match r with
  | .lt => a < b | .leq => a ≤ b | .eq => a = b | .geq => a ≥ b | .gt => a > b

def edgeHolds (σ : Nat → Int) (src dst : Nat) (w : Int) : Prop := σ dst - σ src ≤ w

end Oratio
