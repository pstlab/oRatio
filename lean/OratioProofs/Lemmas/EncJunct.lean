/-
Lemmas for property C13: the expression cache, `newConj`, `newDisj`, `newEq`.  `new_conj` and `new_disj`
are one function of the absorbing value (`Cons.newJunct`) and are specified once.
-/
import OratioProofs.Lemmas.EncClause

namespace Oratio
namespace EncL
open Enc

/-- `s.lookup k` is `ListAux.lookupBy s.exprs k` by definition -/
theorem lookup_some {s : Enc} {k : Key} {l : Lit} (h : s.lookup k = some l) : (k, l) ∈ s.exprs :=
  ListAux.mem_of_lookupBy h

theorem lookup_none {s : Enc} {k : Key} (h : s.lookup k = none) : ∀ l, (k, l) ∉ s.exprs :=
  fun l hl => ListAux.lookupBy_eq_none.1 h (k, l) hl rfl

theorem lookup_none_of {s : Enc} {k : Key} (h : ∀ e ∈ s.exprs, e.1 ≠ k) : s.lookup k = none :=
  ListAux.lookupBy_eq_none.2 h

theorem cache_hit {s : Enc} (h : Inv s) {k : Key} {l : Lit} (hk : s.lookup k = some l) :
    l.var < s.nvars ∧ ∀ α, Sat α s → KeySem α k l :=
  ⟨h.wf.expr_lt (lookup_some hk), fun _ hα => h.sem (lookup_some hk) hα⟩

theorem same_state {s : Enc} (h : Inv s) : Inv s ∧ Extends s s ∧ Refines s s :=
  ⟨h, Extends.refl s, Refines.refl s⟩

theorem lit_zero {α : Asg} (h : α 0 = false) (b : Bool) : α.lit ⟨0, b⟩ = !b := by
  cases b
  · exact Asg.lit_trueLit h
  · exact Asg.lit_falseLit h

structure JunctGood (abs : Bool) (s : Enc) (ls : List Lit) (r : Lit × Enc) : Prop
    extends Defines s (fun α => junctVal abs α.lit ls) r where
  exprs : ∀ e ∈ r.2.exprs, e ∈ s.exprs ∨ ∃ x, e.1 = junctKey abs x

theorem junct_spec {abs : Bool} {s : Enc} (h : Inv s) {ls : List Lit} (hl : InRange s ls) :
    JunctGood abs s ls (Cons.newJunct Enc.prim abs s ls) := by
  have hroot : ∀ {α}, Sat α s → ∀ l b, s.value l = some b → α.lit l = b := fun hα _ _ => value_sound hα.2
  have same : ∀ {l}, l.var < s.nvars → (∀ α, Sat α s → α.lit l = junctVal abs α.lit ls) →
      JunctGood abs s ls (l, s) := fun hl hs => ⟨.same h hl hs, fun e he => Or.inl he⟩
  have kept : ∀ {ls'}, scanJunct s abs (sortByVar ls) none [] = some ls' →
      (∀ l ∈ ls', l.var < s.nvars) ∧ ∀ α, Sat α s → junctVal abs α.lit ls' = junctVal abs α.lit ls :=
    fun hsc => ⟨fun l hl' => hl l (mem_sortByVar.1 ((scan_some hsc).1.subset hl')),
      fun α hα => junctVal_congr ((scan_some_val (hroot hα) hsc).trans exists_sorted)⟩
  refine Cons.newJunct_cases Enc.prim (M := JunctGood abs s ls) (Cons_enc_scanJunct s abs _ none [])
    (fun hsc => same h.pos fun α hα => ?_)
    (fun hsc => same h.pos fun α hα => by rw [lit_zero hα.1, ← (kept hsc).2 α hα, junctVal_nil])
    (fun l hsc => same ((kept hsc).1 l (by simp)) fun α hα => by
      rw [← (kept hsc).2 α hα, junctVal_singleton])
    (fun ls' l hsc hlk => same (cache_hit h hlk).1 fun α hα => by
      rw [← (kept hsc).2 α hα]; exact keySem_junct.1 ((cache_hit h hlk).2 α hα))
    (fun l1 l2 t hsc hlk => ?_)
  · rw [lit_zero hα.1, Bool.not_not, eq_comm, junctVal_eq_abs, ← exists_sorted]
    exact scan_none_val (hroot hα) (fun l _ => Asg.lit_neg α l) hsc
  · obtain ⟨hrange, hval⟩ := kept hsc
    have f := freshDef_spec h (junctKey abs (l1 :: l2 :: t)) (junctCls abs (l1 :: l2 :: t))
      (by rw [keyLits_junct]; exact hrange)
      (fun c hc x hx => by
        rcases junctCls_vars hc hx with e | ⟨y, hy, e⟩
        · rw [e]; exact Nat.lt_succ_self _
        · rw [e]; exact Nat.lt_succ_of_lt (hrange y hy))
      (fun α _ => ⟨junctVal abs α.lit (l1 :: l2 :: t), by
        rw [junct_clauses, Asg.lit_mk_true, upd_same]
        exact junctVal_congr (exists_congr fun l => and_congr_right fun hl' =>
          by rw [lit_congr (upd_lt α _ (hrange l hl'))])⟩)
      (fun α _ hc => keySem_junct.2 ((junct_clauses α abs _ _).1 hc))
    refine ⟨⟨f.step, fun α hα => ?_⟩, fun e he => (f.exprs e he).imp id fun e' => ⟨l1 :: l2 :: t, by rw [e']⟩⟩
    rw [← hval α (f.step.ref.2 α hα)]
    exact keySem_junct.1 (f.sem α hα)

theorem conj_spec {s : Enc} (h : Inv s) {ls : List Lit} (hl : InRange s ls) :
    Inv (s.newConj ls).2 ∧ (s.newConj ls).1.var < (s.newConj ls).2.nvars ∧
    (∀ α, Sat α (s.newConj ls).2 → α.lit (s.newConj ls).1 = ls.all α.lit) ∧
    Extends s (s.newConj ls).2 ∧ Refines s (s.newConj ls).2 ∧
    (∀ e ∈ (s.newConj ls).2.exprs, e ∈ s.exprs ∨ ∃ x, e.1 = Key.conj x) := by
  rw [← Cons_enc_newConj, Cons.newConj_eq]
  have g := junct_spec (abs := false) h hl
  exact ⟨g.inv, g.lt, g.sem, g.ext, g.ref, g.exprs⟩

theorem eq_defines {s : Enc} (h : Inv s) {a b : Lit} (ha : a.var < s.nvars) (hb : b.var < s.nvars) :
    Defines s (fun α => α.lit a == α.lit b) (s.newEq a b) := by
  rw [← Cons_enc_newEq]
  refine Cons.newEq_cases Enc.prim (M := Defines s fun α => α.lit a == α.lit b)
    (fun va vb hva hvb => .same h h.pos fun α hα => by
      rw [lit_zero hα.1, Bool.not_not, value_sound hα.2 hva, value_sound hα.2 hvb])
    (fun va hva _ => .same h (by cases va <;> exact hb) fun α hα => by
      rw [value_sound hα.2 hva]; cases va <;> simp [Asg.lit_neg])
    (fun vb _ hvb => .same h (by cases vb <;> exact ha) fun α hα => by
      rw [value_sound hα.2 hvb]; cases vb <;> simp [Asg.lit_neg])
    (fun l _ _ hlk => .same h (cache_hit h hlk).1 fun α hα => keySem_eq.1 ((cache_hit h hlk).2 α hα))
    (fun _ _ _ => ?_)
  have f := freshDef_spec h (eqKey a b) (eqCls a b)
    (fun x hx => by rcases keyLits_eq hx with rfl | rfl <;> assumption)
    (fun c hc x hx => by
      rcases eqCls_vars hc hx with e | e | e <;> rw [e]
      · exact Nat.lt_succ_self _
      · exact Nat.lt_succ_of_lt ha
      · exact Nat.lt_succ_of_lt hb)
    (fun α _ => ⟨α.lit a == α.lit b, by
      rw [eq_clauses, Asg.lit_mk_true, upd_same, lit_congr (upd_lt α _ ha), lit_congr (upd_lt α _ hb)]⟩)
    (fun α _ hc => keySem_eq.2 ((eq_clauses α _ a b).1 hc))
  exact ⟨f.step, fun α hα => keySem_eq.1 (f.sem α hα)⟩

end EncL
end Oratio
