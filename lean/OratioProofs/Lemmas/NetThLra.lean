/-
One call of the LRA theory under `Net.LraBase`: `propagate(lit)` and `check()` keep the invariant, return a conflict
clause that is false and holds in the models of the added clauses, and record such lemmas only (instances of C09X).
`propagate(p)` changes the SAT core only by well-shaped `record`s (`Sat.RecBy Sat.GoodRec`) and its conflict clauses contain `¬p`,
the negated reason of the bound that started the row propagation: read off the emitted clauses (`assertS_emits`).
-/
import OratioProofs.Lemmas.NetSoundDefs
import OratioProofs.Lemmas.NetSatRecs
import OratioProofs.Lemmas.LraExplFarkas
import OratioProofs.Lemmas.LraExplKept

namespace Oratio
namespace Net
open Lra

theorem solves_congr {t u : Lra} (h : u.tableau = t.tableau) (σr σi : Nat → Rat) : Solves u σr σi ↔ Solves t σr σi := by
  unfold Solves; rw [h]

theorem asrtAgrees_congr {t u : Lra} (h : u.vAsrts = t.vAsrts) (α : Asg) (σr σi : Nat → Rat) :
    AsrtAgrees α σr σi u ↔ AsrtAgrees α σr σi t := by
  unfold AsrtAgrees; rw [h]

theorem LraSame.refl (t : Lra) : LraSame t t := ⟨fun _ _ => Iff.rfl, rfl, rfl⟩

theorem LraSame.trans {a b c : Lra} (h1 : LraSame a b) (h2 : LraSame b c) : LraSame a c :=
  ⟨fun σr σi => (h1.1 σr σi).trans (h2.1 σr σi), h2.2.1.trans h1.2.1, h2.2.2.trans h1.2.2⟩

theorem LraSame.of_eq {t u : Lra} (h1 : u.tableau = t.tableau) (h2 : u.vAsrts = t.vAsrts)
    (h3 : u.vals.length = t.vals.length) : LraSame t u :=
  ⟨fun σr σi => (solves_congr h1 σr σi).symm, h2, h3⟩

theorem LraJ.same {orig : Cnf} {t u : Lra} (h : LraJ orig t) (hs : LraSame t u)
    (hb : ∀ α σr σi, BoundsJust α σr σi t → BoundsJust α σr σi u) : LraJ orig u := by
  intro α σr σi h0 ho hsol hag
  exact hb α σr σi (h α σr σi h0 ho ((hs.1 σr σi).2 hsol) ((asrtAgrees_congr hs.2.1 α σr σi).1 hag))

theorem lra_propagate {orig : Cnf} {s : Sat} {t : Lra} (h : LraBase orig s t) (p : Lit) (hp : s.value p = some true) :
    LraBase orig (propagateLit s t p).sat (propagateLit s t p).th ∧
    Dl.SatLe s (propagateLit s t p).sat ∧ LraSame t (propagateLit s t p).th ∧
    (∀ B, C09PopInv B t → C09PopInv B (propagateLit s t p).th) ∧
    (∀ c, (propagateLit s t p).cnfl = some c → ∀ l ∈ c, (propagateLit s t p).sat.value l = some false) ∧
    (∀ (α : Asg) (σr σi : Nat → Rat), α 0 = false → α.cnf orig = true → Solves t σr σi → AsrtAgrees α σr σi t →
      (∀ c, (propagateLit s t p).cnfl = some c → α.clause c = true) ∧
      (∀ c ∈ (propagateLit s t p).sat.log, c ∈ s.log ∨ α.clause c = true)) := by
  obtain ⟨f1, f2⟩ := propagateLit_F h.reasons hp
  have hw := propagateLit_writes s t p
  have hreg := hw.kept
  have hsame : LraSame t (propagateLit s t p).th := LraSame.of_eq hw.tableau hreg.vAsrts hreg.nvars
  have hinv := explInv_propagateLit h.inv s p
  refine ⟨⟨hinv, valsOK_propagateLit h.inv.tab h.vals h.inv.aok h.vars s p, ?_, ?_, ?_, f2⟩, f1.1, hsame, ?_, f1.2, ?_⟩
  · intro e he; rw [hreg.vAsrts] at he; exact h.key e he
  · intro e he; rw [hreg.vAsrts] at he; rw [hreg.nvars]; exact h.vars e he
  · intro α σr σi h0 ho hsol hag
    have hs := (hsame.1 σr σi).2 hsol
    have ha := (asrtAgrees_congr hreg.vAsrts α σr σi).1 hag
    exact (propagateLit_valid h.inv h.key h.vars s p hp hs (h.just α σr σi h0 ho hs ha) ha).2.1
  · intro B hB
    apply popInv_propagateLit hB _ s p
    intro e he
    have := asrt_inrange h.inv.blen h.vars he
    obtain ⟨l, _, hlen, _⟩ := hB
    omega
  · intro α σr σi h0 ho hs ha
    have hj := h.just α σr σi h0 ho hs ha
    obtain ⟨⟨v1, new, v2, v3⟩, _⟩ := propagateLit_valid h.inv h.key h.vars s p hp hs hj ha
    refine ⟨v1, fun c hc => ?_⟩
    simp only at v2
    rw [v2] at hc
    rcases List.mem_append.1 hc with hc | hc
    · exact Or.inl hc
    · exact Or.inr (v3 c hc)

theorem check_conflict_reasons {fuel : Nat} {t t' : Lra} {cl : List Lit} (h : t.check fuel = some (some cl, t')) :
    ∀ l ∈ cl, ∃ y, l = (t'.lbReason y).neg ∨ l = (t'.ubReason y).neg := by
  intro l hl
  cases check_exit h with
  | @lower xi fl _ _ _ =>
    rcases List.mem_append.1 hl with hl | hl
    · rcases (collect_ex (fun x => (t'.ubReason x).neg) (fun x => (t'.lbReason x).neg) fl.vars [] l).1 hl with
        h | ⟨e, -, ⟨-, h⟩ | ⟨-, -, h⟩⟩
      · cases h
      · exact ⟨e.1, Or.inr h⟩
      · exact ⟨e.1, Or.inl h⟩
    · exact ⟨xi, Or.inl (List.mem_singleton.1 hl)⟩
  | @upper xi fl _ _ _ _ =>
    rcases List.mem_append.1 hl with hl | hl
    · rcases (collect_ex (fun x => (t'.lbReason x).neg) (fun x => (t'.ubReason x).neg) fl.vars [] l).1 hl with
        h | ⟨e, -, ⟨-, h⟩ | ⟨-, -, h⟩⟩
      · cases h
      · exact ⟨e.1, Or.inl h⟩
      · exact ⟨e.1, Or.inr h⟩
    · exact ⟨xi, Or.inr (List.mem_singleton.1 hl)⟩

theorem lra_check {orig : Cnf} {s : Sat} {t t' : Lra} (h : LraBase orig s t) {fuel : Nat} {c : Option (List Lit)}
    (hc : t.check fuel = some (c, t')) :
    LraBase orig s t' ∧ LraSame t t' ∧ (∀ B, C09PopInv B t → C09PopInv B t') ∧
    ∀ cl, c = some cl → (∀ l ∈ cl, s.value l = some false) ∧
      ∀ (α : Asg) (σr σi : Nat → Rat), α 0 = false → α.cnf orig = true → Solves t σr σi → AsrtAgrees α σr σi t →
        α.clause cl = true := by
  have hss := sameSol_check fuel t t' c h.inv.tab hc
  have hcore := (C09_core_iff t t').1 (C09_core_check fuel t t' c hc)
  have hlen := (check_writes hc).kept.nvars
  have hsame : LraSame t t' := ⟨fun σr σi => hss.solves σr σi, hcore.2.1, hlen⟩
  have hrt : ReasonsTrue s t' := by
    intro x
    rw [lbReason_eq_of_bounds hcore.1, ubReason_eq_of_bounds hcore.1]
    exact h.reasons x
  refine ⟨⟨explInv_check h.inv hc, valsOK_check fuel t t' c h.inv.tab h.inv.bok h.vals hc, ?_, ?_, ?_, hrt⟩, hsame,
    fun B hB => popInv_check hB hc, ?_⟩
  · intro e he; rw [hcore.2.1] at he; exact h.key e he
  · intro e he; rw [hcore.2.1] at he; rw [hlen]; exact h.vars e he
  · exact h.just.same hsame (fun α σr σi hj => boundsJust_congr hcore.1 hj)
  · intro cl hcl
    subst hcl
    refine ⟨fun l hl => ?_, fun α σr σi h0 ho hs ha => ?_⟩
    · obtain ⟨y, hy | hy⟩ := check_conflict_reasons hc l hl <;> rw [hy, Sat.value_neg_false]
      · exact (hrt y).1
      · exact (hrt y).2
    · exact check_conflict_valid h.inv.tab h.inv.bok h.inv.blen h.vals hc α σr σi hs (h.just α σr σi h0 ho hs ha)

end Net

namespace Lra
open Sat

def OutRC (q : Lit) (s : Sat) (r : Option (List Lit) × Sat) : Prop := RecBy GoodRec s r.2 ∧ ∀ c, r.1 = some c → q ∈ c

theorem Side.lit_var (d : Side) (a : LAsrt) : (d.lit a).var = a.b.var := by
  unfold Side.lit
  split <;> rfl

theorem watched_coef {t : Lra} (ht : TabWF t) (hnz : ∀ e ∈ t.tableau, ∀ p ∈ e.2.vars, p.2.num ≠ 0) {v x : Nat}
    (hx : x ∈ t.tWatches.getD v []) :
    ∃ c, Lin.find ((t.rowOf x).getD Lin.empty).vars v = some c ∧ c.num ≠ 0 := by
  obtain ⟨e, he, rfl, p, hp, rfl⟩ := (ht.watch v x).1 hx
  have hrow : t.rowOf e.1 = some e.2 := tabFind_of_mem ht.keys he
  rw [hrow]
  simp only [Option.getD_some]
  have hs : Lin.Sorted e.2.vars := (Lin.sortedKeys_iff _).1 (ht.rows e he).1
  exact ⟨p.2, Lin.find_of_mem hs hp, hnz e he p hp⟩

theorem Expl.mem_start {d : Side} {u : Lra} {xi : Nat} {e : Side} {x : Nat} {bv : IR} {ex : List Lit}
    (h : Expl d u xi e x bv ex) (ht : TabWF u) (hnz : ∀ r ∈ u.tableau, ∀ q ∈ r.2.vars, q.2.num ≠ 0) :
    (d.rsn u xi).neg ∈ ex := by
  cases h with
  | bound => exact List.mem_singleton.2 rfl
  | @row e x nt sum ex hx he hsum =>
    obtain ⟨c, hc, hz⟩ := watched_coef ht hnz hx
    refine (rowSumS_ex _ u _ _ _ _ _ _ hsum _).2 (Or.inr ⟨(xi, c), Lin.find_mem hc, hz, ?_⟩)
    rw [hc, Option.getD_some] at he
    subst he
    by_cases hpos : c.isPositive = true
    · simp only [hpos, if_true]
    · simp only [hpos, if_false, Bool.false_eq_true, Side.flip_flip]

theorem assertS_RC (d : Side) {s : Sat} {t : Lra} (hr : ReasonsTrue s t) (gt : GoodTab t) (rg : Reg s.vals.length t)
    (xi : Nat) (val : IR) {p : Lit} (hp : s.value p = some true) (hxi : d.idx xi < t.bounds.length) :
    OutRC p.neg s ((assertS d s t xi val p).cnfl, (assertS d s t xi val p).sat) := by
  have hbs := boundSet_as d t xi val p
  have hw := asState_writes d t xi val p
  have hr' : ReasonsTrue s (asState d t xi val p) := reasonsTrue_set hbs.bounds hr hp
  have hq : (d.rsn (asState d t xi val p) xi).neg = p.neg := by
    unfold Side.rsn
    rw [bnd_set _ _ _ _ hbs.bounds, if_pos ⟨rfl, hxi⟩]
  have gt' : GoodTab (asState d t xi val p) := gt.congr hw.tableau hw.tWatches hw.kept.nvars
  have mem : ∀ {cl}, Emits d (asState d t xi val p) xi cl → p.neg ∈ cl.tail := fun hm => by
    obtain ⟨e, x, bv, ex, b, a, hx, -, -, -, rfl⟩ := hm
    exact hq ▸ hx.mem_start gt'.tab gt'.nz
  obtain ⟨h1, h2⟩ := assertS_emits d s t xi val p
  refine ⟨h1.mono fun s1 c hle ⟨hm, hh⟩ => ?_, fun c hc => ?_⟩
  · obtain ⟨e, x, bv, ex, b, a, hx, hb, hab, he, rfl⟩ := id hm
    exact ⟨e.lit a, ex, rfl, hh _ rfl, by rw [e.lit_var a, hle.lenVals]; exact (rg.kept hw.kept).asrt hab,
      hm.tail_false (hr'.mono hle.le), List.ne_nil_of_mem (mem hm)⟩
  · rcases h2 c hc with ⟨rfl, -⟩ | ⟨hm, -⟩
    · exact List.mem_cons_self
    · obtain ⟨e, x, bv, ex, b, a, -, -, -, -, rfl⟩ := id hm
      exact List.mem_cons_of_mem _ (mem hm)

theorem propagateLit_RC {s : Sat} {t : Lra} (hr : ReasonsTrue s t) (gt : GoodTab t) (rg : Reg s.vals.length t)
    (hblen : BoundsLen t) (hvars : AsrtVars t) {p : Lit} (hp : s.value p = some true) :
    OutRC p.neg s ((propagateLit s t p).cnfl, (propagateLit s t p).sat) := by
  rcases propagateLit_cases s t p with e | ⟨a, d, hab, ⟨_, _, e⟩ | ⟨_, _, e⟩⟩ <;> rw [e]
  · exact ⟨.refl s, fun _ h => nomatch h⟩
  all_goals exact assertS_RC d hr gt rg _ _ hp (Side.idx_lt_of_ub (asrt_inrange hblen hvars (mem_of_asrtOf hab)) d)

end Lra
end Oratio
