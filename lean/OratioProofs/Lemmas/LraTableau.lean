/-
The invariant of tableau and watch lists in `rowOf` form (`Inv`; it is `TabWF`: `tabWF_iff`), and what replacing,
removing or adding one row does to it (`RowsUpd`).  `HoldsR`: a valuation solves every row.
-/
import OratioModel
import OratioProofs.Lemmas.LraState
import OratioProofs.Lemmas.LraTabLin

namespace Oratio
namespace Lra
open Lin

def tabFind (m : List (Nat × Lin)) (x : Nat) : Option Lin := (m.find? (fun r => r.1 == x)).map (·.2)

theorem rowOf_eq (t : Lra) (x : Nat) : t.rowOf x = tabFind t.tableau x := rfl

@[simp] theorem tabFind_nil (x : Nat) : tabFind [] x = none := rfl

theorem tabFind_cons (e : Nat × Lin) (m : List (Nat × Lin)) (x : Nat) :
    tabFind (e :: m) x = if e.1 = x then some e.2 else tabFind m x := by
  unfold tabFind
  by_cases h : e.1 = x
  · rw [List.find?_cons_of_pos (by simpa using h), if_pos h]; rfl
  · rw [List.find?_cons_of_neg (by simpa using h), if_neg h]

theorem tabFind_some_mem {m : List (Nat × Lin)} {r : Nat} {l : Lin} (h : tabFind m r = some l) :
    (r, l) ∈ m :=
  ListAux.mem_of_lookupBy h

theorem tabFind_none_iff {m : List (Nat × Lin)} {r : Nat} : tabFind m r = none ↔ ∀ e ∈ m, e.1 ≠ r :=
  ListAux.lookupBy_eq_none

theorem tabFind_of_mem {m : List (Nat × Lin)} {r : Nat} {l : Lin} (hs : (m.map Prod.fst).Pairwise (· < ·))
    (h : (r, l) ∈ m) : tabFind m r = some l :=
  ListAux.lookupBy_of_mem (hs.imp Nat.ne_of_lt) h

theorem tabFind_mapset (m : List (Nat × Lin)) (x : Nat) (l : Lin) (r : Nat) :
    tabFind (m.map (fun e => if e.1 == x then (x, l) else e)) r =
      if r = x then (tabFind m x).map (fun _ => l) else tabFind m r := by
  induction m with
  | nil => simp
  | cons e m ih =>
    rw [List.map_cons, tabFind_cons, ih, tabFind_cons, tabFind_cons]
    by_cases he : e.1 = x
    · by_cases hr : r = x
      · simp [he, hr]
      · have : ¬ x = r := fun h => hr h.symm
        simp [he, hr, this]
    · by_cases hr : r = x
      · subst hr
        simp [he]
      · simp [he, hr]

theorem keys_mapset (m : List (Nat × Lin)) (x : Nat) (l : Lin) :
    (m.map (fun e => if e.1 == x then (x, l) else e)).map Prod.fst = m.map Prod.fst := by
  induction m with
  | nil => rfl
  | cons e m ih =>
    rw [List.map_cons, List.map_cons, List.map_cons, ih]
    by_cases he : e.1 = x
    · simp [he]
    · simp [he]

theorem tabFind_filter (m : List (Nat × Lin)) (xi r : Nat) :
    tabFind (m.filter (fun e => e.1 != xi)) r = if r = xi then none else tabFind m r := by
  induction m with
  | nil => simp
  | cons e m ih =>
    by_cases he : e.1 = xi
    · rw [List.filter_cons_of_neg (by simp [he]), ih, tabFind_cons]
      by_cases hr : r = xi
      · simp [hr]
      · have : ¬ e.1 = r := fun h => hr (h ▸ he)
        simp [hr, this]
    · rw [List.filter_cons_of_pos (by simpa using he), tabFind_cons, tabFind_cons, ih]
      by_cases hr : r = xi
      · subst hr
        simp [he]
      · simp [hr]

theorem keys_filter_sorted {m : List (Nat × Lin)} (xi : Nat) (hs : (m.map Prod.fst).Pairwise (· < ·)) :
    ((m.filter (fun e => e.1 != xi)).map Prod.fst).Pairwise (· < ·) :=
  List.Pairwise.sublist (List.Sublist.map _ List.filter_sublist) hs

theorem mem_tabInsert_cases {m : List (Nat × Lin)} {x : Nat} {l : Lin} {e : Nat × Lin}
    (h : e ∈ tabInsert m x l) : e ∈ m ∨ e = (x, l) :=
  ListAux.mem_insertK_sub (tabInsert_eq_insertK m x l ▸ h)

theorem mem_tabInsert_of_absent {m : List (Nat × Lin)} {x : Nat} {l : Lin} (h : ∀ a ∈ m, a.1 ≠ x) (e : Nat × Lin) :
    e ∈ tabInsert m x l ↔ e ∈ m ∨ e = (x, l) :=
  tabInsert_eq_insertK m x l ▸ ListAux.mem_insertK_iff h

theorem keys_tabInsert_sorted {m : List (Nat × Lin)} (x : Nat) (l : Lin)
    (hs : (m.map Prod.fst).Pairwise (· < ·)) : ((tabInsert m x l).map Prod.fst).Pairwise (· < ·) := by
  rw [List.pairwise_map] at hs ⊢
  rw [tabInsert_eq_insertK]
  exact ListAux.sorted_insertK (key := Prod.fst) (lt := (· < ·)) Nat.lt_trans (fun {a b} h1 h2 => by omega) _ hs

theorem tabFind_tabInsert {m : List (Nat × Lin)} {x : Nat} (l : Lin) (r : Nat) (h : tabFind m x = none) :
    tabFind (tabInsert m x l) r = if r = x then some l else tabFind m r := by
  rw [tabInsert_eq_insertK]
  exact ListAux.lookupBy_insertK l r h

theorem watchFold_spec {op : List Nat → List Nat} {x : Nat} {b : Prop}
    (hop : ∀ w, w.Pairwise (· < ·) → (op w).Pairwise (· < ·) ∧ ∀ r, r ∈ op w ↔ if r = x then b else r ∈ w) :
    ∀ (es : List (Nat × R)) (t : Lra),
    (∀ e ∈ es, e.1 < t.tWatches.length) → (∀ w ∈ t.tWatches, w.Pairwise (· < ·)) →
    ∃ tw, es.foldl (fun t e => { t with tWatches := t.tWatches.set e.1 (op (t.tWatches.getD e.1 [])) }) t =
        { t with tWatches := tw } ∧
      tw.length = t.tWatches.length ∧ (∀ w ∈ tw, w.Pairwise (· < ·)) ∧
      ∀ v r, r ∈ tw.getD v [] ↔ if r = x ∧ ∃ e ∈ es, e.1 = v then b else r ∈ t.tWatches.getD v [] := by
  intro es
  induction es with
  | nil =>
    intro t _ hs
    exact ⟨t.tWatches, rfl, rfl, hs, by simp⟩
  | cons e es ih =>
    intro t hb hs
    have hb1 : e.1 < t.tWatches.length := hb e List.mem_cons_self
    obtain ⟨o1, o2⟩ := hop _ (getD_sorted hs e.1)
    obtain ⟨tw, h1, h2, h3, h4⟩ := ih { t with tWatches := t.tWatches.set e.1 (op (t.tWatches.getD e.1 [])) }
      (fun e' he' => by
        show e'.1 < (t.tWatches.set _ _).length
        rw [List.length_set]; exact hb e' (List.mem_cons_of_mem _ he'))
      (forall_mem_set hs o1)
    refine ⟨tw, by rw [List.foldl_cons, h1], h2.trans List.length_set, h3, fun v r => ?_⟩
    rw [h4]
    show (if _ then b else r ∈ (t.tWatches.set e.1 (op (t.tWatches.getD e.1 []))).getD v []) ↔ _
    rw [getD_set]
    by_cases hv : e.1 = v
    · subst hv
      have hex : ∃ e' ∈ e :: es, e'.1 = e.1 := ⟨e, List.mem_cons_self, rfl⟩
      by_cases hr : r = x
      · by_cases hes : ∃ e' ∈ es, e'.1 = e.1
        · rw [if_pos ⟨hr, hes⟩, if_pos ⟨hr, hex⟩]
        · rw [if_neg (fun h => hes h.2), if_pos ⟨rfl, hb1⟩, o2, if_pos hr, if_pos ⟨hr, hex⟩]
      · rw [if_neg (fun h => hr h.1), if_pos ⟨rfl, hb1⟩, o2, if_neg hr, if_neg (fun h => hr h.1)]
    · simp only [List.mem_cons, exists_eq_or_imp, hv, false_or, false_and, if_false]

theorem sorted_mem_setErase (x : Nat) (w : List Nat) (h : w.Pairwise (· < ·)) :
    (setErase x w).Pairwise (· < ·) ∧ ∀ r, r ∈ setErase x w ↔ if r = x then False else r ∈ w :=
  ⟨sorted_setErase h, fun r => by rw [mem_setErase]; by_cases hr : r = x <;> simp [hr]⟩

theorem sorted_mem_setInsert (x : Nat) (w : List Nat) (h : w.Pairwise (· < ·)) :
    (setInsert x w).Pairwise (· < ·) ∧ ∀ r, r ∈ setInsert x w ↔ if r = x then True else r ∈ w :=
  ⟨sorted_setInsert h, fun r => by rw [mem_setInsert]; by_cases hr : r = x <;> simp [hr]⟩

/-- everything but the correspondence between rows and watch lists -/
structure Core (t : Lra) : Prop where
  keys : (t.tableau.map Prod.fst).Pairwise (· < ·)
  rows : ∀ r l, t.rowOf r = some l → l.WF
  bound : ∀ r l, t.rowOf r = some l →
    r < t.tWatches.length ∧ ∀ v, (Lin.find l.vars v).isSome = true → v < t.tWatches.length
  nonbasic : ∀ r l v, t.rowOf r = some l → (Lin.find l.vars v).isSome = true → t.rowOf v = none
  wsorted : ∀ w ∈ t.tWatches, w.Pairwise (· < ·)

/-- `u'` has the rows of `u`, except that the row of `r` is `x` (`none`: `r` is not basic in `u'`) -/
def RowsUpd (u u' : Lra) (r : Nat) (x : Option Lin) : Prop :=
  ∀ r', u'.rowOf r' = if r' = r then x else u.rowOf r'

theorem RowsUpd.self {u u' : Lra} {r : Nat} {x : Option Lin} (h : RowsUpd u u' r x) : u'.rowOf r = x := by
  rw [h, if_pos rfl]

theorem RowsUpd.other {u u' : Lra} {r : Nat} {x : Option Lin} (h : RowsUpd u u' r x) {r' : Nat} (hr : r' ≠ r) :
    u'.rowOf r' = u.rowOf r' := by
  rw [h, if_neg hr]

theorem RowsUpd.cases {u u' : Lra} {r : Nat} {x : Option Lin} (h : RowsUpd u u' r x) {r' : Nat} {l : Lin}
    (hl : u'.rowOf r' = some l) : (r' = r ∧ x = some l) ∨ (r' ≠ r ∧ u.rowOf r' = some l) := by
  by_cases hr : r' = r
  · exact Or.inl ⟨hr, by rw [← hl, hr, h.self]⟩
  · exact Or.inr ⟨hr, by rw [← hl, h.other hr]⟩

theorem RowsUpd.eq_none {u u' : Lra} {r : Nat} {x : Option Lin} (h : RowsUpd u u' r x) {v : Nat}
    (hv : u.rowOf v = none) (hx : v = r → x = none) : u'.rowOf v = none := by
  by_cases hr : v = r
  · rw [hr, h.self, hx hr]
  · rw [h.other hr, hv]

theorem Core.congr {u u' : Lra} (hu : Core u) (hrow : ∀ r, u'.rowOf r = u.rowOf r)
    (hkeys : (u'.tableau.map Prod.fst).Pairwise (· < ·)) (hws : ∀ w ∈ u'.tWatches, w.Pairwise (· < ·))
    (hlen : u.tWatches.length ≤ u'.tWatches.length) : Core u' :=
  ⟨hkeys, fun r l hl => hu.rows r l (hrow r ▸ hl),
    fun r l hl => ⟨Nat.lt_of_lt_of_le (hu.bound r l (hrow r ▸ hl)).1 hlen,
      fun v hv => Nat.lt_of_lt_of_le ((hu.bound r l (hrow r ▸ hl)).2 v hv) hlen⟩,
    fun r l v hl hv => (hrow v).trans (hu.nonbasic r l v (hrow r ▸ hl) hv), hws⟩

theorem Core.rowsUpd {u u' : Lra} (hu : Core u) {r : Nat} {x : Option Lin} (h : RowsUpd u u' r x)
    (hkeys : (u'.tableau.map Prod.fst).Pairwise (· < ·)) (hws : ∀ w ∈ u'.tWatches, w.Pairwise (· < ·))
    (hlen : u'.tWatches.length = u.tWatches.length)
    (hx : ∀ l, x = some l → l.WF ∧ r < u.tWatches.length ∧
      ∀ v, (Lin.find l.vars v).isSome = true → v < u.tWatches.length ∧ v ≠ r ∧ u.rowOf v = none)
    (hr : x.isSome = true → ∀ r' l, u.rowOf r' = some l → r' ≠ r → Lin.find l.vars r = none) : Core u' := by
  refine ⟨hkeys, fun r' l hl => ?_, fun r' l hl => ?_, fun r' l v hl hv => ?_, hws⟩
  · rcases h.cases hl with ⟨-, hl⟩ | ⟨-, hl⟩
    · exact (hx l hl).1
    · exact hu.rows r' l hl
  · rw [hlen]
    rcases h.cases hl with ⟨rfl, hl⟩ | ⟨-, hl⟩
    · exact ⟨(hx l hl).2.1, fun v hv => ((hx l hl).2.2 v hv).1⟩
    · exact hu.bound r' l hl
  · rcases h.cases hl with ⟨rfl, hl⟩ | ⟨hne, hl⟩
    · obtain ⟨-, hvr, hvn⟩ := (hx l hl).2.2 v hv
      exact h.eq_none hvn (fun e => absurd e hvr)
    · refine h.eq_none (hu.nonbasic r' l v hl hv) (fun e => ?_)
      cases hxs : x with
      | none => rfl
      | some l' => rw [e, hr (by rw [hxs]; rfl) r' l hl hne] at hv; cases hv

theorem Core.setRow {u u' : Lra} (hu : Core u) {r : Nat} {rl l : Lin} (hr : u.rowOf r = some rl)
    (h : RowsUpd u u' r (some l)) (hkeys : (u'.tableau.map Prod.fst).Pairwise (· < ·))
    (hws : ∀ w ∈ u'.tWatches, w.Pairwise (· < ·)) (hlen : u'.tWatches.length = u.tWatches.length) (hl : l.WF)
    (hv : ∀ v, (Lin.find l.vars v).isSome = true → v < u.tWatches.length ∧ u.rowOf v = none) : Core u' := by
  refine hu.rowsUpd h hkeys hws hlen (fun l' e => ?_) (fun _ r' l' hl' _ => ?_)
  · cases e
    exact ⟨hl, (hu.bound r rl hr).1, fun v hk => ⟨(hv v hk).1, (fun e => by rw [← e, (hv v hk).2] at hr; cases hr),
      (hv v hk).2⟩⟩
  · exact Option.not_isSome_iff_eq_none.1 fun hf => by rw [hu.nonbasic r' l' r hl' hf] at hr; cases hr

/-- the rows watching `v` are exactly the rows in which `v` has an entry -/
def WatchAt (t : Lra) (v : Nat) : Prop :=
  ∀ r, r ∈ t.tWatches.getD v [] ↔ ∃ l, t.rowOf r = some l ∧ (Lin.find l.vars v).isSome = true

theorem WatchAt.rowsUpd {u u' : Lra} {r : Nat} {x : Option Lin} {v : Nat} (hw : WatchAt u v) (h : RowsUpd u u' r x)
    (hframe : ∀ r', r' ≠ r → (r' ∈ u'.tWatches.getD v [] ↔ r' ∈ u.tWatches.getD v []))
    (hself : r ∈ u'.tWatches.getD v [] ↔ ∃ l, x = some l ∧ (Lin.find l.vars v).isSome = true) : WatchAt u' v := by
  intro r'
  by_cases hr : r' = r
  · rw [hr, hself, h.self]
  · rw [hframe r' hr, hw r', h.other hr]

structure Inv (t : Lra) : Prop extends Core t where
  watch : ∀ v, WatchAt t v

theorem Inv.watch_nodup {t : Lra} (hi : Inv t) (x : Nat) : (t.tWatches.getD x []).Nodup :=
  List.Pairwise.imp (fun h => Nat.ne_of_lt h) (getD_sorted hi.wsorted x)

theorem Inv.not_mem_watch {t : Lra} (hi : Inv t) {y : Nat} (hnb : t.rowOf y = none) (x : Nat) :
    y ∉ t.tWatches.getD x [] := by
  intro hy
  obtain ⟨l, hl, -⟩ := (hi.watch x y).1 hy
  rw [hnb] at hl
  cases hl

theorem Inv.watch_lt {t : Lra} (hi : Inv t) {x r : Nat} (hr : r ∈ t.tWatches.getD x []) : r < t.tWatches.length := by
  obtain ⟨l, hl, -⟩ := (hi.watch x r).1 hr
  exact (hi.bound r l hl).1

theorem Inv.find_none_of_not_mem {t : Lra} (hi : Inv t) {x r : Nat} {l : Lin} (hl : t.rowOf r = some l)
    (hr : r ∉ t.tWatches.getD x []) : Lin.find l.vars x = none :=
  Option.not_isSome_iff_eq_none.1 fun hf => hr ((hi.watch x r).2 ⟨l, hl, hf⟩)

/-- the invariant inside `pivot`, while the rows watching `xj` are being rewritten -/
structure PInv (xj : Nat) (t : Lra) : Prop extends Core t where
  watch : ∀ v, v ≠ xj → WatchAt t v
  empty : t.tWatches.getD xj [] = []

/-- the expression substituted for `xj` -/
structure ExOk (xj : Nat) (ex : Lin) (t : Lra) : Prop where
  wf : ex.WF
  vars : ∀ v, (Lin.find ex.vars v).isSome = true → v < t.tWatches.length ∧ t.rowOf v = none
  noxj : Lin.find ex.vars xj = none

/-- the rows hold, in `rowOf` form -/
def HoldsR (t : Lra) (σ : Nat → Rat) : Prop := ∀ r l, t.rowOf r = some l → σ r = Lin.evalS l σ

theorem RowsUpd.holdsR_of_insert {u u' : Lra} {r : Nat} {l : Lin} (h : RowsUpd u u' r (some l)) (hr : u.rowOf r = none)
    {σ : Nat → Rat} (h1 : HoldsR u' σ) : HoldsR u σ ∧ σ r = Lin.evalS l σ :=
  ⟨fun r' l' hl' => h1 r' l' ((h.other fun e => by rw [e, hr] at hl'; cases hl').trans hl'), h1 r l h.self⟩

theorem holdsR_iff {t : Lra} (hk : (t.tableau.map Prod.fst).Pairwise (· < ·)) (σ : Nat → Rat) :
    (∀ e ∈ t.tableau, σ e.1 = Lin.evalS e.2 σ) ↔ HoldsR t σ := by
  constructor
  · intro h r l hr
    exact h (r, l) (tabFind_some_mem hr)
  · intro h e he
    exact h e.1 e.2 (tabFind_of_mem hk he)

theorem forall_rows_iff {t : Lra} (hk : (t.tableau.map Prod.fst).Pairwise (· < ·)) (P : Nat → Lin → Prop) :
    (∀ e ∈ t.tableau, P e.1 e.2) ↔ ∀ r l, t.rowOf r = some l → P r l :=
  ⟨fun h r l hl => h (r, l) (tabFind_some_mem hl), fun h e he => h e.1 e.2 (tabFind_of_mem hk he)⟩

theorem tabWF_iff (t : Lra) : TabWF t ↔ Inv t ∧ t.tWatches.length = t.vals.length := by
  have hwatch : (t.tableau.map Prod.fst).Pairwise (· < ·) → ∀ v r,
      (∃ e ∈ t.tableau, e.1 = r ∧ ∃ p ∈ e.2.vars, p.1 = v) ↔
        ∃ l, t.rowOf r = some l ∧ (Lin.find l.vars v).isSome = true := fun hk v r =>
    ⟨fun ⟨e, he, hr, hp⟩ => ⟨e.2, hr ▸ tabFind_of_mem hk he, find_isSome_iff.2 hp⟩,
      fun ⟨l, hl, hv⟩ => ⟨(r, l), tabFind_some_mem hl, rfl, find_isSome_iff.1 hv⟩⟩
  constructor
  · intro h
    refine ⟨⟨⟨h.keys, (forall_rows_iff h.keys _).1 h.rows, ?_, ?_, h.wsorted⟩, fun v r => ?_⟩, h.wlen⟩
    · exact (forall_rows_iff h.keys _).1 fun e he =>
        ⟨(h.bound e he).1, (forall_keys_iff (· < t.tWatches.length)).1 (h.bound e he).2⟩
    · exact fun r l v hl hv => (forall_keys_iff (t.rowOf · = none)).1
        (fun p hp => (isBasic_false_iff t _).1 (h.nonbasic (r, l) (tabFind_some_mem hl) p hp)) v hv
    · rw [h.watch, hwatch h.keys]
  · rintro ⟨h, hlen⟩
    refine ⟨h.keys, (forall_rows_iff h.keys (fun _ l => l.WF)).2 h.rows, ?_, ?_, h.wsorted, fun v r => ?_, hlen⟩
    · exact (forall_rows_iff h.keys (fun r l => r < t.tWatches.length ∧ ∀ p ∈ l.vars, p.1 < t.tWatches.length)).2
        fun r l hl => ⟨(h.bound r l hl).1, (forall_keys_iff (· < t.tWatches.length)).2 (h.bound r l hl).2⟩
    · exact fun e he => (forall_keys_iff (t.isBasic · = false)).2 fun v hv =>
        (isBasic_false_iff t v).2 (h.nonbasic e.1 e.2 v (tabFind_of_mem h.keys he) hv)
    · rw [h.watch, hwatch h.keys]

/-- the rows with an entry for `v`, as a list: the right-hand side of `TabWF.watch`, computable on a concrete tableau -/
theorem watch_iff_keys (m : List (Nat × Lin)) (v r : Nat) :
    (∃ e ∈ m, e.1 = r ∧ ∃ p ∈ e.2.vars, p.1 = v) ↔
      r ∈ (m.filter (fun e => e.2.vars.any (fun p => p.1 == v))).map Prod.fst := by
  constructor
  · rintro ⟨e, he, rfl, p, hp, rfl⟩
    exact List.mem_map.2 ⟨e, List.mem_filter.2 ⟨he, List.any_eq_true.2 ⟨p, hp, beq_self_eq_true _⟩⟩, rfl⟩
  · intro h
    obtain ⟨e, he, rfl⟩ := List.mem_map.1 h
    obtain ⟨h1, h2⟩ := List.mem_filter.1 he
    obtain ⟨p, hp, hpv⟩ := List.any_eq_true.1 h2
    exact ⟨e, h1, rfl, p, hp, beq_iff_eq.1 hpv⟩

theorem Inv.extend {t u : Lra} (ht : Inv t) (htab : u.tableau = t.tableau)
    (hws : ∀ w ∈ u.tWatches, w.Pairwise (· < ·)) (hlen : t.tWatches.length ≤ u.tWatches.length)
    (hget : ∀ v, u.tWatches.getD v [] = t.tWatches.getD v []) : Inv u :=
  have hrow := rowOf_eq_of_tableau htab
  ⟨ht.toCore.congr hrow (htab ▸ ht.keys) hws hlen, fun v r => by rw [hget, ht.watch v r]; simp only [hrow]⟩

theorem inv_extend {t u : Lra} (ht : Inv t) (htab : u.tableau = t.tableau)
    (htw : u.tWatches = t.tWatches ++ [[]]) : Inv u := by
  refine ht.extend htab (fun w hw => ?_) (by rw [htw, List.length_append]; exact Nat.le_add_right _ _)
    (fun v => by rw [htw, ListAux.getD_append_default])
  rw [htw] at hw
  rcases List.mem_append.1 hw with hw | hw
  · exact ht.wsorted w hw
  · rw [List.mem_singleton.1 hw]
    exact List.Pairwise.nil

theorem tabWF_congr {t u : Lra} (h1 : u.tableau = t.tableau) (h2 : u.tWatches = t.tWatches)
    (h3 : u.vals.length = t.vals.length) (ht : TabWF t) : TabWF u := by
  obtain ⟨hi, hlen⟩ := (tabWF_iff t).1 ht
  exact (tabWF_iff u).2 ⟨hi.extend h1 (h2 ▸ hi.wsorted) (Nat.le_of_eq (congrArg _ h2.symm)) (fun v => by rw [h2]),
    by rw [h2, h3, hlen]⟩

end Lra

end Oratio
