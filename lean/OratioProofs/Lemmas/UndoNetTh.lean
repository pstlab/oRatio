/-
C08N, theory side: whatever a theory call does to the SAT core, it does by calling
`record` (the lemmas of unate / bound propagation in LRA, of the scan of the updated pairs in IDL /
RDL).  No hypothesis on the states.
-/
import OratioProofs.Lemmas.UndoNetSat
import OratioProofs.Lemmas.UndoDl
import OratioProofs.Lemmas.DlPathWalk
import OratioModel
import OratioProofs.Lemmas.LraExplOut

namespace Oratio
open Sat

namespace Lra

theorem _root_.Oratio.Sat.RecBy.recTo {Q : Sat → Clause → Prop} {s s' : Sat} (h : RecBy Q s s') : RecTo s s' := by
  induction h with
  | refl => exact .refl _
  | step _ _ ih => exact .step _ ih

theorem assertS_rec (d : Side) (s : Sat) (t : Lra) (xi : Nat) (val : IR) (p : Lit) : RecTo s (assertS d s t xi val p).sat :=
  (assertS_emits d s t xi val p).1.recTo

theorem assertLower_rec (s : Sat) (t : Lra) (xi : Nat) (val : IR) (p : Lit) : RecTo s (assertLower s t xi val p).sat :=
  assertLower_eq s t xi val p ▸ assertS_rec .lo s t xi val p

theorem assertUpper_rec (s : Sat) (t : Lra) (xi : Nat) (val : IR) (p : Lit) : RecTo s (assertUpper s t xi val p).sat :=
  assertUpper_eq s t xi val p ▸ assertS_rec .hi s t xi val p

theorem propagateLit_rec (s : Sat) (t : Lra) (p : Lit) : RecTo s (propagateLit s t p).sat := by
  rcases propagateLit_cases s t p with e | ⟨a, d, _, ⟨_, _, e⟩ | ⟨_, _, e⟩⟩ <;> rw [e]
  · exact RecTo.refl s
  · exact assertS_rec d s t _ _ p
  · exact assertS_rec d s t _ _ p

end Lra

namespace Dl
variable {α : Type} (O : DOps α)

theorem scanUpdates_rec (t : Dl α) (ups : List (Nat × Nat)) (s : Sat) : RecTo s (scanUpdates O s t ups) :=
  (DlG.scan_emits O s t ups).recTo

theorem propagateEdge_rec (s : Sat) (t : Dl α) (src dst : Nat) (dist : α) :
    RecTo s (propagateEdge O s t src dst dist).1 := by
  unfold propagateEdge
  exact scanUpdates_rec O _ _ _

theorem propagateLit_rec (s : Sat) (t : Dl α) (pl : Lit) {s' : Sat} {t' : Dl α}
    (he : propagateLit O s t pl = .inr (s', t')) : RecTo s s' := by
  rcases DlG.propagateLit_run O he with e | ⟨c, b, f, g, w, -, -, e⟩
  · rw [(Prod.mk.inj e).1]; exact RecTo.refl s
  · rw [show s' = _ from (congrArg Prod.fst e).symm]
    exact propagateEdge_rec O _ _ _ _ _

end Dl

end Oratio
