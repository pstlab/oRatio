/-
Rows over the values `q + e·ε` (`Lex (ℚ × ℚ)`) for the algebra of the general simplex of `lra_theory`
(Properties/C09Algebra.lean): their value, the bounds they imply, solving a row for a variable, substitution.
-/
import Mathlib.Data.Finsupp.Basic
import Mathlib.Algebra.Order.Field.Rat
import Mathlib.Data.Prod.Lex
import Mathlib.Algebra.Order.Monoid.Prod
import Mathlib.Algebra.Order.Group.Synonym
import Mathlib.Algebra.Order.Module.Synonym
import Mathlib.Algebra.Order.Module.Defs
import Mathlib.Algebra.Module.Prod
import Mathlib.Algebra.BigOperators.Finsupp.Basic
import Mathlib.Algebra.Order.BigOperators.Group.Finset
import Mathlib.Data.Finsupp.SMul
import Mathlib.Tactic.Module
import Mathlib.Tactic.Abel
import Mathlib.Tactic.Linarith

namespace Oratio.C09A

noncomputable section

/-- Variables are natural numbers (the implementation uses `size_t`). -/
abbrev Var := Nat

/-- Values `q + e·ε`: pairs of rationals ordered lexicographically, componentwise addition, componentwise
multiplication by a rational (`inf_rational`). -/
abbrev Val := Lex (ℚ × ℚ)

def Val.ofRat (q : ℚ) : Val := toLex (q, 0)

theorem Val.smul_ofRat (c q : ℚ) : c • Val.ofRat q = Val.ofRat (c * q) := by
  show toLex (c • ((q, 0) : ℚ × ℚ)) = toLex (c * q, 0)
  simp

theorem Val.ofRat_add (p q : ℚ) : Val.ofRat (p + q) = Val.ofRat p + Val.ofRat q := by
  show toLex (p + q, (0 : ℚ)) = toLex ((p, 0) + (q, 0))
  simp

theorem Val.mk_add_mk (a b c d : ℚ) : (toLex (a, b) : Val) + toLex (c, d) = toLex (a + c, b + d) := rfl

theorem Val.mk_sub_mk (a b c d : ℚ) : (toLex (a, b) : Val) - toLex (c, d) = toLex (a - c, b - d) := rfl

theorem Val.neg_mk (a b : ℚ) : -(toLex (a, b) : Val) = toLex (-a, -b) := rfl

theorem Val.smul_mk (c a b : ℚ) : c • (toLex (a, b) : Val) = toLex (c * a, c * b) := rfl

theorem Val.mk_lt_mk (a b c d : ℚ) : (toLex (a, b) : Val) < toLex (c, d) ↔ a < c ∨ a = c ∧ b < d :=
  Prod.Lex.toLex_lt_toLex

theorem Val.mk_le_mk (a b c d : ℚ) : (toLex (a, b) : Val) ≤ toLex (c, d) ↔ a < c ∨ a = c ∧ b ≤ d :=
  Prod.Lex.toLex_le_toLex

instance : PosSMulStrictMono ℚ Val where
  smul_lt_smul_of_pos_left c hc a b hab := by
    rw [Prod.Lex.lt_iff] at hab ⊢
    simp only [ofLex_smul, Prod.smul_fst, Prod.smul_snd, smul_eq_mul]
    rcases hab with h | ⟨h1, h2⟩
    · exact Or.inl (mul_lt_mul_of_pos_left h hc)
    · exact Or.inr ⟨by rw [h1], mul_lt_mul_of_pos_left h2 hc⟩

instance : PosSMulMono ℚ Val := PosSMulStrictMono.toPosSMulMono

theorem Val.smul_le_smul_of_nonpos {c : ℚ} (hc : c ≤ 0) {a b : Val} (hab : a ≤ b) : c • b ≤ c • a := by
  have h := smul_le_smul_of_nonneg_left hab (neg_nonneg.mpr hc)
  rw [neg_smul, neg_smul] at h
  exact neg_le_neg_iff.mp h

/-- `Σ c_v · ν(v)` over the support of `c`. -/
def lin (c : Var →₀ ℚ) (ν : Var → Val) : Val := c.sum fun v a => a • ν v

theorem lin_zero (ν : Var → Val) : lin 0 ν = 0 := by simp [lin]

theorem lin_add (c d : Var →₀ ℚ) (ν : Var → Val) : lin (c + d) ν = lin c ν + lin d ν := by
  unfold lin
  exact Finsupp.sum_add_index' (fun _ => zero_smul _ _) (fun _ _ _ => add_smul _ _ _)

theorem lin_single (x : Var) (a : ℚ) (ν : Var → Val) : lin (Finsupp.single x a) ν = a • ν x := by
  unfold lin
  exact Finsupp.sum_single_index (zero_smul _ _)

theorem lin_smul (b : ℚ) (c : Var →₀ ℚ) (ν : Var → Val) : lin (b • c) ν = b • lin c ν := by
  unfold lin
  rw [Finsupp.sum_smul_index' (h := fun v a => a • ν v) (fun _ => zero_smul _ _)]
  unfold Finsupp.sum
  rw [Finset.smul_sum]
  simp [smul_smul]

theorem lin_erase (x : Var) (c : Var →₀ ℚ) (ν : Var → Val) : lin (c.erase x) ν = lin c ν - c x • ν x := by
  have h := congrArg (fun d => lin d ν) (Finsupp.single_add_erase x c)
  simp only [lin_add, lin_single] at h
  rw [← h]; abel

theorem lin_change (c : Var →₀ ℚ) (y : Var) (ν ν' : Var → Val)
    (h : ∀ w, c w ≠ 0 → w ≠ y → ν' w = ν w) : lin c ν' = lin c ν + c y • (ν' y - ν y) := by
  have h1 := lin_erase y c ν
  have h2 := lin_erase y c ν'
  have h3 : lin (c.erase y) ν' = lin (c.erase y) ν := by
    unfold lin Finsupp.sum
    refine Finset.sum_congr rfl fun w hw => ?_
    rw [Finsupp.mem_support_iff] at hw
    by_cases hwy : w = y
    · subst hwy; simp at hw
    · rw [Finsupp.erase_ne hwy] at hw ⊢
      show c w • ν' w = c w • ν w
      rw [h w hw hwy]
  rw [h3, h1] at h2
  rw [smul_sub]
  have : lin c ν' = (lin c ν - c y • ν y) + c y • ν' y := by rw [h2]; abel
  rw [this]; abel

theorem lin_mono (c : Var →₀ ℚ) (f g : Var → Val) (hpos : ∀ v, 0 < c v → f v ≤ g v)
    (hneg : ∀ v, c v < 0 → g v ≤ f v) : lin c f ≤ lin c g := by
  unfold lin Finsupp.sum
  refine Finset.sum_le_sum fun v hv => ?_
  rcases lt_or_gt_of_ne (Finsupp.mem_support_iff.mp hv) with h | h
  · exact Val.smul_le_smul_of_nonpos h.le (hneg v h)
  · exact smul_le_smul_of_nonneg_left (hpos v h) h.le

/-- A row `Σ c_v · v + k`: finitely many (variable, nonzero coefficient) pairs and a rational known term. -/
@[ext] structure Row where
  coeffs : Var →₀ ℚ
  k : ℚ

def Row.eval (r : Row) (ν : Var → Val) : Val := lin r.coeffs ν + Val.ofRat r.k

/-- `Σ_{c_v>0} c_v·p(v) + Σ_{c_v<0} c_v·n(v) + k`: positive coefficients read `p`, negative ones read `n`. -/
def Row.bound (r : Row) (p n : Var → Val) : Val :=
  (∑ v ∈ r.coeffs.support with 0 < r.coeffs v, r.coeffs v • p v)
    + (∑ v ∈ r.coeffs.support with r.coeffs v < 0, r.coeffs v • n v) + Val.ofRat r.k

theorem Row.bound_eq (r : Row) (p n : Var → Val) :
    r.bound p n = r.eval fun v => if 0 < r.coeffs v then p v else n v := by
  unfold Row.bound Row.eval lin Finsupp.sum
  rw [Finset.sum_filter, Finset.sum_filter, ← Finset.sum_add_distrib]
  congr 1
  refine Finset.sum_congr rfl fun v hv => ?_
  rcases lt_or_gt_of_ne (Finsupp.mem_support_iff.mp hv) with h | h
  · simp [h, not_lt.mpr h.le]
  · simp [h, not_lt.mpr h.le]

theorem Row.eval_le_bound (r : Row) (ν l u : Var → Val)
    (hu : ∀ v, 0 < r.coeffs v → ν v ≤ u v) (hl : ∀ v, r.coeffs v < 0 → l v ≤ ν v) :
    r.eval ν ≤ r.bound u l := by
  rw [Row.bound_eq]
  refine add_le_add_left (lin_mono _ _ _ (fun v h => ?_) (fun v h => ?_)) _
  · rw [if_pos h]; exact hu v h
  · rw [if_neg (not_lt.mpr h.le)]; exact hl v h

theorem Row.bound_le_eval (r : Row) (ν l u : Var → Val)
    (hl : ∀ v, 0 < r.coeffs v → l v ≤ ν v) (hu : ∀ v, r.coeffs v < 0 → ν v ≤ u v) :
    r.bound l u ≤ r.eval ν := by
  rw [Row.bound_eq]
  refine add_le_add_left (lin_mono _ _ _ (fun v h => ?_) (fun v h => ?_)) _
  · rw [if_pos h]; exact hl v h
  · rw [if_neg (not_lt.mpr h.le)]; exact hu v h

/-- The finite value of a lower bound (0 when it is −∞). -/
def lbv (lb : Var → WithBot Val) (v : Var) : Val := (lb v).unbotD 0

/-- The finite value of an upper bound (0 when it is +∞). -/
def ubv (ub : Var → WithTop Val) (v : Var) : Val := (ub v).untopD 0

theorem coe_le_ub {ub : Var → WithTop Val} {v : Var} (h : ub v ≠ ⊤) (x : Val) :
    ((x : Val) : WithTop Val) ≤ ub v ↔ x ≤ ubv ub v := by
  obtain ⟨u, hu⟩ := WithTop.ne_top_iff_exists.mp h
  simp [ubv, ← hu]

theorem ub_le_coe {ub : Var → WithTop Val} {v : Var} (h : ub v ≠ ⊤) (x : Val) :
    ub v ≤ ((x : Val) : WithTop Val) ↔ ubv ub v ≤ x := by
  obtain ⟨u, hu⟩ := WithTop.ne_top_iff_exists.mp h
  simp [ubv, ← hu]

theorem lb_le_coe {lb : Var → WithBot Val} {v : Var} (h : lb v ≠ ⊥) (x : Val) :
    lb v ≤ ((x : Val) : WithBot Val) ↔ lbv lb v ≤ x := by
  obtain ⟨l, hl⟩ := WithBot.ne_bot_iff_exists.mp h
  simp [lbv, ← hl]

theorem coe_le_lb {lb : Var → WithBot Val} {v : Var} (h : lb v ≠ ⊥) (x : Val) :
    ((x : Val) : WithBot Val) ≤ lb v ↔ x ≤ lbv lb v := by
  obtain ⟨l, hl⟩ := WithBot.ne_bot_iff_exists.mp h
  simp [lbv, ← hl]

theorem Row.eval_le_bound_of_bounds (r : Row) (ν : Var → Val) (lb : Var → WithBot Val) (ub : Var → WithTop Val)
    (hub : ∀ v, 0 < r.coeffs v → ub v ≠ ⊤) (hlb : ∀ v, r.coeffs v < 0 → lb v ≠ ⊥)
    (h1 : ∀ v, 0 < r.coeffs v → ((ν v : Val) : WithTop Val) ≤ ub v)
    (h2 : ∀ v, r.coeffs v < 0 → lb v ≤ ((ν v : Val) : WithBot Val)) : r.eval ν ≤ r.bound (ubv ub) (lbv lb) :=
  Row.eval_le_bound r ν _ _ (fun v hv => (coe_le_ub (hub v hv) _).1 (h1 v hv))
    (fun v hv => (lb_le_coe (hlb v hv) _).1 (h2 v hv))

theorem Row.bound_le_eval_of_bounds (r : Row) (ν : Var → Val) (lb : Var → WithBot Val) (ub : Var → WithTop Val)
    (hlb : ∀ v, 0 < r.coeffs v → lb v ≠ ⊥) (hub : ∀ v, r.coeffs v < 0 → ub v ≠ ⊤)
    (h1 : ∀ v, 0 < r.coeffs v → lb v ≤ ((ν v : Val) : WithBot Val))
    (h2 : ∀ v, r.coeffs v < 0 → ((ν v : Val) : WithTop Val) ≤ ub v) : r.bound (lbv lb) (ubv ub) ≤ r.eval ν :=
  Row.bound_le_eval r ν _ _ (fun v hv => (lb_le_coe (hlb v hv) _).1 (h1 v hv))
    (fun v hv => (coe_le_ub (hub v hv) _).1 (h2 v hv))

/-- The row of `xi` is `r`; `xj` occurs in it with coefficient `a = r.coeffs xj`.  The new row of `xj`:
`(r − a·xj)/(−a) + (1/a)·xi`. -/
def Row.solveFor (r : Row) (xi xj : Var) : Row where
  coeffs := (-(r.coeffs xj))⁻¹ • r.coeffs.erase xj + Finsupp.single xi (r.coeffs xj)⁻¹
  k := (-(r.coeffs xj))⁻¹ * r.k

/-- Replace `xj` (coefficient `cc = r.coeffs xj`) by the expression `e`: the term of `xj` is removed, the
coefficients of `cc·e` are added (a `Finsupp` drops the terms that become zero), the known term grows by
`cc·e.k`. -/
def Row.subst (r : Row) (xj : Var) (e : Row) : Row where
  coeffs := r.coeffs.erase xj + r.coeffs xj • e.coeffs
  k := r.k + r.coeffs xj * e.k

theorem erase_eq_zero {c : Var →₀ ℚ} {x y : Var} (h : y = x ∨ c y = 0) : c.erase x y = 0 := by
  rw [Finsupp.erase_apply]
  split
  · rfl
  · exact h.resolve_left ‹_›

theorem Row.solveFor_coeff_ne_zero {r : Row} {xi xj y : Var} (h : (r.solveFor xi xj).coeffs y ≠ 0) :
    y = xi ∨ (y ≠ xj ∧ r.coeffs y ≠ 0) := by
  by_contra hc
  rw [not_or, not_and_or, not_not, not_not] at hc
  apply h
  show ((-(r.coeffs xj))⁻¹ • r.coeffs.erase xj + Finsupp.single xi (r.coeffs xj)⁻¹) y = 0
  rw [Finsupp.add_apply, Finsupp.smul_apply, Finsupp.single_eq_of_ne hc.1, erase_eq_zero hc.2, smul_zero, add_zero]

theorem Row.subst_coeff_ne_zero {r e : Row} {xj y : Var} (h : (r.subst xj e).coeffs y ≠ 0) :
    (y ≠ xj ∧ r.coeffs y ≠ 0) ∨ e.coeffs y ≠ 0 := by
  by_contra hc
  rw [not_or, not_not, not_and_or, not_not, not_not] at hc
  apply h
  show (r.coeffs.erase xj + r.coeffs xj • e.coeffs) y = 0
  rw [Finsupp.add_apply, Finsupp.smul_apply, hc.2, erase_eq_zero hc.1, smul_zero, add_zero]

theorem pair_coeff_ne_zero {a b v : Var} {p q : ℚ} (h : (Finsupp.single a p + Finsupp.single b q) v ≠ 0) :
    v = a ∨ v = b := by
  by_contra hc
  rw [not_or] at hc
  exact h (by rw [Finsupp.add_apply, Finsupp.single_eq_of_ne hc.1, Finsupp.single_eq_of_ne hc.2, add_zero])

theorem pair_coeff_left {a b : Var} (hab : a ≠ b) (p q : ℚ) : (Finsupp.single a p + Finsupp.single b q) a = p := by
  rw [Finsupp.add_apply, Finsupp.single_eq_same, Finsupp.single_eq_of_ne hab, add_zero]

theorem pair_coeff_right {a b : Var} (hab : a ≠ b) (p q : ℚ) : (Finsupp.single a p + Finsupp.single b q) b = q := by
  rw [Finsupp.add_apply, Finsupp.single_eq_same, Finsupp.single_eq_of_ne hab.symm, zero_add]

theorem Row.subst_of_not_mem (r : Row) (xj : Var) (e : Row) (h : r.coeffs xj = 0) : r.subst xj e = r := by
  ext1
  · simp only [Row.subst, h, zero_smul, add_zero]
    exact Finsupp.erase_of_notMem_support (by simp [h])
  · simp [Row.subst, h]

theorem Row.eval_solveFor (r : Row) (xi xj : Var) (ha : r.coeffs xj ≠ 0) (ν : Var → Val) :
    (r.solveFor xi xj).eval ν = ν xj + (r.coeffs xj)⁻¹ • (ν xi - r.eval ν) := by
  simp only [Row.eval, Row.solveFor]
  simp only [lin_add, lin_smul, lin_single, lin_erase, ← Val.smul_ofRat]
  generalize r.coeffs xj = a at ha
  generalize lin r.coeffs ν = L
  generalize Val.ofRat r.k = K
  have hb : a⁻¹ * a = 1 := inv_mul_cancel₀ ha
  rw [inv_neg]
  generalize a⁻¹ = b at hb
  generalize ν xj = X
  have hX : X = (b * a) • X := by rw [hb, one_smul]
  conv_rhs => rw [hX]
  module

theorem Row.eval_subst (r : Row) (xj : Var) (e : Row) (ν : Var → Val) :
    (r.subst xj e).eval ν = r.eval ν + r.coeffs xj • (e.eval ν - ν xj) := by
  simp only [Row.eval, Row.subst]
  simp only [lin_add, lin_smul, lin_erase, Val.ofRat_add, ← Val.smul_ofRat]
  module

theorem Row.solveFor_iff (r : Row) (xi xj : Var) (ha : r.coeffs xj ≠ 0) (ν : Var → Val) :
    ν xj = (r.solveFor xi xj).eval ν ↔ ν xi = r.eval ν := by
  rw [Row.eval_solveFor r xi xj ha, left_eq_add, smul_eq_zero, sub_eq_zero]
  simp [ha]

end

end Oratio.C09A
