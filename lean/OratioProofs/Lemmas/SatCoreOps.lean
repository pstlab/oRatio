/-
C07: `assume`, `next`, `check` and the invariants.
-/
import OratioProofs.Lemmas.SatCoreSearch


namespace Oratio
namespace Sat

theorem assume_spec {orig : Cnf} {m : Nat} {s : Sat} (h : InvC orig m (fun _ x => x ∈ s.queue) s)
    (hq : s.queue = []) (hd : s.dead = false) (p : Lit) (hp : p.var < s.vals.length)
    (hm : s.value p = none ∨ m ≤ s.decisions.length) (fuel : Nat) (b : Bool) (s' : Sat)
    (he : s.assume p fuel = some (b, s')) :
    InvC orig m (fun _ x => x ∈ s'.queue) s' ∧ s'.queue = [] ∧ (s.value p = none → s'.dead = (!b)) ∧
      s'.decisions <:+ p :: s.decisions ∧
      (b = false ∨ s'.decisions.length < s.decisions.length + 1 → Uns (orig ++ units (p :: s.decisions))) ∧
      s.log <+: s'.log ∧ s'.vals.length = s.vals.length ∧ s'.exprs = s.exprs ∧
      (b = false → s'.dead = true ∨ s'.decisions = p :: s.decisions) ∧ (b = true → s'.dead = false) := by
  -- `hm`: a decision that is assigned already does not enter the trail at its level, so `DecOK m` is kept only if `m` counts levels
  -- below it (`InvC.pushLevel` gives `min m |decisions|`); an unassigned one becomes the first literal of its level (`DecOK.assume`).
  have hpush := h.pushLevel hq p
  have hpq : (s.pushLevel p).queue = [] := hq
  have hpd : (s.pushLevel p).dead = false := hd
  unfold Sat.assume at he
  change (match (s.pushLevel p).enqueue p none with
    | (false, s) => some (false, s)
    | (true, s) => s.propagate fuel) = some (b, s') at he
  cases hv : s.value p with
  | some bv =>
    have hm' : m ≤ s.decisions.length := by
      rcases hm with hm | hm
      · rw [hv] at hm; cases hm
      · exact hm
    rw [Nat.min_eq_left hm'] at hpush
    have hv' : (s.pushLevel p).value p = some bv := hv
    rw [enqueue_some _ hv'] at he
    cases bv with
    | false =>
      simp only [Option.some.injEq, Prod.mk.injEq] at he
      obtain ⟨rfl, rfl⟩ := he
      exact ⟨hpush, hpq, (fun e => by cases e), List.suffix_refl _, fun _ => uns_of_false h.wf.a h.ent hv,
        List.prefix_refl _, rfl, rfl, fun _ => Or.inr rfl, (fun e => by cases e)⟩
    | true =>
      simp only at he
      obtain ⟨r1, r2, r3, r4, r5⟩ := propagate_spec fuel _ hpush hpd b s' he
      refine ⟨r1, r2, (fun e => by cases e), r5.decs, ?_, r5.log, r5.lenVals, r5.exprs, fun hb => ?_, fun hb => ?_⟩
      · intro hh
        apply r5.uns
        rcases hh with hh | hh
        · subst hh; right; simpa using r3
        · left; simpa [Sat.pushLevel] using hh
      · subst hb; left; simpa using r3
      · subst hb; simpa using r3
  | none =>
    have hv' : (s.pushLevel p).value p = none := hv
    rw [enqueue_none _ hv'] at he
    simp only at he
    have hinv : InvC orig m (fun _ x => x ∈ ((s.pushLevel p).enq p none).queue) ((s.pushLevel p).enq p none) := by
      have hlt' : p.var < (s.pushLevel p).vals.length := hp
      refine ⟨hpush.wf.enq hv' hlt' (fun _ => Or.inr ?_) (fun id e => by cases e), ?_,
        DecOK.assume h.wf.a h.dec hv hp, fun hd' => ?_⟩
      · intro x hx
        have := h.wf.a.lvl_le hx
        show s.lvl x < (s.trail.length :: s.trailLim).length
        simp only [List.length_cons]
        exact Nat.lt_succ_of_le this
      · exact hpush.ent.enq hpush.wf.a hv' hlt' (Ents.of_mem (by
          apply List.mem_append_right
          simp [units, Sat.pushLevel]))
      · exact (hpush.w2 hd').enq hv' hlt' (fun _ x hx => List.mem_append_left _ hx)
          (fun _ => List.mem_append_right _ (List.mem_singleton.2 rfl))
    obtain ⟨r1, r2, r3, r4, r5⟩ := propagate_spec fuel _ hinv hpd b s' he
    refine ⟨r1, r2, fun _ => r3, r5.decs, ?_, r5.log, ?_, r5.exprs, fun hb => ?_, fun hb => ?_⟩
    · intro hh
      apply r5.uns
      rcases hh with hh | hh
      · subst hh; right; simpa using r3
      · left; simpa [Sat.pushLevel, enq] using hh
    · rw [r5.lenVals]; simp [enq, Sat.pushLevel]
    · subst hb; left; simpa using r3
    · subst hb; simpa using r3

theorem decisions_nodup {s : Sat} (ha : s.WfA) (h : ∀ m, s.DecOK m) : (s.decisions.map Lit.var).Nodup := by
  have key : ∀ l : List Lit, l <:+ s.decisions → (l.map Lit.var).Nodup := by
    intro l
    induction l with
    | nil => intro _; simp
    | cons d b ih =>
      intro hs
      have hb : b <:+ s.decisions := (List.suffix_cons d b).trans hs
      simp only [List.map_cons, List.nodup_cons]
      refine ⟨?_, ih hb⟩
      intro hm
      obtain ⟨e, he, hev⟩ := List.mem_map.1 hm
      obtain ⟨a, ha'⟩ := hs
      obtain ⟨h1, h2⟩ := h (b.length + 1) a d b ha'.symm (by omega)
      obtain ⟨b1, b2, hb12⟩ := List.append_of_mem he
      obtain ⟨h3, h4⟩ := h (b2.length + 1) (a ++ d :: b1) e b2 (by rw [← ha', hb12]; simp) (by omega)
      have : e = d := ha.trail_var_inj h3 h1 hev
      rw [this, h2] at h4
      rw [hb12] at h4; simp at h4; omega
  exact key _ (List.suffix_refl _)

theorem next_ready {s : Sat} (ha : s.WfA) (hdec : ∀ m, s.DecOK m) (hne : s.trailLim ≠ []) :
    ∃ d ds, s.decisions = d :: ds ∧ s.pop.value d.neg = none ∧ d.neg.var < s.pop.vals.length ∧
      (∀ x ∈ ds.map Lit.neg, x.neg ∈ s.pop.trail) ∧ (ds.map Lit.neg = [] → s.pop.decisionLevel = 0) ∧
      (ds.map Lit.neg ≠ [] → ∃ x ∈ ds.map Lit.neg, s.pop.lvl x = s.pop.decisionLevel) := by
  cases hD : s.decisions with
  | nil =>
    have := ha.decLen; rw [hD] at this
    exact absurd (List.eq_nil_of_length_eq_zero this.symm) hne
  | cons d ds =>
    have hL : s.decisionLevel = ds.length + 1 := by
      simp only [decisionLevel, ← ha.decLen, hD, List.length_cons]
    obtain ⟨lim, lims, hl⟩ : ∃ lim lims, s.trailLim = lim :: lims := by
      cases hl : s.trailLim with
      | nil => exact absurd hl hne
      | cons lim lims => exact ⟨lim, lims, rfl⟩
    obtain ⟨hm, hk, hg⟩ := ha.pop_mem hl
    have hdOK := hdec (ds.length + 1) [] d ds (by simpa using hD) (by omega)
    have hold : ∀ b1 e b2, ds = b1 ++ e :: b2 → e ∈ s.pop.trail ∧ s.pop.lvl e = b2.length + 1 := by
      intro b1 e b2 hb12
      have := hdec (b2.length + 1) (d :: b1) e b2 (by rw [hD, hb12]; simp) (by omega)
      have hep : e ∈ s.pop.trail := (hm e).2 ⟨this.1, by rw [this.2, hL, hb12]; simp; omega⟩
      exact ⟨hep, by rw [(hk e (Or.inl hep)).2]; exact this.2⟩
    refine ⟨d, ds, rfl, ?_, ?_, ?_, ?_, ?_⟩
    · have := hg d hdOK.1 (by rw [hdOK.2, hL])
      rw [value_eq_none] at this ⊢; exact this
    · rw [pop_lenVals s]; exact ha.trail_lt (l := d) hdOK.1
    · intro x hx
      obtain ⟨e, he', rfl⟩ := List.mem_map.1 hx
      obtain ⟨b1, b2, hb12⟩ := List.append_of_mem he'
      rw [Lit.neg_neg]
      exact (hold b1 e b2 hb12).1
    · intro e
      rw [pop_decisionLevel, hL, List.map_eq_nil_iff.1 e]; rfl
    · intro _
      cases hds : ds with
      | nil => simp [hds] at *
      | cons e es =>
        refine ⟨e.neg, by simp, ?_⟩
        rw [an_lvl_neg, (hold [] e es hds).2, pop_decisionLevel, hL, hds]; simp

theorem next_spec {orig : Cnf} {s : Sat} (h : ∀ m, InvC orig m (fun _ x => x ∈ s.queue) s) (hq : s.queue = [])
    (hd : s.dead = false) (hroot : s.rootLevel = false) (fuel : Nat) (b : Bool) (s' : Sat)
    (he : s.next fuel = some (b, s')) :
    (∀ m, InvC (orig ++ [s.decisions.map Lit.neg]) m (fun _ x => x ∈ s'.queue) s') ∧ s'.queue = [] ∧
      s'.dead = (!b) ∧ (∃ rest, s'.log = s.log ++ (s.decisions.map Lit.neg) :: rest) ∧
      s'.vals.length = s.vals.length ∧ s'.exprs = s.exprs := by
  unfold Sat.next at he
  rw [if_neg (by simp [hroot])] at he
  have hne : s.trailLim ≠ [] := by simpa [rootLevel] using hroot
  have ha := (h 0).wf.a
  have hnd := decisions_nodup ha (fun m => (h m).dec)
  obtain ⟨d, ds, hD, hv, hlt, hrest, h0, hmax⟩ := next_ready ha (fun m => (h m).dec) hne
  rw [hD] at he hnd ⊢
  simp only [List.map_cons] at he ⊢
  have hsub : ∀ c ∈ orig, c ∈ orig ++ [d.neg :: ds.map Lit.neg] := fun c hc => List.mem_append_left _ hc
  have hcore : ∀ m, InvC (orig ++ [d.neg :: ds.map Lit.neg]) m (fun _ x => x ∈ s'.queue) s' ∧ s'.queue = [] ∧
      s'.dead = (!b) ∧ (∃ rest, s'.log = s.log ++ (d.neg :: ds.map Lit.neg) :: rest) ∧
      s'.vals.length = s.vals.length ∧ s'.exprs = s.exprs := by
    intro m
    have hpop := ((h m).mono_orig hsub).pop hq (fun _ x hx => by rw [hq] at hx; cases hx) hne
    have hpq : s.pop.queue = [] := by rw [pop_queue s]; exact hq
    obtain ⟨r1, r2, r3, r4, r5, r6, r7, r8⟩ := record_spec (orig := orig ++ [d.neg :: ds.map Lit.neg]) (K := orig)
      hpop hpq d.neg (ds.map Lit.neg) hv hlt hrest h0 hmax
      (Ents.of_mem (List.mem_append_right _ (List.mem_singleton.2 rfl)))
      (by
        have e : (ds.map Lit.neg).map Lit.var = ds.map Lit.var := by
          rw [List.map_map]; exact List.map_congr_left (fun x _ => rfl)
        simp only [List.map_cons, e, Lit.neg_var]
        exact hnd)
    have hd3 : (s.pop.record (d.neg :: ds.map Lit.neg)).dead = false := by
      rw [r6, pop_dead s]; exact hd
    obtain ⟨q1, q2, q3, q4, q5⟩ := propagate_spec fuel _ r1 hd3 b s' he
    refine ⟨q1, q2, q3, ?_, ?_, ?_⟩
    · obtain ⟨rest, hr⟩ := q5.log
      refine ⟨rest, ?_⟩
      rw [← hr, r5, pop_log s, List.append_assoc]; rfl
    · rw [q5.lenVals, r7, pop_lenVals s]
    · rw [q5.exprs, r8, pop_exprs s]
  exact ⟨fun m => (hcore m).1, (hcore 0).2⟩

theorem InvC.popTo' {orig K : Cnf} {m : Nat} {s : Sat} (h : InvC orig m (fun _ x => x ∈ s.queue) s K)
    (hq : s.queue = []) (bt : Nat) :
    InvC orig m (fun _ x => x ∈ (s.popTo bt).queue) (s.popTo bt) K ∧ (s.popTo bt).queue = [] ∧
      (s.popTo bt).decisionLevel = min bt s.decisionLevel ∧ (s.popTo bt).decisions <:+ s.decisions ∧
      (s.popTo bt).log = s.log ∧ (s.popTo bt).vals.length = s.vals.length ∧ (s.popTo bt).exprs = s.exprs ∧
      (s.popTo bt).dead = s.dead := by
  obtain ⟨h1, h2, h3⟩ := popTo_keeps (Q := fun t => InvC orig m (fun _ _ => False) t K) (fun _ a => a.wf.a)
    (fun _ a c hne => a.pop c (fun _ _ hf => hf.elim) hne) (h.mono_pend fun _ x hx => by rw [hq] at hx; cases hx)
    (PopRel.refl s h.wf.a) hq bt
  exact ⟨h1.mono_pend (fun _ _ hf => hf.elim), by rw [h2.queue]; exact hq, h3, h2.decisions ▸ List.drop_suffix _ _, h2.log,
    h2.lenVals, h2.exprs, h2.dead⟩

structure CheckRes (orig : Cnf) (rl : Nat) (D : List Lit) (s0 s' : Sat) (b : Bool) : Prop where
  inv : InvC orig rl (fun _ x => x ∈ s'.queue) s'
  queue : s'.queue = []
  level : s'.decisionLevel ≤ rl
  uns : b = false → Uns (orig ++ units D)
  log : s0.log <+: s'.log
  lenVals : s'.vals.length = s0.vals.length
  exprs : s'.exprs = s0.exprs
  alive : b = true → s'.dead = false

theorem CheckRes.of_popTo {orig : Cnf} {rl : Nat} {D : List Lit} {s0 s1 : Sat} {b : Bool}
    (h : InvC orig rl (fun _ x => x ∈ s1.queue) s1) (hq : s1.queue = []) (hu : b = false → Uns (orig ++ units D))
    (hlog : s0.log <+: s1.log) (hlen : s1.vals.length = s0.vals.length) (hex : s1.exprs = s0.exprs)
    (hd : b = true → s1.dead = false) : CheckRes orig rl D s0 (s1.popTo rl) b := by
  obtain ⟨p1, p2, p3, _, p5, p6, p7, p8⟩ := h.popTo' hq rl
  exact ⟨p1, p2, by rw [p3]; omega, hu, by rw [p5]; exact hlog, by rw [p6]; exact hlen, by rw [p7]; exact hex,
    fun e => by rw [p8]; exact hd e⟩

theorem check_go_spec {orig : Cnf} {rl fuel : Nat} : ∀ (lits : List Lit) (s : Sat),
    InvC orig rl (fun _ x => x ∈ s.queue) s → s.queue = [] → s.dead = false → rl ≤ s.decisions.length →
    (∀ l ∈ lits, l.var < s.vals.length) → ∀ b s', check.go fuel rl s lits = some (b, s') →
    CheckRes orig rl (lits.reverse ++ s.decisions) s s' b
  | [], s, h, hq, hd, hrl, hr, b, s', he => by
    simp only [check.go, Option.some.injEq, Prod.mk.injEq] at he
    obtain ⟨rfl, rfl⟩ := he
    exact .of_popTo h hq (fun e => by cases e) (List.prefix_refl _) rfl rfl (fun _ => hd)
  | p :: ps, s, h, hq, hd, hrl, hr, b, s', he => by
    unfold check.go at he
    -- An exit with `false` refutes decisions among `p :: s.decisions`: `assume` or `propagate` said `false`, or the level did not grow
    -- (a backjump dropped a decision: `PropRel.uns`); `hDsub` carries this to all of `lits`.  Else they are exactly `p :: s.decisions`.
    have hDsub : ∀ (D' : List Lit), (∀ x ∈ D', x ∈ p :: s.decisions) →
        ∀ d ∈ orig ++ units D', d ∈ orig ++ units ((p :: ps).reverse ++ s.decisions) := by
      intro D' hD' d hd'
      rcases List.mem_append.1 hd' with hd' | hd'
      · exact List.mem_append_left _ hd'
      · apply List.mem_append_right
        simp only [units, List.mem_map] at hd' ⊢
        obtain ⟨l, hl, rfl⟩ := hd'
        refine ⟨l, ?_, rfl⟩
        rcases List.mem_cons.1 (hD' l hl) with rfl | hl'
        · simp
        · simp [hl']
    cases ha : s.assume p fuel with
    | none => rw [ha] at he; simp at he
    | some res =>
      obtain ⟨b1, s1⟩ := res
      rw [ha] at he
      obtain ⟨a1, a2, a3, a4, a5, a6, a7, a8, a9, a10⟩ :=
        assume_spec h hq hd p (hr p (List.mem_cons_self ..)) (Or.inr hrl) fuel b1 s1 ha
      cases b1 with
      | false =>
        simp only [Option.some.injEq, Prod.mk.injEq] at he
        obtain ⟨rfl, rfl⟩ := he
        exact .of_popTo a1 a2 (fun _ => Uns.mono (a5 (Or.inl rfl)) (hDsub _ (fun x hx => hx))) a6 a7 a8
          (fun e => by cases e)
      | true =>
        simp only at he
        have hd1 : s1.dead = false := a10 rfl
        cases hp : s1.propagate fuel with
        | none => rw [hp] at he; simp at he
        | some res2 =>
          obtain ⟨b2, s2⟩ := res2
          rw [hp] at he
          obtain ⟨q1, q2, q3, q4, q5⟩ := propagate_spec fuel s1 a1 hd1 b2 s2 hp
          have hlog : s.log <+: s2.log := a6.trans q5.log
          have hlen : s2.vals.length = s.vals.length := q5.lenVals.trans a7
          have hex : s2.exprs = s.exprs := q5.exprs.trans a8
          cases b2 with
          | false =>
            simp only [Option.some.injEq, Prod.mk.injEq] at he
            obtain ⟨rfl, rfl⟩ := he
            exact .of_popTo q1 q2 (fun _ => Uns.mono (q1.ent.dead (by simpa using q3))
              (fun d hd' => List.mem_append_left _ hd')) hlog hlen hex (fun e => by cases e)
          | true =>
            simp only at he
            have hL2 : s2.decisionLevel = s2.decisions.length := by rw [q1.wf.a.decLen]; rfl
            have hL : s.decisionLevel = s.decisions.length := by rw [h.wf.a.decLen]; rfl
            have hsuf : s2.decisions <:+ p :: s.decisions := q5.decs.trans a4
            by_cases hle : s2.decisionLevel ≤ s.decisionLevel
            · rw [if_pos hle] at he
              simp only [Option.some.injEq, Prod.mk.injEq] at he
              obtain ⟨rfl, rfl⟩ := he
              refine .of_popTo q1 q2 (fun _ => ?_) hlog hlen hex (fun e => by cases e)
              by_cases h1 : s1.decisions.length < s.decisions.length + 1
              · exact Uns.mono (a5 (Or.inr h1)) (hDsub _ (fun x hx => hx))
              · have h1' : s1.decisions = p :: s.decisions :=
                  a4.eq_of_length (by have := a4.length_le; simp at this ⊢; omega)
                have := q5.uns (Or.inl (by rw [h1']; simp; omega))
                rw [h1'] at this
                exact Uns.mono this (hDsub _ (fun x hx => hx))
            · rw [if_neg hle] at he
              have h2' : s2.decisions = p :: s.decisions :=
                hsuf.eq_of_length (by have := hsuf.length_le; simp at this ⊢; omega)
              have := check_go_spec ps s2 q1 q2 (by simpa using q3) (by rw [h2']; simp; omega)
                (fun l hl => by rw [hlen]; exact hr l (List.mem_cons_of_mem _ hl)) b s' he
              rw [h2'] at this
              refine ⟨this.inv, this.queue, this.level, ?_, hlog.trans this.log, this.lenVals.trans hlen,
                this.exprs.trans hex, this.alive⟩
              have e : ps.reverse ++ p :: s.decisions = (p :: ps).reverse ++ s.decisions := by simp
              rw [← e]; exact this.uns

theorem check_spec {orig : Cnf} {s : Sat} (h : ∀ m, InvC orig m (fun _ x => x ∈ s.queue) s) (hq : s.queue = [])
    (hd : s.dead = false) (lits : List Lit) (hr : ∀ l ∈ lits, l.var < s.vals.length) (fuel : Nat) (b : Bool)
    (s' : Sat) (he : s.check lits fuel = some (b, s')) :
    (∀ m, InvC orig m (fun _ x => x ∈ s'.queue) s') ∧ s'.queue = [] ∧
      (b = false → Uns (orig ++ units s.decisions ++ units lits)) ∧ s.log <+: s'.log ∧
      s'.vals.length = s.vals.length ∧ s'.exprs = s.exprs ∧ (b = true → s'.dead = false) := by
  have hL : s.decisionLevel = s.decisions.length := by rw [(h 0).wf.a.decLen]; rfl
  have := check_go_spec (orig := orig) (rl := s.decisionLevel) (fuel := fuel) lits s (h _) hq hd (by omega) hr b s' he
  have hL' : s'.decisionLevel = s'.decisions.length := by rw [this.inv.wf.a.decLen]; rfl
  refine ⟨fun m => ⟨this.inv.wf, this.inv.ent, this.inv.dec.of_len (by have := this.level; omega) m, this.inv.w2⟩,
    this.queue, fun hb => ?_, this.log, this.lenVals, this.exprs, this.alive⟩
  apply Uns.mono (this.uns hb)
  intro d hd'
  rcases List.mem_append.1 hd' with hd' | hd'
  · exact List.mem_append_left _ (List.mem_append_left _ hd')
  · simp only [units, List.map_append, List.mem_append, List.mem_map, List.mem_reverse] at hd' ⊢
    rcases hd' with hd' | hd'
    · exact Or.inr hd'
    · exact Or.inl (Or.inr hd')

end Sat
end Oratio
