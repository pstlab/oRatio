/-
`Lra.TabWF` is kept by `init`, `new_var()`, `new_var(lin)` and `pivot`, and these keep the solutions of the rows
(`pivot_holds`, `newVarLin_sound`); the concrete state of the non-vacuity examples of Properties/C09Bridge.lean.
-/
import OratioModel
import OratioProofs.Lemmas.LraNewVarLin
import OratioProofs.Lemmas.LraPivot
import OratioProofs.Lemmas.LraSubst

namespace Oratio
namespace Lra
open Lin

theorem tabWF_pivot {t : Lra} (ht : TabWF t) {xi xj : Nat} {l : Lin} (hl : t.rowOf xi = some l)
    (hxj : (l.coeff xj).num ≠ 0) : TabWF (t.pivot xi xj) := by
  obtain ⟨hi, hlen⟩ := (tabWF_iff t).1 ht
  obtain ⟨cf, hcf, hn⟩ := coeff_num_ne_zero hxj
  obtain ⟨p1, p2, p3, -⟩ := pivot_spec hi hl hcf hn
  exact (tabWF_iff _).2 ⟨p1, by rw [p3, p2, hlen]⟩

theorem pivot_holds {t : Lra} (ht : TabWF t) {xi xj : Nat} {l : Lin} (hl : t.rowOf xi = some l)
    (hxj : (l.coeff xj).num ≠ 0) (σ : Nat → Rat) :
    (∀ e ∈ t.tableau, σ e.1 = Lin.evalS e.2 σ) ↔ (∀ e ∈ (t.pivot xi xj).tableau, σ e.1 = Lin.evalS e.2 σ) := by
  obtain ⟨hi, -⟩ := (tabWF_iff t).1 ht
  obtain ⟨cf, hcf, hn⟩ := coeff_num_ne_zero hxj
  rw [holdsR_iff hi.keys, holdsR_iff (pivot_spec hi hl hcf hn).1.keys]
  exact pivot_holdsR hi hl hcf hn σ

theorem pivot_isBasic {t : Lra} (ht : TabWF t) {xi xj : Nat} {l : Lin} (hl : t.rowOf xi = some l)
    (hxj : (l.coeff xj).num ≠ 0) (r : Nat) :
    (t.pivot xi xj).isBasic r = if r = xj then true else if r = xi then false else t.isBasic r := by
  obtain ⟨cf, hcf, hn⟩ := coeff_num_ne_zero hxj
  have h := (pivot_spec ((tabWF_iff t).1 ht).1 hl hcf hn).2.2.2 r
  unfold isBasic
  by_cases h1 : r = xj
  · rw [h, if_pos h1, if_pos h1]; rfl
  · by_cases h2 : r = xi
    · rw [h, if_neg h1, if_pos h2, if_neg h1, if_pos h2]; rfl
    · rw [h, if_neg h1, if_neg h2, if_neg h1, if_neg h2, Option.isSome_map]

theorem tabWF_init : TabWF Lra.init := by
  refine ⟨List.Pairwise.nil, ?_, ?_, ?_, ?_, ?_, rfl⟩
  · intro e he; cases he
  · intro e he; cases he
  · intro e he; cases he
  · intro w hw; cases hw
  · intro v r
    rw [watch_iff_keys]
    exact Iff.rfl

theorem tabWF_newVar {t : Lra} (ht : TabWF t) : TabWF t.newVar.2 := by
  obtain ⟨hi, hlen⟩ := (tabWF_iff t).1 ht
  refine (tabWF_iff _).2 ⟨inv_extend hi rfl rfl, ?_⟩
  show (t.tWatches ++ [[]]).length = (t.vals ++ [IR.ofR R.zero]).length
  rw [List.length_append, List.length_append, hlen]
  rfl

theorem sub_vars_lt {left right : Lin} (hl : left.WF) (hr : right.WF) {n : Nat}
    (hlv : ∀ p ∈ left.vars, p.1 < n) (hrv : ∀ p ∈ right.vars, p.1 < n) : ∀ p ∈ (Lin.sub left right).vars, p.1 < n := by
  refine (forall_keys_iff (· < n)).2 fun v hv => ?_
  obtain ⟨hs, hw, -⟩ := (wf_iff left).1 hl
  obtain ⟨-, hw', -⟩ := (wf_iff right).1 hr
  have hv' : (Lin.find ((mapC R.neg right.vars).foldl addTerm left.vars) v).isSome = true := by
    rw [← foldl_subTerm]; exact hv
  rcases foldl_addTerm_keys _ _ hs hw (coefWF_mapC (fun c hc => R.finWF_neg hc) hw') v hv' with h | h
  · exact (forall_keys_iff (· < n)).1 hlv v h
  · rw [find_mapC_isSome] at h
    exact (forall_keys_iff (· < n)).1 hrv v h

theorem substBasic_vars_lt {t : Lra} (ht : TabWF t) {l : Lin} (hl : l.WF)
    (hlv : ∀ p ∈ l.vars, p.1 < t.vals.length) : ∀ p ∈ (substBasic t l).vars, p.1 < t.vals.length := by
  obtain ⟨hi, hlen⟩ := (tabWF_iff t).1 ht
  obtain ⟨-, -, s3, -⟩ := substBasic_spec (t := t) hi.rows hl
  refine (forall_keys_iff (· < t.vals.length)).2 fun v hv => ?_
  rcases s3 v hv with h | ⟨r, rl, hrl, h⟩
  · exact (forall_keys_iff (· < t.vals.length)).1 hlv v h
  · exact hlen ▸ (hi.bound r rl hrl).2 _ h

theorem newVarLin_create {t u : Lra} (hi : Inv t) (hlen : t.tWatches.length = t.vals.length)
    {l : Lin} (hl : l.WF) (hlv : ∀ p ∈ l.vars, p.1 < t.vals.length)
    (htab : u.tableau = t.tableau) (htw : u.tWatches = t.tWatches ++ [[]]) :
    Inv (u.newRow t.vals.length (substBasic t l)) ∧
    (u.newRow t.vals.length (substBasic t l)).vals = u.vals ∧
    (u.newRow t.vals.length (substBasic t l)).tWatches.length = t.tWatches.length + 1 ∧
    (∀ r, (u.newRow t.vals.length (substBasic t l)).rowOf r =
      if r = t.vals.length then some (substBasic t l) else t.rowOf r) ∧
    (∀ v, (Lin.find (substBasic t l).vars v).isSome = true → v < t.vals.length) ∧
    t.rowOf t.vals.length = none := by
  have hu : Inv u := inv_extend hi htab htw
  have hrow := rowOf_eq_of_tableau htab
  obtain ⟨s1, -, -, s4⟩ := substBasic_spec (t := t) hi.rows hl
  have hrowsb : ∀ r l' v, t.rowOf r = some l' → (Lin.find l'.vars v).isSome = true → v < t.vals.length :=
    fun r l' v hr hv => hlen ▸ (hi.bound r l' hr).2 v hv
  have hsb : ∀ v, (Lin.find (substBasic t l).vars v).isSome = true → v < t.vals.length :=
    (forall_keys_iff (· < t.vals.length)).1 (substBasic_vars_lt ((tabWF_iff t).2 ⟨hi, hlen⟩) hl hlv)
  have hnokey : t.rowOf t.vals.length = none := by
    cases h : t.rowOf t.vals.length with
    | none => rfl
    | some l' => exact absurd (hlen ▸ (hi.bound _ l' h).1) (Nat.lt_irrefl _)
  have hulen : u.tWatches.length = t.tWatches.length + 1 := by rw [htw, List.length_append]; rfl
  have hp : PInv t.vals.length u := by
    refine ⟨hu.toCore, fun v _ => hu.watch v, List.eq_nil_iff_forall_not_mem.2 fun r hr => ?_⟩
    rw [htw, ListAux.getD_append_default] at hr
    obtain ⟨l', hl', hk⟩ := (hi.watch _ r).1 hr
    exact absurd (hrowsb r l' _ hl' hk) (Nat.lt_irrefl _)
  have hex : ExOk t.vals.length (substBasic t l) u :=
    ⟨s1, fun v hv => ⟨by rw [hulen, hlen]; exact Nat.lt_succ_of_lt (hsb v hv), (hrow v).trans (s4 hi.nonbasic v hv)⟩,
      find_none_of_keys_lt hsb⟩
  obtain ⟨n1, n2, n3, n4⟩ := newRow_spec hp hex ((hrow _).trans hnokey)
    (by rw [hulen, hlen]; exact Nat.lt_succ_self _) (fun r l' hr => find_none_of_keys_lt (hrowsb r l' · (hrow r ▸ hr)))
  exact ⟨n1, n2, n3.trans hulen, fun r => by rw [n4, hrow], hsb, hnokey⟩

theorem tabWF_newVarLin {s : Sat} {t : Lra} (ht : TabWF t) {l : Lin} (hl : l.WF)
    (hlv : ∀ p ∈ l.vars, p.1 < t.vals.length) {slack : Nat} {t1 : Lra}
    (h : newVarLin s t l = some (slack, t1)) : TabWF t1 := by
  rcases (newVarLin_nf h).2.found_or_created with ⟨-, ex, rfl, -⟩ | ⟨-, rfl⟩
  · exact tabWF_congr (t := t) rfl rfl rfl ht
  · obtain ⟨hi, hlen⟩ := (tabWF_iff t).1 ht
    obtain ⟨u, hu, u1, u2, -, x1, hv⟩ := withSlack_eq_newRow t (substBasic t l) (slackExprs t l)
    obtain ⟨c1, c2, c3, -⟩ := newVarLin_create hi hlen hl hlv u1 u2
    rw [hu]
    exact (tabWF_iff _).2 ⟨c1, by rw [c3, c2, hv, List.length_set, List.length_append, hlen]; rfl⟩

theorem rows_extend {t u : Lra} (ht : TabWF t) {σ : Nat → Rat} {q : Rat}
    (hrows : ∀ e ∈ u.tableau, e ∈ t.tableau ∨ (e.1 = t.vals.length ∧ e.2.WF ∧ (∀ p ∈ e.2.vars, p.1 < t.vals.length) ∧
      q = Lin.evalS e.2 σ)) (h : ∀ e ∈ t.tableau, σ e.1 = Lin.evalS e.2 σ) :
    ∀ e ∈ u.tableau, Function.update σ t.vals.length q e.1 = Lin.evalS e.2 (Function.update σ t.vals.length q) := by
  intro e he
  rcases hrows e he with h1 | ⟨h1, h2, h3, h4⟩
  · rw [evalS_update (ht.rows e h1) (find_none_of_lt (ht.wlen ▸ (ht.bound e h1).2)),
      Function.update_of_ne (Nat.ne_of_lt (ht.wlen ▸ (ht.bound e h1).1))]
    exact h e h1
  · rw [evalS_update h2 (find_none_of_lt h3), h1, Function.update_self]; exact h4

theorem substBasic_holds {t : Lra} (hrows : ∀ e ∈ t.tableau, e.2.WF) {l : Lin} (hl : l.WF) :
    (substBasic t l).WF ∧
    ∀ σ, (∀ e ∈ t.tableau, σ e.1 = Lin.evalS e.2 σ) → Lin.evalS (substBasic t l) σ = Lin.evalS l σ := by
  obtain ⟨s1, s2, -, -⟩ := substBasic_spec (t := t) (fun r l' h => hrows (r, l') (tabFind_some_mem h)) hl
  exact ⟨s1, fun σ hσ => s2 σ (fun r l' h => hσ (r, l') (tabFind_some_mem h))⟩

theorem newVarLin_sound {s : Sat} {t : Lra} (ht : TabWF t) {l : Lin} (hl : l.WF)
    (hlv : ∀ p ∈ l.vars, p.1 < t.vals.length) {slack : Nat} {t1 : Lra}
    (h : newVarLin s t l = some (slack, t1)) :
    (t1.tableau = t.tableau ∧ t1.tWatches = t.tWatches ∧ t1.vals = t.vals) ∨
    (slack = t.vals.length ∧ t1.vals.length = t.vals.length + 1 ∧
      t1.tableau = tabInsert t.tableau slack (substBasic t l) ∧
      (∀ e, e ∈ t1.tableau ↔ e ∈ t.tableau ∨ e = (slack, substBasic t l)) ∧
      (∀ σ, (∀ e ∈ t.tableau, σ e.1 = Lin.evalS e.2 σ) →
        Lin.evalS (substBasic t l) σ = Lin.evalS l σ ∧
        ∀ e ∈ t1.tableau, Function.update σ slack (Lin.evalS l σ) e.1 =
          Lin.evalS e.2 (Function.update σ slack (Lin.evalS l σ))) ∧
      (∀ σ, (∀ e ∈ t1.tableau, σ e.1 = Lin.evalS e.2 σ) →
        (∀ e ∈ t.tableau, σ e.1 = Lin.evalS e.2 σ) ∧ σ slack = Lin.evalS l σ)) := by
  obtain ⟨hi, hlen⟩ := (tabWF_iff t).1 ht
  rcases (newVarLin_nf h).2.found_or_created with ⟨-, ex, rfl, -⟩ | ⟨rfl, rfl⟩
  · exact Or.inl ⟨rfl, rfl, rfl⟩
  right
  obtain ⟨u, hu, u1, u2, -, -⟩ := withSlack_eq_newRow t (substBasic t l) (slackExprs t l)
  obtain ⟨c1, -, -, c4, c5, c7⟩ := newVarLin_create hi hlen hl hlv u1 u2
  rw [← hu] at c1 c4
  obtain ⟨s1, s2, -, -⟩ := substBasic_spec (t := t) hi.rows hl
  have hrow : RowsUpd t (withSlack t (substBasic t l) (slackExprs t l)) t.vals.length (some (substBasic t l)) := c4
  refine ⟨rfl, withSlack_vals_length .., withSlack_tableau .., fun e => ?_, fun σ hσ => ?_, fun σ hσ => ?_⟩
  · rw [withSlack_tableau]
    exact mem_tabInsert_of_absent (tabFind_none_iff.1 c7) e
  · -- a solution of the old tableau, extended by the value of `l` at the new variable
    have h2 := s2 σ ((holdsR_iff hi.keys σ).1 hσ)
    exact ⟨h2, rows_extend ht (fun e he => (mem_tabInsert_cases (withSlack_tableau .. ▸ he)).imp id fun h => by
      rw [h]; exact ⟨rfl, s1, (forall_keys_iff (· < t.vals.length)).2 c5, h2.symm⟩) hσ⟩
  · obtain ⟨h1, h2⟩ := hrow.holdsR_of_insert c7 ((holdsR_iff c1.keys σ).1 hσ)
    exact ⟨(holdsR_iff hi.keys σ).2 h1, h2.trans (s2 σ h1)⟩

/-- `x2 = x0 + 2·x1 + 3` -/
def c09bRow2 : Lin := ⟨[(0, ⟨1, 1⟩), (1, ⟨2, 1⟩)], ⟨3, 1⟩⟩
/-- `x3 = x0 - x1` -/
def c09bRow3 : Lin := ⟨[(0, ⟨1, 1⟩), (1, ⟨-1, 1⟩)], ⟨0, 1⟩⟩

/-- `x0`, `x1` non-basic with value 1, the basic `x2`, `x3` with the values of their rows -/
def c09bState : Lra :=
  { bounds := [], vals := [IR.ofR R.one, IR.ofR R.one, IR.ofR ⟨6, 1⟩, IR.ofR R.zero],
    tableau := [(2, c09bRow2), (3, c09bRow3)],
    exprs := [], sAsrts := [], vAsrts := [], aWatches := [[], [], [], []],
    tWatches := [[2, 3], [2, 3], [], []], layers := [] }

theorem c09bRow2_wf : c09bRow2.WF := by
  refine ⟨⟨by decide, trivial⟩, ?_, by decide, by decide⟩
  intro t ht; simp [c09bRow2] at ht; rcases ht with rfl | rfl <;> decide

theorem c09bRow3_wf : c09bRow3.WF := by
  refine ⟨⟨by decide, trivial⟩, ?_, by decide, by decide⟩
  intro t ht; simp [c09bRow3] at ht; rcases ht with rfl | rfl <;> decide

theorem c09bState_wf : TabWF c09bState := by
  refine ⟨by decide, ?_, by decide, by decide, by decide, ?_, by decide⟩
  · intro e he
    simp only [c09bState, List.mem_cons, List.not_mem_nil, or_false] at he
    rcases he with rfl | rfl
    · exact c09bRow2_wf
    · exact c09bRow3_wf
  · intro v r
    rw [watch_iff_keys]
    match v with
    | 0 | 1 | 2 | 3 => exact Iff.rfl
    | n + 4 => exact Iff.rfl

/-- a solution of the tableau of `c09bState` (its own assignment) -/
def c09bSigma : Nat → Rat := fun x => match x with | 0 => 1 | 1 => 1 | 2 => 6 | 3 => 0 | _ => 0

/-- a valuation that violates the row of `x2` -/
def c09bBad : Nat → Rat := fun _ => 0

end Lra

end Oratio
