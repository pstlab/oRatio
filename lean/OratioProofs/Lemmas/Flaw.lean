/-
Lemmas for property C03: satisfaction of the clauses posted around flaws and resolvers
(`OratioModel/Solver/Flaw.lean`) and walks in the support relation.  Core Lean only, and so is all it imports.
-/
import OratioModel.Solver.Flaw
import OratioProofs.Lemmas.EncCnf
import OratioProofs.Lemmas.LitBasic

namespace Oratio
namespace FlawL
open Flaw EncL

theorem cnf_mem {α : Asg} {f : Cnf} (h : α.cnf f = true) {c : Clause} (hc : c ∈ f) : α.clause c = true :=
  Asg.cnf_iff.1 h c hc

theorem imp_of_clause {α : Asg} {a b : Lit} (h : α.clause [a.neg, b] = true) (ha : α.lit a = true) :
    α.lit b = true := (clause_imp2 α a b).1 h ha

theorem imp_of_clause' {α : Asg} {a b : Lit} (h : α.clause [b, a.neg] = true) (ha : α.lit a = true) :
    α.lit b = true := by
  simpa [Asg.clause_cons, Asg.clause_nil, Asg.lit_neg, ha] using h

theorem excl_of_clause {α : Asg} {a b : Lit} (h : α.clause [a.neg, b.neg] = true) (ha : α.lit a = true)
    (hb : α.lit b = true) : False := by
  rw [(clause_nand2 α a b).1 h ha] at hb; cases hb

/-- the exclusion clauses of `flaw::expand` are over the pairs of `new_at_most_one` -/
theorem pairwise_eq : ∀ rs : List Lit, pairwise rs = (Enc.pairs rs).map (fun p => [p.1.neg, p.2.neg])
  | [] => rfl
  | r :: rs => by simp [pairwise, Enc.pairs, pairwise_eq rs, Function.comp_def]

theorem pairwise_lt (α : Asg) (rs : List Lit) (h : α.cnf (pairwise rs) = true) (i j : Nat) (hi : i < rs.length)
    (hj : j < rs.length) (hij : i < j) (hti : α.lit rs[i] = true) (htj : α.lit rs[j] = true) : False :=
  excl_of_clause (cnf_mem h (pairwise_eq rs ▸ List.mem_map.2 ⟨_, pairs_eq rs ▸ ListAux.pairs_getElem hij hj, rfl⟩)) hti htj

theorem pairwise_amo (α : Asg) (rs : List Lit) (h : α.cnf (pairwise rs) = true)
    (i j : Nat) (hi : i < rs.length) (hj : j < rs.length) (hti : α.lit rs[i] = true) (htj : α.lit rs[j] = true) :
    i = j := by
  rcases Nat.lt_trichotomy i j with hlt | heq | hgt
  · exact (pairwise_lt α rs h i j hi hj hlt hti htj).elim
  · exact heq
  · exact (pairwise_lt α rs h j i hj hi hgt htj hti).elim

theorem expand_some {α : Asg} {phi : Lit} {rhos : List Lit} {ex : Bool}
    (h : α.cnf (expandClauses phi rhos ex) = true) (hne : rhos ≠ []) :
    α.clause (phi.neg :: rhos) = true ∧ (ex = true → α.cnf (pairwise rhos) = true) := by
  rw [expandClauses, Asg.cnf_append, Bool.and_eq_true] at h
  have hemp : rhos.isEmpty = false := by
    cases rhos with
    | nil => exact absurd rfl hne
    | cons _ _ => rfl
  have h2 := h.2
  rw [hemp] at h2
  simp only [Bool.false_eq_true, if_false] at h2
  rw [Asg.cnf_append, Bool.and_eq_true] at h2
  refine ⟨cnf_mem h2.1 (List.mem_singleton.mpr rfl), ?_⟩
  intro hex
  have := h2.2
  simpa [hex] using this

theorem expand_none {α : Asg} {phi : Lit} {ex : Bool}
    (h : α.cnf (expandClauses phi [] ex) = true) : α.lit phi = false := by
  simp [expandClauses, Asg.cnf, Asg.clause, Asg.lit_neg] at h
  exact h

/-- what an edge costs in position: a sub-goal sits strictly below its cause, a unification
    target not above the unified atom -/
def cost : Edge → Nat
  | .sub _ _ => 1
  | .uni _ _ => 0

def PosOK (pos : Nat → Int) (e : Edge) : Prop := pos e.dst ≤ pos e.src - cost e

def UniOK (active : Nat → Bool) : Edge → Prop
  | .sub _ _ => True
  | .uni x t => active x = false ∧ active t = true

def nsub : List Edge → Nat
  | [] => 0
  | e :: es => cost e + nsub es

theorem walk_pos (pos : Nat → Int) : ∀ (es : List Edge), (∀ e ∈ es, PosOK pos e) →
    ∀ a b, Walk a es b → pos b ≤ pos a - (nsub es : Int)
  | [], _, a, b, h => by
    have : a = b := h
    subst this
    simp [nsub]
  | e :: es, hpos, a, b, ⟨h1, h2⟩ => by
    have ih := walk_pos pos es (fun e' he' => hpos e' (List.mem_cons_of_mem _ he')) _ _ h2
    have he : pos e.dst ≤ pos e.src - cost e := hpos e List.mem_cons_self
    rw [h1] at he
    simp only [nsub]
    omega

theorem no_closed_walk (pos : Nat → Int) (active : Nat → Bool) (es : List Edge) (a : Nat)
    (hpos : ∀ e ∈ es, PosOK pos e) (huni : ∀ e ∈ es, UniOK active e) (hne : es ≠ []) : ¬ Walk a es a := by
  intro hw
  have hp := walk_pos pos es hpos a a hw
  have h0 : nsub es = 0 := by omega
  -- positions never rise and drop on every sub-goal edge, so a closed walk has unification edges only; such an edge leaves
  -- an inactive atom and enters an active one, so it neither closes on itself nor can a second one follow it
  cases es with
  | nil => exact hne rfl
  | cons e es =>
    obtain ⟨h1, h2⟩ := hw
    have hu := huni e List.mem_cons_self
    cases e with
    | sub p c => simp [nsub, cost] at h0
    | uni x t =>
      simp only [Edge.src] at h1
      simp only [Edge.dst] at h2
      simp only [UniOK] at hu
      simp only [nsub, cost, Nat.zero_add] at h0
      subst h1
      cases es with
      | nil =>
        have : t = x := h2
        subst this
        rw [hu.1] at hu
        exact Bool.noConfusion hu.2
      | cons e2 es =>
        obtain ⟨h3, _⟩ := h2
        have hu2 := huni e2 (List.mem_cons_of_mem _ List.mem_cons_self)
        cases e2 with
        | sub p c => simp [nsub, cost] at h0
        | uni y u =>
          simp only [Edge.src] at h3
          simp only [UniOK] at hu2
          subst h3
          rw [hu2.1] at hu
          exact Bool.noConfusion hu.2

end FlawL
end Oratio
