/-
The constructors and relation requests of the two difference logics at root level - `new_var`, `new_distance`, and
`new_lt … new_gt, new_eq` (`Dl.newRel`: a constant answer, one `new_distance`, or two `new_distance`s and their
conjunction `Sat.newConj`) - keep the network invariant, and the T-models of the extended network restrict to T-models
of the old one.  The integer and the real logic are handled once, through the lens `DlSlot`.
-/
import OratioProofs.Lemmas.NetRoot
import OratioProofs.Properties.C12

namespace Oratio
namespace Dl

theorem newRel_out {α : Type} (O : DOps α) (nc : Sat → List Lit → Lit × Sat) {s : Sat} {t : Dl α} {r : Rel} {a b : Lin}
    {l : Lit} {s' : Sat} {t' : Dl α} (h : newRel O nc s t r a b = some (l, s', t')) :
    (s' = s ∧ t' = t) ∨ (∃ f g w, newDistance O s t f g w = (l, s', t')) ∨
    (∃ f g w w', nc (newDistance O (newDistance O s t f g w).2.1 (newDistance O s t f g w).2.2 g f w').2.1
        [(newDistance O s t f g w).1, (newDistance O (newDistance O s t f g w).2.1 (newDistance O s t f g w).2.2 g f w').1] = (l, s') ∧
      t' = (newDistance O (newDistance O s t f g w).2.1 (newDistance O s t f g w).2.2 g f w').2.2) := by
  rw [C12_newRel_refines] at h
  cases hro : relOut O r a b with
  | const b => rw [hro] at h; cases h; exact .inl ⟨rfl, rfl⟩
  | one f g w => rw [hro] at h; exact .inr (.inl ⟨f, g, w, Option.some.inj h⟩)
  | invalid => rw [hro] at h; cases h
  | two f g w f' g' w' =>
    obtain ⟨rfl, rfl⟩ := DlRel.relOut_two_swap hro
    rw [hro] at h
    dsimp only at h
    split at h
    · cases h; exact .inr (.inr ⟨_, _, _, _, rfl, rfl⟩)
    · cases h; exact .inl ⟨rfl, rfl⟩

end Dl

namespace Net
open Sat

section generic
variable {α : Type} (O : DOps α)

/-- `new_distance` answers a constant and changes nothing, or makes a fresh SAT variable control the new constraint `c` -/
structure DistOut (s : Sat) (t : Dl α) (c : DConstr α) (l : Lit) (s' : Sat) (t' : Dl α) : Prop where
  keep : AssignedKeep s s'
  sinv : ∀ {F K : Cnf}, SInv F K s → SInv F K s'
  len : s.vals.length ≤ s'.vals.length
  root : s'.trailLim = s.trailLim
  dead : s'.dead = s.dead
  nVars : t'.nVars = t.nVars
  dc : t'.distConstr = t.distConstr
  sub : ∀ d ∈ t.varDists, d ∈ t'.varDists
  mem : ∀ d ∈ t'.varDists, d ∈ t.varDists ∨ (d = c ∧ c.b < s'.vals.length)
  lit : 0 < s.vals.length → l.var < s'.vals.length

theorem newDistance_out (s : Sat) (t : Dl α) (f g : Nat) (w : α) :
    DistOut s t ⟨s.vals.length, f, g, w⟩ (Dl.newDistance O s t f g w).1 (Dl.newDistance O s t f g w).2.1
      (Dl.newDistance O s t f g w).2.2 := by
  have const : ∀ l : Lit, l.var = 0 → DistOut s t ⟨s.vals.length, f, g, w⟩ l s t := fun l hl =>
    ⟨.refl _, id, Nat.le_refl _, rfl, rfl, rfl, rfl, fun _ h => h, fun _ h => .inl h, fun h => hl ▸ h⟩
  have hN : s.vals.length < s.newVar.2.vals.length := by
    show _ < (s.vals ++ [none]).length
    rw [List.length_append]; exact Nat.lt_succ_self _
  unfold Dl.newDistance
  split
  · exact const _ rfl
  · split
    · exact const _ rfl
    · exact ⟨newVar_keep s, SInv.newVar, Nat.le_of_lt hN, rfl, rfl, rfl, rfl, fun _ h => List.mem_append_left _ h,
        fun d hd => (List.mem_append.1 hd).imp_right fun h => ⟨List.mem_singleton.1 h, hN⟩, fun _ => hN⟩

end generic

/-- The integer and the real difference logic sit in the network in the same way: `get` / `put` read and replace
    the theory (and the SAT core), `Base` is its part of `ThBase`.  The requests are proved once for a slot; what
    a request does to `Base` is a hypothesis, discharged for `idlSlot` and `rdlSlot` from C10 / C10R. -/
structure DlSlot (α : Type) where
  O : DOps α
  get : Net → Dl α
  put : Net → Sat → Dl α → Net
  Base : Sat → Dl α → Prop
  sat_put : ∀ n s t, (put n s t).sat = s
  get_put : ∀ n s t, get (put n s t) = t
  put_put : ∀ n s t s' t', put (put n s t) s' t' = put n s' t'
  set_sat : ∀ n s t s', { put n s t with sat := s' } = put n s' t
  base : ∀ {n : Net} {F : Cnf}, ThBase F n.sat n.lra n.idl n.rdl → Base n.sat (get n)
  inv_put : ∀ {n : Net} {orig L : Cnf} {s' : Sat} {t' : Dl α}, NetInv n orig L [] → AssignedKeep n.sat s' →
    n.sat.vals.length ≤ s'.vals.length → SInv (orig ++ L) orig s' → s'.trailLim = [] → Base s' t' →
    (∀ c ∈ (get n).varDists, c ∈ t'.varDists) → (∀ c ∈ t'.varDists, c ∈ (get n).varDists ∨ c.b < s'.vals.length) →
    NetInv (put n s' t') orig L [] ∧ ∀ α, TModel (put n s' t') α → TModel n α
  tmodel_put : ∀ {n : Net} {s' : Sat} {t' : Dl α} {α : Asg}, (∀ c ∈ t'.varDists, c ∈ (get n).varDists) →
    TModel n α → TModel (put n s' t') α

def idlSlot : DlSlot Int where
  O := idlOps
  get := Net.idl
  put n s t := { n with sat := s, idl := t }
  Base := IdlBase
  sat_put _ _ _ := rfl
  get_put _ _ _ := rfl
  put_put _ _ _ _ _ := rfl
  set_sat _ _ _ _ := rfl
  base h := h.idl
  inv_put {n} _ _ s' t' h hk hlen hs hroot hB hsub hreg :=
    have hm : ∀ α, TModel { n with sat := s', idl := t' } α → TModel n α := fun _ =>
      TModel.of_more (n := n) (n' := { n with sat := s', idl := t' }) (LraSame.refl _) hsub (fun _ hc => hc)
    ⟨h.rootStep (n' := { n with sat := s', idl := t' }) (fun _ hd => hd) hs hroot hk.le hlen hm (.inl rfl)
      (.inr ⟨hB, fun c hc => (hreg c hc).elim (fun ho => Nat.lt_of_lt_of_le (h.reg.idl c ho) hlen) id⟩) (.inl rfl), hm⟩
  tmodel_put {n} s' t' _ hsub :=
    TModel.of_more (n := { n with sat := s', idl := t' }) (n' := n) (LraSame.refl _) hsub (fun _ hc => hc)

def rdlSlot : DlSlot IR where
  O := rdlOps
  get := Net.rdl
  put n s t := { n with sat := s, rdl := t }
  Base := RdlBase
  sat_put _ _ _ := rfl
  get_put _ _ _ := rfl
  put_put _ _ _ _ _ := rfl
  set_sat _ _ _ _ := rfl
  base h := h.rdl
  inv_put {n} _ _ s' t' h hk hlen hs hroot hB hsub hreg :=
    have hm : ∀ α, TModel { n with sat := s', rdl := t' } α → TModel n α := fun _ =>
      TModel.of_more (n := n) (n' := { n with sat := s', rdl := t' }) (LraSame.refl _) (fun _ hc => hc) hsub
    ⟨h.rootStep (n' := { n with sat := s', rdl := t' }) (fun _ hd => hd) hs hroot hk.le hlen hm (.inl rfl) (.inl rfl)
      (.inr ⟨hB, fun c hc => (hreg c hc).elim (fun ho => Nat.lt_of_lt_of_le (h.reg.rdl c ho) hlen) id⟩), hm⟩
  tmodel_put {n} s' t' _ hsub :=
    TModel.of_more (n := { n with sat := s', rdl := t' }) (n' := n) (LraSame.refl _) (fun _ hc => hc) hsub

namespace DlSlot
variable {α : Type} (S : DlSlot α) {n : Net} {orig L : Cnf}

theorem at_newVar (h : NetInv n orig L []) (hB : S.Base n.sat (Dl.newVar S.O (S.get n)).2) :
    NetInv (S.put n n.sat (Dl.newVar S.O (S.get n)).2) orig L [] ∧
      ∀ α, TModel (S.put n n.sat (Dl.newVar S.O (S.get n)).2) α ↔ TModel n α := by
  have e := (Dl.newVar_same S.O (S.get n)).2.2.1
  obtain ⟨k1, k2⟩ := S.inv_put h (.refl _) (Nat.le_refl _) h.sat (root_of_inv h) hB (fun c hc => e ▸ hc)
    (fun c hc => .inl (e ▸ hc))
  exact ⟨k1, fun α => ⟨k2 α, S.tmodel_put fun c hc => e ▸ hc⟩⟩

theorem at_newDistance (h : NetInv n orig L []) (f g : Nat) (w : α)
    (hB : S.Base (Dl.newDistance S.O n.sat (S.get n) f g w).2.1 (Dl.newDistance S.O n.sat (S.get n) f g w).2.2) :
    NetInv (S.put n (Dl.newDistance S.O n.sat (S.get n) f g w).2.1 (Dl.newDistance S.O n.sat (S.get n) f g w).2.2)
        orig L [] ∧
      ∀ α, TModel (S.put n (Dl.newDistance S.O n.sat (S.get n) f g w).2.1
        (Dl.newDistance S.O n.sat (S.get n) f g w).2.2) α → TModel n α :=
  have o := newDistance_out S.O n.sat (S.get n) f g w
  S.inv_put h o.keep o.len (o.sinv h.sat) (o.root.trans (root_of_inv h)) hB o.sub
    fun c hc => (o.mem c hc).imp_right fun e => by rw [e.1]; exact e.2

end DlSlot

theorem IdlBase.newVar {s : Sat} {t : Dl Int} (hb : IdlBase s t) {K : Int} {E : List IEdge} (hE : t.Exact K E)
    (hok : Dl.ConstrsOk K t) (hK : 4 * ((t.nVars : Int) + 2) * K < idlInf) : IdlBase s (Dl.newVar idlOps t).2 := by
  obtain ⟨_, e1, e2, e3, _⟩ := Dl.newVar_same idlOps t
  refine ⟨⟨K, E, (C10_newVar_exact K E t hE hK).1, fun c hc => ?_⟩, C10X_newVar_pathinv K E _ _ hE hb.path, e3 ▸ hb.sorted⟩
  obtain ⟨o1, o2, o3⟩ := hok c (e2 ▸ hc)
  exact ⟨e1 ▸ Nat.lt_succ_of_lt o1, e1 ▸ Nat.lt_succ_of_lt o2, o3⟩

theorem RdlBase.newVar {s : Sat} {t : Dl IR} (hb : RdlBase s t) : RdlBase s (Dl.newVar rdlOps t).2 := by
  obtain ⟨E, hE⟩ := hb.exact
  obtain ⟨_, e1, e2, e3, _⟩ := Dl.newVar_same rdlOps t
  refine ⟨⟨E, (C10R_newVar_exact E t hE).1⟩, fun c hc => ?_, C10XR_newVar_pathinv E _ _ hE hb.path, e3 ▸ hb.sorted,
    C10R_epsInt_newVar _ hb.eps, fun c hc => hb.epsC c (e2 ▸ hc)⟩
  obtain ⟨o1, o2, o3⟩ := hb.ok c (e2 ▸ hc)
  exact ⟨e1 ▸ Nat.lt_succ_of_lt o1, e1 ▸ Nat.lt_succ_of_lt o2, o3⟩

theorem IdlBase.newDistance {s : Sat} {t : Dl Int} (hb : IdlBase s t) {K : Int} {E : List IEdge} (hE : t.Exact K E)
    (f g : Nat) (w : Int) (hok : Dl.ConstrsOk K (Dl.newDistance idlOps s t f g w).2.2) :
    IdlBase (Dl.newDistance idlOps s t f g w).2.1 (Dl.newDistance idlOps s t f g w).2.2 ∧
      (Dl.newDistance idlOps s t f g w).2.2.Exact K E :=
  have hpi := C10X_newDistance_pathinv K E s t hE hb.path f g w
  ⟨⟨⟨K, E, hpi.2, hok⟩, hpi.1, (newDistance_out idlOps s t f g w).dc ▸ hb.sorted⟩, hpi.2⟩

/-- the side condition on RDL constraints: distinct existing time points, finite weight, integer ε part -/
def RdlOk (t : Dl IR) : Prop := DlR.ConstrsOkR t ∧ ∀ c ∈ t.varDists, c.dist.inf.den = 1

theorem RdlBase.newDistance {s : Sat} {t : Dl IR} (hb : RdlBase s t) (f g : Nat) (w : IR)
    (hok : RdlOk (Dl.newDistance rdlOps s t f g w).2.2) :
    RdlBase (Dl.newDistance rdlOps s t f g w).2.1 (Dl.newDistance rdlOps s t f g w).2.2 := by
  obtain ⟨E, hE⟩ := hb.exact
  have hpi := C10XR_newDistance_pathinv E s t hE hb.path f g w
  refine ⟨⟨E, hpi.2⟩, hok.1, hpi.1, (newDistance_out rdlOps s t f g w).dc ▸ hb.sorted, fun a b => ?_, hok.2⟩
  show (Dl.d rdlOps (Dl.newDistance rdlOps s t f g w).2.2 a b).inf.den = 1
  unfold Dl.d
  rw [(DlG.newDistance_same rdlOps s t f g w).2.1]
  exact hb.eps a b

theorem NetInv.at_idlNewVar {n : Net} {orig L : Cnf} {fr : List Frame} (h : NetInv n orig L fr) (hroot : n.sat.trailLim = [])
    (hg : ∃ K E, n.idl.Exact K E ∧ Dl.ConstrsOk K n.idl ∧ 4 * ((n.idl.nVars : Int) + 2) * K < idlInf) :
    NetInv (idlNewVar n).2 orig L [] ∧ ∀ α, TModel (idlNewVar n).2 α ↔ TModel n α := by
  obtain ⟨K, E, hE, hok, hK⟩ := hg
  obtain rfl := h.root_frames hroot
  have hb : ThBase (orig ++ L) n.sat n.lra n.idl n.rdl := h.th
  exact idlSlot.at_newVar h (hb.idl.newVar hE hok hK)

theorem NetInv.at_idlNewDistance {n : Net} {orig L : Cnf} {fr : List Frame} (h : NetInv n orig L fr)
    (hroot : n.sat.trailLim = []) (f g : Nat) (w : Int)
    (hg : ∃ K E, n.idl.Exact K E ∧ Dl.ConstrsOk K n.idl ∧ f < n.idl.nVars ∧ g < n.idl.nVars ∧ f ≠ g ∧ -K ≤ w ∧ w + 1 ≤ K) :
    NetInv (idlNewDistance n f g w).2 orig L [] ∧ ∀ α, TModel (idlNewDistance n f g w).2 α → TModel n α := by
  obtain ⟨K, E, hE, hok, hnew⟩ := hg
  obtain rfl := h.root_frames hroot
  have hb : ThBase (orig ++ L) n.sat n.lra n.idl n.rdl := h.th
  have o := newDistance_out idlOps n.sat n.idl f g w
  have hok' : Dl.ConstrsOk K (Dl.newDistance idlOps n.sat n.idl f g w).2.2 := fun c hc => by
    rw [o.nVars]
    exact (o.mem c hc).elim (hok c) fun e => e.1 ▸ hnew
  obtain ⟨k1, k2⟩ := idlSlot.at_newDistance h f g w (hb.idl.newDistance hE f g w hok').1
  exact ⟨k1.congrN rfl rfl rfl rfl, fun α hm => k2 α ((TModel.congrN rfl rfl rfl α).1 hm)⟩

theorem NetInv.at_rdlNewVar {n : Net} {orig L : Cnf} {fr : List Frame} (h : NetInv n orig L fr) (hroot : n.sat.trailLim = []) :
    NetInv (rdlNewVar n).2 orig L [] ∧ ∀ α, TModel (rdlNewVar n).2 α ↔ TModel n α := by
  obtain rfl := h.root_frames hroot
  have hb : ThBase (orig ++ L) n.sat n.lra n.idl n.rdl := h.th
  exact rdlSlot.at_newVar h hb.rdl.newVar

theorem NetInv.at_rdlNewDistance {n : Net} {orig L : Cnf} {fr : List Frame} (h : NetInv n orig L fr)
    (hroot : n.sat.trailLim = []) (f g : Nat) (w : IR)
    (hg : f < n.rdl.nVars ∧ g < n.rdl.nVars ∧ f ≠ g ∧ IR.Fin w ∧ w.inf.den = 1) :
    NetInv (rdlNewDistance n f g w).2 orig L [] ∧ ∀ α, TModel (rdlNewDistance n f g w).2 α → TModel n α := by
  obtain ⟨hf, hgg, hfg, hw1, hw2⟩ := hg
  obtain rfl := h.root_frames hroot
  have hb : ThBase (orig ++ L) n.sat n.lra n.idl n.rdl := h.th
  have o := newDistance_out rdlOps n.sat n.rdl f g w
  have hok' : RdlOk (Dl.newDistance rdlOps n.sat n.rdl f g w).2.2 :=
    ⟨fun c hc => by
      rw [o.nVars]
      exact (o.mem c hc).elim (hb.rdl.ok c) fun e => e.1 ▸ ⟨hf, hgg, hfg, hw1⟩,
     fun c hc => (o.mem c hc).elim (hb.rdl.epsC c) fun e => e.1 ▸ hw2⟩
  obtain ⟨k1, k2⟩ := rdlSlot.at_newDistance h f g w (hb.rdl.newDistance f g w hok')
  exact ⟨k1.congrN rfl rfl rfl rfl, fun α hm => k2 α ((TModel.congrN rfl rfl rfl α).1 hm)⟩

namespace DlSlot
variable {α : Type} (S : DlSlot α) {n : Net} {orig L : Cnf}

theorem step (h : NetInv n orig L []) {f g : Nat} {w : α} {l : Lit} {s' : Sat} {t' : Dl α}
    (hX : Dl.newDistance S.O n.sat (S.get n) f g w = (l, s', t')) (hB : S.Base s' t') :
    NetInv (S.put n s' t') orig L [] ∧ (∀ α, TModel (S.put n s' t') α → TModel n α) ∧
      DistOut n.sat (S.get n) ⟨n.sat.vals.length, f, g, w⟩ l s' t' := by
  have k := S.at_newDistance h f g w
  have o := newDistance_out S.O n.sat (S.get n) f g w
  rw [hX] at k o
  exact ⟨(k hB).1, (k hB).2, o⟩

/-- `Q` is what `new_distance` keeps of the theory provided its result satisfies the side condition `Post` -/
theorem at_newRel (h : NetInv n orig L []) (hd : n.sat.dead = false) {r : Dl.Rel} {a b : Lin} {l : Lit} {s' : Sat}
    {t' : Dl α} (hv : Dl.newRel S.O Sat.newConj n.sat (S.get n) r a b = some (l, s', t'))
    {Q : Sat → Dl α → Prop} {Post : Dl α → Prop} (hQ : Q n.sat (S.get n)) (hpost : Post t')
    (hQB : ∀ s t, Q s t → S.Base s t)
    (hsub : ∀ s t f g w, Post (Dl.newDistance S.O s t f g w).2.2 → Post t)
    (hstep : ∀ s t f g w, Q s t → Post (Dl.newDistance S.O s t f g w).2.2 →
      Q (Dl.newDistance S.O s t f g w).2.1 (Dl.newDistance S.O s t f g w).2.2) :
    NetInv (S.put n s' t') (orig ++ s'.toEnc.cnf) L [] ∧ ∀ α, TModel (S.put n s' t') α → TModel n α := by
  rcases Dl.newRel_out _ _ hv with ⟨rfl, rfl⟩ | ⟨f, g, w, hX⟩ | ⟨f, g, w, w', hc, ht⟩
  · obtain ⟨k1, k2⟩ := S.inv_put h (.refl _) (Nat.le_refl _) h.sat (root_of_inv h) (hQB _ _ hQ) (fun _ hc => hc)
      (fun _ hc => .inl hc)
    have k := k1.withCnf (by rw [S.sat_put]; exact hd)
    rw [S.sat_put] at k
    exact ⟨k, k2⟩
  · have hq := hstep _ _ f g w hQ (by rw [hX]; exact hpost)
    rw [hX] at hq
    obtain ⟨k1, k2, o⟩ := S.step h hX (hQB _ _ hq)
    have k := k1.withCnf (by rw [S.sat_put, o.dead]; exact hd)
    rw [S.sat_put] at k
    exact ⟨k, k2⟩
  · rcases hX1 : Dl.newDistance S.O n.sat (S.get n) f g w with ⟨l1, s1, t1⟩
    rw [hX1] at hc ht
    rcases hX2 : Dl.newDistance S.O s1 t1 g f w' with ⟨l2, s2, t2⟩
    rw [hX2] at hc ht
    subst ht
    have hp2 : Post (Dl.newDistance S.O s1 t1 g f w').2.2 := by rw [hX2]; exact hpost
    have hq1 := hstep _ _ f g w hQ (by rw [hX1]; exact hsub _ _ _ _ _ hp2)
    rw [hX1] at hq1
    have hq2 := hstep _ _ g f w' hq1 hp2
    rw [hX2] at hq2
    obtain ⟨i1, m1, o1⟩ := S.step h hX1 (hQB _ _ hq1)
    obtain ⟨i2, m2, o2⟩ := S.step i1 (f := g) (g := f) (w := w') (by rw [S.sat_put, S.get_put]; exact hX2) (hQB _ _ hq2)
    rw [S.sat_put, S.get_put] at o2
    rw [S.put_put] at i2 m2
    have hpos : 0 < n.sat.vals.length := h.sat.wf.zero_lt
    have i3 := i2.newConj (ls := [l1, l2]) (by rw [S.sat_put, o2.dead, o1.dead]; exact hd)
      (by
        rw [S.sat_put]
        exact List.forall_mem_cons.2 ⟨Nat.lt_of_lt_of_le (o1.lit hpos) o2.len,
          List.forall_mem_cons.2 ⟨o2.lit (Nat.lt_of_lt_of_le hpos o1.len), fun _ hx => nomatch hx⟩⟩)
    rw [S.sat_put, hc, S.set_sat] at i3
    refine ⟨i3, fun α hm => m1 α (m2 α ?_)⟩
    have := S.tmodel_put (n := S.put n s' t') (s' := s2) (t' := t') (fun c hc => by rw [S.get_put]; exact hc) hm
    rwa [S.put_put] at this

end DlSlot

theorem NetInv.at_idlNewRel {n : Net} {orig L : Cnf} {fr : List Frame} (h : NetInv n orig L fr) (hroot : n.sat.trailLim = [])
    (hd : n.sat.dead = false) {r : Dl.Rel} {a b : Lin} {K : Int} {E : List IEdge} (hE : n.idl.Exact K E)
    {l : Lit} {n' : Net} (he : idlNewRel n r a b = some (l, n')) (hok' : Dl.ConstrsOk K n'.idl) :
    NetInv n' (orig ++ n'.sat.toEnc.cnf) L [] ∧ (∀ α, TModel n' α → TModel n α) := by
  obtain rfl := h.root_frames hroot
  unfold idlNewRel at he
  rw [Option.map_eq_some_iff] at he
  obtain ⟨⟨l0, s', t'⟩, hv, e⟩ := he
  obtain ⟨rfl, rfl⟩ := Prod.mk.inj e
  have hb : ThBase (orig ++ L) n.sat n.lra n.idl n.rdl := h.th
  obtain ⟨k1, k2⟩ := idlSlot.at_newRel h hd hv (Q := fun s t => IdlBase s t ∧ t.Exact K E) (Post := Dl.ConstrsOk K)
    ⟨hb.idl, hE⟩ hok' (fun _ _ hq => hq.1)
    (fun s t f g w hp c hc => by
      have o := newDistance_out idlOps s t f g w
      rw [← o.nVars]; exact hp c (o.sub c hc))
    (fun s t f g w hq hp => hq.1.newDistance hq.2 f g w hp)
  exact ⟨k1.congrN rfl rfl rfl rfl, fun α hm => k2 α ((TModel.congrN rfl rfl rfl α).1 hm)⟩

theorem NetInv.at_rdlNewRel {n : Net} {orig L : Cnf} {fr : List Frame} (h : NetInv n orig L fr) (hroot : n.sat.trailLim = [])
    (hd : n.sat.dead = false) {r : Dl.Rel} {a b : Lin} {l : Lit} {n' : Net} (he : rdlNewRel n r a b = some (l, n'))
    (hok' : RdlOk n'.rdl) :
    NetInv n' (orig ++ n'.sat.toEnc.cnf) L [] ∧ (∀ α, TModel n' α → TModel n α) := by
  obtain rfl := h.root_frames hroot
  unfold rdlNewRel at he
  rw [Option.map_eq_some_iff] at he
  obtain ⟨⟨l0, s', t'⟩, hv, e⟩ := he
  obtain ⟨rfl, rfl⟩ := Prod.mk.inj e
  have hb : ThBase (orig ++ L) n.sat n.lra n.idl n.rdl := h.th
  obtain ⟨k1, k2⟩ := rdlSlot.at_newRel h hd hv (Q := RdlBase) (Post := RdlOk) hb.rdl hok' (fun _ _ hq => hq)
    (fun s t f g w hp => by
      have o := newDistance_out rdlOps s t f g w
      exact ⟨fun c hc => by rw [← o.nVars]; exact hp.1 c (o.sub c hc), fun c hc => hp.2 c (o.sub c hc)⟩)
    (fun s t f g w hq hp => hq.newDistance f g w hp)
  exact ⟨k1.congrN rfl rfl rfl rfl, fun α hm => k2 α ((TModel.congrN rfl rfl rfl α).1 hm)⟩

theorem idlNewRel_lra {n : Net} {r : Dl.Rel} {a b : Lin} {l : Lit} {n' : Net} (he : idlNewRel n r a b = some (l, n')) :
    n'.lra = n.lra := by
  unfold idlNewRel at he
  rw [Option.map_eq_some_iff] at he
  obtain ⟨⟨l0, s', t'⟩, _, e⟩ := he
  rw [← (Prod.mk.inj e).2]; rfl

theorem rdlNewRel_lra {n : Net} {r : Dl.Rel} {a b : Lin} {l : Lit} {n' : Net} (he : rdlNewRel n r a b = some (l, n')) :
    n'.lra = n.lra := by
  unfold rdlNewRel at he
  rw [Option.map_eq_some_iff] at he
  obtain ⟨⟨l0, s', t'⟩, _, e⟩ := he
  rw [← (Prod.mk.inj e).2]; rfl

end Net
end Oratio
