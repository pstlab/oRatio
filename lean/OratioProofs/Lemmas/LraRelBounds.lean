/-
C11S: the bounds of the variable `newVarLin` returns contain the value of the expression, the bounds stay canonical
(`BndWF`), a constant answer of `newRel` is sound, and the row created for a request has no zero coefficient.
-/
import OratioModel
import OratioProofs.Lemmas.LraNoZero
import OratioProofs.Lemmas.LraRelMeaning

namespace Oratio
namespace Lra
open Lin

theorem substBasic_nonbasic {t : Lra} {l : Lin} (h : ∀ p ∈ l.vars, t.rowOf p.1 = none) : substBasic t l = l := by
  rw [substBasic_eq]
  have hk : ∀ v ∈ l.vars.map (·.1), t.rowOf v = none := fun v hv => by
    obtain ⟨p, hp, rfl⟩ := List.mem_map.1 hv
    exact h p hp
  generalize l.vars.map (·.1) = vs at hk
  induction vs with
  | nil => rfl
  | cons v vs ih =>
    have hv : substStep t l v = l := by unfold substStep; rw [hk v List.mem_cons_self]
    rw [List.foldl_cons, hv]
    exact ih fun w hw => hk w (List.mem_cons_of_mem _ hw)

/-- the rewritten difference has no basic variable left: `newVarLin` rewrites it to itself -/
theorem relE_subst_id {t : Lra} (ht : TabWF t) {left right : Lin} (hl : left.WF) (hr : right.WF) :
    substBasic t (relE t left right) = relE t left right := by
  obtain ⟨hi, -⟩ := (tabWF_iff t).1 ht
  obtain ⟨d1, -⟩ := Lin.sub_spec left right hl hr
  obtain ⟨-, -, -, s4⟩ := substBasic_spec (t := t) hi.rows d1
  apply substBasic_nonbasic
  intro p hp
  exact s4 hi.nonbasic p.1 (find_isSome_iff.2 ⟨p, hp, rfl⟩)

theorem newVarLin_slack_bounds {s : Sat} {t : Lra} (ht : TabWF t) (ri : RelInv s t) (si : SemInv t)
    (hb : BndWF t) {l : Lin} (hl : l.WF) (hnz : NoZero (substBasic t l))
    (hlv : ∀ p ∈ l.vars, p.1 < t.vals.length) {slack : Nat} {t1 : Lra}
    (h : newVarLin s t l = some (slack, t1)) :
    BndWF t1 ∧ LowOK (t1.lb slack) ∧ UpOK (t1.ub slack) ∧
    ∀ σ, RowsS t σ → InBounds t σ → IRBelow (t1.lb slack) (Lin.evalS l σ) ∧ IRAbove (t1.ub slack) (Lin.evalS l σ) := by
  obtain ⟨s1, s2⟩ := substBasic_holds (t := t) ht.rows hl
  have hv := substBasic_vars_lt ht hl hlv
  rcases (newVarLin_nf h).2.found_or_created with ⟨⟨e, he, hes⟩, ex, rfl, -⟩ | ⟨rfl, rfl⟩
  · -- a variable known to `exprs`: bounds and tableau are those of `t`
    have hlt : slack < t.vals.length := hes ▸ ri.exprs_lt e he
    obtain ⟨n1, -⟩ := newVarLin_sem ht si hl hlv h
    exact ⟨hb, (hb slack hlt).1, (hb slack hlt).2, fun σ hσ hin => by rw [← (n1 σ hσ).2]; exact hin slack hlt⟩
  · -- a new slack variable
    obtain ⟨hlb, hub, -⟩ := withSlack_new t (substBasic t l) (slackExprs t l) ri.bounds_len hv
    have hlo := lbLin_ok hb s1 hnz hv
    have hup := ubLin_ok hb s1 hnz hv
    rw [← hlb] at hlo
    rw [← hub] at hup
    refine ⟨fun x hx => ?_, hlo, hup, fun σ hσ hin => ?_⟩
    · rw [withSlack_vals_length] at hx
      by_cases hxs : x = t.vals.length
      · rw [hxs]; exact ⟨hlo, hup⟩
      · have hx' : x < t.vals.length := by omega
        have hB := Nat.le_of_eq ri.bounds_len
        unfold lb ub
        rw [withSlack_bnd _ _ _ hB (by rw [ri.bounds_len]; unfold lbIdx; omega),
          withSlack_bnd _ _ _ hB (by rw [ri.bounds_len]; unfold ubIdx; omega)]
        exact hb x hx'
    · rw [hlb, hub, ← s2 σ hσ]
      exact lbLin_ubLin_bounds hb s1 hnz hv hin

theorem BndWF.init : BndWF Lra.init := fun _ hx => absurd hx (Nat.not_lt_zero _)

theorem BndWF.newVar {t : Lra} (hb : BndWF t) (hB : t.bounds.length = 2 * t.vals.length) : BndWF t.newVar.2 := by
  intro x hx
  rcases Nat.lt_succ_iff_lt_or_eq.1 (show x < t.vals.length + 1 from
    (List.length_append (as := t.vals) (bs := [IR.ofR R.zero])) ▸ hx) with h | rfl
  · rw [(lb_ub_append hB (u := t.newVar.2) rfl h).1, (lb_ub_append hB (u := t.newVar.2) rfl h).2]; exact hb x h
  · rw [(lb_ub_new hB (u := t.newVar.2) rfl).1, (lb_ub_new hB (u := t.newVar.2) rfl).2]
    exact ⟨⟨R.finWF_zero, Or.inr rfl⟩, ⟨R.finWF_zero, Or.inr rfl⟩⟩

theorem simpleC_finIR {c : IR} (h : SimpleC c) : FinIR_s c := by
  refine ⟨h.1, ?_⟩
  rcases h.2 with h | h | h <;> rw [h]
  · exact R.finWF_zero
  · exact ⟨by decide, by decide⟩
  · exact ⟨by decide, by decide⟩

theorem relSat_sound {up : Bool} {c lo hi : IR} {l : Lit} (hc : FinIR_s c) (hlo : LowOK lo) (hhi : UpOK hi) {y : Rat}
    (h1 : IRBelow lo y) (h2 : IRAbove hi y) (h : relSat up c lo hi = some l) :
    (l = Lit.trueLit → if up then IRAbove c y else IRBelow c y) ∧
    (l = Lit.falseLit → ¬ (if up then IRAbove c y else IRBelow c y)) := by
  have hne : Lit.trueLit ≠ Lit.falseLit := by decide
  have b1 := (irBelow_iff hlo.side.1 y).1 h1
  have b2 := (irAbove_iff hhi.side.1 y).1 h2
  have ca := irAbove_iff (Or.inl hc) y
  have cb := irBelow_iff (Or.inl hc) y
  -- an interval bound at least as tight as `c` entails, one beyond `c` on the other side refutes (`Side.entails`)
  rcases relSat_some h with ⟨hu, hl, hx⟩ | ⟨hu, hl, hx⟩ | ⟨hu, hl, hx⟩ | ⟨hu, hl, hx⟩ <;> subst hu hl
  · exact ⟨fun _ => ca.2 (Side.weaken (d := .hi) hc hhi.side.1 hx b2), fun hf => absurd hf hne⟩
  · exact ⟨fun hf => absurd hf.symm hne, fun _ hy => Side.refute (d := .lo) hc hlo.side.1 hx b1 (ca.1 hy)⟩
  · exact ⟨fun _ => cb.2 (Side.weaken (d := .lo) hc hlo.side.1 hx b1), fun hf => absurd hf hne⟩
  · exact ⟨fun hf => absurd hf.symm hne, fun _ hy => Side.refute (d := .hi) hc hhi.side.1 hx b2 (cb.1 hy)⟩

theorem newRel_constant_sound {s : Sat} {t : Lra} {r : LRel} {left right : Lin} {l : Lit} {s' : Sat} {t' : Lra}
    {b : Option Nat} (ht : TabWF t) (ri : RelInv s t) (si : SemInv t) (hb : BndWF t) (hl : left.WF) (hr : right.WF)
    (hlv : ∀ p ∈ left.vars, p.1 < t.vals.length) (hrv : ∀ p ∈ right.vars, p.1 < t.vals.length)
    (hnz : NoZero (relE t left right)) (h : newRel s t r left right = some (l, s', t', b)) :
    (l = Lit.trueLit → ∀ σ, RowsS t σ → InBounds t σ → RelHolds r (Lin.evalS left σ) (Lin.evalS right σ)) ∧
    (l = Lit.falseLit → ∀ σ, RowsS t σ → InBounds t σ → ¬ RelHolds r (Lin.evalS left σ) (Lin.evalS right σ)) := by
  obtain ⟨e1, e2, e3, e4⟩ := relE_spec ht hl hr hlv hrv
  have hc := simpleC_finIR (relC_simple (t := t) r (left := left) (right := right) e3)
  -- from an interval of the rewritten difference to the relation
  have key : ∀ {lo hi : IR}, LowOK lo → UpOK hi →
      (∀ σ, RowsS t σ → InBounds t σ → IRBelow lo (Lin.evalS (relE t left right) σ) ∧
        IRAbove hi (Lin.evalS (relE t left right) σ)) →
      relSat (relUp r) (relC t r left right) lo hi = some l →
      (l = Lit.trueLit → ∀ σ, RowsS t σ → InBounds t σ → RelHolds r (Lin.evalS left σ) (Lin.evalS right σ)) ∧
      (l = Lit.falseLit → ∀ σ, RowsS t σ → InBounds t σ → ¬ RelHolds r (Lin.evalS left σ) (Lin.evalS right σ)) := by
    intro lo hi hlo hhi hin h0
    constructor
    · intro hlt σ hσ hσb
      obtain ⟨b1, b2⟩ := hin σ hσ hσb
      have := (relSat_sound hc hlo hhi b1 b2 h0).1 hlt
      rw [e4 σ hσ] at this
      exact (relC_means r e3 _ _).1 this
    · intro hlf σ hσ hσb
      obtain ⟨b1, b2⟩ := hin σ hσ hσb
      have := (relSat_sound hc hlo hhi b1 b2 h0).2 hlf
      rw [e4 σ hσ] at this
      exact fun hrel => this ((relC_means r e3 _ _).2 hrel)
  by_cases hc' : l = Lit.trueLit ∨ l = Lit.falseLit
  · rcases ((newRel_outcome h).of_const hc' ri.nvars_pos ri.sAsrts_nonconst).2.2 with ⟨h0, -⟩ | ⟨slack, -, hv, h1⟩
    · exact key (lbLin_ok hb e1 hnz e2) (ubLin_ok hb e1 hnz e2)
        (fun σ _ hσb => lbLin_ubLin_bounds hb e1 hnz e2 hσb) h0
    · have hnz' : NoZero (substBasic t (relE t left right)) := by rw [relE_subst_id ht hl hr]; exact hnz
      obtain ⟨-, b2, b3, b4⟩ := newVarLin_slack_bounds ht ri si hb e1 hnz' e2 hv
      exact key b2 b3 b4 h1
  · exact ⟨fun h1 => absurd (Or.inl h1) hc', fun h1 => absurd (Or.inr h1) hc'⟩

theorem BndWF.newRel {s : Sat} {t : Lra} {r : LRel} {left right : Lin} {l : Lit} {s' : Sat} {t' : Lra}
    {b : Option Nat} (ht : TabWF t) (ri : RelInv s t) (si : SemInv t) (hb : BndWF t) (hl : left.WF) (hr : right.WF)
    (hlv : ∀ p ∈ left.vars, p.1 < t.vals.length) (hrv : ∀ p ∈ right.vars, p.1 < t.vals.length)
    (hnz : NoZero (relE t left right)) (h : newRel s t r left right = some (l, s', t', b)) : BndWF t' := by
  obtain ⟨e1, e2, -, -⟩ := relE_spec ht hl hr hlv hrv
  have hnz' : NoZero (substBasic t (relE t left right)) := by rw [relE_subst_id ht hl hr]; exact hnz
  exact (newRel_outcome h).induct (P := fun _ u => BndWF u) hb
    (fun slack t1 hv => (newVarLin_slack_bounds ht ri si hb e1 hnz' e2 hv).1) (fun _ _ _ h => h)

theorem relE_nz {t : Lra} (ht : TabWF t) (hrz : RowsNoZero t) {left right : Lin} (hl : left.WF) (hr : right.WF)
    (hnl : NoZero left) (hnr : NoZero right) : NoZero (relE t left right) :=
  nz_substBasic ht hrz (Lin.sub_spec left right hl hr).1 (nz_sub hl hr hnl hnr)

theorem RowsNoZero.init : RowsNoZero Lra.init := fun _ he => absurd he List.not_mem_nil

theorem RowsNoZero.newVar {t : Lra} (h : RowsNoZero t) : RowsNoZero t.newVar.2 := h

theorem RowsNoZero.newVarLin {s : Sat} {t : Lra} (ht : TabWF t) (hrz : RowsNoZero t) {l : Lin} (hl : l.WF)
    (hnz : NoZero (substBasic t l)) (hlv : ∀ p ∈ l.vars, p.1 < t.vals.length) {slack : Nat} {t1 : Lra}
    (h : newVarLin s t l = some (slack, t1)) : RowsNoZero t1 := by
  rcases newVarLin_sound ht hl hlv h with ⟨h1, -, -⟩ | ⟨-, -, -, h4, -, -⟩
  · intro e he; exact hrz e (h1 ▸ he)
  · intro e he
    rcases (h4 e).1 he with he | he
    · exact hrz e he
    · rw [he]; exact hnz

theorem RowsNoZero.newRel {s : Sat} {t : Lra} {r : LRel} {left right : Lin} {l : Lit} {s' : Sat} {t' : Lra}
    {b : Option Nat} (ht : TabWF t) (hrz : RowsNoZero t) (hl : left.WF) (hr : right.WF)
    (hnl : NoZero left) (hnr : NoZero right)
    (hlv : ∀ p ∈ left.vars, p.1 < t.vals.length) (hrv : ∀ p ∈ right.vars, p.1 < t.vals.length)
    (h : newRel s t r left right = some (l, s', t', b)) : RowsNoZero t' := by
  obtain ⟨e1, e2, -, -⟩ := relE_spec ht hl hr hlv hrv
  have hnz : NoZero (substBasic t (relE t left right)) := by
    rw [relE_subst_id ht hl hr]; exact relE_nz ht hrz hl hr hnl hnr
  exact (newRel_outcome h).induct (P := fun _ u => RowsNoZero u) hrz (fun _ _ hv => hrz.newVarLin ht e1 hnz e2 hv)
    (fun _ _ _ h => h)

end Lra

end Oratio
