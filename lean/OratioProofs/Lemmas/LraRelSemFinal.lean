/-
C11S: the invariants together (`SemState`), the printing hypotheses discharged by Lemmas/LraPrint.lean, and the
corollaries: negation, sharing, `newEq`.
-/
import OratioModel
import OratioProofs.Lemmas.SatCoreCons
import OratioProofs.Lemmas.SatCoreQuiet
import OratioProofs.Lemmas.EncJunct
import OratioProofs.Lemmas.EncOps
import OratioProofs.Lemmas.LraCheckRows
import OratioProofs.Lemmas.LraPrint
import OratioProofs.Lemmas.LraRelBounds
import OratioProofs.Lemmas.LraRelSemInv

namespace Oratio
namespace Lra
open Lin

/-- everything the semantic theorems assume of a state: the invariant of the tableau (C09 bridge), the registry
    invariant (C11), the semantic invariant of the two string-keyed caches, canonical bounds -/
structure SemState (s : Sat) (t : Lra) : Prop where
  tab : TabWF t
  rel : RelInv s t
  sem : SemInv t
  bnd : BndWF t

theorem SemState.init : SemState Sat.init Lra.init := ⟨tabWF_init, RelInv.init, SemInv.init, BndWF.init⟩

theorem SemState.newVar {s : Sat} {t : Lra} (h : SemState s t) : SemState s t.newVar.2 :=
  ⟨tabWF_newVar h.tab, h.rel.newVar, h.sem.newVar @Lin.toStr_inj Lin.toStr_var_one, h.bnd.newVar h.rel.bounds_len⟩

theorem SemState.newRel {s : Sat} {t : Lra} {r : LRel} {left right : Lin} {l : Lit} {s' : Sat} {t' : Lra}
    {b : Option Nat} (hs : SemState s t) (hl : left.WF) (hr : right.WF)
    (hlv : ∀ p ∈ left.vars, p.1 < t.vals.length) (hrv : ∀ p ∈ right.vars, p.1 < t.vals.length)
    (hnz : NoZero (relE t left right)) (h : newRel s t r left right = some (l, s', t', b)) : SemState s' t' :=
  ⟨tabWF_newRel hs.tab hl hr hlv hrv h, hs.rel.newRel h,
    hs.sem.newRel @Lin.toStr_inj @relKey_inj Lin.toStr_var_one hs.tab hs.rel hl hr hlv hrv h,
    hs.bnd.newRel hs.tab hs.rel hs.sem hl hr hlv hrv hnz h⟩

theorem SemState.setBound {s : Sat} {t : Lra} (h : SemState s t) (i : Nat) {b : LBound} (hb : FinIR_s b.value) :
    SemState s (t.setBound i b) := by
  refine ⟨tabWF_congr (t := t) rfl rfl rfl h.tab, ?_, h.sem.of_sols rfl rfl rfl (fun σ hσ => hσ), ?_⟩
  · exact ⟨h.rel.nvars_pos, h.rel.sAsrts_nonconst, h.rel.vAsrts_lt,
      by show (t.bounds.set i b).length = _; rw [List.length_set]; exact h.rel.bounds_len,
      h.rel.aWatches_len, h.rel.exprs_lt⟩
  · intro x hx
    have hx' : x < t.vals.length := hx
    have hlo : LowOK b.value := ⟨hb.2, Or.inl hb.1⟩
    have hup : UpOK b.value := ⟨hb.2, Or.inl hb.1⟩
    constructor
    · show LowOK ((t.bounds.set i b).getD (lbIdx x) _).value
      rw [getD_set]
      split
      · exact hlo
      · exact (h.bnd x hx').1
    · show UpOK ((t.bounds.set i b).getD (ubIdx x) _).value
      rw [getD_set]
      split
      · exact hup
      · exact (h.bnd x hx').2

/-- the first three components need no hypothesis on zero coefficients -/
theorem newRel_keeps {s : Sat} {t : Lra} {r : LRel} {left right : Lin} {l : Lit} {s' : Sat} {t' : Lra}
    {b : Option Nat} (ht : TabWF t) (ri : RelInv s t) (si : SemInv t) (hl : left.WF) (hr : right.WF)
    (hlv : ∀ p ∈ left.vars, p.1 < t.vals.length) (hrv : ∀ p ∈ right.vars, p.1 < t.vals.length)
    (h : newRel s t r left right = some (l, s', t', b)) :
    TabWF t' ∧ RelInv s' t' ∧ SemInv t' ∧ t.vals.length ≤ t'.vals.length :=
  ⟨tabWF_newRel ht hl hr hlv hrv h, ri.newRel h, si.newRel @Lin.toStr_inj @relKey_inj Lin.toStr_var_one ht ri hl hr hlv hrv h, by
    exact (newRel_outcome h).induct (P := fun _ u => t.vals.length ≤ u.vals.length) (Nat.le_refl _)
      (fun _ _ hv => newVarLin_vals_length hv) (fun _ _ _ h => h)⟩

/-- what `propagateLit` asserts when the control literal of `a` is false: a lower bound `v + ε` for `x ≤ v`, an
    upper bound `v - ε` for `x ≥ v` -/
def NegSays (a : LAsrt) (σ : Nat → Rat) : Prop :=
  match a.o with
  | .leq => IRBelow (IR.add a.v ⟨R.zero, R.one⟩) (σ a.x)
  | .geq => IRAbove (IR.sub a.v ⟨R.zero, R.one⟩) (σ a.x)

theorem negSays_iff {a : LAsrt} (hv : SimpleC a.v) (σ : Nat → Rat) : NegSays a σ ↔ ¬ AsrtSays a σ := by
  unfold NegSays AsrtSays
  cases a.o
  · exact below_add_eps_iff hv _
  · exact above_sub_eps_iff hv _

theorem propagate_false (s : Sat) (t : Lra) (p : Lit) (a : LAsrt) (ha : t.asrtOf p.var = some a)
    (hv : s.value a.b = some false) :
    propagateLit s t p = (if a.o = .leq then assertLower s t a.x (IR.add a.v ⟨R.zero, R.one⟩) p
      else assertUpper s t a.x (IR.sub a.v ⟨R.zero, R.one⟩) p) := by
  unfold propagateLit
  rw [ha]
  simp only [hv]

theorem newVarLin_names {s : Sat} {t : Lra} {l : Lin} {slack : Nat} {t1 : Lra}
    (h : newVarLin s t l = some (slack, t1)) : findKey t1.exprs (Lin.toStr l) = some slack := by
  cases (newVarLin_nf h).2 with
  | found hf ht1 => rw [ht1]; exact hf
  | foundRewritten h0 hf ht1 => rw [ht1]; exact findKey_emplaceKey_self h0
  | created h0 h1 hroot hs ht1 =>
    subst hs ht1
    rw [withSlack_exprs]
    apply findKey_emplaceKey_of_some
    show findKey (emplaceKey (emplaceKey t.exprs _ _) (Lin.toStr l) t.vals.length) (Lin.toStr l) = _
    obtain ⟨w, hw, hw'⟩ := findKey_emplaceKey_same (emplaceKey t.exprs ("x" ++ toString t.vals.length) t.vals.length)
      (Lin.toStr l) t.vals.length
    rw [hw]
    rcases hw' with hw' | ⟨-, hw'⟩
    · rcases mem_emplaceKey (mem_of_findKey hw') with he | he
      · exact absurd (findKey_eq_none.1 h0 _ he) (by simp)
      · rw [(Prod.mk.inj he).2]
    · rw [hw']

theorem newVarLin_found {s : Sat} {t : Lra} {l : Lin} {v : Nat} (hf : findKey t.exprs (Lin.toStr l) = some v)
    {slack : Nat} {t1 : Lra} (h : newVarLin s t l = some (slack, t1)) : slack = v ∧ t1 = t := by
  cases (newVarLin_nf h).2 with
  | found hf' ht1 => exact ⟨Option.some.inj (hf'.symm.trans hf), ht1⟩
  | foundRewritten h0 _ _ => rw [h0] at hf; cases hf
  | created h0 _ _ _ _ => rw [h0] at hf; cases hf

theorem newRel_registered {s : Sat} {t : Lra} {r : LRel} {left right : Lin} {l : Lit} {s' : Sat} {t' : Lra}
    {b : Option Nat} (h : newRel s t r left right = some (l, s', t', b)) (hc : l ≠ Lit.trueLit ∧ l ≠ Lit.falseLit) :
    ∃ slack, findKey t'.exprs (Lin.toStr (relE t left right)) = some slack ∧
      findKey t'.sAsrts (relKey (relUp r) slack (relC t r left right)) = some l := by
  obtain ⟨slack, t1, -, hv, -, ⟨hf, -, rfl, -⟩ | ⟨hf, rfl, -, rfl, -⟩⟩ := (newRel_outcome h).of_nonconst hc
  · exact ⟨slack, newVarLin_names hv, hf⟩
  · exact ⟨slack, newVarLin_names (t1 := t1) hv, findKey_emplaceKey_self hf⟩

theorem newRel_toEnc {s : Sat} {t : Lra} {r : LRel} {left right : Lin} {l : Lit} {s' : Sat} {t' : Lra}
    {b : Option Nat} (h : newRel s t r left right = some (l, s', t', b)) (hE : EncL.Inv s.toEnc) :
    EncL.Inv s'.toEnc ∧ EncL.Extends s.toEnc s'.toEnc ∧ s.toEnc.nvars ≤ s'.toEnc.nvars := by
  have h0 : EncL.Inv s.toEnc ∧ EncL.Extends s.toEnc s.toEnc ∧ s.toEnc.nvars ≤ s.toEnc.nvars :=
    ⟨hE, EncL.Extends.refl _, Nat.le_refl _⟩
  refine (newRel_outcome h).induct
    (P := fun u _ => EncL.Inv u.toEnc ∧ EncL.Extends s.toEnc u.toEnc ∧ s.toEnc.nvars ≤ u.toEnc.nvars)
    h0 (fun _ _ _ => h0) (fun _ _ _ _ => ?_)
  have h1 := Sat.primSim.newVar s
  rw [Sat.prim_newVar] at h1
  rw [show s.newVar.2.toEnc = (Enc.prim.newVar s.toEnc).2 from congrArg Prod.snd h1]
  exact ⟨(EncL.newVar_spec hE).1, (EncL.newVar_spec hE).2.1, (EncL.newVar_spec hE).2.2.1⟩

theorem newRel_lit_lt {s : Sat} {t : Lra} {r : LRel} {left right : Lin} {l : Lit} {s' : Sat} {t' : Lra}
    {b : Option Nat} (ht : TabWF t) (ri : RelInv s t) (si : SemInv t) (hl : left.WF) (hr : right.WF)
    (hlv : ∀ p ∈ left.vars, p.1 < t.vals.length) (hrv : ∀ p ∈ right.vars, p.1 < t.vals.length)
    (h : newRel s t r left right = some (l, s', t', b)) : l.var < s'.nvars := by
  have ri' := ri.newRel h
  by_cases hc : l ≠ Lit.trueLit ∧ l ≠ Lit.falseLit
  · obtain ⟨a, ha, -⟩ := newRel_meaning ht ri si hl hr hlv hrv h hc
    exact ri'.vAsrts_lt _ (mem_of_asrtOf ha)
  · rcases (not_and_or.1 hc).imp not_not.1 not_not.1 with h1 | h1 <;> rw [h1] <;> exact ri'.nvars_pos

theorem newEq_conj {s : Sat} {t : Lra} {left right : Lin} {l : Lit} {s' : Sat} {t' : Lra} {bs : List Nat}
    (ht : TabWF t) (ri : RelInv s t) (si : SemInv t) (hE : EncL.Inv s.toEnc) (hl : left.WF) (hr : right.WF)
    (hlv : ∀ p ∈ left.vars, p.1 < t.vals.length) (hrv : ∀ p ∈ right.vars, p.1 < t.vals.length)
    (h : newEq s t left right = some (l, s', t', bs)) :
    ∃ l1 s1 t1 b1 l2 s2 b2, newRel s t .geq left right = some (l1, s1, t1, b1) ∧
      newRel s1 t1 .leq left right = some (l2, s2, t', b2) ∧ (l, s') = s2.newConj [l1, l2] ∧
      (∀ σ, RowsS t' σ → RowsS t1 σ) ∧
      (∀ α, EncL.Sat α s'.toEnc → α.lit l = (α.lit l1 && α.lit l2)) ∧
      EncL.Extends s.toEnc s'.toEnc := by
  obtain ⟨l1, s1, t1, b1, l2, s2, b2, h1, h2, hpair, -⟩ := newEq_nf h
  obtain ⟨ht1, ri1, si1, hle⟩ := newRel_keeps ht ri si hl hr hlv hrv h1
  have hlv1 : ∀ p ∈ left.vars, p.1 < t1.vals.length := fun p hp => Nat.lt_of_lt_of_le (hlv p hp) hle
  have hrv1 : ∀ p ∈ right.vars, p.1 < t1.vals.length := fun p hp => Nat.lt_of_lt_of_le (hrv p hp) hle
  refine ⟨l1, s1, t1, b1, l2, s2, b2, h1, h2, hpair,
    (newRel_conservative ht1 si1 hl hr hlv1 hrv1 h2).1, ?_⟩
  obtain ⟨hE1, x1, n1⟩ := newRel_toEnc h1 hE
  obtain ⟨hE2, x2, n2⟩ := newRel_toEnc h2 hE1
  have hlt1 : l1.var < s2.nvars := by
    have a1 := newRel_lit_lt ht ri si hl hr hlv hrv h1
    have a2 := (newRel_vAsrts_lt h2 ri1.vAsrts_lt).1
    omega
  have hlt2 : l2.var < s2.nvars := newRel_lit_lt ht1 ri1 si1 hl hr hlv1 hrv1 h2
  have hr2 : EncL.InRange s2.toEnc [l1, l2] := by
    intro x hx
    simp only [List.mem_cons, List.not_mem_nil, or_false] at hx
    rcases hx with rfl | rfl
    · exact hlt1
    · exact hlt2
  have hconj : pm Sat.toEnc (s2.newConj [l1, l2]) = s2.toEnc.newConj [l1, l2] := by
    have := Sat.primSim.newConj s2 [l1, l2]
    rw [Cons_enc_newConj] at this
    exact this
  obtain ⟨-, -, c3, c4, c5, -⟩ := EncL.conj_spec hE2 hr2
  have e0 : l = (s2.newConj [l1, l2]).1 := congrArg Prod.fst hpair
  have e0' : s' = (s2.newConj [l1, l2]).2 := congrArg Prod.snd hpair
  have e1 : (s2.newConj [l1, l2]).1 = (s2.toEnc.newConj [l1, l2]).1 := congrArg Prod.fst hconj
  have e2 : (s2.newConj [l1, l2]).2.toEnc = (s2.toEnc.newConj [l1, l2]).2 := congrArg Prod.snd hconj
  constructor
  · intro α hα
    rw [e0'] at hα
    rw [e2] at hα
    have := c3 α hα
    rw [e0, e1, this]
    simp
  · rw [e0', e2]
    exact EncL.Extends.trans (Nat.le_trans n1 n2) (EncL.Extends.trans n1 x1 x2) c4

end Lra

end Oratio
