/-
Totality of the parser model (property C16, parser part): with the fuel the entry points pass no parsing function
returns the out-of-fuel result, every successful call consumes tokens, every expression tree returned is well-formed;
and a result of the expression parser that is not "out of fuel" does not change with more fuel (`stab`).
-/
import OratioProofs.Lemmas.ParserBasic
import OratioProofs.Lemmas.Ensures

namespace Oratio.Riddle

/-- the errors allowed of a call that got the fuel `F` and needs `n`: never "undefined behaviour",
    and "out of fuel" only if `F < n` -/
def ErrOk (F n : Nat) (e : PErr) : Prop := (e = .fuel → F < n) ∧ ∀ w, e ≠ .ub w

variable {F n : Nat}

theorem ErrOk.msg {s : String} : ErrOk F n (.msg s) := ⟨nofun, nofun⟩
theorem ErrOk.lexer : ErrOk F n .lexer := ⟨nofun, nofun⟩
theorem ErrOk.fuel_iff : ErrOk F n .fuel ↔ F < n := ⟨fun h => h.1 rfl, fun h => ⟨fun _ => h, nofun⟩⟩

theorem ErrOk.mono {F' n' : Nat} {e : PErr} (h : ErrOk F n e) (hn : F < n → F' < n') : ErrOk F' n' e :=
  ⟨fun he => hn (h.1 he), h.2⟩

abbrev Run {β : Type} (F n : Nat) (P : β → Prop) : Except PErr β → Prop := Ensures (ErrOk F n) P

abbrev Spec {β : Type} (P : β → Prop) : Except PErr β → Prop := Run 0 0 P

section
variable {β γ : Type} {P : β → Prop} {Q : γ → Prop} {m : Except PErr β} {f : β → Except PErr γ}

theorem Spec_bind (hm : Spec P m) (hf : ∀ v, P v → Run F n Q (f v)) : Run F n Q (m >>= f) :=
  hm.bind (fun _ he => he.mono (by omega)) hf

theorem Spec_ne_fuel (hm : Spec P m) : m ≠ .error .fuel :=
  fun h => absurd ((hm.of_error h).1 rfl) (Nat.lt_irrefl 0)

theorem Spec_ne_ub (hm : Spec P m) (w : String) : m ≠ .error (.ub w) :=
  fun h => (hm.of_error h).2 w rfl

end


syntax "spec_leaf" : tactic

/-- `sb v h`: peel one `>>=` whose first component has a registered spec -/
macro "sb" x:ident h:ident : tactic =>
  `(tactic| (apply Spec_bind; spec_leaf; intro $x:ident $h:ident; try dsimp only at $h:ident))
/-- `sbx spec v h`: peel one `>>=` with an explicit spec of the first component -/
macro "sbx" e:term:max x:ident h:ident : tactic =>
  `(tactic| (apply Spec_bind $e; intro $x:ident $h:ident; try dsimp only at $h:ident))

abbrev Got {α : Type} (R : α → Prop) (k : Nat) (toks : List Tok) : α × List Tok → Prop :=
  fun v => R v.1 ∧ v.2.length + k ≤ toks.length
abbrev Any {α : Type} : α → Prop := fun _ => True

/-- The need is written `w * toks.length + c` (`w = 3` in the recursive groups) so that `seq` can let `c` grow by `w`
    for every token consumed: a call further down a block then needs less for a reason that mentions no length. -/
abbrev Parses {α : Type} (R : α → Prop) (k : Nat) (toks : List Tok) (m : PR α) : Prop :=
  ∀ {F w c : Nat}, Run F (w * toks.length + c) (Got R k toks) m
abbrev ParsesT (k : Nat) (toks : List Tok) (m : Except PErr (List Tok)) : Prop :=
  ∀ {F w c : Nat}, Run F (w * toks.length + c) (fun r => r.length + k ≤ toks.length) m

section
variable {α β : Type} {R : α → Prop} {Q R' : β → Prop} {P : α → Prop} {k i F n w c d : Nat} {toks t : List Tok}

theorem Run.spec {m : Except PErr α} (hm : Run F n P m) (h : n ≤ F := by exact Nat.le_refl _) {F' n' : Nat} : Run F' n' P m :=
  hm.mono (fun _ he => he.mono (by omega)) fun _ h => h

theorem Run.rebase {m : PR β} (h : t.length + k ≤ toks.length) (hm : Run F (w * t.length + (c + w * k)) (Got R' (i - k) t) m) :
    Run F (w * toks.length + c) (Got R' i toks) m :=
  hm.mono (fun _ he => he.mono fun hF => by have := Nat.mul_le_mul_left w h; rw [Nat.mul_add] at this; omega)
    fun _ hw => ⟨hw.1, by have := hw.2; omega⟩

theorem Parses.bind {m : PR α} {f : α × List Tok → Except PErr β} (hm : Parses R k toks m)
    (hf : ∀ a t, R a → t.length + k ≤ toks.length → Run F n Q (f (a, t))) : Run F n Q (m >>= f) :=
  Ensures.bind (hm (F := F) (w := 0) (c := n)) (fun _ he => he.mono (by rw [Nat.zero_mul, Nat.zero_add]; exact id))
    fun v hv => hf v.1 v.2 hv.1 hv.2

theorem ParsesT.bind {m : Except PErr (List Tok)} {f : List Tok → Except PErr β} (hm : ParsesT k toks m)
    (hf : ∀ t, t.length + k ≤ toks.length → Run F n Q (f t)) : Run F n Q (m >>= f) :=
  Ensures.bind (hm (F := F) (w := 0) (c := n)) (fun _ he => he.mono (by rw [Nat.zero_mul, Nat.zero_add]; exact id)) hf

theorem Parses.seq {m : PR α} {f : α × List Tok → PR β} (hm : Parses R k toks m)
    (hf : ∀ a t, R a → Run F (w * t.length + (c + w * k)) (Got R' (i - k) t) (f (a, t))) :
    Run F (w * toks.length + c) (Got R' i toks) (m >>= f) :=
  hm.bind fun a t ha h => .rebase h (hf a t ha)

theorem ParsesT.seq {m : Except PErr (List Tok)} {f : List Tok → PR β} (hm : ParsesT k toks m)
    (hf : ∀ t, Run F (w * t.length + (c + w * k)) (Got R' (i - k) t) (f t)) :
    Run F (w * toks.length + c) (Got R' i toks) (m >>= f) :=
  hm.bind fun t h => .rebase h (hf t)

theorem Run.seq {m : PR α} {f : α × List Tok → PR β} (hm : Run F (w * toks.length + d) (Got R k toks) m)
    (hf : ∀ a t, R a → Run (F + 1) (w * t.length + (c + w * k)) (Got R' (i - k) t) (f (a, t)))
    (hd : d < c := by decide) : Run (F + 1) (w * toks.length + c) (Got R' i toks) (m >>= f) :=
  Ensures.bind hm (fun _ he => he.mono (by omega)) fun v hv => Run.rebase hv.2 (hf v.1 v.2 hv.1)

theorem Run.tail {m : Except PErr α} (hm : Run F (w * toks.length + d) P m) (hd : d < c := by decide) :
    Run (F + 1) (w * toks.length + c) P m :=
  hm.mono (fun _ he => he.mono (by omega)) fun _ h => h

theorem Run.zero {m : Except PErr α} (h : m = .error .fuel := by rfl) (hn : 0 < n := by exact Nat.succ_pos _) : Run 0 n P m :=
  h ▸ ErrOk.fuel_iff.2 hn

theorem Run.pure {a : α} (h : R a) : Run F n (Got R 0 t) (pure (a, t)) := ⟨h, Nat.le_refl _⟩

theorem Run.done {a : α} : Run F n Any (Pure.pure a) := trivial

theorem Parses.of_le {m : PR α} (hm : Parses R k toks m) (h : i ≤ k := by decide) : Parses Any i toks m :=
  hm.mono (fun _ he => he) fun _ hv => ⟨trivial, Nat.le_trans (Nat.add_le_add_left h _) hv.2⟩

theorem Parses.ne_fuel {m : PR α} (hm : Parses R k toks m) : m ≠ .error .fuel := fun h => by
  have := ((hm (F := 0) (w := 0) (c := 0)).of_error h).1 rfl
  rw [Nat.zero_mul] at this
  exact Nat.lt_irrefl 0 this

theorem Parses.of_ok {m : PR α} {v : α × List Tok} (hm : Parses R k toks m) (h : m = .ok v) : Got R k toks v :=
  (hm (F := 0) (w := 0) (c := 0)).of_ok h

end

variable {toks : List Tok}

theorem adv_spec : ParsesT 1 toks (adv toks) := by
  unfold adv
  split
  · exact Nat.le_refl _
  · exact ErrOk.lexer

theorem expectSym_spec {s : Sym} {m : String} : ParsesT 1 toks (expectSym s m toks) := by
  unfold expectSym
  split
  · exact adv_spec
  · exact ErrOk.msg

theorem matchSym_seq {β : Type} {R' : β → Prop} {i F w c : Nat} {s : Sym} {f : Bool × List Tok → PR β}
    (hT : ∀ t, Run F (w * t.length + (c + w * 1)) (Got R' (i - 1) t) (f (true, t)))
    (hF : Run F (w * toks.length + c) (Got R' i toks) (f (false, toks))) :
    Run F (w * toks.length + c) (Got R' i toks) (matchSym s toks >>= f) := by
  unfold matchSym
  split
  · rw [bind_assoc]
    exact adv_spec.seq hT
  · exact hF

theorem expectId_spec : Parses Any 1 toks (expectId toks) := by
  unfold expectId
  split
  · exact adv_spec.seq fun _ => .pure trivial
  · exact ErrOk.lexer
  · exact ErrOk.msg

theorem dotIds_spec : Parses Any 0 toks (dotIds toks) := by
  fun_induction dotIds toks with
  | case1 n t r ih => exact ih.bind fun _ _ _ h => ⟨trivial, Nat.le_trans h (by simp only [List.length_cons]; omega)⟩
  | case5 => exact ⟨trivial, Nat.le_refl _⟩
  | case4 => exact ErrOk.msg
  | _ => exact ErrOk.lexer

theorem castLook_spec : Spec Any (castLook toks) := by
  fun_induction castLook toks with
  | case2 _ _ _ ih => exact ih
  | case1 | case3 | case6 => exact ErrOk.lexer
  | _ => trivial

theorem qid_spec : Parses (· ≠ []) 1 toks (qid toks) :=
  expectId_spec.seq fun _ _ _ => dotIds_spec.seq fun _ _ _ => .pure nofun

theorem parType_spec : Parses Any 1 toks (parType toks) := by
  unfold parType
  split
  · split
    · exact adv_spec.seq fun _ => .pure trivial
    · exact ErrOk.msg
  · exact adv_spec.seq fun _ => dotIds_spec.seq fun _ _ _ => .pure trivial
  · exact ErrOk.lexer
  · exact ErrOk.msg

theorem sepBy1_run {α : Type} {R : α → Prop} {item : List Tok → PR α} {sep : Sym} (hitem : ∀ toks, Parses R 1 toks (item toks)) :
    ∀ (F : Nat) (toks : List Tok), Run F (1 * toks.length + 1) (Got Any 1 toks) (sepBy1 item sep F toks)
  | 0, _ => .zero
  | _ + 1, _ => Parses.seq (hitem _) fun _ _ _ =>
      matchSym_seq (fun _ => (sepBy1_run hitem _ _).seq fun _ _ _ => .pure trivial) (.pure trivial)

theorem sepBy1_spec {α : Type} {R : α → Prop} {item : List Tok → PR α} {sep : Sym} (hitem : ∀ toks, Parses R 1 toks (item toks)) :
    Parses Any 1 toks (sepBy1 item sep (toks.length + 1) toks) :=
  (sepBy1_run hitem _ toks).spec (Nat.le_of_eq (by rw [Nat.one_mul]))

theorem untilSym_run {α : Type} {R : α → Prop} {item : List Tok → PR α} {close : Sym} (hitem : ∀ toks, Parses R 1 toks (item toks)) :
    ∀ (F : Nat) (toks : List Tok), Run F (1 * toks.length + 1) (Got Any 1 toks) (untilSym item close F toks)
  | 0, _ => .zero
  | _ + 1, _ => matchSym_seq (fun _ => .pure trivial) <|
      Parses.seq (hitem _) fun _ _ _ => (untilSym_run hitem _ _).seq fun _ _ _ => .pure trivial

theorem untilSym_spec {α : Type} {R : α → Prop} {item : List Tok → PR α} {close : Sym} (hitem : ∀ toks, Parses R 1 toks (item toks)) :
    Parses Any 1 toks (untilSym item close (toks.length + 1) toks) :=
  (untilSym_run hitem _ toks).spec (Nat.le_of_eq (by rw [Nat.one_mul]))

/-- The constants order the functions by who calls whom on the same tokens with one unit of fuel less:
    `pCallArgs` 4 > `pArgs` 3 > `pExpr`, `pLoop` 2 > `pPrimary`, `pNary` 1. -/
structure ExprInv (F : Nat) : Prop where
  expr : ∀ toks pr, Run F (3 * toks.length + 2) (Got Expr.WF 1 toks) (pExpr F pr toks)
  primary : ∀ toks, Run F (3 * toks.length + 1) (Got Expr.WF 1 toks) (pPrimary F toks)
  loop : ∀ toks pr e, e.WF → Run F (3 * toks.length + 2) (Got Expr.WF 0 toks) (pLoop F pr e toks)
  /-- an n-ary node gets a second operand when the loop is entered on its operator -/
  nary : ∀ toks s lvl acc, WFs acc → Run F (3 * toks.length + 1)
    (Got (fun xs => WFs xs ∧ acc.length + (isSym s toks).toNat ≤ xs.length) (isSym s toks).toNat toks) (pNary F s lvl acc toks)
  args : ∀ toks, Run F (3 * toks.length + 3) (Got WFs 1 toks) (pArgs F toks)
  callArgs : ∀ toks, Run F (3 * toks.length + 4) (Got WFs 1 toks) (pCallArgs F toks)

theorem ExprInv.step {f : Nat} (ih : ExprInv f) : ExprInv (f + 1) where
  expr toks pr :=
    (ih.primary toks).seq fun e t he => (ih.loop t pr e he).tail
  primary toks := by
    have un : ∀ (op : UOp) (t1 : List Tok),
        Run (f + 1) (3 * t1.length + (1 + 3 * 1)) (Got Expr.WF 0 t1) (pExpr f 4 t1 >>= fun x => pure (.un op x.1, x.2)) :=
      fun op t1 => (ih.expr t1 4).seq fun _ _ h => .pure h
    rw [pPrimary.eq_def]; dsimp only
    -- the arms: no token; `bool`, `int`, `real`, `str` literal; `(`; `+`, `-`, `!`; `new`; identifier; anything else
    split
    · exact ErrOk.lexer
    · exact adv_spec.seq fun _ => .pure trivial
    · exact adv_spec.seq fun _ => .pure trivial
    · exact adv_spec.seq fun _ => .pure trivial
    · exact adv_spec.seq fun _ => .pure trivial
    · exact adv_spec.seq fun t1 => Spec_bind castLook_spec fun _ _ => Ensures.ite
        (fun _ => qid_spec.seq fun _ _ hq => expectSym_spec.seq fun t3 =>
          (ih.expr t3 0).seq fun _ _ hx => .pure ⟨hq, hx⟩)
        (fun _ => (ih.expr t1 0).seq fun _ _ hx => expectSym_spec.seq fun _ => .pure hx)
    · exact adv_spec.seq (un .plus)
    · exact adv_spec.seq (un .minus)
    · exact adv_spec.seq (un .not)
    · exact adv_spec.seq fun _ => qid_spec.seq fun _ _ hq => expectSym_spec.seq fun t3 =>
        (ih.callArgs t3).seq fun _ _ hx => .pure ⟨hq, hx⟩
    · exact adv_spec.seq fun _ => dotIds_spec.seq fun _ _ _ => matchSym_seq
        (fun t3 => (ih.callArgs t3).seq fun _ _ hx => .pure hx) (.pure nofun)
    · exact ErrOk.msg
  loop toks pr e he := by
    rw [pLoop.eq_def]; dsimp only
    split
    · rename_i s tail
      split
      · exact Ensures.ite
          (fun _ => adv_spec.seq fun t1 => (ih.expr t1 _).seq fun x t hx => (ih.loop t pr (.bin _ e x) ⟨he, hx⟩).tail)
          (fun _ => Run.pure he)
      · refine Ensures.ite (fun _ => ?_) (fun _ => Run.pure he)
        have h := fun lvl => ih.nary (.sym s :: tail) s lvl [e] ⟨he, trivial⟩
        simp only [isSym_self, Bool.toNat_true] at h
        exact (h _).seq fun xs t hxs => (ih.loop t pr (.nary _ xs) ⟨hxs.2, hxs.1⟩).tail
      · exact .pure he
    · exact ErrOk.lexer
    · exact .pure he
  nary toks s lvl acc hacc := by
    rw [pNary.eq_2]
    split <;> rename_i hs
    · rw [hs]
      exact adv_spec.seq fun t1 => (ih.expr t1 lvl).seq fun x t hx =>
        (ih.nary t s lvl (acc ++ [x]) (WFs_append hacc ⟨hx, trivial⟩)).tail.mono (fun _ he => he) fun xs h =>
          ⟨⟨h.1.1, by have := h.1.2; rw [List.length_append] at this; exact Nat.le_trans (Nat.le_add_right ..) this⟩,
            Nat.le_trans (Nat.le_add_right ..) h.2⟩
    · rw [Bool.not_eq_true _ |>.mp hs]
      exact .pure ⟨hacc, Nat.le_refl _⟩
  args toks :=
    (ih.expr toks 0).seq fun _ _ hx => matchSym_seq
      (fun t => (ih.args t).seq fun _ _ hy => .pure ⟨hx, hy⟩) (.pure ⟨hx, trivial⟩)
  callArgs toks :=
    matchSym_seq (fun _ => .pure trivial) <|
      (ih.args toks).seq fun _ _ hy => expectSym_spec.seq fun _ => .pure hy

theorem exprInv : ∀ F, ExprInv F
  | 0 => ⟨fun _ _ => .zero, fun _ => .zero, fun _ _ _ _ => .zero, fun _ _ _ _ _ => .zero, fun _ => .zero, fun _ => .zero⟩
  | f + 1 => (exprInv f).step

theorem parseExpr_spec : Parses Expr.WF 1 toks (parseExpr toks) :=
  ((exprInv _).expr toks 0).spec

def FuelExt {α : Type} (r' r : Except PErr α) : Prop := r ≠ .error .fuel → r' = r

theorem FuelExt.refl {α : Type} (r : Except PErr α) : FuelExt r r := fun _ => rfl

theorem FuelExt.bind {α β : Type} {m' m : Except PErr α} {k' k : α → Except PErr β} (hm : FuelExt m' m)
    (hk : ∀ a, FuelExt (k' a) (k a)) : FuelExt (m' >>= k') (m >>= k) := by
  intro h
  cases m with
  | error e => rw [hm (fun he => h (by rw [he]; rfl))]; rfl
  | ok a => rw [hm nofun]; exact hk a h

theorem FuelExt.ite {α : Type} {c : Prop} [Decidable c] {a' a b' b : Except PErr α} (ha : FuelExt a' a) (hb : FuelExt b' b) :
    FuelExt (if c then a' else b') (if c then a else b) := by
  split
  · exact ha
  · exact hb

structure Stab (F : Nat) : Prop where
  expr : ∀ pr toks, FuelExt (pExpr (F + 1) pr toks) (pExpr F pr toks)
  primary : ∀ toks, FuelExt (pPrimary (F + 1) toks) (pPrimary F toks)
  loop : ∀ pr e toks, FuelExt (pLoop (F + 1) pr e toks) (pLoop F pr e toks)
  nary : ∀ s lvl acc toks, FuelExt (pNary (F + 1) s lvl acc toks) (pNary F s lvl acc toks)
  args : ∀ toks, FuelExt (pArgs (F + 1) toks) (pArgs F toks)
  callArgs : ∀ toks, FuelExt (pCallArgs (F + 1) toks) (pCallArgs F toks)

theorem Stab.step {f : Nat} (ih : Stab f) : Stab (f + 1) where
  expr pr toks := .bind (ih.primary toks) fun _ => ih.loop _ _ _
  primary toks := by
    have un : ∀ (op : UOp) (t1 : List Tok),
        FuelExt (pExpr (f + 1) 4 t1 >>= fun x => pure (Expr.un op x.1, x.2)) (pExpr f 4 t1 >>= fun x => pure (.un op x.1, x.2)) :=
      fun op t1 => .bind (ih.expr _ _) fun _ => .refl _
    rw [pPrimary.eq_def (f + 1 + 1), pPrimary.eq_def (f + 1)]; dsimp only
    -- the arms as in `ExprInv.step`; `split` takes both matches apart at once
    split
    · exact .refl _
    · exact .refl _
    · exact .refl _
    · exact .refl _
    · exact .refl _
    · exact .bind (.refl _) fun _ => .bind (.refl _) fun _ => .ite
        (.bind (.refl _) fun _ => .bind (.refl _) fun _ => .bind (ih.expr _ _) fun _ => .refl _)
        (.bind (ih.expr _ _) fun _ => .refl _)
    · exact .bind (.refl _) (un .plus)
    · exact .bind (.refl _) (un .minus)
    · exact .bind (.refl _) (un .not)
    · exact .bind (.refl _) fun _ => .bind (.refl _) fun _ => .bind (.refl _) fun _ =>
        .bind (ih.callArgs _) fun _ => .refl _
    · exact .bind (.refl _) fun _ => .bind (.refl _) fun _ => .bind (.refl _) fun _ =>
        .ite (.bind (ih.callArgs _) fun _ => .refl _) (.refl _)
    · exact .refl _
  loop pr e toks := by
    rw [pLoop.eq_def (f + 1 + 1), pLoop.eq_def (f + 1)]; dsimp only
    split
    · split
      · exact .ite (.bind (.refl _) fun _ => .bind (ih.expr _ _) fun _ => ih.loop _ _ _) (.refl _)
      · exact .ite (.bind (ih.nary _ _ _ _) fun _ => ih.loop _ _ _) (.refl _)
      · exact .refl _
    · exact .refl _
    · exact .refl _
  nary s lvl acc toks :=
    .ite (.bind (.refl _) fun _ => .bind (ih.expr _ _) fun _ => ih.nary _ _ _ _) (.refl _)
  args toks := .bind (ih.expr _ _) fun _ => .bind (.refl _) fun _ =>
    .ite (.bind (ih.args _) fun _ => .refl _) (.refl _)
  callArgs toks := .bind (.refl _) fun _ =>
    .ite (.refl _) (.bind (ih.args _) fun _ => .bind (.refl _) fun _ => .refl _)

theorem stab : ∀ F, Stab F
  | 0 => ⟨fun _ _ h => absurd rfl h, fun _ h => absurd rfl h, fun _ _ _ h => absurd rfl h, fun _ _ _ _ h => absurd rfl h,
      fun _ h => absurd rfl h, fun _ h => absurd rfl h⟩
  | f + 1 => (stab f).step

theorem optInit_spec : Parses Any 0 toks (optInit toks) :=
  Ensures.ite (fun _ => adv_spec.seq fun _ => parseExpr_spec.seq fun _ _ _ => .pure trivial) fun _ => Run.pure trivial

theorem localVar_spec : Parses Any 1 toks (localVar toks) :=
  expectId_spec.seq fun _ _ _ => optInit_spec.seq fun _ _ _ => .pure trivial

theorem localVarU_spec : Parses Any 1 toks (localVarU toks) := by
  unfold localVarU
  split
  · exact adv_spec.seq fun _ => optInit_spec.seq fun _ _ _ => .pure trivial
  · exact ErrOk.lexer
  · exact ErrOk.msg

theorem optCost_spec : Parses Any 0 toks (optCost toks) :=
  matchSym_seq (fun _ => parseExpr_spec.seq fun _ _ _ => expectSym_spec.seq fun _ => .pure trivial) (.pure trivial)

theorem formulaArg_spec : Parses Any 1 toks (formulaArg toks) :=
  expectId_spec.seq fun _ _ _ => expectSym_spec.seq fun _ => parseExpr_spec.seq fun _ _ _ => .pure trivial

theorem formulaBody_spec {isFact : Bool} : Parses Any 1 toks (formulaBody isFact toks) :=
  expectId_spec.seq fun _ _ _ => expectSym_spec.seq fun _ => expectSym_spec.seq fun _ => qid_spec.seq fun _ _ _ =>
    expectSym_spec.seq fun t5 => matchSym_seq
      (fun _ => Parses.seq (R := Any) (k := 0) (Run.pure trivial) fun _ _ _ => expectSym_spec.seq fun _ => .pure trivial)
      (Parses.seq (R := Any) (k := 0) (Parses.seq (sepBy1_spec @formulaArg_spec) fun _ _ _ => expectSym_spec.seq fun _ => .pure trivial)
        fun _ _ _ => expectSym_spec.seq fun _ => .pure trivial)

structure StmtInv (F : Nat) : Prop where
  stmt : ∀ toks, Run F (3 * toks.length + 1) (Got Any 1 toks) (pStmt F toks)
  blockBody : ∀ toks, Run F (3 * toks.length + 2) (Got Any 1 toks) (pBlockBody F toks)
  stmts : ∀ toks, Run F (3 * toks.length + 2) (Got Any 1 toks) (pStmts F toks)
  disjRest : ∀ toks, Run F (3 * toks.length + 1) (Got Any 0 toks) (pDisjRest F toks)

theorem StmtInv.step {f : Nat} (ih : StmtInv f) : StmtInv (f + 1) where
  stmt toks := by
    have ex : ∀ t, Parses Any 1 t (parseExpr t >>= fun x => expectSym .SEMICOLON eSemi x.2 >>= fun t2 =>
        pure (Stmt.expr x.1, t2)) :=
      fun _ => parseExpr_spec.seq fun _ _ _ => expectSym_spec.seq fun _ => .pure trivial
    rw [pStmt.eq_def]; dsimp only
    -- the arms: no token; identifier; `{`; `fact`; `goal`; `return`; another symbol (a primitive type or an expression); anything else
    split
    · exact ErrOk.lexer
    · -- the third branch parses the statement again from its first token (`backtrack`)
      refine adv_spec.bind fun _ h1 => dotIds_spec.bind fun _ t2 _ h2 => ?_
      have h : t2.length + 1 ≤ _ := Nat.le_trans (Nat.succ_le_succ h2) h1
      split
      · exact .rebase h <| Parses.seq (sepBy1_spec @localVarU_spec) fun _ _ _ => expectSym_spec.seq fun _ => .pure trivial
      · exact .rebase h <| adv_spec.seq fun _ => parseExpr_spec.seq fun _ _ _ => expectSym_spec.seq fun _ => .pure trivial
      · exact Ensures.ite (fun _ => ex _) fun _ => ErrOk.msg
      · exact ErrOk.lexer
      · exact ErrOk.msg
    · exact adv_spec.seq fun t1 => (ih.blockBody t1).seq fun _ t2 _ => Ensures.ite
        (fun _ => optCost_spec.seq fun _ t3 _ => (ih.disjRest t3).seq fun _ _ _ => .pure trivial) fun _ => Run.pure trivial
    · exact adv_spec.seq fun _ => formulaBody_spec.of_le
    · exact adv_spec.seq fun _ => formulaBody_spec.of_le
    · exact adv_spec.seq fun _ => parseExpr_spec.seq fun _ _ _ => expectSym_spec.seq fun _ => .pure trivial
    · split
      · exact adv_spec.seq fun _ => Parses.seq (sepBy1_spec @localVar_spec) fun _ _ _ => expectSym_spec.seq fun _ => .pure trivial
      · exact ex _
    · exact ex _
  blockBody toks :=
    (ih.stmt toks).seq fun _ t1 _ => matchSym_seq (fun _ => .pure trivial) <|
      (ih.blockBody t1).seq fun _ _ _ => .pure trivial
  stmts toks :=
    matchSym_seq (fun _ => .pure trivial) <|
      (ih.stmt toks).seq fun _ t2 _ => (ih.stmts t2).seq fun _ _ _ => .pure trivial
  disjRest toks :=
    matchSym_seq
      (fun _ => expectSym_spec.seq fun t2 => (ih.stmts t2).seq fun _ _ _ => optCost_spec.seq fun _ t4 _ =>
        (ih.disjRest t4).seq fun _ _ _ => .pure trivial)
      (.pure trivial)

theorem stmtInv : ∀ F, StmtInv F
  | 0 => ⟨fun _ => .zero, fun _ => .zero, fun _ => .zero, fun _ => .zero⟩
  | f + 1 => (stmtInv f).step

theorem parseStmt_spec : Parses Any 1 toks (parseStmt toks) :=
  ((stmtInv _).stmt toks).spec (Nat.le_succ _)

theorem body_spec : Parses Any 1 toks (body toks) :=
  expectSym_spec.seq fun _ => Parses.of_le (untilSym_spec @parseStmt_spec)

theorem param_spec : Parses Any 1 toks (param toks) :=
  parType_spec.seq fun _ _ _ => expectId_spec.seq fun _ _ _ => .pure trivial

theorem params_spec : Parses Any 1 toks (params toks) :=
  expectSym_spec.seq fun _ => matchSym_seq (fun _ => .pure trivial) <|
    Parses.seq (sepBy1_spec @param_spec) fun _ _ _ => expectSym_spec.seq fun _ => .pure trivial

theorem parseTypedef_spec : Parses Any 1 toks (parseTypedef toks) := by
  refine expectSym_spec.seq fun _ => ?_
  split
  · split
    · exact adv_spec.seq fun _ => parseExpr_spec.seq fun _ _ _ => expectId_spec.seq fun _ _ _ =>
        expectSym_spec.seq fun _ => .pure trivial
    · exact ErrOk.msg
  · exact ErrOk.lexer
  · exact ErrOk.msg

theorem enumAlt_spec : Parses Any 1 toks (enumAlt toks) := by
  unfold enumAlt
  split
  · refine adv_spec.seq fun _ => Parses.seq (sepBy1_spec (R := Any) fun ts => ?_) fun _ _ _ =>
      expectSym_spec.seq fun _ => .pure trivial
    split
    · exact adv_spec.seq fun _ => .pure trivial
    · exact ErrOk.lexer
    · exact ErrOk.msg
  · exact adv_spec.seq fun _ => dotIds_spec.seq fun _ _ _ => .pure trivial
  · exact ErrOk.lexer
  · exact ErrOk.msg

theorem parseEnum_spec : Parses Any 1 toks (parseEnum toks) :=
  expectSym_spec.seq fun _ => expectId_spec.seq fun _ _ _ => Parses.seq (sepBy1_spec @enumAlt_spec) fun _ _ _ =>
    expectSym_spec.seq fun _ => .pure trivial

theorem varDecl_spec : Parses Any 1 toks (varDecl toks) :=
  expectId_spec.seq fun _ _ _ => matchSym_seq (fun _ => parseExpr_spec.seq fun _ _ _ => .pure trivial) (.pure trivial)

theorem parseField_spec : Parses Any 1 toks (parseField toks) :=
  parType_spec.seq fun _ _ _ => Parses.seq (sepBy1_spec @varDecl_spec) fun _ _ _ => expectSym_spec.seq fun _ => .pure trivial

theorem retType_spec : Parses Any 1 toks (retType toks) := by
  unfold retType
  split
  · split
    · exact adv_spec.seq fun _ => .pure trivial
    · exact qid_spec.of_le
  · exact qid_spec.of_le

theorem parseMethod_spec : Parses Any 1 toks (parseMethod toks) := by
  refine matchSym_seq (fun _ => Parses.seq (R := Any) (k := 0) (Run.pure trivial) ?_) (retType_spec.seq ?_)
  all_goals exact fun _ _ _ => expectId_spec.seq fun _ _ _ => params_spec.seq fun _ _ _ =>
    body_spec.seq fun _ _ _ => .pure trivial

theorem initItem_spec : Parses Any 1 toks (initItem toks) :=
  expectId_spec.seq fun _ _ _ => expectSym_spec.seq fun _ => matchSym_seq (fun _ => .pure trivial) <|
    Parses.seq (sepBy1_spec @parseExpr_spec) fun _ _ _ => expectSym_spec.seq fun _ => .pure trivial

theorem parseCtor_spec : Parses Any 1 toks (parseCtor toks) := by
  refine expectId_spec.seq fun _ _ _ => params_spec.seq fun _ _ _ => matchSym_seq
    (fun _ => Parses.seq (sepBy1_spec @initItem_spec) ?_) (Parses.seq (R := Any) (k := 0) (Run.pure trivial) ?_)
  all_goals exact fun _ _ _ => body_spec.seq fun _ _ _ => .pure trivial

theorem parsePredicate_spec : Parses Any 1 toks (parsePredicate toks) := by
  refine expectSym_spec.seq fun _ => expectId_spec.seq fun _ _ _ => params_spec.seq fun _ _ _ => matchSym_seq
    (fun _ => Parses.seq (sepBy1_spec @qid_spec) ?_) (Parses.seq (R := Any) (k := 0) (Run.pure trivial) ?_)
  all_goals exact fun _ _ _ => body_spec.seq fun _ _ _ => .pure trivial

theorem memberTail_spec : Spec Any (memberTail toks) := by
  unfold memberTail
  split
  iterate 4 trivial
  · exact ErrOk.lexer
  · exact ErrOk.msg

theorem lookPrimMember_spec : Spec Any (lookPrimMember toks) :=
  adv_spec.bind fun _ _ => expectId_spec.bind fun _ _ _ _ => memberTail_spec

theorem lookIdMember_spec : Spec Any (lookIdMember toks) := by
  refine adv_spec.bind fun _ _ => ?_
  split
  · trivial
  · exact dotIds_spec.bind fun _ _ _ _ => expectId_spec.bind fun _ _ _ _ => memberTail_spec
  · exact adv_spec.bind fun _ _ => memberTail_spec
  · exact ErrOk.lexer
  · exact ErrOk.msg

structure ClassInv (F : Nat) : Prop where
  cls : ∀ toks, Run F (3 * toks.length + 1) (Got Any 1 toks) (pClass F toks)
  members : ∀ toks, Run F (3 * toks.length + 3) (Got Any 1 toks) (pMembers F toks)
  member : ∀ toks, Run F (3 * toks.length + 2) (Got Any 1 toks) (pMember F toks)

theorem ClassInv.step {f : Nat} (ih : ClassInv f) : ClassInv (f + 1) where
  cls toks := by
    refine expectSym_spec.seq fun _ => expectId_spec.seq fun _ _ _ => matchSym_seq
      (fun _ => Parses.seq (sepBy1_spec @qid_spec) ?_) (Parses.seq (R := Any) (k := 0) (Run.pure trivial) ?_)
    all_goals exact fun _ _ _ => expectSym_spec.seq fun t5 => (ih.members t5).seq fun _ _ _ => .pure trivial
  members toks :=
    matchSym_seq (fun _ => .pure trivial) <|
      (ih.member toks).seq fun _ t2 _ => (ih.members t2).seq fun _ _ _ => .pure trivial
  member toks := by
    have hM : Run (f + 1) (3 * toks.length + 2) (Got Any 1 toks) (parseMethod toks >>= fun x => pure (Member.method x.1, x.2)) :=
      parseMethod_spec.seq fun _ _ _ => .pure trivial
    have hF : Run (f + 1) (3 * toks.length + 2) (Got Any 1 toks) (parseField toks >>= fun x => pure (Member.field x.1, x.2)) :=
      parseField_spec.seq fun _ _ _ => .pure trivial
    rw [pMember.eq_def]; dsimp only
    -- the arms: no token; `typedef`; `enum`; `class`; `predicate`; `void`; identifier; another symbol; anything else
    split
    · exact ErrOk.lexer
    · exact parseTypedef_spec.seq fun _ _ _ => .pure trivial
    · exact parseEnum_spec.seq fun _ _ _ => .pure trivial
    · exact (ih.cls _).seq fun _ _ _ => .pure trivial
    · exact parsePredicate_spec.seq fun _ _ _ => .pure trivial
    · exact hM
    · exact Spec_bind lookIdMember_spec fun
        | .ctor, _ => parseCtor_spec.seq fun _ _ _ => .pure trivial
        | .method, _ => hM
        | .field, _ => hF
    · split
      · exact Spec_bind lookPrimMember_spec fun
          | .method, _ => hM
          | .field, _ | .ctor, _ => hF
      · exact ErrOk.msg
    · exact ErrOk.msg

theorem classInv : ∀ F, ClassInv F
  | 0 => ⟨fun _ => .zero, fun _ => .zero, fun _ => .zero⟩
  | f + 1 => (classInv f).step

theorem parseClass_spec : Parses Any 1 toks (parseClass toks) :=
  ((classInv _).cls toks).spec (Nat.le_add_right _ 2)

theorem lookTopMethod_spec : Spec Any (lookTopMethod toks) := by
  refine adv_spec.bind fun _ _ => dotIds_spec.bind fun _ _ _ _ => ?_
  dsimp only
  split
  · refine adv_spec.bind fun _ _ => ?_
    exact Ensures.ite (fun _ => adv_spec.bind fun _ _ => Run.done) fun _ => Run.done
  · trivial

theorem lookTopPrimMethod_spec : Spec Any (lookTopPrimMethod toks) := by
  refine adv_spec.bind fun _ _ => ?_
  split
  · exact adv_spec.bind fun _ _ => Run.done
  · trivial

theorem topItem_spec : Parses Any 1 toks (topItem toks) := by
  have hS : Parses Any 1 toks (parseStmt toks >>= fun x => pure (TopItem.stmt x.1, x.2)) :=
    parseStmt_spec.seq fun _ _ _ => .pure trivial
  have hM : Parses Any 1 toks (parseMethod toks >>= fun x => pure (TopItem.method x.1, x.2)) :=
    parseMethod_spec.seq fun _ _ _ => .pure trivial
  intro F w c
  unfold topItem
  -- the arms: no token; `typedef`, `enum`, `class`, `predicate`; `void`; the twelve tokens that start a statement; identifier; another symbol
  split
  · exact ErrOk.lexer
  · exact parseTypedef_spec.seq fun _ _ _ => .pure trivial
  · exact parseEnum_spec.seq fun _ _ _ => .pure trivial
  · exact parseClass_spec.seq fun _ _ _ => .pure trivial
  · exact parsePredicate_spec.seq fun _ _ _ => .pure trivial
  · exact hM
  iterate 12 exact hS
  · exact Spec_bind lookTopMethod_spec fun _ _ => Ensures.ite (fun _ => hM) fun _ => hS
  · split
    · exact Spec_bind lookTopPrimMethod_spec fun _ _ => Ensures.ite (fun _ => hM) fun _ => hS
    · exact ErrOk.msg

theorem topLoop_spec : ∀ {F : Nat} {toks : List Tok}, Run F (toks.length + 1) Any (topLoop F toks)
  | 0, _ => .zero
  | _ + 1, _ => Ensures.ite (fun _ => Run.done) fun _ =>
      topItem_spec.bind fun _ _ _ h => Ensures.bind topLoop_spec (fun _ he => he.mono (by omega)) fun _ _ => Run.done

theorem parseUnit_spec : Spec Any (parseUnit toks) :=
  Spec_bind topLoop_spec.spec fun _ _ => Run.done

/-- postcondition on successful results (partial correctness) -/
def Post {β : Type} (P : β → Prop) (res : Except PErr β) : Prop :=
  match res with
  | .ok v => P v
  | .error _ => True

theorem Post_ok {β : Type} {P : β → Prop} {v : β} (h : P v) : Post P (.ok v) := h
theorem Post_error {β : Type} {P : β → Prop} {e : PErr} : Post P (.error e : Except PErr β) := trivial
theorem Post_elim {β : Type} {P : β → Prop} {m : Except PErr β} {v : β} (hm : Post P m) (h : m = .ok v) : P v := by
  rw [h] at hm; exact hm

theorem Post_of_ensures {β : Type} {E : PErr → Prop} {P : β → Prop} {m : Except PErr β} (h : Ensures E P m) : Post P m := by
  cases m with
  | error e => exact Post_error
  | ok v => exact h

theorem pExpr_wf (F pr : Nat) (toks : List Tok) : Post (fun v => v.1.WF) (pExpr F pr toks) :=
  Post_of_ensures (((exprInv F).expr toks pr).mono (fun _ h => h) fun _ h => h.1)

end Oratio.Riddle
