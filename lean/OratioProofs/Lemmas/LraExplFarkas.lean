/-
C09X: the conflict clause of `check()` is a theory lemma (the Farkas step), at the state in which the conflict is
found; `check` keeps the solutions, so it is one of the state `check` was called in.
-/
import OratioModel
import OratioProofs.Lemmas.LraExplLoops
import OratioProofs.Lemmas.LraGoodVals

namespace Oratio
namespace Lra
open IR Lin

/-- the loop of `check` that collects the blocking reasons -/
def collect (P N : Nat → Lit) (c : List Lit) (e : Nat × R) : List Lit :=
  if e.2.isPositive then c ++ [P e.1] else if e.2.isNegative then c ++ [N e.1] else c

theorem collect_ex (P N : Nat → Lit) : ∀ (vars : List (Nat × R)) (acc : List Lit) (l : Lit),
    l ∈ vars.foldl (collect P N) acc ↔ l ∈ acc ∨ ∃ e ∈ vars, (e.2.isPositive = true ∧ l = P e.1) ∨
      (e.2.isPositive = false ∧ e.2.isNegative = true ∧ l = N e.1)
  | [], acc, l => by simp
  | e :: vars, acc, l => by
    have h1 : l ∈ collect P N acc e ↔ l ∈ acc ∨ (e.2.isPositive = true ∧ l = P e.1) ∨
        (e.2.isPositive = false ∧ e.2.isNegative = true ∧ l = N e.1) := by
      unfold collect
      split
      · next h => simp [h]
      · next h =>
        split
        · next h' => simp [h, h']
        · next h' => simp [h, h']
    rw [List.foldl_cons, collect_ex P N vars, h1]
    simp only [List.mem_cons, exists_eq_or_imp, or_assoc]

theorem Side.evalQ_le {ν μ : Nat → QV} {l : Lin} :
    ∀ {d : Side}, (∀ p ∈ l.vars, d.le (p.2.toRat • ν p.1) (p.2.toRat • μ p.1)) → d.le (evalQ l ν) (evalQ l μ)
  | .lo, h => Lra.evalQ_le h
  | .hi, h => Lra.evalQ_le h

/-- the term `e` cannot move its row away from side `d`: `check` found its variable at the bound that matters -/
def Blocked (d : Side) (t : Lra) (e : Nat × R) : Prop :=
  (e.2.isPositive = true → d.ltB (t.value e.1) (d.flip.bd t e.1) = false) ∧
  (e.2.isNegative = true → d.flip.ltB (t.value e.1) (d.bd t e.1) = false)

def sConflict (d : Side) (t : Lra) (xi : Nat) (fl : Lin) : List Lit :=
  fl.vars.foldl (collect (fun x => (d.flip.rsn t x).neg) (fun x => (d.rsn t x).neg)) [] ++ [(d.rsn t xi).neg]

/-- under both valuations the row holds, and term by term `σ` is no further from side `d` than the
    current assignment -/
theorem farkas (d : Side) {t : Lra} (ht : TabWF t) (hb : BoundsOK t) (hl : BoundsLen t) (hv : ValsOK t)
    {xi : Nat} {fl : Lin} (hmem : (xi, fl) ∈ t.tableau)
    (hviol : d.ltB (t.value xi) (d.bd t xi) = true) (hblock : ∀ e ∈ fl.vars, Blocked d t e)
    (α : Asg) (σr σi : Nat → Rat) (hs : Solves t σr σi) (hj : BoundsJust α σr σi t) :
    α.clause (sConflict d t xi fl) = true := by
  apply Dl.clause_true_of
  intro hall
  obtain ⟨hxr, hvr⟩ := row_var_inrange ht hl hmem
  obtain ⟨_, lw, _⟩ := (wf_iff fl).1 (ht.rows _ hmem)
  have hbd : ∀ (e : Side) (x : Nat), ubIdx x < t.bounds.length → (e.rsn t x).neg ∈ sConflict d t xi fl →
      IR.Fin (e.bd t x) → e.le (IR.val (e.bd t x)) (nu σr σi x) :=
    fun e x hx hm hf => (e.holds_fin hf _).1 (hj.side hx e (lit_of_neg_false (hall _ hm)))
  obtain ⟨hf, hlt⟩ := SOk.of_ltB (hv.1 xi) (hb.side xi d) hviol
  have h1 := hbd d xi hxr (List.mem_append_right _ (List.mem_singleton.2 rfl)) hf
  have h4 : d.le (evalQ fl (nu σr σi)) (evalQ fl (nu t.ratAssign t.infAssign)) := by
    apply Side.evalQ_le
    intro p hp
    have hc := lw p hp
    have mem : ∀ {l}, _ → l ∈ _ := fun {l} h =>
      (collect_ex (fun x => (d.flip.rsn t x).neg) (fun x => (d.rsn t x).neg) fl.vars [] l).2 (Or.inr ⟨p, hp, h⟩)
    rw [nu_assign]
    by_cases hpos : p.2.isPositive = true
    · obtain ⟨f1, f2⟩ := SOk.of_not_inside (hv.1 p.1) (hb.side p.1 d.flip)
        ((Side.flip_ltB d _ _).trans ((hblock p hp).1 hpos))
      have := hbd d.flip p.1 (hvr p hp) (List.mem_append_left _ (mem (Or.inl ⟨hpos, rfl⟩))) f1
      exact Side.smul_le (le_of_lt (hc.isPositive_iff.1 hpos)) (Side.flip_le.1 (Side.le_trans f2 this))
    · have hpos' : p.2.isPositive = false := by simpa using hpos
      by_cases hneg : p.2.isNegative = true
      · obtain ⟨f1, f2⟩ := SOk.of_not_inside (hv.1 p.1) (hb.side p.1 d)
          ((Side.flip_ltB d _ _).symm.trans ((hblock p hp).2 hneg))
        have := hbd d p.1 (hvr p hp) (List.mem_append_left _ (mem (Or.inr ⟨hpos', hneg, rfl⟩))) f1
        exact Side.smul_le_flip (le_of_lt (hc.isNegative_iff.1 hneg)) (Side.flip_le.2 (Side.le_trans f2 this))
      · rw [zero_toRat hc hpos' (by simpa using hneg), zero_smul, zero_smul]
        exact d.le_refl _
  rw [hs.row hmem] at h1
  have := Side.le_trans h1 h4
  rw [← hv.2.row hmem] at this
  exact Side.not_lt_of_le this hlt

theorem solves_iff_rows (t : Lra) (σr σi : Nat → Rat) :
    Solves t σr σi ↔ RowsS t σr ∧ RowsS t (fun x => σr x + σi x) :=
  and_congr_right fun h => rows_sum_iff h

theorem SameSol.solves {t t' : Lra} (h : SameSol t t') (σr σi : Nat → Rat) :
    Solves t σr σi ↔ Solves t' σr σi := by
  rw [solves_iff_rows, solves_iff_rows]
  exact and_congr (h.2 σr) (h.2 (fun x => σr x + σi x))

theorem blocked_of_find {d : Side} {t : Lra} {q : Nat × R → Bool} {fl : Lin} (hq : fl.vars.find? q = none)
    (h : ∀ e, q e = false → Blocked d t e) : ∀ e ∈ fl.vars, Blocked d t e :=
  fun e he => h e (by simpa using List.find?_eq_none.1 hq e he)

theorem check_conflict_valid {t t' : Lra} {fuel : Nat} {cl : List Lit} (ht : TabWF t) (hb : BoundsOK t)
    (hl : BoundsLen t) (hv : ValsOK t) (h : t.check fuel = some (some cl, t'))
    (α : Asg) (σr σi : Nat → Rat) (hs : Solves t σr σi) (hj : BoundsJust α σr σi t) :
    α.clause cl = true := by
  have hss := sameSol_check fuel t t' _ ht h
  have hv' := valsOK_check fuel t t' _ ht hb hv h
  have hcore := (C09_core_iff t t').1 (C09_core_check fuel t t' _ h)
  have hb' : BoundsOK t' := boundsOK_congr hcore.1 hb
  have hj' : BoundsJust α σr σi t' := boundsJust_congr hcore.1 hj
  have hs' : Solves t' σr σi := (hss.solves σr σi).1 hs
  have hl' : BoundsLen t' := by unfold BoundsLen; rw [hcore.1, (check_writes h).kept.nvars]; exact hl
  cases check_exit h with
  | lower hf hlt hq =>
    exact farkas .lo hss.1 hb' hl' hv' (List.mem_of_find?_eq_some hf) hlt
      (blocked_of_find hq fun e he => by simpa [Blocked, canGrow, Side.ltB, Side.flip, Side.bd_lo, Side.bd_hi] using he) α σr σi hs' hj'
  | upper hf _ hgt hq =>
    exact farkas .hi hss.1 hb' hl' hv' (List.mem_of_find?_eq_some hf) hgt
      (blocked_of_find hq fun e he => by simpa [Blocked, canShrink, Side.ltB, Side.flip, Side.bd_lo, Side.bd_hi, and_comm] using he) α σr σi hs' hj'

end Lra

end Oratio
