/-
C07: `new_clause` at root level keeps the invariants.
-/
import OratioProofs.Lemmas.SatCoreOps
import OratioProofs.Lemmas.SatCoreQuiet

namespace Oratio
namespace Sat

theorem ents_drop_false {F K : Cnf} {s : Sat} (ha : s.WfA) (he : s.Ent F K) (hroot : s.trailLim = [])
    {c r : Clause} (hc : Ents F c) (h : ∀ l ∈ c, l ∈ r ∨ s.value l = some false) : Ents F r := by
  have hdec : s.decisions = [] := List.eq_nil_of_length_eq_zero (by rw [ha.decLen, hroot]; rfl)
  have := he.drop_false hc fun l hl => (h l hl).imp_right ha.value_false.1
  rwa [hdec, show F ++ units [] = F from List.append_nil F] at this

theorem root_true {s : Sat} (ha : s.WfA) (hroot : s.trailLim = []) {α : Asg} (h0 : α 0 = false)
    (hr : ∀ l ∈ s.trail, s.lvl l = 0 → α.lit l = true) {l : Lit} (hv : s.value l = some true) : α.lit l = true := by
  rcases (ha.value_true).1 hv with h1 | h1
  · exact hr l h1 (ha.root_lvl hroot h1)
  · subst h1; exact Asg.lit_trueLit h0

theorem root_false {s : Sat} (ha : s.WfA) (hroot : s.trailLim = []) {α : Asg} (h0 : α 0 = false)
    (hr : ∀ l ∈ s.trail, s.lvl l = 0 → α.lit l = true) {l : Lit} (hv : s.value l = some false) : α.lit l = false := by
  have := root_true ha hroot h0 hr (value_neg_true.2 hv)
  rw [Asg.lit_neg] at this
  simpa using this

theorem newClause_frame (s : Sat) (c : List Lit) :
    (s.newClause c).2.trailLim = s.trailLim ∧ ((s.newClause c).1 = false → (s.newClause c).2.dead = true) ∧
      ((s.newClause c).1 = true → (s.newClause c).2.dead = s.dead) ∧ (s.newClause c).2.log = s.log ∧
      (s.newClause c).2.exprs = s.exprs ∧ (s.newClause c).2.vals.length = s.vals.length ∧
      (s.newClause c).2.decisions = s.decisions := by
  rcases newClause_outcome s c with ⟨e, _⟩ | ⟨r, h1, _, _, e⟩ <;> rw [e]
  · exact ⟨rfl, (fun e => by cases e), fun _ => rfl, rfl, rfl, rfl, rfl⟩
  · match r, h1 with
    | [], _ => exact ⟨rfl, fun _ => rfl, (fun e => by cases e), rfl, rfl, rfl, rfl⟩
    | [l], h1 =>
      simp only [enqueue_none _ (h1 l (List.mem_singleton.2 rfl)).2]
      exact ⟨rfl, (fun e => by cases e), fun _ => rfl, rfl, rfl, by simp [enq], rfl⟩
    | l0 :: l1 :: rest, _ => exact ⟨rfl, (fun e => by cases e), fun _ => rfl, rfl, rfl, rfl, rfl⟩

theorem newClause_sem {orig K : Cnf} {m : Nat} {s : Sat} (ha : s.WfA) (he : s.Ent orig K) (hd : s.DecOK m)
    (hroot : s.trailLim = []) (c : List Lit) (hr : ∀ l ∈ c, l.var < s.vals.length) :
    (s.newClause c).2.WfA ∧ (s.newClause c).2.Ent (orig ++ [c]) (K ++ [c]) ∧ (s.newClause c).2.DecOK m := by
  have he := he.mono_orig (orig' := orig ++ [c]) (fun d hd => List.mem_append_left _ hd)
  have hcE : Ents (orig ++ [c]) c := Ents.of_mem (List.mem_append_right _ (List.mem_singleton.2 rfl))
  have hdec0 : s.decisionLevel = 0 := by simp [decisionLevel, hroot]
  rcases newClause_outcome s c with ⟨e, l, hl, hv⟩ | ⟨r, h1, h2, _, e⟩ <;> rw [e]
  · refine ⟨ha, he.keeps_add _ (fun _ α h0 _ hroots => ?_), hd⟩
    rw [Asg.clause_iff]
    rcases hv with hv | hn
    · exact ⟨l, hl, root_true ha hroot h0 hroots hv⟩
    · cases hv : α.lit l with
      | true => exact ⟨l, hl, hv⟩
      | false => exact ⟨l.neg, hn, by rw [Asg.lit_neg, hv]; rfl⟩
  · have hEr : Ents (orig ++ [c]) r := ents_drop_false ha he hroot hcE h2
    match r, h1, hEr with
    | [], _, hEr =>
      refine ⟨ha.of_eq rfl rfl rfl rfl rfl rfl rfl rfl, he.setDead fun α h0 => ?_, hd⟩
      cases hF : α.cnf (orig ++ [c]) with
      | false => rfl
      | true => have := hEr α h0 hF; simp [Asg.clause_nil] at this
    | [l], h1, hEr =>
      obtain ⟨hlc, hv⟩ := h1 l (List.mem_singleton.2 rfl)
      simp only [enqueue_none _ hv]
      refine ⟨ha.enq hv (hr l hlc) (fun _ => .inl hdec0), ?_, hd.enq ha hv⟩
      apply (he.enq ha hv (hr l hlc) (hEr.mono (fun d hd => List.mem_append_left _ hd))).keeps_add
      intro _ α _ _ hroots
      have := hroots l (List.mem_cons_self ..) (by rw [enq_lvl_self ha (hr l hlc)]; exact hdec0)
      exact Asg.clause_iff.2 ⟨l, hlc, this⟩
    | l0 :: l1 :: rest, h1, hEr =>
      refine ⟨ha.addClause, (he.addClause hEr).keeps_add _ (fun _ α _ hcl _ => ?_), hd⟩
      simp only [Asg.cnf_iff, List.forall_mem_map] at hcl
      have := hcl (s.nextId, l0 :: l1 :: rest) (List.mem_append_right _ (List.mem_singleton.2 rfl))
      rw [Asg.clause_iff] at this ⊢
      exact this.imp fun l h => ⟨(h1 l h.1).1, h.2⟩

theorem newClause_spec {orig : Cnf} {m : Nat} {s : Sat} (h : InvC orig m (fun _ x => x ∈ s.queue) s)
    (hroot : s.trailLim = []) (c : List Lit) (hr : ∀ l ∈ c, l.var < s.vals.length) :
    InvC (orig ++ [c]) m (fun _ x => x ∈ (s.newClause c).2.queue) (s.newClause c).2 ∧
      (s.newClause c).2.trailLim = [] ∧ ((s.newClause c).1 = false → (s.newClause c).2.dead = true) ∧
      ((s.newClause c).1 = true → (s.newClause c).2.dead = s.dead) ∧ (s.newClause c).2.log = s.log ∧
      (s.newClause c).2.exprs = s.exprs ∧ (s.newClause c).2.vals.length = s.vals.length ∧
      (s.newClause c).2.decisions = s.decisions := by
  have ha := h.wf.a
  obtain ⟨_, he, hd⟩ := newClause_sem ha h.ent h.dec hroot c hr
  obtain ⟨f1, f⟩ := newClause_frame s c
  refine ⟨⟨?_, he, hd, ?_⟩, f1.trans hroot, f⟩ <;> clear he hd f1 f <;>
    rcases newClause_outcome s c with ⟨e, -⟩ | ⟨r, h1, -, h3, e⟩ <;> rw [e]
  · exact h.wf
  · match r, h1, h3 with
    | [], _, _ => exact h.wf.of_eq rfl rfl rfl rfl rfl rfl rfl rfl rfl rfl rfl
    | [l], h1, _ =>
      obtain ⟨hlc, hv⟩ := h1 l (List.mem_singleton.2 rfl)
      simp only [enqueue_none _ hv]
      exact h.wf.enq hv (hr l hlc) (fun _ => .inl (by simp [decisionLevel, hroot])) (fun id e => by cases e)
    | l0 :: l1 :: rest, h1, h3 =>
      exact h.wf.addClause h3 (fun l hl => hr l (h1 l hl).1) (fun l hl => ha.var_ne_zero_of_none (h1 l hl).2)
  · exact h.w2
  · match r, h1 with
    | [], _ => exact fun hd => by cases hd
    | [l], h1 =>
      obtain ⟨hlc, hv⟩ := h1 l (List.mem_singleton.2 rfl)
      simp only [enqueue_none _ hv]
      exact fun hd => (h.w2 hd).enq hv (hr l hlc) (fun _ x hx => List.mem_append_left _ hx)
        (fun _ => List.mem_append_right _ (List.mem_singleton.2 rfl))
    | l0 :: l1 :: rest, h1 =>
      refine fun hd => (h.w2 hd).addClause ⟨fun hv => ?_, fun hv => ?_⟩
      · rw [(h1 l0 (by simp)).2] at hv; cases hv
      · rw [(h1 l1 (by simp)).2] at hv; cases hv

theorem newClause_allFalse {s : Sat} {c : Clause} (h : ∀ l ∈ c, s.value l = some false) :
    s.newClause c = (false, { s with dead := true }) := by
  unfold Sat.newClause
  rw [EncL.scanClause_allFalse s.toEnc _ [] fun l hl => h l (EncL.mem_sortByVar.1 hl)]
  rfl

end Sat
end Oratio
