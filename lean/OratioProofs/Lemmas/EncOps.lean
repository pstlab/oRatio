/-
Lemmas for property C13: `newAtMostOne`, `newExctOne` (forcing and completeness), the initial state, `newVar`.
-/
import OratioProofs.Lemmas.EncAmo
import OratioProofs.Lemmas.EncDefs
import OratioProofs.Lemmas.EncProp

namespace Oratio
namespace EncL
open Enc

theorem open_facts {s : Enc} {ls ls' : List Lit} (hsc : scanCard s (sortDedup ls) none [] = .open ls') :
    (∀ l ∈ ls', l ∈ ls) ∧ (∀ l ∈ ls, l ∈ ls' ∨ s.value l = some false) ∧ ls'.Nodup := by
  have := scanCard_out (s := s) (sortDedup ls) none [] rfl
  rw [hsc] at this
  obtain ⟨kept, rfl, h2, _, h4⟩ := this
  exact ⟨fun l hl => mem_sortDedup.1 (h2.subset hl), fun l hl => h4 l (mem_sortDedup.2 hl),
    (sortDedup_nodup ls).sublist h2⟩

theorem dropped_false {α : Asg} {s : Enc} (hα : Models α s) {ls ls' : List Lit}
    (h : ∀ l ∈ ls, l ∈ ls' ∨ s.value l = some false) : ∀ l ∈ ls, l ∈ ls' ∨ α.lit l = false :=
  fun l hl => (h l hl).imp id (value_sound hα)

theorem one_facts {s : Enc} {ls others : List Lit} (hsc : scanCard s (sortDedup ls) none [] = .oneTrue others) :
    ∃ t ∈ ls, s.value t = some true ∧ (∀ l ∈ ls, l = t ∨ l ∈ others ∨ s.value l = some false) ∧
      (∀ l ∈ others, s.value l = none) ∧ (∀ l ∈ others, l ∈ ls) := by
  have := scanCard_out (s := s) (sortDedup ls) none [] rfl
  rw [hsc] at this
  obtain ⟨pre, t, post, e, ht, kept, rfl, h2, h3, h4⟩ := this
  have hm : ∀ l, l ∈ ls ↔ l ∈ pre ∨ l = t ∨ l ∈ post := fun l => by
    rw [← mem_sortDedup, e, List.mem_append, List.mem_cons]
  refine ⟨t, (hm t).2 (Or.inr (Or.inl rfl)), ht, fun l hl => ?_, h3, fun l hl => ?_⟩
  · rcases (hm l).1 hl with h | h | h
    · exact Or.inr (h4 l (List.mem_append_left _ h))
    · exact Or.inl h
    · exact Or.inr (h4 l (List.mem_append_right _ h))
  · exact (hm l).2 ((List.mem_append.1 (h2.subset hl)).imp id Or.inr)

/-- two arguments true at root level, or one and an undecided complementary pair: more than
    one argument is true in every model (the sorted argument list has no duplicates) -/
theorem two_facts {s : Enc} {ls : List Lit} (hsc : scanCard s (sortDedup ls) none [] = .twoTrue) :
    ∀ α, Models α s → ¬ AtMostOne α ls := by
  intro α hα hA
  have := scanCard_out (s := s) (sortDedup ls) none [] rfl
  rw [hsc] at this
  obtain ⟨pre, t, post, e, ht, h⟩ := this
  have hnd := sortDedup_nodup ls
  rw [e] at hnd
  have hm : ∀ l, l ∈ pre ++ t :: post → l ∈ ls := fun l hl => mem_sortDedup.1 (e ▸ hl)
  have htl : t ∈ ls := hm t (by simp)
  have htt := value_sound hα ht
  rcases h with ⟨t', ht', hv⟩ | ⟨q, hq, hn⟩
  · have := hA t htl t' (hm t' (by simp [ht'])) htt (value_sound hα hv)
    exact (List.nodup_cons.1 (List.nodup_append.1 hnd).2.1).1 (this ▸ ht')
  · obtain ⟨hq, hv⟩ := hq.resolve_left nofun
    cases hqt : α.lit q with
    | true =>
      have := hA t htl q (mem_sortDedup.1 hq) htt hqt
      rw [this, hv] at ht; cases ht
    | false =>
      have := hA t htl q.neg (mem_sortDedup.1 hn) htt (by rw [Asg.lit_neg, hqt]; rfl)
      rw [this, value_neg, hv] at ht; cases ht

structure Forces (s : Enc) (Q : Asg → Prop) (r : Lit × Enc) : Prop extends Step s r where
  forces : ∀ α, Sat α r.2 → α.lit r.1 = true → Q α

def Completes (s : Enc) (Q : Asg → Prop) (r : Lit × Enc) : Prop :=
  ∀ α, Sat α s → Q α → ∃ α', Sat α' r.2 ∧ (∀ v, v < s.nvars → α' v = α v) ∧ α'.lit r.1 = true

theorem Forces.same {s : Enc} {Q : Asg → Prop} (h : Inv s) {l : Lit} (hl : l.var < s.nvars)
    (hf : ∀ α, Sat α s → α.lit l = true → Q α) : Forces s Q (l, s) := ⟨.same h hl, hf⟩

theorem Forces.falseLit {s : Enc} {Q : Asg → Prop} (h : Inv s) : Forces s Q (Lit.falseLit, s) :=
  .same h h.pos fun α hα ht => by rw [show α.lit Lit.falseLit = false from Asg.lit_falseLit hα.1] at ht; cases ht

theorem Completes.same {s : Enc} {Q : Asg → Prop} {l : Lit} (hc : ∀ α, Sat α s → Q α → α.lit l = true) :
    Completes s Q (l, s) := fun α hα hQ => ⟨α, hα, fun _ _ => rfl, hc α hα hQ⟩

theorem Completes.of_not {s : Enc} {Q : Asg → Prop} {r : Lit × Enc} (h : ∀ α, Sat α s → ¬ Q α) :
    Completes s Q r := fun α hα hQ => absurd hQ (h α hα)

theorem Forces.tuple {s : Enc} {Q : Asg → Prop} {r : Lit × Enc} (g : Forces s Q r) :
    Inv r.2 ∧ r.1.var < r.2.nvars ∧ (∀ α, Sat α r.2 → α.lit r.1 = true → Q α) ∧ Extends s r.2 ∧ Refines s r.2 :=
  ⟨g.inv, g.lt, g.forces, g.ext, g.ref⟩

/-- one argument is true at root: both constructors return "all the others are false" -/
theorem oneTrue_spec {s : Enc} {ls others : List Lit} (h : Inv s) (hl : InRange s ls)
    (hsc : scanCard s (sortDedup ls) none [] = .oneTrue others) :
    Forces s (ExactlyOne · ls) (Cons.newJunct Enc.prim false s (others.map Lit.neg)) ∧
    Completes s (AtMostOne · ls) (Cons.newJunct Enc.prim false s (others.map Lit.neg)) := by
  obtain ⟨t, ht, ht2, j1, j2, j3⟩ := one_facts hsc
  have g := junct_spec (abs := false) h (ls := others.map Lit.neg) fun l hl' => by
    obtain ⟨x, hx, rfl⟩ := List.mem_map.1 hl'
    exact hl x (j3 x hx)
  have hiff : ∀ α, Sat α (Cons.newJunct Enc.prim false s (others.map Lit.neg)).2 →
      (α.lit (Cons.newJunct Enc.prim false s (others.map Lit.neg)).1 = true ↔ ∀ o ∈ others, α.lit o = false) :=
    fun α hα => by
    rw [g.sem α hα]
    simp [junctVal, Asg.lit_neg]
  refine ⟨⟨g.toStep, fun α hα hlt => ?_⟩, fun α hα hA => ?_⟩
  · have hαs := g.ref.2 α hα
    have hfalse := (hiff α hα).1 hlt
    have honly : ∀ a ∈ ls, α.lit a = true → a = t := by
      intro a ha hta
      rcases j1 a ha with h1 | h1 | h1
      · exact h1
      · rw [hfalse a h1] at hta; cases hta
      · rw [value_sound hαs.2 h1] at hta; cases hta
    exact ⟨fun a ha b hb hta htb => (honly a ha hta).trans (honly b hb htb).symm, t, ht,
      value_sound hαs.2 ht2⟩
  · obtain ⟨α', hα', e⟩ := g.ext α hα
    refine ⟨α', hα', e, (hiff α' hα').2 fun o ho => ?_⟩
    rw [lit_congr (e o.var (hl o (j3 o ho)))]
    cases hx : α.lit o with
    | false => rfl
    | true =>
      have hn := j2 o ho
      rw [hA o (j3 o ho) t ht hx (value_sound hα.2 ht2), ht2] at hn
      cases hn

theorem amo_good {s : Enc} (h : Inv s) {ls : List Lit} (hl : InRange s ls) :
    Forces s (AtMostOne · ls) (s.newAtMostOne ls) ∧
    (s.amoCached ls = false → Completes s (AtMostOne · ls) (s.newAtMostOne ls)) ∧
    (s.amoCached ls = true → (s.newAtMostOne ls).2 = s) := by
  unfold Enc.amoCached Enc.newAtMostOne
  cases hsc : scanCard s (sortDedup ls) none [] with
  | twoTrue => exact ⟨Forces.falseLit h, fun _ => .of_not fun α hα => two_facts hsc α hα.2, nofun⟩
  | oneTrue others =>
    obtain ⟨c1, c2⟩ := oneTrue_spec h hl hsc
    dsimp only
    rw [← Cons_enc_newConj, Cons.newConj_eq]
    exact ⟨⟨c1.toStep, fun α hα ht => (c1.forces α hα ht).1⟩, fun _ => c2, nofun⟩
  | «open» ls' =>
    obtain ⟨o1, o2, o3⟩ := open_facts hsc
    have a := amoCore_good ls'.length s ls' h (fun l hl' => hl l (o1 l hl'))
    dsimp only
    rw [← Cons_enc_amoCore]
    refine ⟨⟨a.toStep, fun α hα ht => amo_of_sub (dropped_false (a.ref.2 α hα).2 o2) (a.forces α hα ht)⟩,
      fun hc α hα hA => ?_, fun hc => ?_⟩
    · refine a.complete o3 (Nat.le_refl _) ?_ α hα (amo_of_sub (fun l hl' => Or.inl (o1 l hl')) hA)
      by_cases h1 : ls'.length ≤ 1
      · exact Or.inl h1
      · right
        cases hlk : s.lookup (.amo ls') with
        | none => rfl
        | some l => simp [hlk] at hc; omega
    · simp only [Bool.and_eq_true, decide_eq_true_eq] at hc
      cases hlk : s.lookup (.amo ls') with
      | none => rw [hlk] at hc; simp at hc
      | some l => rw [Cons.amoCore_hit _ _ s ls' hc.1 hlk]

theorem exo_fresh_spec {s : Enc} (h : Inv s) {ls' : List Lit} (hl : InRange s ls') (r1 : Lit × Enc)
    (hr1 : Cons.amoCore Enc.prim ls'.length s ls' = r1) :
    Forces s (ExactlyOne · ls') (Cons.freshDef Enc.prim r1.2 (.exo ls') (exoCls r1.1 ls')) ∧
    (ls'.Nodup → s.lookup (.amo ls') = none →
      Completes s (ExactlyOne · ls') (Cons.freshDef Enc.prim r1.2 (.exo ls') (exoCls r1.1 ls'))) := by
  have a := amoCore_good ls'.length s ls' h hl
  rw [hr1] at a
  have hl1 : ∀ x ∈ ls', x.var < r1.2.nvars := fun x hx => Nat.lt_of_lt_of_le (hl x hx) a.ref.1
  have f := freshDef_spec a.inv (.exo ls') (exoCls r1.1 ls') hl1
    (by
      intro c hc x hx
      simp only [exoCls, List.mem_cons, List.not_mem_nil, or_false] at hc
      rcases hc with rfl | rfl
      · simp only [List.mem_cons, List.not_mem_nil, or_false] at hx
        rcases hx with rfl | rfl
        · exact Nat.lt_succ_self _
        · exact Nat.lt_succ_of_lt a.lt
      · simp only [List.mem_append, List.mem_singleton] at hx
        rcases hx with hx | rfl
        · exact Nat.lt_succ_of_lt (hl1 x hx)
        · exact Nat.lt_succ_self _)
    (fun α _ => ⟨false, by rw [exo_clauses, Asg.lit_mk_true, upd_same]; nofun⟩)
    (fun α hα hc ht => ⟨a.forces α hα ((exo_clauses α _ _ ls').1 hc ht).1, ((exo_clauses α _ _ ls').1 hc ht).2⟩)
  refine ⟨⟨a.toStep.trans f.step, f.sem⟩, fun hnd hlk α hα hE => ?_⟩
  obtain ⟨α1, hα1, e1, t1⟩ := a.complete hnd (Nat.le_refl _) (Or.inr hlk) α hα hE.1
  obtain ⟨x, hx, hxt⟩ := hE.2
  have := f.ext α1 true hα1 (by
    rw [exo_clauses]
    refine fun _ => ⟨?_, x, hx, ?_⟩
    · rw [lit_congr (upd_lt α1 _ a.lt)]; exact t1
    · rw [lit_congr (upd_lt α1 _ (hl1 x hx)), lit_congr (e1 _ (hl x hx))]; exact hxt)
  exact ⟨_, this.1, fun v hv => by rw [upd_lt α1 _ (Nat.lt_of_lt_of_le hv a.ref.1), e1 v hv], this.2⟩

theorem exo_good {s : Enc} (h : Inv s) {ls : List Lit} (hl : InRange s ls) :
    Forces s (ExactlyOne · ls) (s.newExctOne ls) ∧
    (s.exoFresh ls = true → Completes s (ExactlyOne · ls) (s.newExctOne ls)) := by
  have kept : ∀ {ls'}, scanCard s (sortDedup ls) none [] = .open ls' →
      InRange s ls' ∧ ls'.Nodup ∧ ∀ α, Sat α s → (ExactlyOne α ls' ↔ ExactlyOne α ls) := fun hsc =>
    have ⟨o1, o2, o3⟩ := open_facts hsc
    ⟨fun l hl' => hl l (o1 l hl'), o3, fun α hα => exo_transfer o1 (dropped_false hα.2 o2)⟩
  rw [← Cons_enc_newExctOne]
  refine Cons.newExctOne_cases Enc.prim
    (M := fun r => Forces s (ExactlyOne · ls) r ∧ (s.exoFresh ls = true → Completes s (ExactlyOne · ls) r))
    (Cons_enc_scanCard s _ none []) (fun hsc => ?_) (fun others hsc => ?_) (fun hsc => ?_) (fun x hsc hx => ?_)
    (fun ls' l hsc (hlk : s.lookup (.exo ls') = some l) => ?_) (fun ls' r1 hsc hne hlk hr1 => ?_)
  · exact ⟨Forces.falseLit h, fun _ => .of_not fun α hα hE => two_facts hsc α hα.2 hE.1⟩
  · obtain ⟨c1, c2⟩ := oneTrue_spec h hl hsc
    rw [Cons.newConj_eq]
    exact ⟨c1, fun _ α hα hE => c2 α hα hE.1⟩
  · exact ⟨Forces.falseLit h, fun _ => .of_not fun α hα hE => by
      obtain ⟨_, a, ha, _⟩ := ((kept hsc).2.2 α hα).2 hE
      cases ha⟩
  · obtain ⟨k1, _, k3⟩ := kept hsc
    refine ⟨.same h (k1 x (by simp)) fun α hα hlt => (k3 α hα).1 ⟨amo_short (by simp), x, by simp, hlt⟩,
      fun _ => .same fun α hα hE => ?_⟩
    obtain ⟨_, a, ha, hta⟩ := (k3 α hα).2 hE
    rw [List.mem_singleton.1 ha] at hta; exact hta
  · obtain ⟨_, _, k3⟩ := kept hsc
    refine ⟨.same h (cache_hit h hlk).1 fun α hα hlt => (k3 α hα).1 ((cache_hit h hlk).2 α hα hlt), fun hf => ?_⟩
    rw [Enc.exoFresh, hsc] at hf
    simp [hlk] at hf
  · obtain ⟨k1, k2, k3⟩ := kept hsc
    obtain ⟨f1, f2⟩ := exo_fresh_spec h k1 r1 hr1
    refine ⟨⟨f1.toStep, fun α hα hlt => (k3 α (f1.ref.2 α hα)).1 (f1.forces α hα hlt)⟩, fun hf α hα hE => ?_⟩
    rw [Enc.exoFresh, hsc] at hf
    simp only [Bool.and_eq_true, Option.isNone_iff_eq_none] at hf
    exact f2 k2 hf.2 α hα ((k3 α hα).2 hE)

theorem lit_ext_pos {a b : Lit} (ha : a.sign = true) (hb : b.sign = true) (h : a.var = b.var) : a = b := by
  cases a; cases b; simp_all

theorem exoFresh_of_fresh {e : Enc} {n : Nat} (hex : ∀ x ∈ e.exprs, ∀ l ∈ keyLits x.1, l.var < n)
    {ls : List Lit} {g : Lit} (hg : g ∈ ls) (hgv : e.value g = none) (hgn : n ≤ g.var) :
    e.exoFresh ls = true := by
  unfold Enc.exoFresh
  cases hsc : scanCard e (sortDedup ls) none [] with
  | twoTrue => rfl
  | oneTrue _ => rfl
  | «open» ls' =>
    have hg' : g ∈ ls' := ((open_facts hsc).2.1 g hg).resolve_right (by rw [hgv]; nofun)
    have hno : ∀ k, keyLits k = ls' → e.lookup k = none := fun k hk =>
      lookup_none_of fun x hx hxk => by
        have := hex x hx g (by rw [hxk, hk]; exact hg')
        omega
    simp only [Bool.and_eq_true, Option.isNone_iff_eq_none]
    exact ⟨hno _ rfl, hno _ rfl⟩

/-- `new_exct_one` over positive literals of `m` fresh variables, then asserted (`ov_theory::new_var`) -/
theorem assert_fresh_exo {s : Enc} (h : Inv s) {m : Nat} {lits : List Lit}
    (hl : ∀ l ∈ lits, l.sign = true ∧ s.nvars ≤ l.var ∧ l.var < s.nvars + m) (hne : lits ≠ [])
    (F : Bool × Enc)
    (hF : (((addVars s m).newExctOne lits).2.newClause [((addVars s m).newExctOne lits).1]) = F) :
    Inv F.2 ∧ Refines s F.2 ∧ s.nvars + m ≤ F.2.nvars ∧ (∀ α, Sat α F.2 → ExactlyOne α lits) ∧
    ∀ α, Sat α s → ∀ l ∈ lits, ∃ α', Sat α' F.2 ∧ (∀ v, v < s.nvars → α' v = α v) ∧ α'.lit l = true := by
  have hnv : (addVars s m).nvars = s.nvars + m := nvars_addVars s m
  have hrange : InRange (addVars s m) lits := fun l hl' => hnv ▸ (hl l hl').2.2
  obtain ⟨g, hg⟩ := List.exists_mem_of_ne_nil lits hne
  obtain ⟨x, hcomp⟩ := exo_good (inv_addVars h m) hrange
  -- completeness of `newExctOne` needs both cache keys absent (`exoFresh`): no cached key mentions a variable `≥ s.nvars`
  have hcomp := hcomp (exoFresh_of_fresh (e := addVars s m) (n := s.nvars) (fun _ hx _ => h.wf.key_lt hx) hg
    ((value_addVars s m g).trans (value_none_of_ge (hl g hg).2.1)) (hl g hg).2.1)
  generalize (addVars s m).newExctOne lits = X at x hcomp hF
  have hp := newClause_sat (c := [X.1]) x.inv fun l hl' => List.mem_singleton.1 hl' ▸ x.lt
  rw [hF] at hp
  have href : Refines s F.2 :=
    (refines_addVars s m).trans (x.ref.trans ⟨Nat.le_of_eq hp.nvars.symm, hp.ref⟩)
  have hext : ∀ α, Sat α s → ∀ l ∈ lits, F.1 = true ∧
      ∃ α', Sat α' F.2 ∧ (∀ v, v < s.nvars → α' v = α v) ∧ α'.lit l = true := by
    intro α hα l hl'
    -- `β` makes `l` alone true among the new variables; completeness then gives a model with `X.1` true, so the asserted
    -- clause `[X.1]` is kept and answered `true`
    let β : Asg := fun v => if v < s.nvars then α v else decide (v = l.var)
    have hβl : ∀ a ∈ lits, β.lit a = decide (a.var = l.var) := fun a ha => by
      rw [Asg.lit, (hl a ha).1, if_pos rfl]
      exact if_neg (Nat.not_lt.2 (hl a ha).2.1)
    have hEx : ExactlyOne β lits := by
      refine ⟨fun a ha b hb hta htb => ?_, l, hl', by rw [hβl l hl']; exact decide_eq_true rfl⟩
      rw [hβl a ha] at hta
      rw [hβl b hb] at htb
      exact lit_ext_pos (hl a ha).1 (hl b hb).1 ((of_decide_eq_true hta).trans (of_decide_eq_true htb).symm)
    obtain ⟨α', ha', hag, hx⟩ := hcomp β (sat_addVars_of_agree h.wf m hα fun v hv => if_pos hv) hEx
    have hc : α'.clause [X.1] = true := by rw [Asg.clause_singleton]; exact hx
    have d1 := hp.keep1 ha' hc
    refine ⟨(hp.ans1 d1).symm.trans hc, α', d1, fun v hv => ?_, ?_⟩
    · rw [hag v (hnv ▸ Nat.lt_of_lt_of_le hv (Nat.le_add_right _ _))]; exact if_pos hv
    · rw [lit_congr (hag _ (hnv ▸ (hl l hl').2.2)), hβl l hl']; exact decide_eq_true rfl
  refine ⟨hp.inv, href, ?_, fun α hα => ?_, fun α hα l hl' => (hext α hα l hl').2⟩
  · rw [hp.nvars, ← hnv]; exact x.ref.1
  · have hx : α.lit X.1 = true := by
      have := hp.ans1 hα
      rwa [(hext α (href.2 α hα) g hg).1, Asg.clause_singleton] at this
    exact x.forces α (hp.ref α hα) hx

end EncL
end Oratio

namespace Oratio
namespace EncL
open Enc

theorem init_inv : Inv Enc.init := by
  refine ⟨⟨rfl, ?_, ?_⟩, ?_⟩
  · intro c hc; cases hc
  · intro e he; cases he
  · intro e he; cases he

theorem newVar_spec {s : Enc} (h : Inv s) :
    Inv (s.newVar).2 ∧ Extends s (s.newVar).2 ∧ Refines s (s.newVar).2 :=
  ⟨inv_addVars h 1, extends_addVars 1, refines_addVars s 1⟩

end EncL
end Oratio
