/-
Lemmas for property C14: creation of object variables (`mkGuards`, `newVar`), `value`.
-/
import OratioProofs.Lemmas.Ov

namespace Oratio
namespace OvL
open Enc EncL ListAux

/-- the guards of `items`, numbered from `n` -/
def gl : Nat → List Nat → List (Nat × Lit)
  | _, [] => []
  | n, i :: rest => (i, ⟨n, true⟩) :: gl (n + 1) rest

theorem gl_fst : ∀ (n : Nat) (items : List Nat), (gl n items).map (·.1) = items
  | _, [] => rfl
  | n, i :: rest => by simp [gl, gl_fst (n + 1) rest]

theorem gl_mem : ∀ {n : Nat} {items : List Nat} {e : Nat × Lit}, e ∈ gl n items →
    e.2.sign = true ∧ n ≤ e.2.var ∧ e.2.var < n + items.length
  | _, [], _, h => by cases h
  | n, i :: rest, e, h => by
    simp only [gl, List.mem_cons] at h
    rcases h with rfl | h
    · simp
    · obtain ⟨h1, h2, h3⟩ := gl_mem h
      simp only [List.length_cons]
      exact ⟨h1, by omega, by omega⟩

theorem gl_snd_nodup : ∀ (n : Nat) (items : List Nat), ((gl n items).map (·.2)).Nodup
  | _, [] => by simp [gl]
  | n, i :: rest => by
    simp only [gl, List.map_cons, List.nodup_cons, List.mem_map, not_exists, not_and]
    refine ⟨fun e he h => ?_, gl_snd_nodup (n + 1) rest⟩
    have := (gl_mem he).2.1
    rw [h] at this
    simp only at this
    omega

theorem emplace_new {d : List (Nat × Lit)} {v : Nat} (l : Lit) (h : ∀ e ∈ d, e.1 ≠ v) :
    Ov.emplace d v l = d ++ [(v, l)] :=
  (emplace_eq d v l).trans (if_pos (lookupBy_eq_none.2 h))

theorem mkGuards_eq : ∀ (items : List Nat) (e : Enc) (d : List (Nat × Lit)), items.Nodup →
    (∀ i ∈ items, ∀ x ∈ d, x.1 ≠ i) →
    Ov.mkGuards e items d =
      (addVars e items.length, d ++ gl e.nvars items)
  | [], e, d, _, _ => by simp [Ov.mkGuards, gl]
  | i :: rest, e, d, hn, hd => by
    simp only [List.nodup_cons] at hn
    show Ov.mkGuards (addVars e 1) rest (Ov.emplace d i ⟨e.nvars, true⟩) = _
    rw [emplace_new _ (hd i (by simp)), mkGuards_eq rest _ _ hn.2 (by
      intro j hj x hx
      simp only [List.mem_append, List.mem_singleton] at hx
      rcases hx with hx | rfl
      · exact hd j (by simp [hj]) x hx
      · intro h; apply hn.1; simpa [← h] using hj), addVars_addVars, nvars_addVars, Nat.add_comm 1]
    simp [gl]

theorem mem_guard_lits {d : List (Nat × Lit)} (hnd : (d.map (·.1)).Nodup) {l : Lit} :
    l ∈ (d.map (·.1)).filterMap (Ov.lookupVal d) ↔ ∃ k, (k, l) ∈ d := by
  simp only [List.mem_filterMap, List.mem_map]
  constructor
  · rintro ⟨k, _, hk⟩; exact ⟨k, mem_of_lookupBy hk⟩
  · rintro ⟨k, hk⟩; exact ⟨k, ⟨(k, l), hk, rfl⟩, lookupBy_of_mem hnd hk⟩

theorem takes_of_amo {α : Asg} {s : Ov} {v : Nat} (hnd : ((s.dom v).map (·.1)).Nodup)
    (hinj : ((s.dom v).map (·.2)).Nodup)
    (hA : AtMostOne α (((s.dom v).map (·.1)).filterMap (Ov.lookupVal (s.dom v)))) {k : Nat} {a : Lit}
    (hk : (k, a) ∈ s.dom v) (hta : α.lit a = true) : Takes α s v k := by
  refine ⟨⟨a, lookupBy_of_mem hnd hk, hta⟩, fun e he hne => ?_⟩
  cases hv : α.lit e.2 with
  | false => rfl
  | true =>
    have h1 : e.2 = a := hA e.2 ((mem_guard_lits hnd).2 ⟨e.1, he⟩) a ((mem_guard_lits hnd).2 ⟨k, hk⟩) hv hta
    rw [eq_of_nodup_map hinj he hk h1] at hne
    exact absurd rfl hne

theorem newVar_singleton (s : Ov) (i : Nat) (enf : Bool) :
    s.newVar [i] enf = (s.doms.length, { s with doms := s.doms ++ [[(i, Lit.trueLit)]] }) := rfl

theorem two_le_cases {items : List Nat} (hl : 2 ≤ items.length) : ∃ a b t, items = a :: b :: t := by
  match items, hl with
  | a :: b :: t, _ => exact ⟨a, b, t, rfl⟩

theorem mkGuards_nil (e : Enc) {items : List Nat} (hn : items.Nodup) :
    Ov.mkGuards e items [] = (addVars e items.length, gl e.nvars items) := by
  rw [mkGuards_eq items e [] hn (by intro _ _ x hx; cases hx)]
  simp

theorem newVar_false_eq (s : Ov) {items : List Nat} (hn : items.Nodup) (hl : 2 ≤ items.length) :
    s.newVar items false =
      (s.doms.length, ⟨addVars s.enc items.length, s.doms ++ [gl s.enc.nvars items], s.eqs⟩) := by
  obtain ⟨a, b, t, rfl⟩ := two_le_cases hl
  unfold Ov.newVar
  dsimp only
  rw [mkGuards_nil s.enc hn]
  rfl

theorem newVar_true_eq (s : Ov) {items : List Nat} (hn : items.Nodup) (hl : 2 ≤ items.length) :
    s.newVar items true =
      (s.doms.length,
        ⟨(((addVars s.enc items.length).newExctOne
              (items.filterMap (Ov.lookupVal (gl s.enc.nvars items)))).2.newClause
            [((addVars s.enc items.length).newExctOne
              (items.filterMap (Ov.lookupVal (gl s.enc.nvars items)))).1]).2,
          s.doms ++ [gl s.enc.nvars items], s.eqs⟩) := by
  obtain ⟨a, b, t, rfl⟩ := two_le_cases hl
  unfold Ov.newVar
  dsimp only
  rw [mkGuards_nil s.enc hn]
  rfl

theorem gl_good (s : Ov) {items : List Nat} (hn : items.Nodup) (hl : 2 ≤ items.length) {e' : Enc}
    (hr : s.enc.nvars + items.length ≤ e'.nvars) :
    ∀ d ∈ [gl s.enc.nvars items], (d.map (·.1)).Nodup ∧ d ≠ [] ∧ ∀ e ∈ d, e.2.var < e'.nvars := by
  intro d hd
  simp only [List.mem_singleton] at hd
  subst hd
  refine ⟨by rw [gl_fst]; exact hn, ?_, fun e he => ?_⟩
  · obtain ⟨a, b, t, rfl⟩ := two_le_cases hl
    simp [gl]
  · have := (gl_mem he).2.2
    omega

theorem unenforced (s : Ov) (items : List Nat) (h : Inv s) (hn : items.Nodup) (hl : 2 ≤ items.length) :
    let r := s.newVar items false
    Inv r.2 ∧ (r.2.dom r.1).map (·.1) = items ∧ r.2.enc.clauses = s.enc.clauses ∧
    (∀ e ∈ r.2.dom r.1, s.enc.nvars ≤ e.2.var ∧ e.2.sign = true) ∧ ((r.2.dom r.1).map (·.2)).Nodup ∧
    Extends s.enc r.2.enc ∧ Refines s.enc r.2.enc := by
  rw [newVar_false_eq s hn hl]
  have hdom : (Ov.mk (addVars s.enc items.length) (s.doms ++ [gl s.enc.nvars items]) s.eqs).dom s.doms.length
      = gl s.enc.nvars items := dom_push_new _ _
  simp only [hdom]
  refine ⟨?_, gl_fst _ _, rfl, fun e he => ?_, gl_snd_nodup _ _, extends_addVars _, refines_addVars _ _⟩
  · exact inv_update h (inv_addVars h.enc _) (refines_addVars _ _) _
      (gl_good s hn hl (by rw [nvars_addVars]; exact Nat.le_refl _))
  · have := gl_mem he
    exact ⟨this.2.1, this.1⟩

theorem exactly_one (s : Ov) (items : List Nat) (h : Inv s) (hn : items.Nodup) (hl : 2 ≤ items.length)
    (r : Nat × Ov) (hr : s.newVar items true = r) :
    Inv r.2 ∧ r.1 = s.doms.length ∧ (r.2.dom r.1).map (·.1) = items ∧
    (∀ α, EncL.Sat α r.2.enc → ∃ k, Takes α r.2 r.1 k) ∧
    Extends s.enc r.2.enc ∧ Refines s.enc r.2.enc ∧
    (∀ α k, EncL.Sat α s.enc → k ∈ items →
      ∃ α', EncL.Sat α' r.2.enc ∧ (∀ v, v < s.enc.nvars → α' v = α v) ∧ Takes α' r.2 r.1 k) := by
  rw [newVar_true_eq s hn hl] at hr
  subst hr
  have hfst : (gl s.enc.nvars items).map (·.1) = items := gl_fst _ _
  have hnd : ((gl s.enc.nvars items).map (·.1)).Nodup := by rw [hfst]; exact hn
  have hmem : ∀ l, l ∈ items.filterMap (Ov.lookupVal (gl s.enc.nvars items)) ↔
      ∃ k, (k, l) ∈ gl s.enc.nvars items := fun l => by
    have := @mem_guard_lits (gl s.enc.nvars items) hnd l
    rwa [hfst] at this
  have guard : ∀ k ∈ items, ∃ a, (k, a) ∈ gl s.enc.nvars items ∧
      a ∈ items.filterMap (Ov.lookupVal (gl s.enc.nvars items)) := fun k hk => by
    obtain ⟨e, he, rfl⟩ := List.mem_map.1 (by rw [hfst]; exact hk : k ∈ (gl s.enc.nvars items).map (·.1))
    exact ⟨e.2, he, (hmem e.2).2 ⟨e.1, he⟩⟩
  obtain ⟨k0, hk0⟩ : ∃ k, k ∈ items := by
    obtain ⟨a, b, t, rfl⟩ := two_le_cases hl
    exact ⟨a, by simp⟩
  obtain ⟨F, hF⟩ : ∃ F, (((addVars s.enc items.length).newExctOne
      (items.filterMap (Ov.lookupVal (gl s.enc.nvars items)))).2.newClause
        [((addVars s.enc items.length).newExctOne
          (items.filterMap (Ov.lookupVal (gl s.enc.nvars items)))).1]) = F := ⟨_, rfl⟩
  -- the literals handed to `newExctOne` are the guards of `gl`, one fresh positive literal per item (`hmem`); exactly one
  -- guard true is exactly one item taken because items and guards correspond one to one (`takes`)
  obtain ⟨f1, f2, f3, f4, f5⟩ := assert_fresh_exo h.enc (m := items.length)
    (fun l hl' => let ⟨_, hk⟩ := (hmem l).1 hl'; gl_mem hk)
    (fun e => by obtain ⟨a, _, ha⟩ := guard k0 hk0; rw [e] at ha; cases ha) F hF
  rw [hF]
  have hdom : (Ov.mk F.2 (s.doms ++ [gl s.enc.nvars items]) s.eqs).dom s.doms.length
      = gl s.enc.nvars items := dom_push_new _ _
  simp only [hdom]
  have takes : ∀ {α : Asg} {k : Nat} {a : Lit}, EncL.Sat α F.2 → (k, a) ∈ gl s.enc.nvars items → α.lit a = true →
      Takes α (Ov.mk F.2 (s.doms ++ [gl s.enc.nvars items]) s.eqs) s.doms.length k := fun hα hk hta =>
    takes_of_amo (by rw [hdom]; exact hnd) (by rw [hdom]; exact gl_snd_nodup _ _)
      (by rw [hdom, hfst]; exact (f4 _ hα).1) (by rw [hdom]; exact hk) hta
  refine ⟨inv_update h f1 f2 _ (gl_good s hn hl f3), trivial, hfst, fun α hα => ?_, fun α hα => ?_, f2,
    fun α k hα hk => ?_⟩
  · obtain ⟨_, a, ha, hta⟩ := f4 α hα
    obtain ⟨k, hk⟩ := (hmem a).1 ha
    exact ⟨k, takes hα hk hta⟩
  · obtain ⟨a, _, ha⟩ := guard k0 hk0
    obtain ⟨α', h1, h2, _⟩ := f5 α hα a ha
    exact ⟨α', h1, h2⟩
  · obtain ⟨a, hka, ha⟩ := guard k hk
    obtain ⟨α', h1, h2, h3⟩ := f5 α hα a ha
    exact ⟨α', h1, h2, takes h1 hka h3⟩

theorem singleton (s : Ov) (i : Nat) (h : Inv s) :
    let r := s.newVar [i] true
    Inv r.2 ∧ r.2.enc = s.enc ∧ r.2.dom r.1 = [(i, Lit.trueLit)] ∧
      ∀ α, EncL.Sat α r.2.enc → Takes α r.2 r.1 i := by
  intro r
  have hdom : r.2.dom r.1 = [(i, Lit.trueLit)] := dom_push_new _ _
  refine ⟨?_, rfl, hdom, fun α hα => ?_⟩
  · refine inv_update h h.enc (Refines.refl _) [[(i, Lit.trueLit)]] fun d hd => ?_
    simp only [List.mem_singleton] at hd
    subst hd
    refine ⟨by simp, by simp, fun e he => ?_⟩
    simp only [List.mem_singleton] at he
    subst he
    exact h.enc.pos
  · unfold Takes
    rw [hdom]
    refine ⟨⟨Lit.trueLit, by simp [Ov.lookupVal], Asg.lit_trueLit hα.1⟩, fun e he hne => ?_⟩
    simp only [List.mem_singleton] at he
    subst he
    exact absurd rfl hne

theorem emplace_ne_nil (d : List (Nat × Lit)) (v : Nat) (l : Lit) : Ov.emplace d v l ≠ [] := by
  unfold Ov.emplace
  split
  · next hc =>
    intro hd; rw [hd] at hc; simp at hc
  · simp

theorem emplace_fold : ∀ (ps : List (Nat × Lit)) (d0 : List (Nat × Lit)), (d0.map (·.1)).Nodup →
    ((ps.foldl (fun d p => Ov.emplace d p.1 p.2) d0).map (·.1)).Nodup ∧
    (∀ e ∈ ps.foldl (fun d p => Ov.emplace d p.1 p.2) d0, e ∈ d0 ∨ e ∈ ps) ∧
    (d0 ≠ [] ∨ ps ≠ [] → ps.foldl (fun d p => Ov.emplace d p.1 p.2) d0 ≠ [])
  | [], d0, h => ⟨h, fun e he => Or.inl he, fun hne => hne.elim id (absurd rfl)⟩
  | p :: ps, d0, h => by
    obtain ⟨i1, i2, i3⟩ := emplace_fold ps (Ov.emplace d0 p.1 p.2) (keys_emplace_nodup _ _ h)
    simp only [List.foldl_cons]
    refine ⟨i1, fun e he => ?_, fun _ => i3 (Or.inl (emplace_ne_nil _ _ _))⟩
    rcases i2 e he with h1 | h1
    · rcases mem_emplace.1 h1 with h2 | ⟨h2, -⟩
      · exact Or.inl h2
      · exact Or.inr (by rw [h2]; simp)
    · exact Or.inr (by simp [h1])

theorem value_spec (s : Ov) (v : Nat) :
    (∀ k, k ∈ s.value v ↔ ∃ l, (k, l) ∈ s.dom v ∧ s.enc.value l ≠ some false) ∧
    (∀ α k, EncL.Sat α s.enc → Takes α s v k → k ∈ s.value v) := by
  have h1 : ∀ k, k ∈ s.value v ↔ ∃ l, (k, l) ∈ s.dom v ∧ s.enc.value l ≠ some false := by
    intro k
    simp only [Ov.value, List.mem_map, List.mem_filter, decide_eq_true_eq]
    constructor
    · rintro ⟨e, ⟨he, hv⟩, rfl⟩; exact ⟨e.2, he, hv⟩
    · rintro ⟨l, hl, hv⟩; exact ⟨(k, l), ⟨hl, hv⟩, rfl⟩
  refine ⟨h1, fun α k hα ht => (h1 k).2 ?_⟩
  obtain ⟨l, hl, hlt⟩ := takes_mem ht
  refine ⟨l, hl, fun hv => ?_⟩
  have := value_sound hα.2 hv
  rw [hlt] at this; cases this

end OvL
end Oratio
