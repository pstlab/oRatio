/-
History-level facts of difference logic that do not depend on exactness, for any `O : DOps α`:
preservation of "every entry satisfies `P`" (`DlG.AllP`) by the API (`init`, `new_var`, `propagate(lit)`),
which C10R reads at integrality of the ε parts; the literals of a conflict explanation are all
false under the current assignment.
-/
import OratioProofs.Lemmas.DlRdlExact
import OratioProofs.Lemmas.DlRdlEps
import OratioProofs.Lemmas.SatCoreBasic

namespace Oratio
namespace DlG
open Dl

variable {α : Type} (O : DOps α) (P : α → Prop)

theorem allP_init (h0 : P O.zero) (hinf : P O.inf) (n : Nat) : AllP O P (init O n) := by
  intro a b
  rw [d_eq]
  by_cases ha : a < n
  · by_cases hb : b < n
    · simp only [init, initDists, List.getD_eq_getElem?_getD, List.getElem?_map, List.getElem?_range ha,
        List.getElem?_range hb, Option.map_some, Option.getD_some]
      split
      · exact h0
      · exact hinf
    · simp [init, initDists, List.getD_eq_getElem?_getD, ha, hb]
      exact hinf
  · simp [init, initDists, List.getD_eq_getElem?_getD, ha]
    exact hinf

theorem allP_resize (h0 : P O.zero) (hinf : P O.inf) (t : Dl α) (h : AllP O P t) (N : Nat) : AllP O P (resize O t N) := by
  intro a b
  rw [d_eq]
  by_cases ha : a < N
  · by_cases hb : b < N
    · simp only [resize, List.getD_eq_getElem?_getD, List.getElem?_map, List.getElem?_range ha,
        List.getElem?_range hb, Option.map_some, Option.getD_some]
      split
      · exact h a b
      · split
        · exact h0
        · exact hinf
    · simp [resize, List.getD_eq_getElem?_getD, ha, hb]
      exact hinf
  · simp [resize, List.getD_eq_getElem?_getD, ha]
    exact hinf

theorem allP_newVar (h0 : P O.zero) (hinf : P O.inf) (t : Dl α) (h : AllP O P t) : AllP O P (newVar O t).2 := by
  unfold newVar
  dsimp only
  split
  · exact allP_resize O P h0 hinf _ (fun a b => h a b) _
  · exact fun a b => h a b


theorem allP_propagateLit (hadd : ∀ x y, P x → P y → P (O.add x y)) (hneg : ∀ w, P w → P (O.negStrict w))
    (s s' : Sat) (t t' : Dl α) (pl : Lit) (h : AllP O P t)
    (hc : ∀ c, constrOf t pl.var = some c → P c.dist)
    (hp : propagateLit O s t pl = .inr (s', t')) : AllP O P t' := by
  rcases propagateLit_run O hp with e | ⟨c, b, f, g, w, hcc, he, e⟩
  · cases e; exact h
  · rw [show t' = _ from (congrArg Prod.snd e).symm]
    refine allP_propagateEdge O P hadd _ _ _ _ _ ?_ fun a b => by rw [Dl.d_congr (armed_same t _ _).2.1 a b]; exact h a b
    cases b <;> cases he
    · exact hneg _ (hc c hcc)
    · exact hc c hcc

theorem walk_lits_false (s : Sat) (t : Dl α) (root : Nat) : ∀ (fuel cur : Nat) (acc : List Lit),
    (∀ l ∈ acc, s.value l = some false) → ∀ l ∈ walk s t root fuel cur acc, s.value l = some false := by
  intro fuel
  induction fuel with
  | zero => intro cur acc h; exact h
  | succ m ih =>
    intro cur acc h
    rw [walk]
    split
    · exact h
    · apply ih
      split
      · rename_i b hb
        split
        · rename_i hv
          intro l hl
          rcases List.mem_append.mp hl with h1 | h1
          · exact h l h1
          · rw [List.mem_singleton] at h1; rw [h1]; exact Sat.value_neg_false.2 hv
        · rename_i hv
          intro l hl
          rcases List.mem_append.mp hl with h1 | h1
          · exact h l h1
          · rw [List.mem_singleton] at h1; rw [h1]; exact hv
        · exact h
      · exact h

theorem conflict_lits_false (s : Sat) (t : Dl α) (pl : Lit) (cl : List Lit) (hpl : s.value pl = some true)
    (hp : propagateLit O s t pl = .inl cl) : ∀ l ∈ cl, s.value l = some false := by
  rcases propagateLit_cases O s t pl with e | ⟨c, b, f, g, w, -, -, -, e | e⟩ <;> rw [e] at hp <;> cases hp
  intro l hl
  rcases List.mem_append.mp hl with h1 | h1
  · exact walk_lits_false s t g _ _ [] (by simp) l h1
  · rw [List.mem_singleton.mp h1]; exact Sat.value_neg_false.2 hpl

end DlG

end Oratio
