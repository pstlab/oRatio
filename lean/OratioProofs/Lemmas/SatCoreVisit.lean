/-
C07: the loop over the watchers of a literal (`visitWatchers`) keeps the strong invariant: the invariant is stated of the
state with the watchers still to visit put back (`VInv`), and `clause::propagate` has four outcomes.
-/
import OratioProofs.Lemmas.SatCoreStep


namespace Oratio
namespace Sat

theorem putBack_getD (s : Sat) (p : Lit) (r : List Nat) (i : Nat) :
    (s.putBack p r).watches.getD i [] =
      if p.idx = i ∧ p.idx < s.watches.length then s.watches.getD i [] ++ r else s.watches.getD i [] := by
  simp only [putBack, ListAux.getD_set]
  split
  · rename_i h; rw [h.1]
  · rfl

theorem putBack_nil (s : Sat) (p : Lit) : s.putBack p [] = s := by
  simp only [putBack, List.append_nil, set_getD_self]

theorem putBack_watch (s : Sat) (p : Lit) (id : Nat) (rest : List Nat) (h : p.idx < s.watches.length) :
    (s.watch p id).putBack p rest = s.putBack p (id :: rest) := by
  simp only [putBack, watch, List.set_set, ListAux.getD_set_self _ _ _ _ h, List.append_assoc, List.singleton_append]

/-- pending propagations while the watchers `rest` of `p` are still to be visited -/
def PendV (s : Sat) (p : Lit) (rest : List Nat) : Nat → Lit → Prop :=
  fun id x => x ∈ s.queue ∨ (x = p ∧ id ∈ rest)

structure VInv (orig : Cnf) (m : Nat) (s : Sat) (p : Lit) (rest : List Nat) : Prop where
  inv : InvC orig m (PendV s p rest) (s.putBack p rest)
  pt : p ∈ s.trail
  pl : s.lvl p = s.decisionLevel

structure Conf (orig : Cnf) (m : Nat) (t : Sat) (id : Nat) : Prop where
  inv : InvC orig m (fun _ x => x ∈ t.trail ∧ t.lvl x = t.decisionLevel) t
  queue : t.queue = []
  cnfl : ∃ c, (id, c) ∈ t.cls ∧ (∀ l ∈ c, l.neg ∈ t.trail) ∧ ∃ l ∈ c, t.lvl l = t.decisionLevel

section
variable {orig : Cnf} {m : Nat} {s : Sat} {p : Lit} {id : Nat} {rest : List Nat}

theorem VInv.idx_lt (h : VInv orig m s p rest) : p.idx < s.watches.length := by
  have h1 := h.inv.wf.w.lenWatches
  have h2 := h.inv.wf.a.trail_lt h.pt
  have : (s.putBack p rest).watches.length = s.watches.length := by simp [putBack]
  rw [this] at h1
  rw [h1]; exact Lit.idx_lt h2

theorem VInv.p_true (h : VInv orig m s p rest) : s.value p = some true :=
  (h.inv.wf.a.value_true (s := s.putBack p rest)).2 (Or.inl h.pt)

theorem VInv.head_mem (h : VInv orig m s p (id :: rest)) :
    id ∈ (s.putBack p (id :: rest)).watches.getD p.idx [] := by
  rw [putBack_getD, if_pos ⟨rfl, h.idx_lt⟩]
  exact List.mem_append_right _ (List.mem_cons_self ..)

theorem VInv.normalize (h : VInv orig m s p (id :: rest)) :
    ∃ a r s1, s.clausePropagate id p = s1.clausePropagate id p ∧ VInv orig m s1 p (id :: rest) ∧
      (id, a :: p.neg :: r) ∈ s1.cls := by
  obtain ⟨l0, l1, r, hm, hh⟩ := h.inv.wf.w.sound p.idx id h.head_mem
  have hwc : s.WfC := h.inv.wf.c.of_eq rfl rfl rfl
  rcases hh with hh | hh
  · have e : l0 = p.neg := by have := Lit.idx_inj hh; rw [← this]; simp
    subst e
    refine ⟨l1, r, s.setClause id (l1 :: p.neg :: r), clausePropagate_swap hwc hm, ⟨⟨?_, ?_, ?_, ?_⟩, h.pt, h.pl⟩,
      (mem_setClause' hm).2 (Or.inr rfl)⟩
    · refine ⟨h.inv.wf.a.setClause _ _, h.inv.wf.c.setClause hm (List.Perm.swap _ _ _), ?_,
        h.inv.wf.w.setClause_pair h.inv.wf.c hm (.inr ⟨rfl, rfl⟩)⟩
      apply WfR.setClause h.inv.wf.c h.inv.wf.r hm
      intro l r' e ht
      simp only [List.cons.injEq] at e
      exact absurd ht (fun ht' => h.inv.wf.a.not_both h.pt (e.1 ▸ ht'))
    · exact h.inv.ent.setClause' h.inv.wf.c.clsIdNodup hm (List.Perm.swap _ _ _)
    · exact h.inv.dec
    · intro hd; exact (h.inv.w2 hd).setClause_pair hm (.inr ⟨rfl, rfl⟩)
  · have e : l1 = p.neg := by have := Lit.idx_inj hh; rw [← this]; simp
    subst e
    exact ⟨l0, r, s, rfl, h, hm⟩

theorem VInv.clause_facts (h : VInv orig m s p (id :: rest)) {a : Lit} {r : List Lit}
    (hm : (id, a :: p.neg :: r) ∈ s.cls) :
    a.var ≠ p.var ∧ a.var ≠ 0 ∧ a.var < s.vals.length ∧ (∀ y ∈ r, y.var ≠ p.var ∧ y.var ≠ a.var ∧ y.var ≠ 0) ∧
      id ∉ rest ∧ id ∉ s.watches.getD p.idx [] := by
  have hnd := h.inv.wf.c.clsNodup _ hm
  simp only [List.map_cons, List.nodup_cons, List.mem_cons, Lit.neg_var, not_or, List.mem_map, not_exists,
    not_and] at hnd
  have hv0 := h.inv.wf.c.clsVar0 _ hm
  have hwn := h.inv.wf.w.nodup p.idx
  rw [putBack_getD, if_pos ⟨rfl, h.idx_lt⟩, List.nodup_append] at hwn
  refine ⟨hnd.1.1, hv0 a (by simp), h.inv.wf.c.clsRange _ hm a (by simp), ?_, ?_, ?_⟩
  · intro y hy
    exact ⟨fun e => hnd.2.1 y hy e, fun e => hnd.1.2 y hy e, hv0 y (by simp [hy])⟩
  · exact (List.nodup_cons.1 hwn.2.1).1
  · intro hi; exact hwn.2.2 _ hi _ (List.mem_cons_self ..) rfl

end

section
variable {orig : Cnf} {m : Nat} {s : Sat} {p : Lit} {id : Nat} {rest : List Nat} {a : Lit} {r : List Lit}

theorem VInv.a_lvl_le (h : VInv orig m s p (id :: rest)) (hm : (id, a :: p.neg :: r) ∈ s.cls)
    (ha : s.value a = some true) : s.lvl a ≤ s.lvl p := by
  have hat : a ∈ s.trail := by
    rcases (h.inv.wf.a.value_true (s := s.putBack p (id :: rest))).1 ha with h1 | h1
    · exact h1
    · exact absurd (by rw [h1]; rfl) (h.clause_facts hm).2.1
  rw [h.pl]; exact h.inv.wf.a.lvl_le (s := s.putBack p (id :: rest)) hat

theorem VInv.keep (h : VInv orig m s p (id :: rest)) (hm : (id, a :: p.neg :: r) ∈ s.cls)
    (ha : s.value a = some true) : VInv orig m (s.watch p id) p rest := by
  refine ⟨?_, h.pt, h.pl⟩
  rw [putBack_watch _ _ _ _ h.idx_lt]
  refine ⟨h.inv.wf, h.inv.ent, h.inv.dec, fun hd => ?_⟩
  apply (h.inv.w2 hd).at_clause h.inv.wf.c hm
  · intro id' x hne hP
    rcases hP with hq | ⟨hx, hi⟩
    · exact Or.inl hq
    · exact Or.inr ⟨hx, (List.mem_cons.1 hi).resolve_left hne⟩
  · refine ⟨fun hv => ?_, fun _ => Or.inr ⟨ha, h.a_lvl_le hm ha⟩⟩
    rw [show (s.putBack p (id :: rest)).value a = s.value a from rfl, ha] at hv
    cases hv

theorem others_false (hf : findNonFalse s (a :: p.neg :: r) 1 = none) : ∀ y ∈ r, s.value y = some false := by
  intro y hy
  obtain ⟨j, hj, e⟩ := List.getElem_of_mem hy
  have := findNonFalse_none hf (j + 2) (by omega) (by simp; omega)
  simpa [List.getD_eq_getElem?_getD, hj, e] using this

theorem VInv.rest_on_trail (h : VInv orig m s p (id :: rest)) (hm : (id, a :: p.neg :: r) ∈ s.cls)
    (hf : findNonFalse s (a :: p.neg :: r) 1 = none) : ∀ y ∈ p.neg :: r, y.neg ∈ s.trail := by
  intro y hy
  rcases List.mem_cons.1 hy with rfl | hy
  · simpa using h.pt
  · rcases (h.inv.wf.a.value_false (s := s.putBack p (id :: rest))).1 (others_false hf y hy) with h1 | h1
    · exact h1
    · exact absurd (by rw [h1]; rfl) ((h.clause_facts hm).2.2.2.1 y hy).2.2

theorem VInv.unit (h : VInv orig m s p (id :: rest)) (hm : (id, a :: p.neg :: r) ∈ s.cls)
    (ha : s.value a = none) (hf : findNonFalse s (a :: p.neg :: r) 1 = none) :
    VInv orig m ((s.watch p id).enq a (some id)) p rest := by
  obtain ⟨hap, ha0, halt, hr, hid, _⟩ := h.clause_facts hm
  have hrt := h.rest_on_trail hm hf
  have hpa : p.var ≠ a.var := fun e => hap e.symm
  have hE : ((s.watch p id).enq a (some id)).putBack p rest = (s.putBack p (id :: rest)).enq a (some id) := by
    rw [← putBack_watch _ _ _ _ h.idx_lt]; rfl
  refine ⟨?_, List.mem_cons_of_mem _ h.pt, ?_⟩
  · rw [hE]
    have hwf := h.inv.wf
    have hval : (s.putBack p (id :: rest)).value a = none := ha
    refine ⟨hwf.enq hval halt (fun e => by cases e) ?_, ?_, h.inv.dec.enq hwf.a hval, fun hd => ?_⟩
    · intro id' e
      simp only [Option.some.injEq] at e; subst e
      exact ⟨p.neg :: r, hm, hrt⟩
    · exact h.inv.ent.enq hwf.a hval halt (ents_unit h.inv.ent (h.inv.ent.clauses _ hm) hrt)
    · have hw2 := (h.inv.w2 hd).enq (P' := fun id' x => x ∈ s.queue ++ [a] ∨ (x = p ∧ id' ∈ id :: rest))
        (c := some id) hval halt
        (by
          intro id' x hP
          rcases hP with hq | hP
          · exact Or.inl (List.mem_append_left _ hq)
          · exact Or.inr hP)
        (fun id' => Or.inl (List.mem_append_right _ (List.mem_singleton.2 rfl)))
      apply hw2.at_clause hwf.c.enq hm
      · intro id' x hne hP
        rcases hP with hq | ⟨hx, hi⟩
        · exact Or.inl hq
        · exact Or.inr ⟨hx, (List.mem_cons.1 hi).resolve_left hne⟩
      · have hat : ((s.putBack p (id :: rest)).enq a (some id)).value a = some true := enq_value_self halt
        refine ⟨fun hv => ?_, fun _ => Or.inr ⟨hat, ?_⟩⟩
        · rw [hat] at hv; cases hv
        · rw [enq_lvl_self hwf.a halt, an_lvl_neg, enq_lvl_ne hpa]
          exact Nat.le_of_eq h.pl.symm
  · show ((s.watch p id).enq a (some id)).lvl p = s.decisionLevel
    rw [enq_lvl_ne hpa]; exact h.pl

theorem VInv.conflict (h : VInv orig m s p (id :: rest)) (hm : (id, a :: p.neg :: r) ∈ s.cls)
    (ha : s.value a = some false) (hf : findNonFalse s (a :: p.neg :: r) 1 = none) :
    Conf orig m { (s.watch p id).putBack p rest with queue := [] } id := by
  rw [putBack_watch _ _ _ _ h.idx_lt]
  obtain ⟨hap, ha0, halt, hr, hid, _⟩ := h.clause_facts hm
  have hrt := h.rest_on_trail hm hf
  have hwf := h.inv.wf
  have hat : a.neg ∈ s.trail := by
    rcases (hwf.a.value_false).1 ha with h1 | h1
    · exact h1
    · exact absurd (by rw [h1]; rfl) ha0
  refine ⟨⟨⟨hwf.a.queue_sub [] (fun _ hx => by cases hx), hwf.c.of_eq rfl rfl rfl, hwf.r.of_eq rfl rfl rfl, hwf.w.of_eq rfl rfl rfl⟩,
    h.inv.ent.of_eq rfl rfl rfl rfl rfl rfl, h.inv.dec, fun hd => ?_⟩, rfl, ?_⟩
  · have := (h.inv.w2 hd).mono (P' := fun _ x => x ∈ s.trail ∧ s.lvl x = s.decisionLevel) (by
      intro id' x hP
      rcases hP with hq | ⟨hx, _⟩
      · exact hwf.a.queueOK x hq
      · subst hx; exact ⟨h.pt, h.pl⟩)
    exact this.of_eq rfl rfl rfl
  · refine ⟨a :: p.neg :: r, hm, ?_, p.neg, by simp, h.pl⟩
    intro l hl
    rcases List.mem_cons.1 hl with rfl | hl
    · exact hat
    · exact hrt l hl

end

section
variable {orig : Cnf} {m : Nat} {s : Sat} {p : Lit} {id : Nat} {rest : List Nat} {a : Lit} {r : List Lit}

theorem VInv.move (h : VInv orig m s p (id :: rest)) (hm : (id, a :: p.neg :: r) ∈ s.cls) {k : Nat}
    (hf : findNonFalse s (a :: p.neg :: r) 1 = some k) :
    VInv orig m ((s.setClause id (swap1 (a :: p.neg :: r) k)).watch
      ((swap1 (a :: p.neg :: r) k).getD 1 Lit.falseLit).neg id) p rest := by
  obtain ⟨hap, ha0, halt, hr, hid, hidw⟩ := h.clause_facts hm
  obtain ⟨hk1, hklt, hkv⟩ := findNonFalse_some hf
  have hpf : s.value p.neg = some false := value_neg_false.2 h.p_true
  have hk2 : 2 ≤ k := by
    rcases Nat.lt_or_ge k 2 with hlt | hge
    · have : k = 1 := by omega
      subst this
      simp only [List.getD_eq_getElem?_getD, List.getElem?_cons_succ, List.getElem?_cons_zero, Option.getD_some] at hkv
      exact absurd hpf hkv
    · exact hge
  obtain ⟨x, r', hsw, hx, hxr, hperm, hr'⟩ := swap1_spec (a := a) (np := p.neg) (r := r) hk2 hklt
  rw [hsw]
  simp only [List.getD_eq_getElem?_getD, List.getElem?_cons_succ, List.getElem?_cons_zero, Option.getD_some]
  have hxv : s.value x ≠ some false := by rw [hx]; exact hkv
  obtain ⟨hxp, hxa, hx0⟩ := hr x hxr
  have hwf := h.inv.wf
  have hwc : s.WfC := hwf.c.of_eq rfl rfl rfl
  have hpermc : (a :: x :: r').Perm (a :: p.neg :: r) := hperm.cons a
  have hmem := fun e => @mem_setClause' s id _ (a :: x :: r') hm e
  have hxlt : x.neg.idx < s.watches.length := by
    have h1 := hwf.w.lenWatches
    have : (s.putBack p (id :: rest)).watches.length = s.watches.length := by simp [putBack]
    rw [this] at h1; rw [h1]
    exact Lit.idx_lt (hwf.c.clsRange _ hm x (by simp [hxr]))
  have hxpi : x.neg.idx ≠ p.idx := fun e => hxp (by have := Lit.idx_inj e; rw [← this]; rfl)
  have hxai : x.neg.idx ≠ a.neg.idx := Lit.neg_idx_ne hxa
  have hapi : a.neg.idx ≠ p.idx := fun e => hap (by have := Lit.idx_inj e; rw [← this]; rfl)
  -- The clause becomes `a :: x :: r'` with `x` not false, watched by `x.neg` in place of `p`.  `hW`, `hW'`: every watch list, the
  -- unvisited watchers put back, before and after; only those of `p` and `x.neg` differ, and `id` was in those of `p`, `a.neg` only (`hida`).
  have hW : ∀ i, (s.putBack p (id :: rest)).watches.getD i [] =
      if i = p.idx then s.watches.getD i [] ++ id :: rest else s.watches.getD i [] := by
    intro i; rw [putBack_getD]
    by_cases e : p.idx = i
    · subst e; simp [h.idx_lt]
    · simp [e, Ne.symm e]
  have hW' : ∀ i, (((s.setClause id (a :: x :: r')).watch x.neg id).putBack p rest).watches.getD i [] =
      if i = p.idx then s.watches.getD i [] ++ rest
      else if i = x.neg.idx then s.watches.getD i [] ++ [id] else s.watches.getD i [] := by
    intro i
    rw [putBack_getD, watch_getD]
    have hl : ((s.setClause id (a :: x :: r')).watch x.neg id).watches.length = s.watches.length := by
      simp [watch, setClause]
    rw [hl]
    show (if p.idx = i ∧ p.idx < s.watches.length then
        (if x.neg.idx = i ∧ x.neg.idx < s.watches.length then s.watches.getD i [] ++ [id] else s.watches.getD i []) ++ rest
      else (if x.neg.idx = i ∧ x.neg.idx < s.watches.length then s.watches.getD i [] ++ [id] else s.watches.getD i [])) = _
    by_cases e : p.idx = i
    · subst e; simp [h.idx_lt, hxpi]
    · by_cases e2 : x.neg.idx = i
      · subst e2; simp [e, hxlt, hxpi]
      · simp [e, e2, Ne.symm e, Ne.symm e2]
  have hida : ∀ i, id ∈ s.watches.getD i [] ↔ a.neg.idx = i := by
    intro i
    have := hwf.w.mem_iff_of_mem hwf.c hm (i := i)
    rw [hW, Lit.neg_neg] at this
    by_cases e : i = p.idx
    · rw [e]; exact iff_of_false hidw hapi
    · rw [if_neg e] at this
      exact this.trans (or_iff_left (Ne.symm e))
  have hwcT := hwc.setClause hm hpermc
  refine ⟨⟨⟨hwf.a.of_eq rfl rfl rfl rfl rfl rfl rfl rfl, hwcT.of_eq rfl rfl rfl, ?_, ?_⟩, ?_, h.inv.dec, ?_⟩, h.pt, h.pl⟩
  · have := WfR.setClause hwc (hwf.r.of_eq (t := s) rfl rfl rfl) hm (c' := a :: x :: r') (by
      intro l r0 e _
      simp only [List.cons.injEq] at e
      obtain ⟨rfl, rfl⟩ := e
      exact ⟨x :: r', rfl, fun y hy => hperm.mem_iff.1 hy⟩)
    exact this.of_eq rfl rfl rfl
  · refine hwf.w.change id ?_ ?_ (fun _ => mem_setClause_ne hm) ?_ ?_
    · have := hwf.w.lenWatches
      simp only [putBack, watch, setClause, List.length_set] at this ⊢
      exact this
    · intro i
      rw [hW']
      have hn := hwf.w.nodup i
      rw [hW] at hn
      by_cases e1 : i = p.idx
      · rw [if_pos e1] at hn ⊢
        exact hn.sublist (List.Sublist.append (List.Sublist.refl _) (List.sublist_cons_self _ _))
      · rw [if_neg e1] at hn ⊢
        split
        · rename_i e2
          rw [List.nodup_append]
          refine ⟨hn, by simp, ?_⟩
          intro y hy z hz
          simp only [List.mem_singleton] at hz; subst hz
          rintro rfl
          exact hxai (e2.symm.trans ((hida i).1 hy).symm)
        · exact hn
    · intro i id' hne
      rw [hW, hW']
      by_cases e1 : i = p.idx
      · rw [if_pos e1, if_pos e1]; simp only [List.mem_append, List.mem_cons, hne, false_or]
      · rw [if_neg e1, if_neg e1]
        split
        · rw [List.mem_append, List.mem_singleton]; exact or_iff_left hne
        · rfl
    · intro i
      refine Iff.trans ?_ (watched_iff hwcT.clsIdNodup ((hmem _).2 (Or.inr rfl))).symm
      rw [hW']
      by_cases e1 : i = p.idx
      · rw [if_pos e1, List.mem_append, hida, e1]
        exact iff_of_false (fun hh => hh.elim hapi hid) (fun hh => hh.elim hapi hxpi)
      · rw [if_neg e1]
        split
        · rename_i e2; exact iff_of_true (List.mem_append_right _ (List.mem_singleton.2 rfl)) (Or.inr e2.symm)
        · rename_i e2; rw [hida]; exact (or_iff_left (Ne.symm e2)).symm
  · have := h.inv.ent.setClause' (s := s.putBack p (id :: rest)) hwf.c.clsIdNodup hm hpermc
    exact this.of_eq rfl rfl rfl rfl rfl rfl
  · intro hd
    have hw2 := h.inv.w2 hd
    intro id' l0 l1 r0 hm'
    rcases (hmem _).1 hm' with ⟨hm'', hne⟩ | e
    · obtain ⟨h1, h2⟩ := hw2 id' l0 l1 r0 hm''
      have hP : ∀ y, PendV s p (id :: rest) id' y →
          PendV ((s.setClause id (a :: x :: r')).watch x.neg id) p rest id' y := by
        intro y hP
        rcases hP with hq | ⟨hy, hi⟩
        · exact Or.inl hq
        · exact Or.inr ⟨hy, (List.mem_cons.1 hi).resolve_left hne⟩
      exact ⟨fun hv => (h1 hv).imp (hP _) (fun z => z), fun hv => (h2 hv).imp (hP _) (fun z => z)⟩
    · simp only [Prod.mk.injEq, List.cons.injEq] at e
      obtain ⟨rfl, rfl, rfl, rfl⟩ := e
      refine ⟨fun hv => ?_, fun hv => absurd hv hxv⟩
      left
      rcases (hw2 _ _ _ _ hm).1 hv with hP | ⟨h1, _⟩
      · rcases hP with hq | ⟨hy, _⟩
        · exact Or.inl hq
        · exact absurd (by rw [← hy]; rfl) hap
      · rw [show (s.putBack p (id' :: rest)).value p.neg = s.value p.neg from rfl, hpf] at h1
        cases h1

end

section
variable {orig : Cnf} {m : Nat} {p : Lit}

theorem clausePropagate_spec {s : Sat} {id : Nat} {rest : List Nat} (h : VInv orig m s p (id :: rest)) :
    (∀ s', s.clausePropagate id p = (true, s') → VInv orig m s' p rest) ∧
    (∀ s', s.clausePropagate id p = (false, s') → Conf orig m { s'.putBack p rest with queue := [] } id) := by
  obtain ⟨a, r, s1, he, h1, hm⟩ := h.normalize
  have hwc : s1.WfC := h1.inv.wf.c.of_eq rfl rfl rfl
  rw [he, clausePropagate_eq_norm, clauseOf_of_mem hwc hm, normCl_of_ne (h1.clause_facts hm).1]
  refine cpTail_cases (P := fun x => (∀ s', x = (true, s') → VInv orig m s' p rest) ∧
      ∀ s', x = (false, s') → Conf orig m { s'.putBack p rest with queue := [] } id) ?_ ?_ ?_ ?_ <;>
    rw [setClause_self hwc hm]
  · exact fun hat => ⟨fun s' e => by cases e; exact h1.keep hm hat, nofun⟩
  · exact fun k hf => ⟨fun s' e => by cases e; exact h1.move hm hf, nofun⟩
  · exact fun hf hv => ⟨fun s' e => by cases e; exact h1.unit hm hv hf, nofun⟩
  · exact fun hf hv => ⟨nofun, fun s' e => by cases e; exact h1.conflict hm hv hf⟩

theorem visit_spec : ∀ (tmp : List Nat) (s : Sat), VInv orig m s p tmp →
    (∀ s', visitWatchers s p tmp = (s', none) → VInv orig m s' p []) ∧
    (∀ s' id, visitWatchers s p tmp = (s', some id) → Conf orig m s' id)
  | [], s, h => by
    simp only [visitWatchers, Prod.mk.injEq]
    exact ⟨fun s' e => by rw [← e.1]; exact h, fun s' id e => by simp at e⟩
  | id :: rest, s, h => by
    obtain ⟨ht, hf⟩ := clausePropagate_spec h
    unfold visitWatchers
    rcases hcp : s.clausePropagate id p with ⟨b, s1⟩
    cases b with
    | true =>
      simp only
      exact visit_spec rest s1 (ht s1 hcp)
    | false =>
      simp only [Prod.mk.injEq]
      refine ⟨fun s' e => by simp at e, fun s' id' e => ?_⟩
      obtain ⟨e1, e2⟩ := e
      simp only [Option.some.injEq] at e2
      subst e1 e2
      exact hf s1 hcp

end

theorem putBack_detach (s : Sat) (p : Lit) (q : List Lit) (h : p.idx < s.watches.length) :
    ({ s with queue := q, watches := s.watches.set p.idx [] } : Sat).putBack p (s.watches.getD p.idx []) =
      { s with queue := q } := by
  simp only [putBack, ListAux.getD_set_self _ _ _ _ h, List.nil_append, List.set_set, set_getD_self]

theorem VInv.start {orig : Cnf} {m : Nat} {s : Sat} (h : InvC orig m (fun _ x => x ∈ s.queue) s) {p : Lit}
    {q : List Lit} (hq : s.queue = p :: q) :
    VInv orig m { s with queue := q, watches := s.watches.set p.idx [] } p (s.watches.getD p.idx []) := by
  have hpq := h.wf.a.queueOK p (by rw [hq]; exact List.mem_cons_self ..)
  have hidx : p.idx < s.watches.length := by
    rw [h.wf.w.lenWatches]; exact Lit.idx_lt (h.wf.a.trail_lt hpq.1)
  refine ⟨?_, hpq.1, hpq.2⟩
  rw [putBack_detach s p q hidx]
  refine ⟨⟨h.wf.a.queue_sub q (fun x hx => by rw [hq]; exact List.mem_cons_of_mem _ hx), h.wf.c.of_eq rfl rfl rfl,
    h.wf.r.of_eq rfl rfl rfl, h.wf.w.of_eq rfl rfl rfl⟩, h.ent.of_eq rfl rfl rfl rfl rfl rfl, h.dec, fun hd => ?_⟩
  intro id l0 l1 r hm
  obtain ⟨h1, h2⟩ := h.w2 hd id l0 l1 r hm
  obtain ⟨c1, c2⟩ := h.wf.w.complete id l0 l1 r hm
  have key : ∀ x : Lit, id ∈ s.watches.getD x.neg.idx [] → x.neg ∈ s.queue →
      PendV { s with queue := q, watches := s.watches.set p.idx [] } p (s.watches.getD p.idx []) id x.neg := by
    intro x hw hx
    rw [hq] at hx
    rcases List.mem_cons.1 hx with hx | hx
    · right; refine ⟨hx, ?_⟩; rw [← hx]; exact hw
    · left; exact hx
  exact ⟨fun hv => (h1 hv).imp (key l0 c1) (fun z => z), fun hv => (h2 hv).imp (key l1 c2) (fun z => z)⟩

end Sat
end Oratio
