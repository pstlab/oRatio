/-
Pure mathematics behind C10: distance matrices with entries in `WithTop G` for a linearly ordered abelian group `G`
(`⊤` = +∞), valuations `σ : Nat → G`, feasibility potentials, tight witnesses, an entry as the least upper bound of
`σ j - σ i` over the valuations satisfying the edges (`Weak.le_iff`), and the closed form of the incremental update.
Both difference-logic theories are read through this (`G = Int`, the sentinel as `⊤`; `G = Lex (ℚ × ℚ)` for `inf_rational`).
-/
import Mathlib.Algebra.Order.Group.Defs
import Mathlib.Algebra.Order.Monoid.WithTop
import Mathlib.Algebra.Order.Group.MinMax
import Mathlib.Tactic.Abel

-- the order instances on `G` are section variables, and some proofs need only part of them
set_option linter.unusedSectionVars false

namespace Oratio
namespace DlW

variable {G : Type} [AddCommGroup G] [LinearOrder G] [IsOrderedAddMonoid G]

abbrev Mat (G : Type) := Nat → Nat → WithTop G
abbrev Edge (G : Type) := Nat × Nat × G

/-- the valuation satisfies every edge `(f, t, w)`: `σ t - σ f ≤ w` -/
def Sat (σ : Nat → G) (E : List (Edge G)) : Prop := ∀ e ∈ E, σ e.2.1 - σ e.1 ≤ e.2.2

/-- exactness of a matrix for `E`, without tightness, which follows (`witness`) -/
structure Weak (n : Nat) (E : List (Edge G)) (M : Mat G) : Prop where
  edges_in : ∀ e ∈ E, e.1 < n ∧ e.2.1 < n
  diag : ∀ i, i < n → M i i = 0
  respects : ∀ e ∈ E, M e.1 e.2.1 ≤ ((e.2.2 : G) : WithTop G)
  closed : ∀ i j k, i < n → j < n → k < n → M i j ≤ M i k + M k j
  implied : ∀ i j, i < n → j < n → ∀ σ, Sat σ E → (((σ j - σ i : G)) : WithTop G) ≤ M i j

theorem Weak.congr {n : Nat} {E : List (Edge G)} {M M' : Mat G} (h : Weak n E M)
    (heq : ∀ a b, a < n → b < n → M' a b = M a b) : Weak n E M' := by
  refine ⟨h.edges_in, ?_, ?_, ?_, ?_⟩
  · intro i hi; rw [heq i i hi hi]; exact h.diag i hi
  · intro e he
    obtain ⟨h1, h2⟩ := h.edges_in e he
    rw [heq _ _ h1 h2]; exact h.respects e he
  · intro i j k hi hj hk
    rw [heq i k hi hk, heq k j hk hj, heq i j hi hj]; exact h.closed i j k hi hj hk
  · intro i j hi hj
    rw [heq i j hi hj]; exact h.implied i j hi hj

theorem Weak.extend {n : Nat} {E : List (Edge G)} {M M' : Mat G} (h : Weak n E M)
    (hold : ∀ a b, a < n → b < n → M' a b = M a b)
    (hnew : ∀ a b, a < n + 1 → b < n + 1 → (a = n ∨ b = n) → M' a b = if a = b then 0 else ⊤) :
    Weak (n + 1) E M' := by
  have hnn : M' n n = 0 := by rw [hnew n n (Nat.lt_succ_self n) (Nat.lt_succ_self n) (Or.inl rfl), if_pos rfl]
  have htop : ∀ a b, a < n + 1 → b < n + 1 → (a = n ∨ b = n) → a ≠ b → M' a b = ⊤ := by
    intro a b ha hb hab hne
    rw [hnew a b ha hb hab, if_neg hne]
  have lt : ∀ {a}, a < n + 1 → a ≠ n → a < n := fun h hne => Nat.lt_of_le_of_ne (Nat.le_of_lt_succ h) hne
  refine ⟨?_, ?_, ?_, ?_, ?_⟩
  · intro e he
    obtain ⟨h1, h2⟩ := h.edges_in e he
    exact ⟨Nat.lt_succ_of_lt h1, Nat.lt_succ_of_lt h2⟩
  · intro i hi
    by_cases hin : i = n
    · rw [hin, hnn]
    · rw [hold i i (lt hi hin) (lt hi hin)]; exact h.diag i (lt hi hin)
  · intro e he
    obtain ⟨h1, h2⟩ := h.edges_in e he
    rw [hold _ _ h1 h2]; exact h.respects e he
  · intro i j k hi hj hk
    by_cases hkn : k = n
    · by_cases hin : i = n
      · by_cases hjn : j = n
        · rw [hkn, hin, hjn, hnn]; simp
        · rw [htop k j hk hj (Or.inl hkn) (fun e => hjn (e ▸ hkn)), WithTop.add_top]; exact le_top
      · rw [htop i k hi hk (Or.inr hkn) (fun e => hin (e.trans hkn)), WithTop.top_add]; exact le_top
    · by_cases hin : i = n
      · rw [htop i k hi hk (Or.inl hin) (fun e => hkn (e ▸ hin)), WithTop.top_add]; exact le_top
      · by_cases hjn : j = n
        · rw [htop k j hk hj (Or.inr hjn) (fun e => hkn (e.trans hjn)), WithTop.add_top]; exact le_top
        · rw [hold i k (lt hi hin) (lt hk hkn), hold k j (lt hk hkn) (lt hj hjn), hold i j (lt hi hin) (lt hj hjn)]
          exact h.closed i j k (lt hi hin) (lt hj hjn) (lt hk hkn)
  · intro i j hi hj σ hσ
    by_cases hab : i = n ∨ j = n
    · by_cases hij : i = j
      · rw [hnew i j hi hj hab, if_pos hij, hij]; simp
      · rw [htop i j hi hj hab hij]; exact le_top
    · rw [hold i j (lt hi (fun e => hab (Or.inl e))) (lt hj (fun e => hab (Or.inr e)))]
      exact h.implied i j (lt hi (fun e => hab (Or.inl e))) (lt hj (fun e => hab (Or.inr e))) σ hσ

/-! ### a feasible valuation: the Bellman–Ford potential with a virtual source -/

def pot (M : Mat G) (k : Nat) : Nat → WithTop G
  | 0 => 0
  | m + 1 => min (pot M k m) (M m k)

theorem pot_le_zero (M : Mat G) (k : Nat) : ∀ m, pot M k m ≤ 0
  | 0 => le_refl _
  | m + 1 => le_trans (min_le_left _ _) (pot_le_zero M k m)

theorem pot_le (M : Mat G) (k : Nat) : ∀ m j, j < m → pot M k m ≤ M j k
  | 0, j, h => by omega
  | m + 1, j, h => by
    by_cases hjm : j = m
    · subst hjm; exact min_le_right _ _
    · exact le_trans (min_le_left _ _) (pot_le M k m j (by omega))

theorem pot_attained (M : Mat G) (k : Nat) : ∀ m, pot M k m = 0 ∨ ∃ j, j < m ∧ pot M k m = M j k
  | 0 => Or.inl rfl
  | m + 1 => by
    show min (pot M k m) (M m k) = 0 ∨ ∃ j, j < m + 1 ∧ min (pot M k m) (M m k) = M j k
    rcases le_total (pot M k m) (M m k) with hc | hc
    · rw [min_eq_left hc]
      rcases pot_attained M k m with h0 | ⟨j, hj, he⟩
      · left; exact h0
      · right; exact ⟨j, by omega, he⟩
    · rw [min_eq_right hc]
      right; exact ⟨m, by omega, rfl⟩

theorem pot_ne_top (M : Mat G) (k m : Nat) : pot M k m ≠ ⊤ := by
  intro h
  have := pot_le_zero M k m
  rw [h] at this
  exact absurd (top_le_iff.mp this) WithTop.zero_ne_top

noncomputable def potv (M : Mat G) (k m : Nat) : G := (pot M k m).untopD 0

theorem coe_potv (M : Mat G) (k m : Nat) : ((potv M k m : G) : WithTop G) = pot M k m := by
  unfold potv
  cases h : pot M k m with
  | top => exact absurd h (pot_ne_top M k m)
  | coe x => rfl

theorem potv_le_zero (M : Mat G) (k m : Nat) : potv M k m ≤ 0 := by
  have := pot_le_zero M k m
  rw [← coe_potv] at this
  exact_mod_cast this

theorem pot_edge {n : Nat} {E : List (Edge G)} {M : Mat G} (h : Weak n E M) (a b : Nat) (ha : a < n) (hb : b < n) :
    pot M b n ≤ pot M a n + M a b := by
  rcases pot_attained M a n with h0 | ⟨j, hj, hej⟩
  · rw [h0, zero_add]; exact pot_le M b n a ha
  · rw [hej]
    exact le_trans (pot_le M b n j hj) (h.closed j b a hj hb ha)

theorem feasible0 {n : Nat} {E : List (Edge G)} {M : Mat G} (h : Weak n E M) :
    Sat (fun k => potv M k n) E := by
  intro e he
  obtain ⟨ha, hb⟩ := h.edges_in e he
  have h1 := pot_edge h e.1 e.2.1 ha hb
  have h2 : pot M e.2.1 n ≤ pot M e.1 n + ((e.2.2 : G) : WithTop G) :=
    le_trans h1 (add_le_add le_rfl (h.respects e he))
  rw [← coe_potv, ← coe_potv, ← WithTop.coe_add, WithTop.coe_le_coe] at h2
  show potv M e.2.1 n - potv M e.1 n ≤ e.2.2
  rw [sub_le_iff_le_add']
  exact h2

/-- the row `i` of the matrix, completed at distance `L` on the unreachable nodes, is a valuation
    as soon as `L` makes up for every edge leading from an unreachable node to a reachable one -/
theorem witness_edges {n : Nat} {E : List (Edge G)} {M : Mat G} (h : Weak n E M)
    (i : Nat) (hi : i < n) (L : G)
    (hL : ∀ e ∈ E, ∀ z : G, M i e.2.1 = (z : WithTop G) → M i e.1 = ⊤ → z - e.2.2 - potv M e.1 n ≤ L) :
    ∃ σ : Nat → G, Sat σ E ∧ (∀ k, k < n → ∀ x : G, M i k = (x : WithTop G) → σ k = x) ∧
      (∀ k, k < n → M i k = ⊤ → σ k = L + potv M k n) := by
  have hs0 := feasible0 h
  refine ⟨fun k => if M i k = ⊤ then L + potv M k n else (M i k).untopD 0, ?_, ?_, ?_⟩
  · intro e he
    obtain ⟨ha, hb⟩ := h.edges_in e he
    have hresp := h.respects e he
    have he0 : potv M e.2.1 n - potv M e.1 n ≤ e.2.2 := hs0 e he
    show (if M i e.2.1 = ⊤ then L + potv M e.2.1 n else (M i e.2.1).untopD 0) -
      (if M i e.1 = ⊤ then L + potv M e.1 n else (M i e.1).untopD 0) ≤ e.2.2
    obtain ⟨y, hy⟩ : ∃ y : G, M e.1 e.2.1 = (y : WithTop G) := by
      cases hc : M e.1 e.2.1 with
      | top => rw [hc] at hresp; exact absurd (top_le_iff.mp hresp) (WithTop.coe_ne_top)
      | coe y => exact ⟨y, rfl⟩
    have hyw : y ≤ e.2.2 := by rw [hy] at hresp; exact_mod_cast hresp
    cases h1 : M i e.1 with
    | coe x =>
      have hcl := h.closed i e.2.1 e.1 hi hb ha
      rw [h1, hy, ← WithTop.coe_add] at hcl
      cases h2 : M i e.2.1 with
      | top => rw [h2] at hcl; exact absurd (top_le_iff.mp hcl) (WithTop.coe_ne_top)
      | coe z =>
        rw [h2] at hcl
        have hzl : z ≤ x + y := by exact_mod_cast hcl
        rw [if_neg WithTop.coe_ne_top, if_neg WithTop.coe_ne_top]
        simp only [WithTop.untopD_coe]
        rw [sub_le_iff_le_add']
        exact le_trans hzl (add_le_add le_rfl hyw)
    | top =>
      rw [if_pos rfl]
      cases h2 : M i e.2.1 with
      | top =>
        rw [if_pos rfl]
        have : L + potv M e.2.1 n - (L + potv M e.1 n) = potv M e.2.1 n - potv M e.1 n := by abel
        rw [this]; exact he0
      | coe z =>
        rw [if_neg WithTop.coe_ne_top]
        simp only [WithTop.untopD_coe]
        have hb1 := hL e he z h2 h1
        have e1 : z - (L + potv M e.1 n) = (z - e.2.2 - potv M e.1 n) - L + e.2.2 := by abel
        rw [e1]
        have : z - e.2.2 - potv M e.1 n - L ≤ 0 := sub_nonpos.mpr hb1
        calc z - e.2.2 - potv M e.1 n - L + e.2.2 ≤ 0 + e.2.2 := add_le_add this le_rfl
          _ = e.2.2 := zero_add _
  · intro k _ x hx
    show (if M i k = ⊤ then L + potv M k n else (M i k).untopD 0) = x
    rw [hx, if_neg WithTop.coe_ne_top]; rfl
  · intro k _ hx
    show (if M i k = ⊤ then L + potv M k n else (M i k).untopD 0) = L + potv M k n
    rw [if_pos hx]

theorem witness {n : Nat} {E : List (Edge G)} {M : Mat G} (h : Weak n E M)
    (i : Nat) (hi : i < n) (L : G)
    (hL : ∀ a b, a < n → b < n → ∀ z y : G, M i b = (z : WithTop G) → M a b = (y : WithTop G) →
      z - y - potv M a n ≤ L) :
    ∃ σ : Nat → G, Sat σ E ∧ (∀ k, k < n → ∀ x : G, M i k = (x : WithTop G) → σ k = x) ∧
      (∀ k, k < n → M i k = ⊤ → σ k = L + potv M k n) := by
  refine witness_edges h i hi L (fun e he z hz _ => ?_)
  obtain ⟨ha, hb⟩ := h.edges_in e he
  have hresp := h.respects e he
  cases hc : M e.1 e.2.1 with
  | top => rw [hc] at hresp; exact absurd (top_le_iff.mp hresp) (WithTop.coe_ne_top)
  | coe y =>
    rw [hc] at hresp
    have hyw : y ≤ e.2.2 := by exact_mod_cast hresp
    refine le_trans ?_ (hL e.1 e.2.1 ha hb z y hz hc)
    exact sub_le_sub_right (sub_le_sub_left hyw z) _

theorem exists_upper (S : List G) : ∃ L : G, ∀ x ∈ S, x ≤ L := by
  induction S with
  | nil => exact ⟨0, by simp⟩
  | cons a S ih =>
    obtain ⟨L, hL⟩ := ih
    refine ⟨max a L, ?_⟩
    intro x hx
    rcases List.mem_cons.mp hx with rfl | hx
    · exact le_max_left _ _
    · exact le_trans (hL x hx) (le_max_right _ _)

/-- a bound `L` as required by `witness`, additionally above a given `L0` -/
theorem exists_L (n : Nat) (M : Mat G) (i : Nat) (L0 : G) :
    ∃ L : G, L0 ≤ L ∧ ∀ a b, a < n → b < n → ∀ z y : G, M i b = (z : WithTop G) → M a b = (y : WithTop G) →
      z - y - potv M a n ≤ L := by
  obtain ⟨L, hL⟩ := exists_upper (L0 :: (List.range n).flatMap (fun a => (List.range n).map (fun b =>
    (M i b).untopD 0 - (M a b).untopD 0 - potv M a n)))
  refine ⟨L, hL L0 List.mem_cons_self, ?_⟩
  intro a b ha hb z y hz hy
  apply hL
  apply List.mem_cons_of_mem
  rw [List.mem_flatMap]
  refine ⟨a, List.mem_range.mpr ha, ?_⟩
  rw [List.mem_map]
  refine ⟨b, List.mem_range.mpr hb, ?_⟩
  rw [hz, hy]; rfl

section
variable {n : Nat} {E : List (Edge G)} {M : Mat G} (h : Weak n E M) {i j : Nat} (hi : i < n) (hj : j < n)
include h hi hj

theorem Weak.attain (L0 : G) :
    ∃ σ : Nat → G, Sat σ E ∧ (∀ x : G, M i j = (x : WithTop G) → σ j - σ i = x) ∧ (M i j = ⊤ → L0 ≤ σ j - σ i) := by
  obtain ⟨L, hL0, hL⟩ := exists_L n M i (L0 - potv M j n)
  obtain ⟨σ, hσ, hσf, hσi⟩ := witness h i hi L hL
  have h0 : σ i = 0 := hσf i hi 0 (by rw [h.diag i hi]; rfl)
  refine ⟨σ, hσ, fun x hx => by rw [hσf j hj x hx, h0, sub_zero], fun hx => ?_⟩
  rw [hσi j hj hx, h0, sub_zero]
  exact sub_le_iff_le_add.mp hL0

/-- An entry of the distance matrix is the least upper bound of `x_j - x_i` over the valuations that satisfy the
    enforced edges, `⊤` when the difference is unbounded (`u`: the group is not trivial). -/
theorem Weak.le_iff {u : G} (hu : 0 < u) (x : G) : M i j ≤ (x : WithTop G) ↔ ∀ σ, Sat σ E → σ j - σ i ≤ x := by
  refine ⟨fun hle σ hσ => WithTop.coe_le_coe.mp ((h.implied i j hi hj σ hσ).trans hle), fun hall => ?_⟩
  obtain ⟨σ, hσ, hf, ht⟩ := h.attain hi hj (x + u)
  cases hm : M i j with
  | top => exact absurd ((ht hm).trans (hall σ hσ)) (not_le.mpr (lt_add_of_pos_right x hu))
  | coe y => exact WithTop.coe_le_coe.mpr (hf y hm ▸ hall σ hσ)

end

theorem Weak.anti {n₁ n₂ : Nat} {E₁ E₂ : List (Edge G)} {M₁ M₂ : Mat G} (h₁ : Weak n₁ E₁ M₁) (h₂ : Weak n₂ E₂ M₂)
    {u : G} (hu : 0 < u) (hE : ∀ σ, Sat σ E₂ → Sat σ E₁) {i j : Nat} (hi : i < n₁) (hj : j < n₁) (hi' : i < n₂)
    (hj' : j < n₂) : M₂ i j ≤ M₁ i j := by
  cases hm : M₁ i j with
  | top => exact le_top
  | coe x => exact (h₂.le_iff hi' hj' hu x).mpr fun σ hσ => (h₁.le_iff hi hj hu x).mp (le_of_eq hm) σ (hE σ hσ)

def upd (M : Mat G) (f g : Nat) (w : G) : Mat G := fun a b =>
  min (M a b) (M a f + ((w : G) : WithTop G) + M g b)

theorem upd_le_old (M : Mat G) (f g : Nat) (w : G) (a b : Nat) : upd M f g w a b ≤ M a b := min_le_left _ _

theorem upd_le_cand (M : Mat G) (f g : Nat) (w : G) (a b : Nat) :
    upd M f g w a b ≤ M a f + ((w : G) : WithTop G) + M g b := min_le_right _ _

theorem upd_diag_of {n : Nat} {M : Mat G} {f g : Nat} {w : G} (hf : f < n) (hg : g < n) (hdiag : ∀ a, a < n → M a a = 0)
    (hclosed : ∀ i j k, i < n → j < n → k < n → M i j ≤ M i k + M k j) (hcyc : 0 ≤ M g f + (w : WithTop G))
    (a : Nat) (ha : a < n) : upd M f g w a a = 0 := by
  show min (M a a) (M a f + (w : WithTop G) + M g a) = 0
  rw [hdiag a ha]
  apply min_eq_left
  calc (0 : WithTop G) ≤ M g a + M a f + (w : WithTop G) := le_trans hcyc (add_le_add (hclosed g f a hg hf ha) le_rfl)
    _ = M a f + (w : WithTop G) + M g a := by rw [add_assoc]; exact add_comm _ _

def Imp (M : Mat G) (f g : Nat) (w : G) (a b : Nat) : Prop := M a f + (w : WithTop G) + M g b < M a b

theorem upd_of_imp {M : Mat G} {f g : Nat} {w : G} {a b : Nat} (h : Imp M f g w a b) :
    upd M f g w a b = M a f + (w : WithTop G) + M g b := min_eq_right (le_of_lt h)

theorem upd_of_nimp {M : Mat G} {f g : Nat} {w : G} {a b : Nat} (h : ¬ Imp M f g w a b) :
    upd M f g w a b = M a b := min_eq_left (not_lt.mp h)

structure UpdHyp (n : Nat) (M : Mat G) (f g : Nat) (w : G) : Prop where
  hf : f < n
  hg : g < n
  hfg : f ≠ g
  diag : ∀ a, a < n → M a a = 0
  closed : ∀ i j k, i < n → j < n → k < n → M i j ≤ M i k + M k j
  cyc : 0 ≤ M g f + (w : WithTop G)
  imp : (w : WithTop G) < M f g

theorem UpdHyp.upd_diag {n : Nat} {M : Mat G} {f g : Nat} {w : G} (h : UpdHyp n M f g w) (a : Nat) (ha : a < n) :
    upd M f g w a a = 0 := upd_diag_of h.hf h.hg h.diag h.closed h.cyc a ha

theorem UpdHyp.not_imp_row {n : Nat} {M : Mat G} {f g : Nat} {w : G} (h : UpdHyp n M f g w) (u : Nat) :
    ¬ Imp M f g w g u := by
  intro hi
  have h1 : (0 : WithTop G) + M g u ≤ M g f + (w : WithTop G) + M g u := add_le_add h.cyc le_rfl
  rw [zero_add] at h1
  exact absurd (lt_of_le_of_lt h1 hi) (lt_irrefl _)

theorem Imp.fin {M : Mat G} {f g : Nat} {w : G} {i j : Nat} (h : Imp M f g w i j) : M i f ≠ ⊤ ∧ M g j ≠ ⊤ :=
  have h1 := WithTop.add_ne_top.mp (ne_top_of_lt h)
  ⟨(WithTop.add_ne_top.mp h1.1).1, h1.2⟩

theorem UpdHyp.imp_fg {n : Nat} {M : Mat G} {f g : Nat} {w : G} (hy : UpdHyp n M f g w) : Imp M f g w f g := by
  show M f f + _ + M g g < M f g
  rw [hy.diag f hy.hf, hy.diag g hy.hg, zero_add, add_zero]; exact hy.imp

section
variable {n : Nat} {M : Mat G} {f g : Nat} {w : G} (hy : UpdHyp n M f g w)
include hy

theorem UpdHyp.not_imp_diag {i : Nat} (hi : i < n) : ¬ Imp M f g w i i := by
  intro h
  unfold Imp at h
  rw [hy.diag i hi] at h
  have h0 : (0 : WithTop G) ≤ M i f + (w : WithTop G) + M g i :=
    calc (0 : WithTop G) ≤ M g f + (w : WithTop G) := hy.cyc
      _ ≤ (M g i + M i f) + (w : WithTop G) := add_le_add (hy.closed g f i hy.hg hy.hf hi) le_rfl
      _ = M i f + (w : WithTop G) + M g i := by ac_rfl
  exact absurd (lt_of_le_of_lt h0 h) (lt_irrefl _)

theorem UpdHyp.not_imp_f (i : Nat) : ¬ Imp M f g w i f := by
  intro h
  have h0 : M i f + 0 ≤ M i f + (M g f + (w : WithTop G)) := add_le_add le_rfl hy.cyc
  rw [add_zero, add_comm (M g f), ← add_assoc] at h0
  exact absurd (lt_of_le_of_lt h0 h) (lt_irrefl _)

/-- an improved entry has an improved predecessor -/
theorem UpdHyp.imp_back {i j k : Nat} {w0 : G} (hi : i < n) (hj : j < n) (hk : k < n)
    (hkj : M k j ≤ (w0 : WithTop G)) (hgkj : M g k + (w0 : WithTop G) ≤ M g j)
    (himp : Imp M f g w i j) : Imp M f g w i k := by
  by_contra hn
  have h0 : M i j ≤ M i f + (w : WithTop G) + M g j :=
    calc M i j ≤ M i k + M k j := hy.closed i j k hi hj hk
      _ ≤ (M i f + (w : WithTop G) + M g k) + (w0 : WithTop G) := add_le_add (not_lt.mp hn) hkj
      _ = M i f + (w : WithTop G) + (M g k + (w0 : WithTop G)) := by ac_rfl
      _ ≤ M i f + (w : WithTop G) + M g j := add_le_add le_rfl hgkj
  exact absurd (lt_of_le_of_lt h0 himp) (lt_irrefl _)

theorem UpdHyp.nimp_back {i j k : Nat} {w0 : G} (hj : j < n) (hk : k < n)
    (hkj : M k j ≤ (w0 : WithTop G)) (hikj : M i k + (w0 : WithTop G) ≤ M i j)
    (hn : ¬ Imp M f g w i j) : ¬ Imp M f g w i k := by
  intro h
  apply hn
  unfold Imp at h ⊢
  calc M i f + (w : WithTop G) + M g j
      ≤ M i f + (w : WithTop G) + (M g k + (w0 : WithTop G)) :=
        add_le_add le_rfl (le_trans (hy.closed g j k hy.hg hj hk) (add_le_add le_rfl hkj))
    _ = (M i f + (w : WithTop G) + M g k) + (w0 : WithTop G) := by ac_rfl
    _ < M i k + (w0 : WithTop G) := WithTop.add_lt_add_right WithTop.coe_ne_top h
    _ ≤ M i j := hikj
end

theorem Weak.updHyp {n : Nat} {E : List (Edge G)} {M : Mat G} (h : Weak n E M) {f g : Nat} {w : G}
    (hf : f < n) (hg : g < n) (hfg : f ≠ g) (hcyc : 0 ≤ M g f + (w : WithTop G)) (himp : (w : WithTop G) < M f g) :
    UpdHyp n M f g w := ⟨hf, hg, hfg, h.diag, h.closed, hcyc, himp⟩

/-- One round of `upd` (every pair tries the new edge once) keeps exactness when the edge `(f, g, w)` is added,
    provided it closes no negative cycle (`hcyc`). -/
theorem update_weak {n : Nat} {E : List (Edge G)} {M : Mat G} (h : Weak n E M) {f g : Nat} {w : G}
    (hf : f < n) (hg : g < n) (hcyc : 0 ≤ M g f + ((w : G) : WithTop G)) :
    Weak n ((f, g, w) :: E) (upd M f g w) := by
  have hSat : ∀ σ : Nat → G, Sat σ ((f, g, w) :: E) → Sat σ E ∧ σ g - σ f ≤ w := by
    intro σ hs
    exact ⟨fun e he => hs e (List.mem_cons_of_mem _ he), hs (f, g, w) List.mem_cons_self⟩
  refine ⟨?_, ?_, ?_, ?_, ?_⟩
  · intro e he
    rcases List.mem_cons.mp he with rfl | he
    · exact ⟨hf, hg⟩
    · exact h.edges_in e he
  · exact upd_diag_of hf hg h.diag h.closed hcyc
  · intro e he
    rcases List.mem_cons.mp he with rfl | he
    · show upd M f g w f g ≤ ((w : G) : WithTop G)
      have := upd_le_cand M f g w f g
      rw [h.diag f hf, h.diag g hg, zero_add, add_zero] at this
      exact this
    · exact le_trans (upd_le_old M f g w _ _) (h.respects e he)
  · -- by the side of `min` each summand takes; where both go through the new edge the path uses it twice and
    -- contains the cycle `g → k → f → g`, which is not negative (`hc`) and is dropped
    intro i j k hi hj hk
    show upd M f g w i j ≤ min (M i k) (M i f + ((w : G) : WithTop G) + M g k) +
      min (M k j) (M k f + ((w : G) : WithTop G) + M g j)
    rcases min_choice (M i k) (M i f + ((w : G) : WithTop G) + M g k) with c1 | c1 <;>
    rcases min_choice (M k j) (M k f + ((w : G) : WithTop G) + M g j) with c2 | c2 <;>
    rw [c1, c2]
    · exact le_trans (upd_le_old M f g w i j) (h.closed i j k hi hj hk)
    · calc upd M f g w i j ≤ M i f + ((w : G) : WithTop G) + M g j := upd_le_cand M f g w i j
        _ ≤ (M i k + M k f) + ((w : G) : WithTop G) + M g j :=
          add_le_add (add_le_add (h.closed i f k hi hf hk) le_rfl) le_rfl
        _ = M i k + (M k f + ((w : G) : WithTop G) + M g j) := by simp only [add_assoc]
    · calc upd M f g w i j ≤ M i f + ((w : G) : WithTop G) + M g j := upd_le_cand M f g w i j
        _ ≤ M i f + ((w : G) : WithTop G) + (M g k + M k j) :=
          add_le_add le_rfl (h.closed g j k hg hj hk)
        _ = M i f + ((w : G) : WithTop G) + M g k + M k j := by simp only [add_assoc]
    · have hc := le_trans hcyc (add_le_add (h.closed g f k hg hf hk) le_rfl)
      calc upd M f g w i j ≤ M i f + ((w : G) : WithTop G) + M g j := upd_le_cand M f g w i j
        _ = M i f + ((w : G) : WithTop G) + 0 + M g j := by rw [add_zero]
        _ ≤ M i f + ((w : G) : WithTop G) + (M g k + M k f + ((w : G) : WithTop G)) + M g j :=
          add_le_add (add_le_add le_rfl hc) le_rfl
        _ = M i f + ((w : G) : WithTop G) + M g k + (M k f + ((w : G) : WithTop G) + M g j) := by simp only [add_assoc]
  · intro i j hi hj σ hs
    obtain ⟨hsE, hnew⟩ := hSat σ hs
    apply le_min
    · exact h.implied i j hi hj σ hsE
    · have h1 := h.implied i f hi hf σ hsE
      have h2 := h.implied g j hg hj σ hsE
      have h3 : (((σ g - σ f : G)) : WithTop G) ≤ ((w : G) : WithTop G) := by exact_mod_cast hnew
      have e : (((σ j - σ i : G)) : WithTop G) =
          (((σ f - σ i : G)) : WithTop G) + (((σ g - σ f : G)) : WithTop G) + (((σ j - σ g : G)) : WithTop G) := by
        rw [← WithTop.coe_add, ← WithTop.coe_add]
        congr 1; abel
      rw [e]
      exact add_le_add (add_le_add h1 h3) h2

end DlW
end Oratio
