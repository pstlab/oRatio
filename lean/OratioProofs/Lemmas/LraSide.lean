/-
The order of `QV` seen from a side (`d.le`, `d.lt`), so that each lower/upper mirror pair of facts is one statement
about `d : Side`.
-/
import OratioModel
import OratioProofs.Lemmas.LraBoundOps
import OratioProofs.Lemmas.LraQV

namespace Oratio
namespace Lra

namespace Side

def le : Side → QV → QV → Prop
  | lo, a, b => a ≤ b
  | hi, a, b => b ≤ a

def lt : Side → QV → QV → Prop
  | lo, a, b => a < b
  | hi, a, b => b < a

def down : Side → QV → QV
  | lo, v => v - QV.eps
  | hi, v => v + QV.eps

theorem flip_le {d : Side} {a b : QV} : d.flip.le a b ↔ d.le b a := by cases d <;> exact Iff.rfl

theorem le_refl : ∀ (d : Side) (a : QV), d.le a a
  | lo, a => _root_.le_refl a
  | hi, a => _root_.le_refl a

theorem le_trans : ∀ {d : Side} {a b c : QV}, d.le a b → d.le b c → d.le a c
  | lo, _, _, _, h1, h2 => _root_.le_trans h1 h2
  | hi, _, _, _, h1, h2 => _root_.le_trans h2 h1

theorem le_of_not_lt : ∀ {d : Side} {a b : QV}, ¬ d.lt a b → d.le b a
  | lo, _, _, h => not_lt.1 h
  | hi, _, _, h => not_lt.1 h

theorem not_lt_of_le : ∀ {d : Side} {a b : QV}, d.le a b → ¬ d.lt b a
  | lo, _, _, h => not_lt.2 h
  | hi, _, _, h => not_lt.2 h

theorem down_lt : ∀ (d : Side) (v : QV), d.lt (d.down v) v
  | lo, v => sub_lt_self v QV.eps_pos
  | hi, v => lt_add_of_pos_right v QV.eps_pos

theorem add_le_add_left : ∀ {d : Side} {a b : QV}, d.le a b → ∀ c, d.le (c + a) (c + b)
  | lo, _, _, h, c => add_le_add (_root_.le_refl c) h
  | hi, _, _, h, c => add_le_add (_root_.le_refl c) h

theorem add_le_add_right : ∀ {d : Side} {a b : QV}, d.le a b → ∀ c, d.le (a + c) (b + c)
  | lo, _, _, h, c => add_le_add h (_root_.le_refl c)
  | hi, _, _, h, c => add_le_add h (_root_.le_refl c)

theorem smul_le : ∀ {d : Side} {c : ℚ} {a b : QV}, 0 ≤ c → d.le a b → d.le (c • a) (c • b)
  | lo, _, _, _, hc, h => QV.smul_le_of_nonneg hc h
  | hi, _, _, _, hc, h => QV.smul_le_of_nonneg hc h

theorem smul_le_flip : ∀ {d : Side} {c : ℚ} {a b : QV}, c ≤ 0 → d.flip.le a b → d.le (c • a) (c • b)
  | lo, _, _, _, hc, h => C09A.Val.smul_le_smul_of_nonpos hc h
  | hi, _, _, _, hc, h => C09A.Val.smul_le_smul_of_nonpos hc h

theorem smul_le_iff {d : Side} {c : ℚ} {a b : QV} (hc : 0 < c) : d.le (c • a) (c • b) ↔ d.le a b :=
  ⟨fun h => by
    have := smul_le (inv_pos.2 hc).le h
    rwa [inv_smul_smul₀ hc.ne', inv_smul_smul₀ hc.ne'] at this, smul_le hc.le⟩

theorem smul_le_flip_iff {d : Side} {c : ℚ} {a b : QV} (hc : c < 0) : d.le (c • a) (c • b) ↔ d.flip.le a b :=
  ⟨fun h => by
    have := smul_le_flip (d := d.flip) (inv_lt_zero.2 hc).le (d.flip_flip.symm ▸ h)
    rwa [inv_smul_smul₀ hc.ne, inv_smul_smul₀ hc.ne] at this, smul_le_flip hc.le⟩

end Side

/-- `LbOk` / `UbOk` -/
def SOk (d : Side) (b : IR) : Prop := IR.Fin b ∨ b.rat = d.inf

def Side.holds : Side → IR → QV → Prop
  | .lo, b, v => BLe b v
  | .hi, b, v => VLe v b

theorem Side.holds_fin {b : IR} (hb : IR.Fin b) (v : QV) : ∀ d : Side, d.holds b v ↔ d.le (IR.val b) v
  | .lo => BLe.fin hb
  | .hi => VLe.fin hb

theorem Side.holds_inf {d : Side} {b : IR} (h : b.rat = d.inf) (v : QV) : d.holds b v :=
  match d with
  | .lo => BLe.ninf h
  | .hi => VLe.pinf h

theorem BoundsOK.side {t : Lra} (hb : BoundsOK t) (x : Nat) : ∀ d : Side, SOk d (d.bd t x)
  | .lo => (hb x).1
  | .hi => (hb x).2

theorem BoundsJust.side {α : Asg} {σr σi : Nat → Rat} {t : Lra} (hj : BoundsJust α σr σi t) {x : Nat}
    (hx : ubIdx x < t.bounds.length) :
    ∀ d : Side, α.lit (d.rsn t x) = true → d.holds (d.bd t x) (nu σr σi x)
  | .lo => (hj x hx).1
  | .hi => (hj x hx).2

theorem AsrtAgrees.side {α : Asg} {σr σi : Nat → Rat} {t : Lra} (ha : AsrtAgrees α σr σi t) {e : Nat × LAsrt}
    (he : e ∈ t.vAsrts) {d : Side} (ho : e.2.o = d.op) :
    (α.lit e.2.b = true → d.le (IR.val e.2.v) (nu σr σi e.2.x)) ∧
    (α.lit e.2.b = false → d.le (nu σr σi e.2.x) (d.down (IR.val e.2.v))) := by
  have h := ha e he
  cases d <;> simp only [ho, Side.op] at h <;> exact h

namespace Side

section
variable {d : Side} {x y : IR}

theorem inf_wf : ∀ d : Side, d.inf.WF
  | lo => R.ninf_wf
  | hi => R.pinf_wf

theorem inf_den : ∀ d : Side, d.inf.den = 0
  | lo => rfl
  | hi => rfl

theorem neg_flip_inf : ∀ d : Side, R.neg d.flip.inf = d.inf
  | lo => rfl
  | hi => rfl

theorem flip_ltB : ∀ (d : Side) (x y : IR), d.flip.ltB x y = d.ltB y x
  | lo, x, y => IR.gt_swap x y
  | hi, x, y => (IR.gt_swap y x).symm

theorem ltB_val (hx : IR.Fin x) (hy : IR.Fin y) : ∀ d : Side, d.ltB x y = true ↔ d.lt (IR.val x) (IR.val y)
  | lo => IR.lt_val hx hy
  | hi => by rw [show hi.ltB x y = IR.lt y x from IR.gt_swap x y]; exact IR.lt_val hy hx

theorem geB_val (hx : IR.Fin x) (hy : IR.Fin y) : ∀ d : Side, d.geB x y = true ↔ d.le (IR.val y) (IR.val x)
  | lo => by rw [show lo.geB x y = IR.le y x from IR.ge_swap x y]; exact IR.le_val hy hx
  | hi => IR.le_val hx hy

theorem inf_ltB (hx : x.rat = d.inf) (hy : IR.Fin y) : d.ltB x y = true :=
  match d with
  | lo => IR.lt_of_rat_lt (hx ▸ hy.1.ninf_lt)
  | hi => (IR.gt_swap x y).trans (IR.lt_of_rat_lt (hx ▸ hy.1.lt_pinf))

theorem ltB_inf (hx : IR.Fin x) (hy : y.rat = d.inf) : d.ltB x y = false :=
  match d with
  | lo => IR.lt_of_rat_gt (hy ▸ hx.1.lt_ninf) (hy ▸ hx.1.ne_ninf)
  | hi => (IR.gt_swap x y).trans (IR.lt_of_rat_gt (hy ▸ hx.1.pinf_lt) (hy ▸ hx.1.ne_pinf.symm))

theorem inf_geB (hx : x.rat = d.inf) (hy : IR.Fin y) : d.geB x y = false :=
  match d with
  | lo => (IR.ge_swap x y).trans (IR.le_of_rat_gt (hx ▸ hy.1.lt_ninf) (hx ▸ hy.1.ne_ninf))
  | hi => IR.le_of_rat_gt (hx ▸ hy.1.pinf_lt) (hx ▸ hy.1.ne_pinf.symm)

end

end Side

section tests

variable {d : Side} {v b : IR}

theorem SOk.not_fin (h : b.rat = d.inf) : ¬ IR.Fin b := fun hf => hf.1.2 (h ▸ d.inf_den)

theorem SOk.of_ltB (hv : IR.Fin v) (hb : SOk d b) (h : d.ltB v b = true) : IR.Fin b ∧ d.lt (IR.val v) (IR.val b) := by
  rcases hb with hb | hb
  · exact ⟨hb, (d.ltB_val hv hb).1 h⟩
  · rw [Side.ltB_inf hv hb] at h; cases h

theorem SOk.of_geB (hv : IR.Fin v) (hb : SOk d b) (h : d.geB b v = true) : IR.Fin b ∧ d.le (IR.val v) (IR.val b) := by
  rcases hb with hb | hb
  · exact ⟨hb, (d.geB_val hb hv).1 h⟩
  · rw [Side.inf_geB hb hv] at h; cases h

theorem SOk.of_not_inside (hv : IR.Fin v) (hb : SOk d b) (h : d.ltB b v = false) :
    IR.Fin b ∧ d.le (IR.val v) (IR.val b) := by
  rcases hb with hb | hb
  · exact ⟨hb, Side.le_of_not_lt fun hlt => by rw [(d.ltB_val hb hv).2 hlt] at h; cases h⟩
  · rw [Side.inf_ltB hb hv] at h; cases h

theorem Side.weaken (hc : IR.Fin v) (hb : SOk d b) (h : d.geB b v = true) {w : QV} (hw : d.holds b w) : d.holds v w := by
  obtain ⟨f1, f2⟩ := SOk.of_geB hc hb h
  exact (d.holds_fin hc _).2 (Side.le_trans f2 ((d.holds_fin f1 _).1 hw))

theorem Side.refute (hc : IR.Fin v) (hb : SOk d b) (h : d.flip.ltB b v = true) {w : QV} (hw : d.holds b w) :
    ¬ d.flip.holds v w := by
  obtain ⟨f1, f2⟩ := SOk.of_ltB hc hb ((Side.flip_ltB d b v).symm.trans h)
  exact fun hv => Side.not_lt_of_le
    (Side.le_trans ((d.holds_fin f1 _).1 hw) (Side.flip_le.1 ((d.flip.holds_fin hc _).1 hv))) f2

end tests

end Lra

end Oratio
