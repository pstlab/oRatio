/-
The two cache predicates in the statements of `C13_amo_complete` and `C13_exo_complete`.
-/
import OratioModel.Sat.Enc

namespace Oratio
open Enc

/-- the top-level at-most-one expression of this request is already in the cache -/
def Enc.amoCached (s : Enc) (ls : List Lit) : Bool :=
  match Enc.scanCard s (Enc.sortDedup ls) none [] with
  | .open ls' => decide (1 < ls'.length) && (s.lookup (.amo ls')).isSome
  | _ => false

/-- neither the exactly-one expression nor its inner at-most-one is in the cache -/
def Enc.exoFresh (s : Enc) (ls : List Lit) : Bool :=
  match Enc.scanCard s (Enc.sortDedup ls) none [] with
  | .open ls' => (s.lookup (.exo ls')).isNone && (s.lookup (.amo ls')).isNone
  | _ => true

end Oratio
