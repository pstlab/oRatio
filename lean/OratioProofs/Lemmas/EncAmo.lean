/-
Lemmas for property C13: `amoCore` (pairwise and product encodings, any length):
invariant, forcing, conservativity, completeness, fuel.
-/
import OratioProofs.Lemmas.EncCard

namespace Oratio
namespace EncL
open Enc

/-- the product encoding at `Enc.prim`: the row and column variables are `uLits`; rows `r3`, columns `r4`, their
    conjunction `r5`, the guarded clauses -/
theorem amoCore_succ (fuel : Nat) (s : Enc) (ls : List Lit) (h2 : s.lookup (.amo ls) = none)
    (h4 : 4 ≤ ls.length) {ps qs : Nat} (hps : ceilSqrt ls.length = ps) (hqs : ceilDiv ls.length ps = qs)
    {r3 r4 r5 : Lit × Enc} (h3 : Cons.amoCore Enc.prim fuel (addVars s (ps + qs)) (uLits s.nvars ps) = r3)
    (h4' : Cons.amoCore Enc.prim fuel r3.2 (uLits (s.nvars + ps) qs) = r4)
    (h5 : Cons.newConj Enc.prim r4.2 [r3.1, r4.1] = r5) :
    Cons.amoCore Enc.prim (fuel + 1) s ls = Cons.guardDef Enc.prim r5.2 (.amo ls) r5.1
      (prodClauses ls ps qs (uLits s.nvars ps) (uLits (s.nvars + ps) qs) r5.1) :=
  Cons.amoCore_succ Enc.prim fuel s ls h2 h4 hps hqs ((Cons_enc_newVars s ps).trans (newVars_eq s ps))
    (by rw [Cons_enc_newVars, newVars_eq, addVars_addVars, nvars_addVars]) h3 h4' h5

structure AmoGood (fuel : Nat) (s : Enc) (ls : List Lit) (r : Lit × Enc) : Prop extends Step s r where
  forces : ∀ α, Sat α r.2 → α.lit r.1 = true → AtMostOne α ls
  frame : ∀ e ∈ r.2.exprs, e ∈ s.exprs ∨ ∀ X, e.1 = .amo X → X = ls ∨ ∃ l ∈ X, s.nvars ≤ l.var
  complete : ls.Nodup → ls.length ≤ fuel → (ls.length ≤ 1 ∨ s.lookup (.amo ls) = none) →
    ∀ α, Sat α s → AtMostOne α ls →
      ∃ α', Sat α' r.2 ∧ (∀ v, v < s.nvars → α' v = α v) ∧ α'.lit r.1 = true

theorem AmoGood.same {fuel : Nat} {s : Enc} {ls : List Lit} {l : Lit} (h : Inv s) (hl : l.var < s.nvars)
    (hf : ∀ α, Sat α s → α.lit l = true → AtMostOne α ls)
    (hc : ls.length ≤ 1 ∨ s.lookup (.amo ls) = none → ∀ α, Sat α s → AtMostOne α ls → α.lit l = true) :
    AmoGood fuel s ls (l, s) :=
  ⟨.same h hl, hf, fun _ he => Or.inl he, fun _ _ hlk α hα hA => ⟨α, hα, fun _ _ => rfl, hc hlk α hα hA⟩⟩

theorem amoGood_pair {fuel : Nat} {s : Enc} {ls : List Lit} (h : Inv s) (hl : InRange s ls) :
    AmoGood fuel s ls (Cons.freshDef Enc.prim s (.amo ls) (pairCls ls)) := by
  have hctr : ∀ (β : Asg), β.lit (⟨s.nvars, true⟩ : Lit) = β s.nvars := fun β => Asg.lit_mk_true β _
  have f := freshDef_spec h (.amo ls) (pairCls ls) hl
    (by
      intro c hc x hx
      simp only [pairCls, List.mem_map] at hc
      obtain ⟨p, hp, rfl⟩ := hc
      obtain ⟨m1, m2, -⟩ := ListAux.of_mem_pairs (a := p.1) (b := p.2) (pairs_eq ls ▸ hp)
      simp only [List.mem_cons, List.not_mem_nil, or_false] at hx
      rcases hx with rfl | rfl | rfl
      · exact Nat.lt_succ_of_lt (hl p.1 m1)
      · exact Nat.lt_succ_of_lt (hl p.2 m2)
      · simp)
    (by
      intro α _
      refine ⟨false, ?_⟩
      rw [pairCls, pair_clauses]
      intro p _ hp
      rw [hctr, upd_same] at hp
      exact absurd hp.2.2 (by simp))
    (by
      intro α _ hc ht a ha b hb hta htb
      rw [pairCls, pair_clauses] at hc
      by_cases hab : a = b
      · exact hab
      · exfalso
        rcases pairs_eq ls ▸ ListAux.mem_pairs_of_ne ha hb hab with hp | hp
        · exact hc _ hp ⟨hta, htb, ht⟩
        · exact hc _ hp ⟨htb, hta, ht⟩)
  refine ⟨f.step, f.sem, fun e he => ?_, fun hnd _ _ α hα hA => ?_⟩
  · rcases f.exprs e he with he | rfl
    · exact Or.inl he
    · exact Or.inr (fun X hX => Or.inl (by cases hX; rfl))
  · have := f.ext α true hα (by
      rw [pairCls, pair_clauses]
      rintro ⟨a, b⟩ hp ⟨hta, htb, _⟩
      obtain ⟨m1, m2, hne⟩ := ListAux.of_mem_pairs (pairs_eq ls ▸ hp)
      simp only at hta htb
      rw [lit_congr (upd_lt α _ (hl _ m1))] at hta
      rw [lit_congr (upd_lt α _ (hl _ m2))] at htb
      exact hne hnd (hA a m1 b m2 hta htb))
    exact ⟨_, this.1, fun v hv => upd_lt α _ hv, this.2⟩

theorem lookup_none_of_new {s : Enc} (hw : WF s) {k : Key} {l : Lit} (hl : l ∈ keyLits k)
    (hge : s.nvars ≤ l.var) : s.lookup k = none :=
  lookup_none_of fun _ he hk => Nat.lt_irrefl _ (Nat.lt_of_lt_of_le (hw.key_lt he (hk ▸ hl)) hge)

theorem row_lt {n0 ps i : Nat} (qs : Nat) (hi : i < ps) : n0 + i < n0 + (ps + qs) := by omega
theorem col_lt {n0 qs j : Nat} (ps : Nat) (hj : j < qs) : n0 + ps + j < n0 + (ps + qs) := by omega

structure ProdCalls (fuel : Nat) (s : Enc) (ps qs : Nat) (cu : Lit) (s3 : Enc) (cw : Lit) (s4 : Enc)
    (ctr : Lit) (s5 : Enc) : Prop where
  rows : AmoGood fuel (addVars s (ps + qs)) (uLits s.nvars ps) (cu, s3)
  cols : AmoGood fuel s3 (uLits (s.nvars + ps) qs) (cw, s4)
  conj : JunctGood false s4 [cu, cw] (ctr, s5)

namespace ProdCalls
variable {fuel : Nat} {s : Enc} {ps qs : Nat} {cu cw ctr : Lit} {s3 s4 s5 : Enc}

theorem le3 (c : ProdCalls fuel s ps qs cu s3 cw s4 ctr s5) : s.nvars + (ps + qs) ≤ s3.nvars :=
  nvars_addVars s (ps + qs) ▸ c.rows.ref.1
theorem le4 (c : ProdCalls fuel s ps qs cu s3 cw s4 ctr s5) : s.nvars + (ps + qs) ≤ s4.nvars :=
  Nat.le_trans c.le3 c.cols.ref.1
theorem le5 (c : ProdCalls fuel s ps qs cu s3 cw s4 ctr s5) : s.nvars + (ps + qs) ≤ s5.nvars :=
  Nat.le_trans c.le4 c.conj.ref.1

theorem sat3 (c : ProdCalls fuel s ps qs cu s3 cw s4 ctr s5) {α : Asg} (hα : Sat α s5) : Sat α s3 :=
  c.cols.ref.2 α (c.conj.ref.2 α hα)

theorem sat0 (c : ProdCalls fuel s ps qs cu s3 cw s4 ctr s5) {α : Asg} (hα : Sat α s5) : Sat α s :=
  (sat_addVars α s _).1 (c.rows.ref.2 α (c.sat3 hα))

theorem ctr_eq (c : ProdCalls fuel s ps qs cu s3 cw s4 ctr s5) {α : Asg} (hα : Sat α s5) :
    α.lit ctr = (α.lit cu && α.lit cw) := by
  rw [c.conj.sem α hα]; simp [junctVal]

theorem agree (c : ProdCalls fuel s ps qs cu s3 cw s4 ctr s5) {β β3 β4 β5 : Asg}
    (e3 : ∀ v, v < (addVars s (ps + qs)).nvars → β3 v = β v) (e4 : ∀ v, v < s3.nvars → β4 v = β3 v)
    (e5 : ∀ v, v < s4.nvars → β5 v = β4 v) {v : Nat} (hv : v < s.nvars + (ps + qs)) : β5 v = β v := by
  rw [e5 v (Nat.lt_of_lt_of_le hv c.le4), e4 v (Nat.lt_of_lt_of_le hv c.le3),
    e3 v (nvars_addVars s (ps + qs) ▸ hv)]

theorem forces (c : ProdCalls fuel s ps qs cu s3 cw s4 ctr s5) {α : Asg} (hα : Sat α s5)
    (ht : α.lit ctr = true) : AtMostOne α (uLits s.nvars ps) ∧ AtMostOne α (uLits (s.nvars + ps) qs) := by
  have hc := (c.ctr_eq hα).symm
  rw [ht, Bool.and_eq_true] at hc
  exact ⟨c.rows.forces α (c.sat3 hα) hc.1, c.cols.forces α (c.conj.ref.2 α hα) hc.2⟩

/-- no model is lost: with two row variables true the conjunction is false -/
theorem falsify (c : ProdCalls fuel s ps qs cu s3 cw s4 ctr s5) (h : Inv s) (hps : 2 ≤ ps) {α : Asg}
    (hα : Sat α s) : ∃ β5, Sat β5 s5 ∧ (∀ v, v < s.nvars → β5 v = α v) ∧ β5.lit ctr = false := by
  let β : Asg := fun v => if v < s.nvars then α v else true
  obtain ⟨β3, hβ3, e3⟩ := c.rows.ext β (sat_addVars_of_agree h.1 _ hα fun v hv => if_pos hv)
  obtain ⟨β4, hβ4, e4⟩ := c.cols.ext β3 hβ3
  obtain ⟨β5, hβ5, e5⟩ := c.conj.ext β4 hβ4
  have hrow : ∀ i, i < ps → β5.lit ⟨s.nvars + i, true⟩ = true := fun i hi => by
    rw [Asg.lit_mk_true, c.agree e3 e4 e5 (row_lt qs hi)]
    exact if_neg (Nat.not_lt.2 (Nat.le_add_right _ _))
  refine ⟨β5, hβ5, fun v hv => ?_, ?_⟩
  · rw [c.agree e3 e4 e5 (Nat.lt_of_lt_of_le hv (Nat.le_add_right _ _))]; exact if_pos hv
  · rw [c.ctr_eq hβ5]
    cases hcu : β5.lit cu with
    | false => rfl
    | true =>
      have := c.rows.forces β5 (c.sat3 hβ5) hcu _ (mem_uLits.2 ⟨0, Nat.lt_of_lt_of_le (by decide) hps, rfl⟩)
        _ (mem_uLits.2 ⟨1, hps, rfl⟩) (hrow 0 (Nat.lt_of_lt_of_le (by decide) hps)) (hrow 1 hps)
      simp at this

theorem frame (c : ProdCalls fuel s ps qs cu s3 cw s4 ctr s5) (hps : 0 < ps) (hqs : 0 < qs) :
    ∀ e ∈ s5.exprs, e ∈ s.exprs ∨ ∀ X, e.1 = .amo X → ∃ l ∈ X, s.nvars ≤ l.var := by
  intro e he
  rcases c.conj.exprs e he with he | ⟨x, hx⟩
  · rcases c.cols.frame e he with he | hX
    · rcases c.rows.frame e he with he | hX
      · exact Or.inl he
      · refine Or.inr fun X hXe => ?_
        rcases hX X hXe with rfl | ⟨l, hlX, hlv⟩
        · exact ⟨_, mem_uLits.2 ⟨0, hps, rfl⟩, Nat.le_add_right _ _⟩
        · exact ⟨l, hlX, Nat.le_trans (Nat.le_add_right _ _) (nvars_addVars s _ ▸ hlv)⟩
    · refine Or.inr fun X hXe => ?_
      rcases hX X hXe with rfl | ⟨l, hlX, hlv⟩
      · exact ⟨_, mem_uLits.2 ⟨0, hqs, rfl⟩, Nat.le_trans (Nat.le_add_right _ _) (Nat.le_add_right _ _)⟩
      · exact ⟨l, hlX, Nat.le_trans (Nat.le_trans (Nat.le_add_right _ _) c.le3) hlv⟩
  · exact Or.inr fun X hXe => by rw [hx] at hXe; cases hXe

theorem complete (c : ProdCalls fuel s ps qs cu s3 cw s4 ctr s5) (h : Inv s) (hps : 0 < ps) (hqs : 0 < qs)
    (hfp : ps ≤ fuel) (hfq : qs ≤ fuel) {β : Asg} (hβ : Sat β (addVars s (ps + qs)))
    (hU : AtMostOne β (uLits s.nvars ps)) (hW : AtMostOne β (uLits (s.nvars + ps) qs)) :
    ∃ β5, Sat β5 s5 ∧ (∀ v, v < s.nvars + (ps + qs) → β5 v = β v) ∧ β5.lit ctr = true := by
  have hu0 : (⟨s.nvars + 0, true⟩ : Lit) ∈ uLits s.nvars ps := mem_uLits.2 ⟨0, hps, rfl⟩
  have hw0 : (⟨s.nvars + ps + 0, true⟩ : Lit) ∈ uLits (s.nvars + ps) qs := mem_uLits.2 ⟨0, hqs, rfl⟩
  have hlkU : (addVars s (ps + qs)).lookup (.amo (uLits s.nvars ps)) = none :=
    lookup_none_of_new h.1 hu0 (Nat.le_add_right _ _)
  obtain ⟨β3, hβ3, e3, t3⟩ := c.rows.complete (uLits_nodup _ _) (by rw [uLits_length]; exact hfp)
    (Or.inr hlkU) β hβ hU
  -- the columns are not cached: their variables are neither old nor beyond the enlarged state
  have hlkW : s3.lookup (.amo (uLits (s.nvars + ps) qs)) = none :=
    lookup_none_of fun e he heq => by
      rcases c.rows.frame e he with he | hX
      · exact Nat.lt_irrefl _ (Nat.lt_of_lt_of_le (h.1.key_lt he (show _ ∈ keyLits e.1 by rw [heq]; exact hw0))
          (Nat.le_trans (Nat.le_add_right _ _) (Nat.le_add_right _ _)))
      · rcases hX _ heq with hWU | ⟨l, hlW, hlv⟩
        · obtain ⟨i, hi, hi2⟩ := mem_uLits.1 (hWU ▸ hw0)
          simp at hi2; omega
        · obtain ⟨j, hj, rfl⟩ := mem_uLits.1 hlW
          rw [nvars_addVars] at hlv; simp at hlv; omega
  obtain ⟨β4, hβ4, e4, t4⟩ := c.cols.complete (uLits_nodup _ _) (by rw [uLits_length]; exact hfq)
    (Or.inr hlkW) β3 hβ3
    (amo_congr (fun l hl' => by
      obtain ⟨j, hj, rfl⟩ := mem_uLits.1 hl'
      exact e3 _ (by rw [nvars_addVars]; exact col_lt ps hj)) hW)
  obtain ⟨β5, hβ5, e5⟩ := c.conj.ext β4 hβ4
  refine ⟨β5, hβ5, fun v hv => c.agree e3 e4 e5 hv, ?_⟩
  rw [c.ctr_eq hβ5, lit_congr (e5 _ (Nat.lt_of_lt_of_le c.rows.lt c.cols.ref.1)), lit_congr (e4 _ c.rows.lt), t3,
    lit_congr (e5 _ c.cols.lt), t4]; rfl

end ProdCalls

theorem prodStep_good {fuel : Nat}
    (ih : ∀ (s : Enc) (ls : List Lit), Inv s → InRange s ls → AmoGood fuel s ls (Cons.amoCore Enc.prim fuel s ls))
    {s : Enc} {ls : List Lit} (h : Inv s) (hl : InRange s ls) (hlk : s.lookup (.amo ls) = none)
    (h4 : 4 ≤ ls.length) : AmoGood (fuel + 1) s ls (Cons.amoCore Enc.prim (fuel + 1) s ls) := by
  have hps2 := ceilSqrt_ge_two h4
  have hqs0 := ceilDiv_pos h4
  have hpslt := ceilSqrt_lt h4
  have hqslt := ceilDiv_lt h4
  have hcover : ls.length ≤ ceilSqrt ls.length * ceilDiv ls.length (ceilSqrt ls.length) :=
    le_mul_ceilDiv (Nat.lt_of_lt_of_le (by decide) hps2)
  obtain ⟨ps, hps⟩ : ∃ ps, ceilSqrt ls.length = ps := ⟨_, rfl⟩
  rw [hps] at hps2 hqs0 hpslt hqslt hcover
  obtain ⟨qs, hqs⟩ : ∃ qs, ceilDiv ls.length ps = qs := ⟨_, rfl⟩
  rw [hqs] at hqs0 hqslt hcover
  have hps0 : 0 < ps := Nat.lt_of_lt_of_le (by decide) hps2
  obtain ⟨⟨cu, s3⟩, h3⟩ : ∃ r3, Cons.amoCore Enc.prim fuel (addVars s (ps + qs)) (uLits s.nvars ps) = r3 := ⟨_, rfl⟩
  obtain ⟨⟨cw, s4⟩, h4'⟩ : ∃ r4, Cons.amoCore Enc.prim fuel s3 (uLits (s.nvars + ps) qs) = r4 := ⟨_, rfl⟩
  obtain ⟨⟨ctr, s5⟩, h5⟩ : ∃ r5, Cons.newConj Enc.prim s4 [cu, cw] = r5 := ⟨_, rfl⟩
  rw [amoCore_succ fuel s ls hlk h4 hps hqs h3 h4' h5]
  have A := ih _ (uLits s.nvars ps) (inv_addVars h _) fun l hl' => by
    obtain ⟨i, hi, rfl⟩ := mem_uLits.1 hl'
    rw [nvars_addVars]; exact row_lt qs hi
  rw [h3] at A
  have B := ih s3 (uLits (s.nvars + ps) qs) A.inv fun l hl' => by
    obtain ⟨j, hj, rfl⟩ := mem_uLits.1 hl'
    exact Nat.lt_of_lt_of_le (col_lt ps hj) (nvars_addVars s (ps + qs) ▸ A.ref.1)
  rw [h4'] at B
  have C := junct_spec (abs := false) B.inv (ls := [cu, cw]) fun l hl' => by
    simp only [List.mem_cons, List.not_mem_nil, or_false] at hl'
    rcases hl' with rfl | rfl
    · exact Nat.lt_of_lt_of_le A.lt B.ref.1
    · exact B.lt
  rw [← Cons.newConj_eq, h5] at C
  have c : ProdCalls fuel s ps qs cu s3 cw s4 ctr s5 := ⟨A, B, C⟩
  clear A B C h3 h4' h5
  have hl5 : ∀ l ∈ ls, l.var < s5.nvars := fun l hl' =>
    Nat.lt_of_lt_of_le (hl l hl') (Nat.le_trans (Nat.le_add_right _ _) c.le5)
  obtain ⟨cls, hclsE⟩ : ∃ cls, cls = prodClauses ls ps qs (uLits s.nvars ps) (uLits (s.nvars + ps) qs) ctr :=
    ⟨_, rfl⟩
  rw [← hclsE]
  have hsem : ∀ α, Sat α s5 → α.cnf cls = true → KeySem α (.amo ls) ctr := fun α hα hcnf ht =>
    prod_forces hqs0 hcover (hclsE ▸ hcnf) ht (c.forces hα ht).1 (c.forces hα ht).2
  obtain ⟨d1, d2, d3, d4, d5, d6, d7⟩ := guardDef_spec (s := s5) c.conj.inv (.amo ls) ctr cls c.conj.lt hl5
    (hclsE ▸ prodClauses_range (N := s5.nvars) hl5
      (Nat.le_trans (Nat.add_le_add_left (Nat.le_add_right _ _) _) c.le5)
      (Nat.le_trans (Nat.le_of_eq (Nat.add_assoc _ _ _)) c.le5) c.conj.lt)
    hsem rfl
  refine ⟨⟨d1, d2, fun α hα => ?_, ⟨Nat.le_trans (Nat.le_trans (Nat.le_add_right _ _) c.le5) d4.1,
      fun α hα => c.sat0 (d4.2 α hα)⟩⟩,
    fun α hα ht => hsem α (d4.2 α hα) (d5 α hα ht).2 (d5 α hα ht).1, fun e he => ?_,
    fun hnd hfuel _ α hα hA => ?_⟩
  · obtain ⟨β5, hβ5, e, hf⟩ := c.falsify h hps2 hα
    exact ⟨β5, (d6 β5 hβ5 (hclsE ▸ prod_clauses_of_false hf)).1, e⟩
  · rcases d7 e he with he | rfl
    · exact (c.frame hps0 hqs0 e he).imp id fun hX X hXe => Or.inr (hX X hXe)
    · exact Or.inr fun X hXe => Or.inl (Key.amo.inj hXe).symm
  · -- one-hot rows and columns at the position of the true argument
    obtain ⟨o, ho⟩ := exists_hot hnd hA
    obtain ⟨β5, hβ5, e, ht⟩ := c.complete h hps0 hqs0 (by omega) (by omega)
      (β := oneHot s.nvars ps α (o.map (· / qs)) (o.map (· % qs)))
      (sat_addVars_of_agree h.1 _ hα fun v hv => oneHot_old hv)
      (amo_uLits fun i hi hb => of_decide_eq_true ((oneHot_row hi).symm.trans hb))
      (amo_uLits fun j _ hb => of_decide_eq_true ((oneHot_col j).symm.trans hb))
    have := d6 β5 hβ5 (hclsE ▸ oneHot_prodClauses hl ho fun v hv => e v (by omega))
    exact ⟨β5, this.1, fun v hv => by rw [e v (Nat.lt_of_lt_of_le hv (Nat.le_add_right _ _))]; exact oneHot_old hv,
      this.2 ht⟩

theorem amoCore_good : ∀ (fuel : Nat) (s : Enc) (ls : List Lit), Inv s → InRange s ls →
    AmoGood fuel s ls (Cons.amoCore Enc.prim fuel s ls) := by
  refine Cons.amoCore_cases Enc.prim (M := fun fuel s ls r => Inv s → InRange s ls → AmoGood fuel s ls r)
    (fun fuel s ls h1 h _ => .same h h.pos (fun _ _ _ => amo_short h1) fun _ α hα _ => Asg.lit_trueLit hα.1)
    (fun fuel s ls l h1 h2 h _ => .same h (cache_hit h h2).1 (cache_hit h h2).2 fun hlk => ?_)
    (fun fuel s ls _ _ _ h hl => amoGood_pair h hl)
    (fun s ls _ h4 h _ => ⟨.same h h.pos, fun α hα ht => ?_, fun _ he => Or.inl he, fun _ hf => by omega⟩)
    (fun fuel s ls h2 h4 ih h hl => prodStep_good ih h hl h2 h4)
  · rcases hlk with hlk | hlk
    · omega
    · exact absurd (h2.symm.trans hlk) nofun
  · rw [show α.lit Lit.falseLit = false from Asg.lit_falseLit hα.1] at ht; cases ht

theorem amoCore_fuel : ∀ (f1 : Nat) (s : Enc) (ls : List Lit) (f2 : Nat), ls.length ≤ f1 → ls.length ≤ f2 →
    Cons.amoCore Enc.prim f1 s ls = Cons.amoCore Enc.prim f2 s ls := by
  refine Cons.amoCore_cases Enc.prim
    (M := fun f1 s ls r => ∀ f2, ls.length ≤ f1 → ls.length ≤ f2 → r = Cons.amoCore Enc.prim f2 s ls)
    (fun _ s ls h1 f2 _ _ => (Cons.amoCore_small _ f2 s ls h1).symm)
    (fun _ s ls l h1 h2 f2 _ _ => (Cons.amoCore_hit _ f2 s ls h1 h2).symm)
    (fun _ s ls h1 h2 h4 f2 _ _ => (Cons.amoCore_pair _ f2 s ls h1 h2 h4).symm)
    (fun s ls _ h4 f2 hf _ => by omega)
    (fun f1 s ls h2 h4 ih f2 hf1 hf2 => ?_)
  cases f2 with
  | zero => omega
  | succ f2 =>
    have hps := ceilSqrt_lt h4
    have hqs := ceilDiv_lt h4
    rw [amoCore_succ f1 s ls h2 h4 rfl rfl rfl rfl rfl, amoCore_succ f2 s ls h2 h4 rfl rfl rfl rfl rfl,
      ih _ _ f2 (by rw [uLits_length]; omega) (by rw [uLits_length]; omega),
      ih _ _ f2 (by rw [uLits_length]; omega) (by rw [uLits_length]; omega)]

end EncL
end Oratio
