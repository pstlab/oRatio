/-
Concrete real-valued networks for the non-vacuity examples of Properties/C12Rdl.lean, built by
running the model (`Dl.propagateEdge rdlOps`), with their exactness invariant.
-/
import OratioProofs.Lemmas.DlRelRSound
import Mathlib.Tactic.NormNum

namespace Oratio
open Dl

/-- `3/2 - ε` -/
def w12 : IR := ⟨⟨3, 2⟩, ⟨-1, 1⟩⟩
/-- `-2` -/
def w10 : IR := ⟨⟨-2, 1⟩, ⟨0, 1⟩⟩
/-- `7` -/
def w01 : IR := ⟨⟨7, 1⟩, ⟨0, 1⟩⟩

/-- `exNet` (C10Rdl.lean: three time points, `x2 - x1 < 3/2`) after enforcing `x0 - x1 ≤ -2`,
    i.e. `x1 ≥ 2` -/
def exNet2 : Dl IR := (Dl.propagateEdge rdlOps Sat.init exNet 1 0 w10).2

/-- … and then `x1 - x0 ≤ 7`: `x1 ∈ [2, 7]`, `x2 < 17/2` -/
def exNet3 : Dl IR := (Dl.propagateEdge rdlOps Sat.init exNet2 0 1 w01).2

/-- `-3·x1 + 3·x2` and the constant `6` -/
def exL : Lin := ⟨[(1, ⟨-3, 1⟩), (2, ⟨3, 1⟩)], R.zero⟩
def exR : Lin := ⟨[], R.ofInt 6⟩
/-- `x1` and the constant `2` -/
def exX1 : Lin := ⟨[(1, R.one)], R.zero⟩
def exTwo : Lin := ⟨[], R.ofInt 2⟩
/-- `2·x1` and `2·x2 + 3` -/
def exA : Lin := ⟨[(1, ⟨2, 1⟩)], R.zero⟩
def exB : Lin := ⟨[(2, ⟨2, 1⟩)], R.ofInt 3⟩

namespace DlRelR

theorem exL_wf : exL.WF := Lin.wf_two (by decide) ⟨by decide, by decide⟩ ⟨by decide, by decide⟩ R.finWF_zero
theorem exR_wf : exR.WF := Lin.wf_nil (R.finWF_ofInt 6)
theorem exX1_wf : exX1.WF := Lin.wf_one 1 ⟨by decide, by decide⟩ R.finWF_zero
theorem exTwo_wf : exTwo.WF := Lin.wf_nil (R.finWF_ofInt 2)
theorem exA_wf : exA.WF := Lin.wf_one 1 ⟨by decide, by decide⟩ R.finWF_zero
theorem exB_wf : exB.WF := Lin.wf_one 2 ⟨by decide, by decide⟩ (R.finWF_ofInt 3)

theorem fin_w12 : IR.Fin w12 := ⟨⟨by decide, by decide⟩, ⟨by decide, by decide⟩⟩
theorem fin_w10 : IR.Fin w10 := ⟨⟨by decide, by decide⟩, ⟨by decide, by decide⟩⟩
theorem fin_w01 : IR.Fin w01 := ⟨⟨by decide, by decide⟩, ⟨by decide, by decide⟩⟩

theorem r12 : w12.rat.toRat = 3 / 2 := by
  rw [R.toRat_eq (by decide)]; norm_num [w12]
theorem r10 : w10.rat.toRat = -2 := by
  rw [R.toRat_eq (by decide)]; norm_num [w10]
theorem r01 : w01.rat.toRat = 7 := by
  rw [R.toRat_eq (by decide)]; norm_num [w01]
theorem i12 : w12.inf.toRat = -1 := by
  rw [R.toRat_eq (by decide)]; norm_num [w12]
theorem i10 : w10.inf.toRat = 0 := by
  rw [R.toRat_eq (by decide)]; norm_num [w10]
theorem i01 : w01.inf.toRat = 0 := by
  rw [R.toRat_eq (by decide)]; norm_num [w01]

theorem exNet_exact : exNet.ExactR [(1, 2, w12)] := by
  have h0 := C10R_init_exact
  have h1 := (C10R_newVar_exact _ _ h0).1
  have h2 := (C10R_newVar_exact _ _ h1).1
  have hn21 : (Dl.newVar rdlOps ((Dl.newVar rdlOps (Dl.init rdlOps 16)).2)).2.rdist? 2 1 = none :=
    rdist_none (by decide)
  have hn12 : (Dl.newVar rdlOps ((Dl.newVar rdlOps (Dl.init rdlOps 16)).2)).2.rdist? 1 2 = none :=
    rdist_none (by decide)
  exact (C10R_update_closed_form [] Sat.init _ h2 1 2 w12 (by decide) (by decide) (by decide) fin_w12
    (by intro x hx; rw [hn21] at hx; cases hx) (by intro x hx; rw [hn12] at hx; cases hx)).1

theorem exNet2_exact : exNet2.ExactR [(1, 0, w10), (1, 2, w12)] := by
  have hn01 : exNet.rdist? 0 1 = none := rdist_none (by decide)
  have hn10 : exNet.rdist? 1 0 = none := rdist_none (by decide)
  exact (C10R_update_closed_form _ Sat.init _ exNet_exact 1 0 w10 (by decide) (by decide) (by decide) fin_w10
    (by intro x hx; rw [hn01] at hx; cases hx) (by intro x hx; rw [hn10] at hx; cases hx)).1

theorem exNet2_d10 : Dl.d rdlOps exNet2 1 0 = w10 := by decide

theorem exNet3_exact : exNet3.ExactR [(0, 1, w01), (1, 0, w10), (1, 2, w12)] := by
  have hn01 : exNet2.rdist? 0 1 = none := rdist_none (by decide)
  have hs10 : exNet2.rdist? 1 0 = some (IR.val w10) := by
    rw [rdist_some (by decide), exNet2_d10]
  refine (C10R_update_closed_form _ Sat.init _ exNet2_exact 0 1 w01 (by decide) (by decide) (by decide) fin_w01
    ?_ (by intro x hx; rw [hn01] at hx; cases hx)).1
  intro x hx
  rw [hs10] at hx
  injection hx with hx
  rw [← hx]
  show (toLex ((0 : ℚ), (0 : ℚ)) : QV) ≤ toLex (w10.rat.toRat + w01.rat.toRat, w10.inf.toRat + w01.inf.toRat)
  rw [QV.le_iff, r10, r01]
  left
  norm_num

theorem exNet3_nVars : exNet3.nVars = 3 := by decide

theorem lt_nVars {v : Nat} (h : v < 3) : v < exNet3.nVars := exNet3_nVars ▸ h

/-- the difference `-3·x1 + 3·x2 - 6` has two variables, both time points of `exNet3` -/
theorem exLR_nz : ∀ x c, (Lin.sub exL exR).vars = [(x, c)] → c.num ≠ 0 := by
  intro x c h
  rw [show (Lin.sub exL exR).vars = [(1, ⟨-3, 1⟩), (2, ⟨3, 1⟩)] from rfl] at h
  simp at h

theorem exLR_vars : ∀ v ∈ (Lin.sub exL exR).vars.map (·.1), v < exNet3.nVars := by
  intro v hv
  rw [show (Lin.sub exL exR).vars = [(1, ⟨-3, 1⟩), (2, ⟨3, 1⟩)] from rfl] at hv
  simp at hv
  rcases hv with rfl | rfl <;> exact lt_nVars (by decide)

theorem exM_wf : (⟨[(1, ⟨-2, 1⟩)], R.one⟩ : Lin).WF := Lin.wf_one 1 ⟨by decide, by decide⟩ ⟨by decide, by decide⟩

theorem exM_nz : ∀ x c, (⟨[(1, ⟨-2, 1⟩)], R.one⟩ : Lin).vars = [(x, c)] → c.num ≠ 0 := by
  intro x c h
  simp at h
  rw [← h.2]; decide

theorem exM_vars : ∀ v ∈ (⟨[(1, ⟨-2, 1⟩)], R.one⟩ : Lin).vars.map (·.1), v < exNet3.nVars := by
  intro v hv
  simp at hv
  rw [hv]; exact lt_nVars (by decide)

/-- `bounds(-2·x1 + 1)` on `exNet3` -/
theorem exNet3_bounds :
    boundsLin rdlOps exNet3 ⟨[(1, ⟨-2, 1⟩)], R.one⟩ = some (⟨R.ofInt (-13), R.zero⟩, ⟨R.ofInt (-3), R.zero⟩) := by decide

/-- `-3·x1 + 3·x2 > 6` is answered FALSE on `exNet3` -/
theorem exNet3_gt :
    (newRel rdlOps (fun s _ => (Lit.trueLit, s)) Sat.init exNet3 .gt exL exR).map (·.1) = some Lit.falseLit := by decide

/-- the rational valuation `x0 = 0, x1 = 3, x2 = 4` -/
def exSigma : Nat → ℚ := fun v => if v = 1 then 3 else if v = 2 then 4 else 0

theorem exSigma0 : exSigma 0 = 0 := by decide
theorem exSigma1 : exSigma 1 = 3 := by decide
theorem exSigma2 : exSigma 2 = 4 := by decide

theorem exSigma_holds : ∀ e ∈ [(0, 1, w01), (1, 0, w10), (1, 2, w12)], QEdge.holds (embQ exSigma) e := by
  intro e he
  simp only [List.mem_cons, List.not_mem_nil, or_false] at he
  rcases he with rfl | rfl | rfl
  · show edgeHoldsR exSigma 0 1 w01
    rw [edgeHoldsR_iff, r01, i01, exSigma0, exSigma1]; norm_num
  · show edgeHoldsR exSigma 1 0 w10
    rw [edgeHoldsR_iff, r10, i10, exSigma0, exSigma1]; norm_num
  · show edgeHoldsR exSigma 1 2 w12
    rw [edgeHoldsR_iff, r12, i12, exSigma2, exSigma1]; norm_num

end DlRelR
end Oratio
