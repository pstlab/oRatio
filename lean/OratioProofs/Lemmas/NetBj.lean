/-
C07N: `Net.popTo` keeps the invariant; `backtrackAnalyzeAndBackjump` (the `bj` operation of the
driver: a conflict clause given from outside) under the hypothesis that the clause is T-entailed by the
added clauses and all its literals are false.
-/
import OratioProofs.Lemmas.NetSearch


namespace Oratio
namespace Net
open Sat NetCheck

theorem NetInv.popTo {n : Net} {orig L : Cnf} {fr : List Frame} (h : NetInv n orig L fr) (hq : n.sat.queue = [])
    (lvl : Nat) : ∃ fr', NetInv (popTo n lvl) orig L fr' ∧ PopFacts n.sat (popTo n lvl).sat lvl := by
  obtain ⟨fr', h1, pf⟩ := (NetInvB.iff_inv.1 h).popTo hq lvl
  exact ⟨fr', h1.toInv (by rw [pf.level]; exact Nat.min_le_right _ _), pf⟩

theorem foldl_max_attained (f : Lit → Nat) : ∀ (c : List Lit) (m : Nat),
    c.foldl (fun m l => max m (f l)) m = m ∨ ∃ l ∈ c, f l = c.foldl (fun m l => max m (f l)) m
  | [], m => Or.inl rfl
  | x :: c, m => by
    simp only [List.foldl_cons]
    rcases foldl_max_attained f c (max m (f x)) with h | ⟨l, hl, h⟩
    · rw [h]
      by_cases hx : f x ≤ m
      · left; omega
      · right; exact ⟨x, List.mem_cons_self, by omega⟩
    · exact Or.inr ⟨l, List.mem_cons_of_mem _ hl, h⟩

theorem foldl_max_ge (f : Lit → Nat) : ∀ (c : List Lit) (m : Nat),
    m ≤ c.foldl (fun m l => max m (f l)) m ∧ ∀ l ∈ c, f l ≤ c.foldl (fun m l => max m (f l)) m
  | [], m => ⟨Nat.le_refl _, fun l hl => by cases hl⟩
  | x :: c, m => by
    simp only [List.foldl_cons]
    obtain ⟨h1, h2⟩ := foldl_max_ge f c (max m (f x))
    refine ⟨by omega, fun l hl => ?_⟩
    rcases List.mem_cons.1 hl with rfl | hl
    · omega
    · exact h2 l hl

theorem max_level_attained {s : Sat} (hw : s.WfS) {c : Clause} (hF : ∀ l ∈ c, s.value l = some false) :
    c.foldl (fun m l => max m (s.level.getD l.var 0)) 0 ≤ s.decisionLevel ∧
    (0 < c.foldl (fun m l => max m (s.level.getD l.var 0)) 0 →
      ∃ l ∈ c, l.neg ∈ s.trail ∧ s.lvl l = c.foldl (fun m l => max m (s.level.getD l.var 0)) 0) := by
  rcases foldl_max_attained (fun l => s.level.getD l.var 0) c 0 with e | ⟨l, hl, e⟩
  · rw [e]; exact ⟨Nat.zero_le _, fun h => absurd h (Nat.lt_irrefl 0)⟩
  · rw [← e]
    rcases hw.a.value_false.1 (hF l hl) with ht | rfl
    · exact ⟨hw.a.lvl_le (l := l.neg) ht, fun _ => ⟨l, hl, ht, rfl⟩⟩
    · have h0 : s.level.getD Lit.falseLit.var 0 = 0 := hw.lvl0
      rw [h0]; exact ⟨Nat.zero_le _, fun h => absurd h (Nat.lt_irrefl 0)⟩

/-- the side condition of `bj`: `ConflictsCurrent` for the call of `propagate` it ends with -/
def BjGuard (n : Net) (cnfl : Clause) (fuel : Nat) : Prop :=
  let bt := cnfl.foldl (fun m l => max m (n.sat.level.getD l.var 0)) 0
  if (Net.popTo n bt).sat.rootLevel then
    match (Net.popTo n bt).sat.newClause cnfl with
    | (false, _) => True
    | (true, s) => ConflictsCurrent { Net.popTo n bt with sat := s } fuel
  else match learnFrom (Net.popTo n bt) cnfl with
    | none => True
    | some n2 => ConflictsCurrent n2 fuel

theorem NetInv.bj {n : Net} {orig L : Cnf} {fr : List Frame} (h : NetInv n orig L fr) (hq : n.sat.queue = [])
    (hd : n.sat.dead = false) (cnfl : Clause) (hT : TEntails n orig cnfl) (hF : ∀ l ∈ cnfl, n.sat.value l = some false)
    (fuel : Nat) (hg : BjGuard n cnfl fuel) (b : Bool) (n' : Net) (he : backtrackAnalyzeAndBackjump n cnfl fuel = some (b, n')) :
    (∃ L' fr', NetInv n' orig L' fr') ∧ (n'.sat.queue = [] ∨ n'.sat.trailLim = []) ∧ (∀ α, TModel n' α ↔ TModel n α) ∧
    (b = false → TUnsat n' orig) := by
  unfold backtrackAnalyzeAndBackjump at he
  unfold BjGuard at hg
  simp only at he hg
  generalize hbt : cnfl.foldl (fun m l => max m (n.sat.level.getD l.var 0)) 0 = bt at he hg
  obtain ⟨fr1, h1, pf⟩ := h.popTo hq bt
  have htm1 : ∀ α, TModel (Net.popTo n bt) α ↔ TModel n α := TModel.popTo n bt
  have hT1 : TEntails (Net.popTo n bt) orig cnfl := TEntails.congr (fun α hm => (htm1 α).1 hm) hT
  have hge := foldl_max_ge (fun l => n.sat.level.getD l.var 0) cnfl 0
  rw [hbt] at hge
  have hF1 : ∀ l ∈ cnfl, (Net.popTo n bt).sat.value l = some false := by
    intro l hl
    rcases h.sat.wf.a.value_false.1 (hF l hl) with ht | rfl
    · exact h1.sat.wf.a.value_false.2 (Or.inl (pf.kept _ ht (hge.2 l hl)).1)
    · exact h1.sat.wf.a.value_false.2 (Or.inr rfl)
  have hq1 : (Net.popTo n bt).sat.queue = [] := by rw [pf.queue]; exact hq
  have hd1 : (Net.popTo n bt).sat.dead = false := by rw [pf.dead]; exact hd
  by_cases hroot : (Net.popTo n bt).sat.rootLevel = true
  · -- at root level the clause is reduced to the empty one: a root conflict
    rw [if_pos hroot, newClause_allFalse hF1] at he
    simp only [Option.some.injEq, Prod.mk.injEq] at he
    obtain ⟨rfl, rfl⟩ := he
    have hroot' := (rootLevel_iff _).1 hroot
    have h4 := ((NetInvB.ofInv (m := 0) h1).rootConflict hT1 hF1 hroot').toInv
      (Nat.le_of_eq (congrArg List.length hroot'))
    exact ⟨⟨_, _, h4⟩, Or.inr hroot', htm1, fun _ => h4.sound.dead rfl⟩
  · rw [if_neg hroot] at he hg
    have hdl := dl_pos_of_not_root hroot
    -- the level after the backjump is `bt`, attained by a literal of the clause
    obtain ⟨hbtle, hatt⟩ := max_level_attained h.sat.wf hF
    rw [hbt] at hbtle hatt
    have hlev : (Net.popTo n bt).sat.decisionLevel = bt := by rw [pf.level]; omega
    have hcL : HasCurrent (Net.popTo n bt).sat cnfl := by
      obtain ⟨l, hl, ht, e⟩ := hatt (by omega)
      have hk := pf.kept _ ht (Nat.le_of_eq e)
      exact ⟨l, hl, hk.1, (hk.2.trans e).trans hlev.symm⟩
    cases hlf : learnFrom (Net.popTo n bt) cnfl with
    | none => rw [hlf] at he; simp at he
    | some n2 =>
      rw [hlf] at he hg
      simp only at he hg
      obtain ⟨fr2, l1, l2, l3, l4⟩ := h1.learn hq1 hdl hT1 hF1 hcL hlf
      have po := propagate_inv fuel n2 _ fr2 l1 (by rw [l2]; exact hd1) hg b n' he
      obtain ⟨L', fr', hi'⟩ := po.inv
      exact ⟨⟨L', fr', hi'⟩, Or.inl po.queue, fun α => ((po.tm α).trans (l3 α)).trans (htm1 α),
        fun hb => hi'.sound.dead (by rw [po.dead, hb]; rfl)⟩

end Net
end Oratio
