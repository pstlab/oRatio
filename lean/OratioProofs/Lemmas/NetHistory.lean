/-
C07N: histories of API calls of the network (`NetRun.step`).  Every call keeps `NetOK` (`step_ok`); the side conditions of a
history are read off the states it passes through (`NetRun.after`); while the tableau has no rows the conflict guards hold of
themselves (`guards_noRows`).
-/
import OratioProofs.Lemmas.NetBj
import OratioProofs.Lemmas.NetConsDl
import OratioProofs.Lemmas.NetConsLra


namespace Oratio
namespace Net
open Sat

/-- the calls admitted in histories; `check(lits)` (Properties/C07NetCheck.lean) and `Net.lraSet` are not among them -/
inductive NetOp where
  | satNewVar
  | propagate
  | assume (p : Lit)
  | pop
  | clause (c : List Lit)
  | next
  | eq (a b : Lit) | conj (ls : List Lit) | disj (ls : List Lit) | amo (ls : List Lit) | exo (ls : List Lit)
  | idlNewVar | rdlNewVar | lraNewVar
  | idlNewDistance (f g : Nat) (w : Int)
  | rdlNewDistance (f g : Nat) (w : IR)
  | bj (cnfl : List Lit)
  | lraNewVarLin (l : Lin)
  | lraNewRel (rel : LRel) (a b : Lin)
  | idlNewRel (rel : Dl.Rel) (a b : Lin)
  | rdlNewRel (rel : Dl.Rel) (a b : Lin)
  | lraNewEq (a b : Lin)

/-- network together with the ghost set of added clauses -/
structure NetRun where
  n : Net
  orig : Cnf

/-- the documented preconditions (those of C07's `Sat.pre`) -/
def NetRun.pre (r : NetRun) : NetOp → Bool
  | .satNewVar => !r.n.sat.dead
  | .propagate => !r.n.sat.dead
  | .assume p => !r.n.sat.dead && decide (p.var < r.n.sat.nvars) && r.n.sat.queue.isEmpty && r.n.sat.value p == none
  | .pop => !r.n.sat.dead && !r.n.sat.rootLevel
  | .clause c => !r.n.sat.dead && c.all (fun l => decide (l.var < r.n.sat.nvars)) && r.n.sat.rootLevel
  | .next => !r.n.sat.dead && r.n.sat.queue.isEmpty
  | .eq a b => !r.n.sat.dead && r.n.sat.rootLevel && decide (a.var < r.n.sat.nvars) && decide (b.var < r.n.sat.nvars)
  | .conj ls | .disj ls | .amo ls | .exo ls =>
    !r.n.sat.dead && r.n.sat.rootLevel && ls.all (fun l => decide (l.var < r.n.sat.nvars))
  | .idlNewVar | .rdlNewVar | .lraNewVar => !r.n.sat.dead && r.n.sat.rootLevel
  | .idlNewDistance f g _ => !r.n.sat.dead && r.n.sat.rootLevel && decide (f < r.n.idl.nVars) && decide (g < r.n.idl.nVars)
  | .rdlNewDistance f g _ => !r.n.sat.dead && r.n.sat.rootLevel && decide (f < r.n.rdl.nVars) && decide (g < r.n.rdl.nVars)
  | .bj _ => !r.n.sat.dead && r.n.sat.queue.isEmpty
  | .lraNewVarLin _ | .lraNewRel _ _ _ | .idlNewRel _ _ _ | .rdlNewRel _ _ _ | .lraNewEq _ _ =>
    !r.n.sat.dead && r.n.sat.rootLevel

/-- one call; the boolean is the answer (`true` for calls without a verdict) -/
def NetRun.step (fuel : Nat) (r : NetRun) (op : NetOp) : Option (NetRun × Bool) :=
  if !r.pre op then none else
  match op with
  | .satNewVar => some (⟨{ r.n with sat := r.n.sat.newVar.2 }, r.orig⟩, true)
  | .propagate => (r.n.propagate fuel).map fun (b, n') => (⟨n', r.orig⟩, b)
  | .assume p => (r.n.assume p fuel).map fun (b, n') => (⟨n', r.orig⟩, b)
  | .pop => some (⟨r.n.pop, r.orig⟩, true)
  | .clause c => some (⟨{ r.n with sat := (r.n.sat.newClause c).2 }, r.orig ++ [c]⟩, (r.n.sat.newClause c).1)
  | .next => (r.n.next fuel).map fun (b, n') =>
      (⟨n', if r.n.sat.rootLevel then r.orig else r.orig ++ [r.n.sat.decisions.map Lit.neg]⟩, b)
  | .eq a b => some (⟨{ r.n with sat := (r.n.sat.newEq a b).2 }, r.orig ++ (r.n.sat.newEq a b).2.toEnc.cnf⟩, true)
  | .conj ls => some (⟨{ r.n with sat := (r.n.sat.newConj ls).2 }, r.orig ++ (r.n.sat.newConj ls).2.toEnc.cnf⟩, true)
  | .disj ls => some (⟨{ r.n with sat := (r.n.sat.newDisj ls).2 }, r.orig ++ (r.n.sat.newDisj ls).2.toEnc.cnf⟩, true)
  | .amo ls => some (⟨{ r.n with sat := (r.n.sat.newAtMostOne ls).2 }, r.orig ++ (r.n.sat.newAtMostOne ls).2.toEnc.cnf⟩, true)
  | .exo ls => some (⟨{ r.n with sat := (r.n.sat.newExctOne ls).2 }, r.orig ++ (r.n.sat.newExctOne ls).2.toEnc.cnf⟩, true)
  | .idlNewVar => some (⟨(Net.idlNewVar r.n).2, r.orig⟩, true)
  | .rdlNewVar => some (⟨(Net.rdlNewVar r.n).2, r.orig⟩, true)
  | .lraNewVar => some (⟨(Net.lraNewVar r.n).2, r.orig⟩, true)
  | .idlNewDistance f g w => some (⟨(Net.idlNewDistance r.n f g w).2, r.orig⟩, true)
  | .rdlNewDistance f g w => some (⟨(Net.rdlNewDistance r.n f g w).2, r.orig⟩, true)
  | .bj cnfl => (r.n.backtrackAnalyzeAndBackjump cnfl fuel).map fun (b, n') => (⟨n', r.orig⟩, b)
  | .lraNewVarLin l => (Net.lraNewVarLin r.n l).map fun (_, n') => (⟨n', r.orig⟩, true)
  | .lraNewRel rel a b => (Net.lraNewRel r.n rel a b).map fun (_, n') => (⟨n', r.orig⟩, true)
  | .idlNewRel rel a b => (Net.idlNewRel r.n rel a b).map fun (_, n') => (⟨n', r.orig ++ n'.sat.toEnc.cnf⟩, true)
  | .rdlNewRel rel a b => (Net.rdlNewRel r.n rel a b).map fun (_, n') => (⟨n', r.orig ++ n'.sat.toEnc.cnf⟩, true)
  | .lraNewEq a b => (Net.lraNewEq r.n a b).map fun (_, n') => (⟨n', r.orig ++ n'.sat.toEnc.cnf⟩, true)

/-- the numeric side conditions of the difference-logic constructors: the no-overflow room of C10 (`K`
    bounds the constants, `4·(n+2)·K < inf`) for IDL; finite weights with an integer ε part for RDL -/
def NetRun.room (r : NetRun) : NetOp → Prop
  | .idlNewVar => ∃ K E, r.n.idl.Exact K E ∧ Dl.ConstrsOk K r.n.idl ∧ 4 * ((r.n.idl.nVars : Int) + 2) * K < idlInf
  | .idlNewDistance f g w => ∃ K E, r.n.idl.Exact K E ∧ Dl.ConstrsOk K r.n.idl ∧ f ≠ g ∧ -K ≤ w ∧ w + 1 ≤ K
  | .rdlNewDistance f g w => f ≠ g ∧ IR.Fin w ∧ w.inf.den = 1
  | .bj cnfl => TEntails r.n r.orig cnfl ∧ ∀ l ∈ cnfl, r.n.sat.value l = some false
  -- LRA requests: canonical expressions over existing variables (`Lra.LinOK`)
  | .lraNewVarLin l => Lra.LinOK r.n.lra l
  | .lraNewRel _ a b => Lra.LinOK r.n.lra a ∧ Lra.LinOK r.n.lra b
  | .lraNewEq a b => Lra.LinOK r.n.lra a ∧ Lra.LinOK r.n.lra b
  -- DL requests: the side conditions of `new_distance` for the constraints of the resulting theory
  | .idlNewRel rel a b => ∃ K E, r.n.idl.Exact K E ∧ Dl.ConstrsOk K r.n.idl ∧
      ∀ l n', Net.idlNewRel r.n rel a b = some (l, n') → Dl.ConstrsOk K n'.idl
  | .rdlNewRel rel a b => ∀ l n', Net.rdlNewRel r.n rel a b = some (l, n') → RdlOk n'.rdl
  | _ => True

/-- "the LRA request creates no slack variable" (the expression names an existing variable): then it creates
    no tableau row either -/
def NetRun.noSlack (r : NetRun) : NetOp → Prop
  | .lraNewVarLin l => ∀ v n', Net.lraNewVarLin r.n l = some (v, n') → n'.lra.vals.length = r.n.lra.vals.length
  | .lraNewRel rel a b => ∀ l n', Net.lraNewRel r.n rel a b = some (l, n') → n'.lra.vals.length = r.n.lra.vals.length
  | .lraNewEq a b => ∀ l n', Net.lraNewEq r.n a b = some (l, n') → n'.lra.tableau = r.n.lra.tableau
  | _ => True

/-- the side condition of a call: the conflicts of `lra.check` found above root level cite a literal
    of the current decision level -/
def NetRun.guard (fuel : Nat) (r : NetRun) : NetOp → Prop
  | .propagate => ConflictsCurrent r.n fuel
  | .assume p => ConflictsCurrent (assumeStart r.n p) fuel
  | .next => r.n.sat.rootLevel = false → ConflictsCurrent (nextStart r.n) fuel
  | .bj cnfl => BjGuard r.n cnfl fuel
  | _ => True

def NetRun.steps (fuel : Nat) (r : NetRun) : List NetOp → Option NetRun
  | [] => some r
  | op :: ops => match r.step fuel op with
    | none => none
    | some (r', _) => NetRun.steps fuel r' ops

/-- the side condition along a history -/
def NetRun.guards (fuel : Nat) (r : NetRun) : List NetOp → Prop
  | [] => True
  | op :: ops => r.guard fuel op ∧ ∀ r' b, r.step fuel op = some (r', b) → NetRun.guards fuel r' ops

/-- the numeric side conditions along a history -/
def NetRun.rooms (fuel : Nat) (r : NetRun) : List NetOp → Prop
  | [] => True
  | op :: ops => r.room op ∧ ∀ r' b, r.step fuel op = some (r', b) → NetRun.rooms fuel r' ops

/-- no LRA request of the history creates a slack variable -/
def NetRun.noSlacks (fuel : Nat) (r : NetRun) : List NetOp → Prop
  | [] => True
  | op :: ops => r.noSlack op ∧ ∀ r' b, r.step fuel op = some (r', b) → NetRun.noSlacks fuel r' ops

/-- the invariant between two calls -/
def NetOK (r : NetRun) : Prop :=
  (∃ L fr, NetInv r.n r.orig L fr) ∧ (r.n.sat.queue = [] ∨ r.n.sat.trailLim = [])

/-- stated for any `fuel`: with a numeral, unifying against `ConflictsCurrent _ 100` makes Lean unfold it and run the network -/
theorem guard_propagate {fuel : Nat} {r : NetRun} (h : ccB r.n fuel = true) : r.guard fuel .propagate :=
  ccB_sound fuel _ h

theorem guard_assume {fuel : Nat} {r : NetRun} {p : Lit} (h : ccB (assumeStart r.n p) fuel = true) :
    r.guard fuel (.assume p) := ccB_sound fuel _ h

theorem netInv_init : NetInv Net.init [] [] [] := by
  refine ⟨(Sat.init_invB).toS (by decide), (fun c hc => by cases hc), ?_, trivial, rfl,
    ⟨(fun e he => by cases he), (fun c hc => by cases hc), (fun c hc => by cases hc), Lra.init_good, (fun x b hb => by cases hb), (fun e he => by cases he)⟩⟩
  exact ⟨LraBase.init (by decide),
    ⟨⟨10, [], C10_init_exact 10 (by decide), (fun c hc => by cases hc)⟩, C10X_init_pathinv _, Undo.sortedK_nil⟩,
    RdlBase.init _⟩

theorem netOK_init : NetOK ⟨Net.init, []⟩ := ⟨⟨[], [], netInv_init⟩, Or.inl rfl⟩

theorem pre_spec {r : NetRun} {op : NetOp} (h : r.pre op = true) : r.n.sat.dead = false ∧
    match op with
    | .satNewVar | .propagate => True
    | .assume p => p.var < r.n.sat.nvars ∧ r.n.sat.queue = [] ∧ r.n.sat.value p = none
    | .pop => r.n.sat.trailLim ≠ []
    | .clause c => (∀ l ∈ c, l.var < r.n.sat.nvars) ∧ r.n.sat.trailLim = []
    | .next | .bj _ => r.n.sat.queue = []
    | .eq a b => r.n.sat.trailLim = [] ∧ a.var < r.n.sat.nvars ∧ b.var < r.n.sat.nvars
    | .conj ls | .disj ls | .amo ls | .exo ls => r.n.sat.trailLim = [] ∧ ∀ l ∈ ls, l.var < r.n.sat.nvars
    | .idlNewDistance f g _ => r.n.sat.trailLim = [] ∧ f < r.n.idl.nVars ∧ g < r.n.idl.nVars
    | .rdlNewDistance f g _ => r.n.sat.trailLim = [] ∧ f < r.n.rdl.nVars ∧ g < r.n.rdl.nVars
    | .idlNewVar | .rdlNewVar | .lraNewVar | .lraNewVarLin _ | .lraNewRel _ _ _ | .idlNewRel _ _ _ | .rdlNewRel _ _ _
      | .lraNewEq _ _ => r.n.sat.trailLim = [] := by
  cases op <;>
    simpa only [NetRun.pre, rootLevel, Bool.and_eq_true, Bool.not_eq_true', decide_eq_true_eq, List.all_eq_true,
      List.isEmpty_iff, List.isEmpty_eq_false_iff, beq_iff_eq, and_assoc, ne_eq, and_true] using h

theorem step_some {fuel : Nat} {r : NetRun} {op : NetOp} {x : NetRun × Bool} (h : r.step fuel op = some x) :
    r.pre op = true := by
  unfold NetRun.step at h
  split at h
  · cases h
  · rename_i hp; simpa using hp

/-- a call that meets its precondition is the arm `X` of the step function (`e` holds by `rfl`, at a constructor and
    at a variable `op` alike) -/
theorem step_of_pre {fuel : Nat} {r : NetRun} {op : NetOp} {X : Option (NetRun × Bool)} (h : r.pre op = true)
    (e : r.step fuel op = if !r.pre op then none else X) : r.step fuel op = X := by
  rw [e, h]; rfl

theorem step_idlNewVar {fuel : Nat} {r r' : NetRun} {b : Bool} (h : r.step fuel .idlNewVar = some (r', b)) :
    r'.n = (Net.idlNewVar r.n).2 := by
  rw [step_of_pre (step_some h) rfl] at h
  cases h
  rfl

theorem step_idlNewDistance {fuel : Nat} {r r' : NetRun} {b : Bool} {f g : Nat} {w : Int}
    (h : r.step fuel (.idlNewDistance f g w) = some (r', b)) : r'.n = (Net.idlNewDistance r.n f g w).2 := by
  rw [step_of_pre (step_some h) rfl] at h
  cases h
  rfl

theorem step_idlNewRel {fuel : Nat} {r r' : NetRun} {b : Bool} {rel : Dl.Rel} {a c : Lin}
    (h : r.step fuel (.idlNewRel rel a c) = some (r', b)) : ∃ l, Net.idlNewRel r.n rel a c = some (l, r'.n) := by
  rw [step_of_pre (step_some h) rfl] at h
  obtain ⟨⟨l, n1⟩, h1, e⟩ := Option.map_eq_some_iff.1 h
  cases e
  exact ⟨l, h1⟩

theorem step_lraNewRel {fuel : Nat} {r r' : NetRun} {b : Bool} {rel : LRel} {a c : Lin}
    (h : r.step fuel (.lraNewRel rel a c) = some (r', b)) : ∃ l, Net.lraNewRel r.n rel a c = some (l, r'.n) := by
  rw [step_of_pre (step_some h) rfl] at h
  obtain ⟨⟨l, n1⟩, h1, e⟩ := Option.map_eq_some_iff.1 h
  cases e
  exact ⟨l, h1⟩

/-- what the call `op` on `r` with answer `b` leaves: `orig` grows, no theory model is new, `false` refutes `orig` unless it is `next` at root level -/
def StepOut (r : NetRun) (op : NetOp) (r' : NetRun) (b : Bool) : Prop :=
  NetOK r' ∧ (∀ d ∈ r.orig, d ∈ r'.orig) ∧ (∀ α, TModel r'.n α → TModel r.n α) ∧
    (b = false → (op = .next ∧ r.n.sat.rootLevel = true) ∨ TUnsat r'.n r'.orig)

theorem StepOut.root {r : NetRun} {op : NetOp} {n' : Net} {orig' L : Cnf} (hi : NetInv n' orig' L [])
    (hs : ∀ d ∈ r.orig, d ∈ orig') (ht : ∀ α, TModel n' α → TModel r.n α) : StepOut r op ⟨n', orig'⟩ true :=
  ⟨⟨⟨L, [], hi⟩, Or.inr (root_of_inv hi)⟩, hs, ht, nofun⟩

theorem StepOut.cons {r : NetRun} {op : NetOp} {L : Cnf} {fr : List Frame} (hi : NetInv r.n r.orig L fr)
    (hroot : r.n.sat.trailLim = []) (hd : r.n.sat.dead = false) {s' : Sat} {P : Prop}
    (g : GoodN s' ∧ Sat.ConsFrame r.n.sat s' ∧ P) :
    StepOut r op ⟨{ r.n with sat := s' }, r.orig ++ s'.toEnc.cnf⟩ true :=
  .root (hi.consSat hroot hd g.1 g.2.1) (fun _ h => List.mem_append_left _ h) (fun _ h => h)

theorem StepOut.prop {r : NetRun} {op : NetOp} {n' : Net} {orig' : Cnf} {b : Bool} (po : PropOut r.n n' orig' b)
    (hs : ∀ d ∈ r.orig, d ∈ orig') : StepOut r op ⟨n', orig'⟩ b := by
  obtain ⟨L', fr', hi'⟩ := po.inv
  exact ⟨⟨⟨L', fr', hi'⟩, Or.inl po.queue⟩, hs, fun α => (po.tm α).1,
    fun hb => Or.inr (hi'.sound.dead (by rw [po.dead, hb]; rfl))⟩

theorem step_ok {fuel : Nat} {r r' : NetRun} {op : NetOp} {b : Bool} (h : NetOK r) (hg : r.guard fuel op)
    (hm : r.room op) (he : r.step fuel op = some (r', b)) :
    NetOK r' ∧ (∀ d ∈ r.orig, d ∈ r'.orig) ∧ (∀ α, TModel r'.n α → TModel r.n α) ∧
      (b = false → (op = .next ∧ r.n.sat.rootLevel = true) ∨ TUnsat r'.n r'.orig) := by
  obtain ⟨⟨L, fr, hi⟩, hqr⟩ := h
  have hpre := step_some he
  obtain ⟨hd, hp⟩ := pre_spec hpre
  rw [step_of_pre hpre rfl] at he
  have hid : ∀ d ∈ r.orig, d ∈ r.orig := fun _ h => h
  have hcnf : ∀ (X : Cnf), ∀ d ∈ r.orig, d ∈ r.orig ++ X := fun _ _ h => List.mem_append_left _ h
  change StepOut r op r' b
  cases op with
  | satNewVar =>
    cases he
    exact ⟨⟨⟨L, fr, hi.satNewVar⟩, hqr⟩, hid, fun _ h => h, nofun⟩
  | propagate =>
    obtain ⟨⟨b1, n1⟩, hrun, he⟩ := Option.map_eq_some_iff.1 he
    cases he
    exact .prop (propagate_inv fuel r.n L fr hi hd hg _ _ hrun) hid
  | assume p =>
    obtain ⟨⟨b1, n1⟩, hrun, he⟩ := Option.map_eq_some_iff.1 he
    cases he
    exact .prop (hi.assume hp.2.1 hd hp.2.2 hp.1 fuel hg _ _ hrun) hid
  | pop =>
    cases he
    have hq : r.n.sat.queue = [] := hqr.resolve_right hp
    obtain ⟨fr', hi'⟩ := hi.pop hq hp
    exact ⟨⟨⟨L, fr', hi'⟩, Or.inl ((pop_queue r.n.sat).trans hq)⟩, hid, fun α => (TModel.pop r.n α).1, nofun⟩
  | clause c =>
    cases he
    obtain ⟨k1, k2, k3⟩ := hi.clause hp.2 c hp.1
    exact ⟨⟨⟨L, fr, k1⟩, Or.inr k2⟩, hcnf _, fun _ h => h, fun hb => Or.inr (k1.sound.dead (k3 hb))⟩
  | next =>
    obtain ⟨⟨b1, n1⟩, hrun, he⟩ := Option.map_eq_some_iff.1 he
    cases he
    cases hroot : r.n.sat.rootLevel with
    | true =>
      rw [Net.next, if_pos hroot] at hrun
      cases hrun
      exact ⟨⟨⟨L, fr, hi⟩, hqr⟩, hid, fun _ h => h, fun _ => Or.inl ⟨rfl, hroot⟩⟩
    | false => exact .prop (hi.next hp hd hroot fuel (hg hroot) _ _ hrun) (hcnf _)
  | eq a c =>
    cases he
    exact .cons hi hp.1 hd (Sat.newEq_good goodN_closed r.n.sat ⟨⟨_, _, hi.sat⟩, hp.1⟩ a c hp.2.1 hp.2.2)
  | conj ls =>
    cases he
    exact .cons hi hp.1 hd (Sat.newConj_good goodN_closed r.n.sat ⟨⟨_, _, hi.sat⟩, hp.1⟩ ls hp.2)
  | disj ls =>
    cases he
    exact .cons hi hp.1 hd (Sat.newDisj_good goodN_closed r.n.sat ⟨⟨_, _, hi.sat⟩, hp.1⟩ ls hp.2)
  | amo ls =>
    cases he
    exact .cons hi hp.1 hd (Sat.newAtMostOne_good goodN_closed r.n.sat ⟨⟨_, _, hi.sat⟩, hp.1⟩ ls hp.2)
  | exo ls =>
    cases he
    exact .cons hi hp.1 hd (Sat.newExctOne_good goodN_closed r.n.sat ⟨⟨_, _, hi.sat⟩, hp.1⟩ ls hp.2)
  | idlNewVar =>
    cases he
    obtain ⟨k1, k2⟩ := hi.at_idlNewVar hp hm
    exact .root k1 hid (fun α => (k2 α).1)
  | rdlNewVar =>
    cases he
    obtain ⟨k1, k2⟩ := hi.at_rdlNewVar hp
    exact .root k1 hid (fun α => (k2 α).1)
  | lraNewVar =>
    cases he
    obtain ⟨k1, k2⟩ := hi.at_lraNewVar hp
    exact .root k1 hid (fun α => (k2 α).1)
  | idlNewDistance f g w =>
    cases he
    obtain ⟨K, E, m1, m2, m3, m4, m5⟩ := hm
    obtain ⟨k1, k2⟩ := hi.at_idlNewDistance hp.1 f g w ⟨K, E, m1, m2, hp.2.1, hp.2.2, m3, m4, m5⟩
    exact .root k1 hid k2
  | rdlNewDistance f g w =>
    cases he
    obtain ⟨k1, k2⟩ := hi.at_rdlNewDistance hp.1 f g w ⟨hp.2.1, hp.2.2, hm⟩
    exact .root k1 hid k2
  | bj cnfl =>
    obtain ⟨⟨b1, n1⟩, hrun, he⟩ := Option.map_eq_some_iff.1 he
    cases he
    obtain ⟨⟨L', fr', hi'⟩, k2, k3, k4⟩ := hi.bj hp hd cnfl hm.1 hm.2 fuel hg _ _ hrun
    exact ⟨⟨⟨L', fr', hi'⟩, k2⟩, hid, fun α => (k3 α).1, fun hb => Or.inr (k4 hb)⟩
  | lraNewVarLin l =>
    obtain ⟨⟨v, n1⟩, hrun, he⟩ := Option.map_eq_some_iff.1 he
    cases he
    obtain ⟨k1, k2, _⟩ := hi.at_lraNewVarLinG hp hm hrun
    exact .root k1 hid k2
  | lraNewRel rel a c =>
    obtain ⟨⟨v, n1⟩, hrun, he⟩ := Option.map_eq_some_iff.1 he
    cases he
    obtain ⟨k1, k2, _⟩ := hi.at_lraNewRelG hp hm.1 hm.2 hrun
    exact .root k1 hid k2
  | idlNewRel rel a c =>
    obtain ⟨⟨v, n1⟩, hrun, he⟩ := Option.map_eq_some_iff.1 he
    cases he
    obtain ⟨K, E, m1, m2, m3⟩ := hm
    obtain ⟨k1, k2⟩ := hi.at_idlNewRel hp hd m1 hrun (m3 v n1 hrun)
    exact .root k1 (hcnf _) k2
  | rdlNewRel rel a c =>
    obtain ⟨⟨v, n1⟩, hrun, he⟩ := Option.map_eq_some_iff.1 he
    cases he
    obtain ⟨k1, k2⟩ := hi.at_rdlNewRel hp hd hrun (hm v n1 hrun)
    exact .root k1 (hcnf _) k2
  | lraNewEq a c =>
    obtain ⟨⟨v, n1⟩, hrun, he⟩ := Option.map_eq_some_iff.1 he
    cases he
    obtain ⟨k1, k2⟩ := hi.at_lraNewEq hp hd hm.1 hm.2 hrun
    exact .root k1 (hcnf _) k2

theorem steps_ok {fuel : Nat} : ∀ (ops : List NetOp) (r r' : NetRun), NetOK r → r.guards fuel ops → r.rooms fuel ops →
    r.steps fuel ops = some r' → NetOK r' ∧ ∀ d ∈ r.orig, d ∈ r'.orig
  | [], r, r', h, _, _, he => by
    simp only [NetRun.steps, Option.some.injEq] at he; subst he; exact ⟨h, fun d hd => hd⟩
  | op :: ops, r, r', h, hg, hm, he => by
    unfold NetRun.steps at he
    cases hs : r.step fuel op with
    | none => rw [hs] at he; cases he
    | some res =>
      obtain ⟨r1, b⟩ := res
      rw [hs] at he
      obtain ⟨k1, k2, _⟩ := step_ok h hg.1 hm.1 hs
      obtain ⟨j1, j2⟩ := steps_ok ops r1 r' k1 (hg.2 r1 b hs) (hm.2 r1 b hs) he
      exact ⟨j1, fun d hd => j2 d (k2 d hd)⟩


theorem linOK_const {t : Lra} (k : R) (hk : k.WF ∧ k.den ≠ 0) : Lra.LinOK t (Lin.const k) :=
  ⟨⟨trivial, (fun p hp => by cases hp), hk.1, hk.2⟩, fun p hp => by cases hp⟩

theorem linOK_var {t : Lra} {v : Nat} (h : v < t.vals.length) {c : R} (hc : c.WF ∧ c.den ≠ 0) (hn : c.num ≠ 0) :
    Lra.LinOK t (Lin.var v c) := by
  refine ⟨⟨trivial, fun p hp => ?_, (by show R.zero.WF; decide), (by show R.zero.den ≠ 0; decide)⟩, fun p hp => ?_⟩
  · simp only [Lin.var, List.mem_singleton] at hp
    subst hp; exact hc
  · simp only [Lin.var, List.mem_singleton] at hp
    subst hp; exact ⟨h, hn⟩

/-- the state after the first `k` operations of a run (`d` if it fails) -/
def NetRun.after (fuel : Nat) (d r : NetRun) (ops : List NetOp) (k : Nat) : NetRun :=
  (NetRun.steps fuel r (ops.take k)).getD d

theorem after_cons {fuel : Nat} {d r r' : NetRun} {op : NetOp} {b : Bool} (h : r.step fuel op = some (r', b))
    (ops : List NetOp) (k : Nat) : NetRun.after fuel d r (op :: ops) (k + 1) = NetRun.after fuel d r' ops k := by
  simp only [NetRun.after, List.take_succ_cons, NetRun.steps, h]

theorem steps_eq_after {fuel : Nat} {d r : NetRun} {ops : List NetOp} (h : (NetRun.steps fuel r ops).isSome = true) :
    NetRun.steps fuel r ops = some (NetRun.after fuel d r ops ops.length) := by
  rw [NetRun.after, List.take_length]; exact ListAux.eq_some_getD d h

theorem step_after {fuel : Nat} {d : NetRun} : ∀ {ops : List NetOp} {r : NetRun}, (NetRun.steps fuel r ops).isSome = true →
    ∀ {k : Nat} (hk : k < ops.length),
      ∃ b, (NetRun.after fuel d r ops k).step fuel ops[k] = some (NetRun.after fuel d r ops (k + 1), b)
  | op :: ops, r, h, k, hk => by
    rw [NetRun.steps] at h
    cases hs : r.step fuel op with
    | none => rw [hs] at h; cases h
    | some x =>
      obtain ⟨r', b'⟩ := x
      rw [hs] at h
      cases k with
      | zero => exact ⟨b', by rw [after_cons hs]; exact hs⟩
      | succ k =>
        simp only [after_cons hs, List.getElem_cons_succ]
        exact step_after h (Nat.lt_of_succ_lt_succ hk)

theorem step_after_eq {fuel : Nat} {d r : NetRun} {ops : List NetOp} (h : (NetRun.steps fuel r ops).isSome = true) {k : Nat}
    (hk : k < ops.length) {b : Bool} (hb : ((NetRun.after fuel d r ops k).step fuel ops[k]).map (·.2) = some b) :
    (NetRun.after fuel d r ops k).step fuel ops[k] = some (NetRun.after fuel d r ops (k + 1), b) := by
  obtain ⟨b', e⟩ := step_after (d := d) h hk
  rw [e] at hb ⊢
  cases hb
  rfl

theorem along_after {fuel : Nat} {d : NetRun} {P : NetRun → NetOp → Prop} {Q : NetRun → List NetOp → Prop}
    (hnil : ∀ r, Q r [])
    (hcons : ∀ r op ops, P r op → (∀ r' b, r.step fuel op = some (r', b) → Q r' ops) → Q r (op :: ops)) :
    ∀ (ops : List NetOp) (r : NetRun), (∀ k (hk : k < ops.length), P (NetRun.after fuel d r ops k) ops[k]) → Q r ops
  | [], r, _ => hnil r
  | op :: ops, r, h => hcons r op ops (h 0 (Nat.zero_lt_succ _)) (fun r' b hs => along_after hnil hcons ops r' (fun k hk => by
      have := h (k + 1) (Nat.succ_lt_succ hk)
      rwa [after_cons hs, List.getElem_cons_succ] at this))

theorem guards_of_after {fuel : Nat} {d r : NetRun} {ops : List NetOp}
    (h : ∀ k (hk : k < ops.length), (NetRun.after fuel d r ops k).guard fuel ops[k]) : r.guards fuel ops :=
  along_after (Q := NetRun.guards fuel) (fun _ => trivial) (fun _ _ _ h1 h2 => ⟨h1, h2⟩) ops r h

theorem rooms_of_after {fuel : Nat} {d r : NetRun} {ops : List NetOp}
    (h : ∀ k (hk : k < ops.length), (NetRun.after fuel d r ops k).room ops[k]) : r.rooms fuel ops :=
  along_after (Q := NetRun.rooms fuel) (fun _ => trivial) (fun _ _ _ h1 h2 => ⟨h1, h2⟩) ops r h

theorem noSlacks_of_after {fuel : Nat} {d r : NetRun} {ops : List NetOp}
    (h : ∀ k (hk : k < ops.length), (NetRun.after fuel d r ops k).noSlack ops[k]) : r.noSlacks fuel ops :=
  along_after (Q := NetRun.noSlacks fuel) (fun _ => trivial) (fun _ _ _ h1 h2 => ⟨h1, h2⟩) ops r h

theorem noRows_bj (fuel : Nat) (n : Net) (cnfl : Clause) (ht : n.lra.tableau = []) :
    BjGuard n cnfl fuel ∧ ∀ b n', backtrackAnalyzeAndBackjump n cnfl fuel = some (b, n') → n'.lra.tableau = [] := by
  unfold BjGuard backtrackAnalyzeAndBackjump
  simp only
  generalize cnfl.foldl (fun m l => max m (n.sat.level.getD l.var 0)) 0 = bt
  have ht1 : (Net.popTo n bt).lra.tableau = [] := by rw [popTo_tableau]; exact ht
  split
  · cases hnc : (Net.popTo n bt).sat.newClause cnfl with
    | mk bb s' =>
      cases bb with
      | false =>
        exact ⟨trivial, fun b n' he => by
          simp only [Option.some.injEq, Prod.mk.injEq] at he
          rw [← he.2]; exact ht1⟩
      | true =>
        exact noRows_propagate fuel { Net.popTo n bt with sat := s' } ht1
  · cases hlf : learnFrom (Net.popTo n bt) cnfl with
    | none => exact ⟨trivial, fun b n' he => by simp at he⟩
    | some n2 => exact noRows_propagate fuel n2 (by rw [learnFrom_tableau hlf]; exact ht1)

theorem step_noRows {fuel : Nat} {r r' : NetRun} {op : NetOp} {b : Bool} (ht : r.n.lra.tableau = []) (hm : r.noSlack op)
    (hs : r.step fuel op = some (r', b)) : r'.n.lra.tableau = [] := by
  have hpre := step_some hs
  rw [step_of_pre hpre rfl] at hs
  have hpop : r.n.lra.pop.tableau = [] := (Lra.pop_writes r.n.lra).tableau.trans ht
  cases op with
  | propagate =>
    obtain ⟨⟨b1, n1⟩, hrun, hs⟩ := Option.map_eq_some_iff.1 hs
    cases hs
    exact (noRows_propagate fuel r.n ht).2 _ _ hrun
  | assume p =>
    obtain ⟨⟨b1, n1⟩, hrun, hs⟩ := Option.map_eq_some_iff.1 hs
    cases hs
    rw [assume_eq (pre_spec hpre).2.2.2] at hrun
    exact (noRows_propagate fuel (assumeStart r.n p) ht).2 _ _ hrun
  | next =>
    obtain ⟨⟨b1, n1⟩, hrun, hs⟩ := Option.map_eq_some_iff.1 hs
    cases hs
    cases hroot : r.n.sat.rootLevel with
    | true =>
      rw [Net.next, if_pos hroot] at hrun
      cases hrun
      exact ht
    | false =>
      rw [next_eq hroot] at hrun
      exact (noRows_propagate fuel (nextStart r.n) hpop).2 _ _ hrun
  | bj cnfl =>
    obtain ⟨⟨b1, n1⟩, hrun, hs⟩ := Option.map_eq_some_iff.1 hs
    cases hs
    exact (noRows_bj fuel r.n cnfl ht).2 _ _ hrun
  | pop => cases hs; exact hpop
  | lraNewVarLin l =>
    obtain ⟨⟨v, n1⟩, hrun, hs⟩ := Option.map_eq_some_iff.1 hs
    cases hs
    exact (lraNewVarLin_tableau hrun (hm v n1 hrun)).trans ht
  | lraNewRel rel a c =>
    obtain ⟨⟨v, n1⟩, hrun, hs⟩ := Option.map_eq_some_iff.1 hs
    cases hs
    exact (lraNewRel_tableau hrun (hm v n1 hrun)).trans ht
  | idlNewRel rel a c =>
    obtain ⟨⟨v, n1⟩, hrun, hs⟩ := Option.map_eq_some_iff.1 hs
    cases hs
    exact (congrArg Lra.tableau (idlNewRel_lra hrun)).trans ht
  | rdlNewRel rel a c =>
    obtain ⟨⟨v, n1⟩, hrun, hs⟩ := Option.map_eq_some_iff.1 hs
    cases hs
    exact (congrArg Lra.tableau (rdlNewRel_lra hrun)).trans ht
  | lraNewEq a c =>
    obtain ⟨⟨v, n1⟩, hrun, hs⟩ := Option.map_eq_some_iff.1 hs
    cases hs
    exact (hm v n1 hrun).trans ht
  | _ => cases hs; exact ht

theorem guards_noRows {fuel : Nat} : ∀ (ops : List NetOp) (r : NetRun), r.n.lra.tableau = [] → r.noSlacks fuel ops →
    r.guards fuel ops
  | [], _, _, _ => trivial
  | op :: ops, r, ht, hm => by
    refine ⟨?_, fun r' b hs => guards_noRows ops r' (step_noRows ht hm.1 hs) (hm.2 r' b hs)⟩
    cases op with
    | propagate => exact (noRows_propagate fuel r.n ht).1
    | assume p => exact (noRows_propagate fuel (assumeStart r.n p) ht).1
    | bj cnfl => exact (noRows_bj fuel r.n cnfl ht).1
    | next => exact fun _ => (noRows_propagate fuel (nextStart r.n) ((Lra.pop_writes r.n.lra).tableau.trans ht)).1
    | _ => trivial

end Net
end Oratio
