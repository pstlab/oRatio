/-
C07N, non-vacuity of the history theorem FROM `Net.init`: a history `hist` of 19 calls that uses the theory
constructors of all three theories, the reified SAT constructors, clauses, `propagate`, `assume` and `next`, with two
recorded theory lemmas.  The run is described at the example of Properties/C07Net.lean that uses it.
-/
import OratioProofs.Lemmas.NetHistory

namespace Oratio
namespace NetEx2
open Net Sat

/-- the LRA variable `x0` and the constants 5 and 7 as linear expressions -/
def x0 : Lin := Lin.var 0 R.one
def c5 : Lin := Lin.const (R.ofInt 5)
def c7 : Lin := Lin.const (R.ofInt 7)

/-- the IDL expressions `x3` and `x1 + 4` -/
def t3 : Lin := Lin.var 3 R.one
def t1p4 : Lin := ⟨[(1, R.one)], R.ofInt 4⟩

def hist : List NetOp := [.idlNewVar, .idlNewVar, .idlNewVar, .idlNewDistance 1 3 5, .idlNewDistance 2 3 2,
  .idlNewDistance 2 1 (-3), .idlNewRel .eq t3 t1p4, .lraNewVar, .lraNewRel .leq x0 c5, .lraNewRel .geq x0 c7,
  .rdlNewVar, .satNewVar, .disj [⟨1, true⟩, ⟨9, true⟩], .clause [⟨10, true⟩], .clause [⟨9, false⟩],
  .clause [⟨7, true⟩], .propagate, .assume ⟨2, false⟩, .next]

def st (k : Nat) : NetRun := (NetRun.steps 100 ⟨Net.init, []⟩ (hist.take k)).getD ⟨Net.init, []⟩

theorem st0 : st 0 = ⟨Net.init, []⟩ := rfl

-- the elaborator must not run the model (its evaluator is slow); the kernel does, once, in `evals`
attribute [local irreducible] NetRun.steps

local instance (K : Int) (t : Dl Int) : Decidable (Dl.ConstrsOk K t) := by unfold Dl.ConstrsOk; infer_instance

theorem evals :
    (NetRun.steps 100 ⟨Net.init, []⟩ hist).isSome = true ∧
    (Dl.ConstrsOk 10 (st 0).n.idl ∧ Dl.ConstrsOk 10 (st 1).n.idl ∧ Dl.ConstrsOk 10 (st 2).n.idl ∧
      Dl.ConstrsOk 10 (st 3).n.idl ∧ Dl.ConstrsOk 10 (st 4).n.idl ∧ Dl.ConstrsOk 10 (st 5).n.idl ∧
      Dl.ConstrsOk 10 (st 6).n.idl ∧ Dl.ConstrsOk 10 (st 7).n.idl) ∧
    (4 * (((st 0).n.idl.nVars : Int) + 2) * 10 < idlInf ∧ 4 * (((st 1).n.idl.nVars : Int) + 2) * 10 < idlInf ∧
      4 * (((st 2).n.idl.nVars : Int) + 2) * 10 < idlInf) ∧
    ((st 8).n.lra.vals.length = 1 ∧ (st 9).n.lra.vals.length = 1 ∧ (st 10).n.lra.vals.length = 1) ∧
    ((st 19).n.sat.log = [[⟨8, false⟩, ⟨7, false⟩], [⟨3, false⟩, ⟨2, true⟩, ⟨1, false⟩], [⟨2, true⟩]] ∧
      (st 19).n.sat.decisionLevel = 0 ∧ (st 19).orig.length = 15 ∧ (st 19).n.sat.dead = false ∧
      (st 19).n.lra.vAsrts.map (·.1) = [7, 8] ∧ (st 19).n.sat.value ⟨8, true⟩ = some false ∧
      (st 19).n.idl.varDists.map (·.b) = [1, 2, 3, 4, 5]) := by
  decide +kernel

theorem run_all : NetRun.steps 100 ⟨Net.init, []⟩ hist = some (st 19) :=
  steps_eq_after (d := ⟨Net.init, []⟩) evals.1

theorem next (k : Nat) (hk : k < hist.length) : ∃ b, (st k).step 100 hist[k] = some (st (k + 1), b) :=
  step_after (d := ⟨Net.init, []⟩) evals.1 hk


theorem ex0 : (st 0).n.idl.Exact 10 [] := st0 ▸ C10_init_exact 10 (by decide)

theorem exV {k : Nat} {hk : k < hist.length} (hop : hist[k] = .idlNewVar) (h : (st k).n.idl.Exact 10 [])
    (hr : 4 * (((st k).n.idl.nVars : Int) + 2) * 10 < idlInf) : (st (k + 1)).n.idl.Exact 10 [] := by
  obtain ⟨b, e⟩ := next k hk
  rw [hop] at e
  rw [step_idlNewVar e]
  exact (C10_newVar_exact 10 [] _ h hr).1

theorem exD {k : Nat} {hk : k < hist.length} {f g : Nat} {w : Int} (hop : hist[k] = .idlNewDistance f g w)
    (h : (st k).n.idl.Exact 10 []) : (st (k + 1)).n.idl.Exact 10 [] := by
  obtain ⟨b, e⟩ := next k hk
  rw [hop] at e
  rw [step_idlNewDistance e]
  obtain ⟨a1, a2, a3⟩ := DlG.newDistance_same idlOps (st k).n.sat (st k).n.idl f g w
  exact (h.toM.congr_state a1 a2 a3).ofM

theorem ex1 : (st 1).n.idl.Exact 10 [] := exV (k := 0) (hk := by decide) rfl ex0 evals.2.2.1.1
theorem ex2 : (st 2).n.idl.Exact 10 [] := exV (k := 1) (hk := by decide) rfl ex1 evals.2.2.1.2.1
theorem ex3 : (st 3).n.idl.Exact 10 [] := exV (k := 2) (hk := by decide) rfl ex2 evals.2.2.1.2.2
theorem ex4 : (st 4).n.idl.Exact 10 [] := exD (k := 3) (hk := by decide) rfl ex3
theorem ex5 : (st 5).n.idl.Exact 10 [] := exD (k := 4) (hk := by decide) rfl ex4
theorem ex6 : (st 6).n.idl.Exact 10 [] := exD (k := 5) (hk := by decide) rfl ex5

theorem hist_rooms : NetRun.rooms 100 ⟨Net.init, []⟩ hist :=
  rooms_of_after (d := ⟨Net.init, []⟩) fun k hk =>
    have ⟨o0, o1, o2, o3, o4, o5, o6, o7⟩ := evals.2.1
    have ⟨r0, r1, r2⟩ := evals.2.2.1
    have ⟨l8, l9, _⟩ := evals.2.2.2.1
    match k, hk with
    | 0, _ => ⟨10, [], ex0, o0, r0⟩
    | 1, _ => ⟨10, [], ex1, o1, r1⟩
    | 2, _ => ⟨10, [], ex2, o2, r2⟩
    | 3, _ => ⟨10, [], ex3, o3, by decide, by decide, by decide⟩
    | 4, _ => ⟨10, [], ex4, o4, by decide, by decide, by decide⟩
    | 5, _ => ⟨10, [], ex5, o5, by decide, by decide, by decide⟩
    | 6, hk => ⟨10, [], ex6, o6, fun l n' h => by
        obtain ⟨b, e⟩ := next 6 hk
        obtain ⟨l', e'⟩ := step_idlNewRel e
        cases e'.symm.trans h
        exact o7⟩
    | 8, _ => ⟨linOK_var (l8 ▸ Nat.one_pos) ⟨by decide, by decide⟩ (by decide), linOK_const _ ⟨by decide, by decide⟩⟩
    | 9, _ => ⟨linOK_var (l9 ▸ Nat.one_pos) ⟨by decide, by decide⟩ (by decide), linOK_const _ ⟨by decide, by decide⟩⟩
    | 7, _ | 10, _ | 11, _ | 12, _ | 13, _ | 14, _ | 15, _ | 16, _ | 17, _ | 18, _ => trivial
    | k + 19, hk => absurd hk (Nat.not_lt.2 (Nat.le_add_left 19 k))

theorem hist_noSlacks : NetRun.noSlacks 100 ⟨Net.init, []⟩ hist :=
  noSlacks_of_after (d := ⟨Net.init, []⟩) fun k hk =>
    have ⟨l8, l9, l10⟩ := evals.2.2.2.1
    match k, hk with
    | 8, hk => fun l n' h => by
        obtain ⟨b, e⟩ := next 8 hk
        obtain ⟨l', e'⟩ := step_lraNewRel e
        cases e'.symm.trans h
        exact l9.trans l8.symm
    | 9, hk => fun l n' h => by
        obtain ⟨b, e⟩ := next 9 hk
        obtain ⟨l', e'⟩ := step_lraNewRel e
        cases e'.symm.trans h
        exact l10.trans l9.symm
    | 0, _ | 1, _ | 2, _ | 3, _ | 4, _ | 5, _ | 6, _ | 7, _ | 10, _ | 11, _ | 12, _ | 13, _ | 14, _ | 15, _ | 16, _
      | 17, _ | 18, _ => trivial
    | k + 19, hk => absurd hk (Nat.not_lt.2 (Nat.le_add_left 19 k))

/-- the history runs from `Net.init`; by the theorem the final network satisfies the invariant; concretely:
    the LRA lemma `[¬b8, ¬b7]`, the IDL lemma `[¬b3, b2, ¬b1]` and the blocking clause `[b2]` were recorded,
    the network is back at root level, fifteen clauses were added (the definitional clauses of the conjunction
    and of the disjunction, the unit of the false constant, the three clauses, the blocking clause), the IDL
    equality created the constraints b4, b5, the two LRA assertions are controlled by b7 and b8, and `¬b8` was
    propagated by the LRA theory -/
theorem final_ok : NetOK (st 19) ∧
    (st 19).n.sat.log = [[⟨8, false⟩, ⟨7, false⟩], [⟨3, false⟩, ⟨2, true⟩, ⟨1, false⟩], [⟨2, true⟩]] ∧
    (st 19).n.sat.decisionLevel = 0 ∧ (st 19).orig.length = 15 ∧ (st 19).n.sat.dead = false ∧
    (st 19).n.lra.vAsrts.map (·.1) = [7, 8] ∧ (st 19).n.sat.value ⟨8, true⟩ = some false ∧
    (st 19).n.idl.varDists.map (·.b) = [1, 2, 3, 4, 5] :=
  ⟨(steps_ok hist ⟨Net.init, []⟩ (st 19) netOK_init (guards_noRows hist _ (by decide) hist_noSlacks) hist_rooms run_all).1,
    evals.2.2.2.2⟩

end NetEx2
end Oratio
