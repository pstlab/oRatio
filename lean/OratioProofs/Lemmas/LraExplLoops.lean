/-
C09X: the propagation loops of `assert_lower / assert_upper` once for both sides, and their
equations to the model's functions; everything else is proved about the side-generic ones.
-/
import OratioModel
import OratioProofs.Lemmas.SatCoreBasic
import OratioProofs.Lemmas.LraSide

namespace Oratio
namespace Lra
open IR Lin

/-- the literal of the assertion `a` that a bound of side `d` can entail -/
def Side.lit (d : Side) (a : LAsrt) : Lit := if a.o = d.op then a.b else a.b.neg

/-- the bound `bv` of side `d` implies `d.lit a`: the assertion, if it is of this side and `bv` is at least as tight as its
    value; its negation, if it is of the other side and `bv` lies beyond its value -/
def Side.entails (d : Side) (bv : IR) (a : LAsrt) : Bool :=
  if a.o = d.op then d.geB bv a.v else d.flip.ltB bv a.v

/-- `assertion::propagate_lb / propagate_ub`, and the body of the scans of `row::propagate_*` -/
def asrtS (d : Side) (bv : IR) (ex : List Lit) (s : Sat) (a : LAsrt) : Option (List Lit) × Sat :=
  match s.value (d.lit a) with
  | some false => if d.entails bv a then (some (d.lit a :: ex), s) else (none, s)
  | none => if d.entails bv a then (none, s.record (d.lit a :: ex)) else (none, s)
  | some true => (none, s)

/-- the body of the unate-propagation scan of `a_watches[x]`: `asrtS` on the assertion registered under `b` -/
def unate (d : Side) (t : Lra) (bv : IR) (ex : List Lit) (s : Sat) (b : Nat) : Option (List Lit) × Sat :=
  match t.asrtOf b with
  | some a => asrtS d bv ex s a
  | none => (none, s)

section model

attribute [local simp] Side.op Side.geB Side.ltB Side.flip Sat.value_neg

/-! The model spells the same case analysis out per operator and per value of `a.b`. -/
theorem asrtPropagateLb_eq (s : Sat) (t : Lra) (a : LAsrt) (xi : Nat) :
    asrtPropagateLb s t a xi = asrtS .lo (t.lb xi) [(t.lbReason xi).neg] s a := by
  unfold asrtPropagateLb asrtS Side.lit Side.entails
  cases ho : a.o <;> rcases hv : s.value a.b with _ | _ | _ <;> simp [hv]

theorem asrtPropagateUb_eq (s : Sat) (t : Lra) (a : LAsrt) (xi : Nat) :
    asrtPropagateUb s t a xi = asrtS .hi (t.ub xi) [(t.ubReason xi).neg] s a := by
  unfold asrtPropagateUb asrtS Side.lit Side.entails
  cases ho : a.o <;> rcases hv : s.value a.b with _ | _ | _ <;> simp [hv]

theorem scanLower_eq (t : Lra) (bv : IR) (ex : List Lit) :
    ∀ (ws : List Nat) (s : Sat), scanLower t bv ex s ws = forAll (unate .lo t bv ex) s ws
  | [], _ => rfl
  | b :: ws, s => by
    have ih := fun s => (scanLower_eq t bv ex ws s).symm
    rw [forAll]
    simp only [ih]
    rw [scanLower]
    unfold unate asrtS Side.lit Side.entails
    cases t.asrtOf b with
    | none => rfl
    | some a => cases ho : a.o <;> rcases hv : s.value a.b with _ | _ | _ <;> simp [hv, ho] <;> split <;> rfl

theorem scanUpper_eq (t : Lra) (bv : IR) (ex : List Lit) :
    ∀ (ws : List Nat) (s : Sat), scanUpper t bv ex s ws = forAll (unate .hi t bv ex) s ws
  | [], _ => rfl
  | b :: ws, s => by
    have ih := fun s => (scanUpper_eq t bv ex ws s).symm
    rw [forAll]
    simp only [ih]
    rw [scanUpper]
    unfold unate asrtS Side.lit Side.entails
    cases t.asrtOf b with
    | none => rfl
    | some a => cases ho : a.o <;> rcases hv : s.value a.b with _ | _ | _ <;> simp [hv, ho] <;> split <;> rfl

end model

def rowSumS (d : Side) (t : Lra) (negTest : Nat → Nat) : List (Nat × R) → IR × List Lit → Option (IR × List Lit)
  | [], acc => some acc
  | (cv, c) :: rest, (sum, ex) =>
    if c.isPositive then
      if d.isInf (d.bd t cv) then none
      else rowSumS d t negTest rest (IR.addAssign sum (IR.rMul c (d.bd t cv)), ex ++ [(d.rsn t cv).neg])
    else if c.isNegative then
      if d.flip.isInf (d.flip.bd t (negTest cv)) then none
      else rowSumS d t negTest rest (IR.addAssign sum (IR.rMul c (d.flip.bd t cv)), ex ++ [(d.flip.rsn t cv).neg])
    else rowSumS d t negTest rest (sum, ex)

def partS (d : Side) (s : Sat) (t : Lra) (x : Nat) (l : Lin) (negTest : Nat → Nat) : Option (List Lit) × Sat :=
  match rowSumS d t negTest l.vars (IR.ofR l.known, []) with
  | none => (none, s)
  | some (sum, ex) => if d.geB sum (d.bd t x) then forAll (unate d t sum ex) s (t.aWatches.getD x []) else (none, s)

theorem rowLowerSum_eq (t : Lra) : ∀ (vars : List (Nat × R)) (acc : IR × List Lit),
    rowLowerSum t vars acc = rowSumS .lo t id vars acc
  | [], _ => rfl
  | (cv, c) :: rest, (sum, ex) => by
    rw [rowLowerSum, rowSumS]
    simp only [rowLowerSum_eq t rest]
    rfl

theorem rowUpperSum_eq (t : Lra) (negTest : Nat → Nat) : ∀ (vars : List (Nat × R)) (acc : IR × List Lit),
    rowUpperSum t negTest vars acc = rowSumS .hi t negTest vars acc
  | [], _ => rfl
  | (cv, c) :: rest, (sum, ex) => by
    rw [rowUpperSum, rowSumS]
    simp only [rowUpperSum_eq t negTest rest]
    rfl

theorem lowerPart_eq (s : Sat) (t : Lra) (x : Nat) (l : Lin) : lowerPart s t x l = partS .lo s t x l id := by
  unfold lowerPart partS
  simp only [rowLowerSum_eq, scanLower_eq]
  rfl

theorem upperPart_eq (s : Sat) (t : Lra) (x : Nat) (l : Lin) (negTest : Nat → Nat) :
    upperPart s t x l negTest = partS .hi s t x l negTest := by
  unfold upperPart partS
  simp only [rowUpperSum_eq, scanUpper_eq]
  rfl

/-- the variable `row::propagate_lb / propagate_ub` test for `-∞` under a negative coefficient:
    the variable of the term, except in the positive-coefficient branch of `propagate_ub(v)` -/
def Side.negTest : Side → Nat → Nat → Nat
  | .lo, _ => id
  | .hi, v => fun _ => v

def rowPropS (d : Side) (s : Sat) (t : Lra) (x v : Nat) : Option (List Lit) × Sat :=
  let l := (t.rowOf x).getD Lin.empty
  if ((Lin.find l.vars v).getD R.zero).isPositive then partS d s t x l (d.negTest v) else partS d.flip s t x l id

theorem rowPropagateLb_eq (s : Sat) (t : Lra) (x v : Nat) : rowPropagateLb s t x v = rowPropS .lo s t x v := by
  unfold rowPropagateLb rowPropS
  simp only [lowerPart_eq, upperPart_eq]
  rfl

theorem rowPropagateUb_eq (s : Sat) (t : Lra) (x v : Nat) : rowPropagateUb s t x v = rowPropS .hi s t x v := by
  unfold rowPropagateUb rowPropS
  simp only [lowerPart_eq, upperPart_eq]
  rfl

def assertS (d : Side) (s : Sat) (t : Lra) (xi : Nat) (val : IR) (p : Lit) : LOut :=
  assertWith d (fun u => unate d u (d.bd u xi) [(d.rsn u xi).neg]) (fun u s x => rowPropS d s u x xi) s t xi val p

theorem assertLower_with (s : Sat) (t : Lra) (xi : Nat) (val : IR) (p : Lit) :
    assertLower s t xi val p =
      assertWith .lo (fun u s b => match u.asrtOf b with
        | some a => asrtPropagateLb s u a xi
        | none => (none, s)) (fun u s x => rowPropagateLb s u x xi) s t xi val p := by
  unfold assertLower assertWith seqOut
  rfl

theorem assertUpper_with (s : Sat) (t : Lra) (xi : Nat) (val : IR) (p : Lit) :
    assertUpper s t xi val p =
      assertWith .hi (fun u s b => match u.asrtOf b with
        | some a => asrtPropagateUb s u a xi
        | none => (none, s)) (fun u s x => rowPropagateUb s u x xi) s t xi val p := by
  unfold assertUpper assertWith seqOut
  rfl

theorem assertLower_eq (s : Sat) (t : Lra) (xi : Nat) (val : IR) (p : Lit) :
    assertLower s t xi val p = assertS .lo s t xi val p := by
  rw [assertLower_with, assertS]
  congr <;> funext u s b
  · unfold unate; simp only [asrtPropagateLb_eq]; rfl
  · exact rowPropagateLb_eq s u b xi

theorem assertUpper_eq (s : Sat) (t : Lra) (xi : Nat) (val : IR) (p : Lit) :
    assertUpper s t xi val p = assertS .hi s t xi val p := by
  rw [assertUpper_with, assertS]
  congr <;> funext u s b
  · unfold unate; simp only [asrtPropagateUb_eq]; rfl
  · exact rowPropagateUb_eq s u b xi

/-- what `propagate` asserts for a false literal -/
def Side.shiftB : Side → IR → IR
  | .lo, v => IR.add v ⟨R.zero, R.one⟩
  | .hi, v => IR.sub v ⟨R.zero, R.one⟩

theorem Side.fin_shiftB {v : IR} (hv : IR.Fin v) :
    ∀ d : Side, IR.Fin (d.shiftB v) ∧ IR.val (d.shiftB v) = d.flip.down (IR.val v)
  | .lo => fin_add_eps hv
  | .hi => fin_sub_eps hv

theorem propagateLit_cases (s : Sat) (t : Lra) (p : Lit) :
    propagateLit s t p = ⟨none, s, t⟩ ∨
    ∃ a d, t.asrtOf p.var = some a ∧
      ((s.value a.b = some true ∧ a.o = d.op ∧ propagateLit s t p = assertS d s t a.x a.v p) ∨
       (s.value a.b = some false ∧ a.o = d.flip.op ∧ propagateLit s t p = assertS d s t a.x (d.shiftB a.v) p)) := by
  unfold propagateLit
  cases hab : t.asrtOf p.var with
  | none => exact Or.inl rfl
  | some a =>
    simp only [assertLower_eq, assertUpper_eq]
    rcases hv : s.value a.b with _ | _ | _
    · exact Or.inl rfl
    · cases ho : a.o
      · exact Or.inr ⟨a, .lo, rfl, Or.inr ⟨hv, ho, rfl⟩⟩
      · exact Or.inr ⟨a, .hi, rfl, Or.inr ⟨hv, ho, rfl⟩⟩
    · cases ho : a.o
      · exact Or.inr ⟨a, .hi, rfl, Or.inl ⟨hv, ho, rfl⟩⟩
      · exact Or.inr ⟨a, .lo, rfl, Or.inl ⟨hv, ho, rfl⟩⟩

theorem propagateLit_th_ind (s : Sat) (t : Lra) (p : Lit) {P : Lra → Prop} (h0 : P t)
    (h1 : ∀ a d val, t.asrtOf p.var = some a → (IR.Fin a.v → IR.Fin val) → d.flip.geB val (d.bd t a.x) = false →
      d.flip.ltB val (d.flip.bd t a.x) = false → P (asState d t a.x val p)) :
    P (propagateLit s t p).th := by
  have key : ∀ a d val, t.asrtOf p.var = some a → (IR.Fin a.v → IR.Fin val) → P (assertS d s t a.x val p).th :=
    fun a d val hab hf => by
      rcases assertWith_th d _ _ s t a.x val p with e | ⟨c1, c2, e⟩ <;> rw [assertS, e]
      exacts [h0, h1 a d val hab hf c1 c2]
  rcases propagateLit_cases s t p with e | ⟨a, d, hab, ⟨_, _, e⟩ | ⟨_, _, e⟩⟩ <;> rw [e]
  exacts [h0, key a d _ hab id, key a d _ hab fun hf => (d.fin_shiftB hf).1]

end Lra

end Oratio
