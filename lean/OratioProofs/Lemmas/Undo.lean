/-
C08: what the undo logs of difference logic are made of: `std::map` on `std::pair` keys as sorted association
lists, matrices as lists of rows, and the two instances of `FLog`: `MLog` (matrices) and `CLog` (the
responsible-constraint table).
-/
import OratioModel.Net.Dl
import OratioProofs.Lemmas.UndoLog
import OratioProofs.Lemmas.ListAux


namespace Oratio
namespace Undo
open Dl

abbrev K := Nat × Nat

/-- the lexicographic order of `std::pair` -/
def klt (a b : K) : Prop := a.1 < b.1 ∨ (a.1 = b.1 ∧ a.2 < b.2)

theorem klt_trans {a b c : K} (h1 : klt a b) (h2 : klt b c) : klt a c := by
  unfold klt at *; omega

theorem klt_irrefl (a : K) : ¬ klt a a := by
  unfold klt; omega

theorem klt_tri (a b : K) : klt a b ∨ a = b ∨ klt b a := by
  obtain ⟨a1, a2⟩ := a; obtain ⟨b1, b2⟩ := b
  simp only [klt, Prod.mk.injEq]; omega

theorem klt_ne {a b : K} (h : klt a b) : a ≠ b := by
  intro e; subst e; exact klt_irrefl a h

def SortedK {β : Type} (m : List (K × β)) : Prop := m.Pairwise (fun a b => klt a.1 b.1)

instance : DecidableRel klt := fun a b => by unfold klt; infer_instance

section Assoc
variable {β : Type}

theorem sortedK_nil : SortedK ([] : List (K × β)) := List.Pairwise.nil

theorem sortedK_single (a : K × β) : SortedK [a] := by simp [SortedK]

theorem sortedK_cons2 {a b : K × β} {t : List (K × β)} (h : klt a.1 b.1) (hs : SortedK (b :: t)) :
    SortedK (a :: b :: t) := by
  unfold SortedK at *
  rw [List.pairwise_cons] at hs ⊢
  refine ⟨?_, List.pairwise_cons.2 hs⟩
  intro x hx
  rcases List.mem_cons.1 hx with rfl | hx
  · exact h
  · exact klt_trans h (hs.1 x hx)

theorem lookupPair_nil (k : K) : lookupPair ([] : List (K × β)) k = none := rfl

theorem lookupPair_cons (e : K × β) (m : List (K × β)) (k : K) :
    lookupPair (e :: m) k = if e.1 = k then some e.2 else lookupPair m k := by
  unfold lookupPair
  by_cases h : e.1 = k <;> simp [h]

theorem lookupPair_eq_none {m : List (K × β)} {k : K} : lookupPair m k = none ↔ ∀ e ∈ m, e.1 ≠ k :=
  ListAux.lookupBy_eq_none

theorem lookupPair_isSome {m : List (K × β)} {k : K} (h : (lookupPair m k).isSome) : ∃ e ∈ m, e.1 = k :=
  ListAux.lookupBy_isSome.1 h

theorem lookupPair_not_isSome {m : List (K × β)} {k : K} (h : ¬ (lookupPair m k).isSome) : ∀ e ∈ m, e.1 ≠ k :=
  lookupPair_eq_none.1 (Option.not_isSome_iff_eq_none.1 h)

/-- `std::map::emplace` on pair keys is the sorted insertion of `ListAux` (the model tests equality of the keys first;
    the order of the two tests does not matter since `klt` is irreflexive) -/
theorem emplacePair_eq (m : List (K × β)) (k : K) (v : β) :
    emplacePair m k v = ListAux.insertK Prod.fst klt (k, v) m := by
  induction m with
  | nil => rfl
  | cons e r ih =>
    rw [emplacePair, ListAux.insertK, ih]
    by_cases h1 : e.1 = k
    · rw [if_pos (by simp [h1]), if_neg (h1 ▸ klt_irrefl e.1), if_pos h1.symm]
    · rw [if_neg (by simpa using h1), if_neg (Ne.symm h1)]
      rfl

theorem emplace_spec (m : List (K × β)) (k : K) (v : β) :
    (∀ e ∈ emplacePair m k v, e ∈ m ∨ e = (k, v)) ∧ (∀ e ∈ m, e ∈ emplacePair m k v) ∧
    ∃ e ∈ emplacePair m k v, e.1 = k := by
  rw [emplacePair_eq]
  exact ⟨fun _ => ListAux.mem_insertK_sub, fun _ => ListAux.mem_insertK_of_mem, ListAux.exists_key_insertK (k, v) m⟩

theorem lookup_assign (m : List (K × β)) (k k' : K) (b : β) :
    lookupPair (assignPair m k b) k' = if k = k' then some b else lookupPair m k' := by
  induction m with
  | nil => simp [assignPair, lookupPair_cons, lookupPair_nil]
  | cons a m ih =>
    unfold assignPair
    split
    · next h =>
      have h : a.1 = k := by simpa using h
      rw [lookupPair_cons, lookupPair_cons, h]
      split <;> rfl
    · next h =>
      have h : ¬ a.1 = k := by simpa using h
      split
      · rw [lookupPair_cons]
      · rw [lookupPair_cons, ih, lookupPair_cons]
        by_cases hk : k = k'
        · simp [hk, show ¬ a.1 = k' from hk ▸ h]
        · simp [hk]

theorem mem_assign {m : List (K × β)} {k : K} {v : β} {e : K × β} (h : e ∈ assignPair m k v) :
    e ∈ m ∨ e = (k, v) := by
  induction m with
  | nil => exact Or.inr (by simpa [assignPair] using h)
  | cons a m ih =>
    unfold assignPair at h
    split at h
    · exact (List.mem_cons.1 h).symm.imp_left (List.mem_cons_of_mem _)
    · split at h
      · exact (List.mem_cons.1 h).symm
      · rcases List.mem_cons.1 h with rfl | h
        · exact Or.inl List.mem_cons_self
        · exact (ih h).imp_left (List.mem_cons_of_mem _)

theorem sorted_assign {m : List (K × β)} (hs : SortedK m) (k : K) (b : β) : SortedK (assignPair m k b) := by
  induction m with
  | nil => exact sortedK_single _
  | cons a m ih =>
    have hs' := List.pairwise_cons.1 hs
    unfold assignPair
    split
    · next h =>
      have h : a.1 = k := by simpa using h
      exact List.pairwise_cons.2 ⟨fun x hx => h ▸ hs'.1 x hx, hs'.2⟩
    · next h =>
      split
      · next hlt => exact sortedK_cons2 (a := (k, b)) hlt hs
      · next hlt =>
        have hak : klt a.1 k := (klt_tri a.1 k).resolve_right (not_or.2 ⟨by simpa using h, hlt⟩)
        refine List.pairwise_cons.2 ⟨fun x hx => ?_, ih hs'.2⟩
        rcases mem_assign hx with hx | rfl
        · exact hs'.1 x hx
        · exact hak

theorem lookup_erase (m : List (K × β)) (k k' : K) :
    lookupPair (erasePair m k) k' = if k = k' then none else lookupPair m k' := by
  induction m with
  | nil => simp [erasePair, lookupPair_nil]
  | cons a m ih =>
    unfold erasePair at ih ⊢
    rw [List.filter_cons]
    by_cases h : a.1 = k
    · simp only [h, bne_self_eq_false, Bool.false_eq_true, if_false, ih, lookupPair_cons]
      by_cases hk : k = k' <;> simp [hk]
    · have : (a.1 != k) = true := by simpa using h
      simp only [this, if_true, lookupPair_cons, ih]
      by_cases hk : k = k'
      · simp [hk, show ¬ a.1 = k' from hk ▸ h]
      · simp [hk]

theorem sorted_erase {m : List (K × β)} (hs : SortedK m) (k : K) : SortedK (erasePair m k) :=
  List.Pairwise.filter _ hs

theorem lookup_tail_none {a : K × β} {m : List (K × β)} (hs : SortedK (a :: m)) {k : K}
    (hk : k = a.1 ∨ klt k a.1) : lookupPair m k = none := by
  unfold SortedK at hs
  rw [List.pairwise_cons] at hs
  apply lookupPair_eq_none.2
  intro e he hek
  have h1 := hs.1 e he
  rw [hek] at h1
  rcases hk with hk | hk
  · rw [hk] at h1; exact klt_irrefl _ h1
  · exact klt_irrefl _ (klt_trans h1 hk)

theorem sorted_ext {m1 m2 : List (K × β)} (hs1 : SortedK m1) (hs2 : SortedK m2)
    (h : ∀ k, lookupPair m1 k = lookupPair m2 k) : m1 = m2 := by
  -- the smaller of two head keys would be found in its own list only
  have hlt : ∀ {a b : K × β} {m1 m2 : List (K × β)}, SortedK (b :: m2) →
      lookupPair (a :: m1) a.1 = lookupPair (b :: m2) a.1 → ¬ klt a.1 b.1 := by
    intro a b m1 m2 hs hk h1
    rw [lookupPair_cons, lookupPair_cons, lookup_tail_none hs (Or.inr h1), if_pos rfl, if_neg (klt_ne h1).symm] at hk
    cases hk
  induction m1 generalizing m2 with
  | nil =>
    cases m2 with
    | nil => rfl
    | cons b m2 => simpa [lookupPair_nil, lookupPair_cons] using h b.1
  | cons a m1 ih =>
    cases m2 with
    | nil => simpa [lookupPair_nil, lookupPair_cons] using h a.1
    | cons b m2 =>
      have hkey : a.1 = b.1 := by
        rcases klt_tri a.1 b.1 with h1 | h1 | h1
        · exact absurd h1 (hlt hs2 (h a.1))
        · exact h1
        · exact absurd h1 (hlt hs1 (h b.1).symm)
      have hab : a = b := Prod.ext hkey (by
        have := h a.1
        rwa [lookupPair_cons, lookupPair_cons, if_pos rfl, if_pos hkey.symm, Option.some.injEq] at this)
      have htail : ∀ k, lookupPair m1 k = lookupPair m2 k := fun k => by
        by_cases hk : k = a.1
        · rw [lookup_tail_none hs1 (Or.inl hk), lookup_tail_none hs2 (Or.inl (hkey ▸ hk))]
        · have := h k
          rwa [lookupPair_cons, lookupPair_cons, if_neg (Ne.symm hk), if_neg (hkey ▸ Ne.symm hk)] at this
      rw [hab, ih (List.pairwise_cons.1 hs1).2 (List.pairwise_cons.1 hs2).2 htail]

end Assoc

section Mat
variable {β : Type}

theorem cell_setM_ne {D : List (List β)} {i j : Nat} {k : K} (x : β) (h : k ≠ (i, j)) :
    cell (setM D i j x) k.1 k.2 = cell D k.1 k.2 := by
  rw [cell_setM, if_neg fun e => h (Prod.ext e.1 e.2)]

theorem cell_isSome (D : List (List β)) (i j : Nat) :
    (cell D i j).isSome ↔ j < ((D.map List.length)[i]?).getD 0 := by
  unfold cell
  rw [List.getD_eq_getElem?_getD, List.getElem?_map]
  cases D[i]? <;> simp

theorem cell_setM_base {dflt : β} {D B : List (List β)} (hsh : D.map List.length = B.map List.length) (i j : Nat) :
    cell (setM D i j ((cell B i j).getD dflt)) i j = cell B i j := by
  have hs := cell_isSome D i j
  rw [hsh, ← cell_isSome] at hs
  rw [cell_setM, if_pos ⟨rfl, rfl⟩]
  cases hd : cell D i j <;> cases hb : cell B i j <;> simp_all

theorem mat_ext {D B : List (List β)} (hsh : D.map List.length = B.map List.length)
    (h : ∀ i j, cell D i j = cell B i j) : D = B := by
  have hlen : D.length = B.length := by simpa using congrArg List.length hsh
  apply List.ext_getElem hlen
  intro i h1 h2
  have hrow : D[i].length = B[i].length := by
    have := congrArg (fun l => l[i]?) hsh
    simpa [List.getElem?_map, List.getElem?_eq_getElem h1, List.getElem?_eq_getElem h2] using this
  apply List.ext_getElem hrow
  intro j h3 h4
  have := h i j
  unfold cell at this
  simp only [List.getD_eq_getElem?_getD, List.getElem?_eq_getElem h1, List.getElem?_eq_getElem h2,
    Option.getD_some, List.getElem?_eq_getElem h3, List.getElem?_eq_getElem h4, Option.some.injEq] at this
  exact this

def MLog (dflt : β) (B D : List (List β)) (log : List (K × β)) : Prop :=
  (∀ e ∈ log, e.2 = (cell B e.1.1 e.1.2).getD dflt) ∧
  ∀ i j, (∃ e ∈ log, e.1 = (i, j)) ∨ cell D i j = cell B i j

theorem MLog_iff {dflt : β} {B D : List (List β)} {log : List (K × β)} : MLog dflt B D log ↔
    FLog (fun D (k : K) => cell D k.1 k.2) (fun k x => x = (cell B k.1 k.2).getD dflt) B D log :=
  ⟨fun h => ⟨h.1, fun k => h.2 k.1 k.2⟩, fun h => ⟨h.1, fun i j => h.2 (i, j)⟩⟩

theorem MLog_init (dflt : β) (B : List (List β)) : MLog dflt B B [] :=
  ⟨by simp, fun _ _ => Or.inr rfl⟩

theorem MLog_write_logged {dflt : β} {B D : List (List β)} {log : List (K × β)} (h : MLog dflt B D log)
    {i j : Nat} (hk : ∃ e ∈ log, e.1 = (i, j)) (x : β) : MLog dflt B (setM D i j x) log :=
  MLog_iff.2 ((MLog_iff.1 h).write hk fun _ => cell_setM_ne x)

theorem MLog_write_new {dflt : β} {B D : List (List β)} {log : List (K × β)} (h : MLog dflt B D log)
    {i j : Nat} (hk : ∀ e ∈ log, e.1 ≠ (i, j)) (x : β) :
    MLog dflt B (setM D i j x) (emplacePair log (i, j) ((cell D i j).getD dflt)) :=
  MLog_iff.2 (((MLog_iff.1 h).save hk (congrArg (Option.getD · dflt)) (emplace_spec _ _ _).1
    (emplace_spec _ _ _).2.1).write (emplace_spec _ _ _).2.2 fun _ => cell_setM_ne x)

theorem MLog_restore {dflt : β} {B D : List (List β)} {log : List (K × β)}
    (hsh : D.map List.length = B.map List.length) (h : MLog dflt B D log) :
    log.foldl (fun D e => setM D e.1.1 e.1.2 e.2) D = B :=
  have r := FLog.restore (P := fun D => D.map List.length = B.map List.length)
    (fun s _ hs => (shape_setM s _ _ _).trans hs) (fun _ e _ hk => cell_setM_ne e.2 (Ne.symm hk))
    (fun _ _ hs he => he ▸ cell_setM_base hs _ _) log D hsh (MLog_iff.1 h)
  mat_ext r.1 fun i j => r.2 (i, j)

end Mat

def CLog (B D : List (K × Nat)) (log : List (K × Option Nat)) : Prop :=
  (∀ e ∈ log, e.2 = lookupPair B e.1) ∧ ∀ k, (∃ e ∈ log, e.1 = k) ∨ lookupPair D k = lookupPair B k

theorem CLog_iff {B D : List (K × Nat)} {log : List (K × Option Nat)} :
    CLog B D log ↔ FLog lookupPair (fun k w => w = lookupPair B k) B D log := Iff.rfl

theorem CLog_init (B : List (K × Nat)) : CLog B B [] := ⟨by simp, fun _ => Or.inr rfl⟩

theorem CLog_save_new {B D : List (K × Nat)} {log : List (K × Option Nat)} (h : CLog B D log) {k : K}
    (hk : ∀ e ∈ log, e.1 ≠ k) : CLog B D (emplacePair log k (lookupPair D k)) :=
  FLog.save (CLog_iff.1 h) hk id (emplace_spec _ _ _).1 (emplace_spec _ _ _).2.1

theorem CLog_assign {B D : List (K × Nat)} {log : List (K × Option Nat)} (h : CLog B D log) {k : K}
    (hk : ∃ e ∈ log, e.1 = k) (b : Nat) : CLog B (assignPair D k b) log :=
  FLog.write (CLog_iff.1 h) hk fun k' hne => by rw [lookup_assign, if_neg (Ne.symm hne)]

def restoreC (dc : List (K × Nat)) (e : K × Option Nat) : List (K × Nat) :=
  match e.2 with
  | some b => assignPair dc e.1 b
  | none => erasePair dc e.1

theorem lookup_restoreC (dc : List (K × Nat)) (e : K × Option Nat) (k' : K) :
    lookupPair (restoreC dc e) k' = if e.1 = k' then e.2 else lookupPair dc k' := by
  unfold restoreC
  split
  · rename_i b hb; rw [lookup_assign, hb]
  · rename_i hb; rw [lookup_erase, hb]

theorem sorted_restoreC {dc : List (K × Nat)} (hs : SortedK dc) (e : K × Option Nat) : SortedK (restoreC dc e) := by
  unfold restoreC
  split
  · exact sorted_assign hs _ _
  · exact sorted_erase hs _

theorem CLog_restore {B D : List (K × Nat)} {log : List (K × Option Nat)} (hsB : SortedK B) (hsD : SortedK D)
    (h : CLog B D log) : log.foldl restoreC D = B :=
  have r := FLog.restore (P := SortedK) (fun _ e hs => sorted_restoreC hs e)
    (fun _ _ _ hk => by rw [lookup_restoreC, if_neg hk])
    (fun _ _ _ he => by rw [lookup_restoreC, if_pos rfl]; exact he) log D hsD (CLog_iff.1 h)
  sorted_ext r.1 hsB r.2

end Undo
end Oratio
