/-
The matrix invariant `Exact` over `DLaws` and the C10 theorems about it.  An edge `(f, t, w)` is
`x_t - x_f ≤ val w`; `E` is the ghost list of enforced edges.  The invariant proper is `DlW.Weak`
of the denoted matrix; the properties files state it field by field on optional entries
(`none` = +∞), `weak_iff_opt` translates.  `propagate(lit)` is read once, over the laws, as
conflict / update / nothing for the edge of the literal (`LitOut`, `propagateLit_out`).
-/
import OratioProofs.Lemmas.DlGen

-- the order instances on `G` are section variables, and some proofs need only part of them
set_option linter.unusedSectionVars false

namespace Oratio
namespace DlG
open Dl DlW

variable {α G : Type} [AddCommGroup G] [LinearOrder G] [IsOrderedAddMonoid G] {O : DOps α} (L : DLaws O G)

abbrev GEdge (α : Type) := Nat × Nat × α

def holds (σ : Nat → G) (e : GEdge α) : Prop := σ e.2.1 - σ e.1 ≤ L.val e.2.2
def Feasible (E : List (GEdge α)) : Prop := ∃ σ : Nat → G, ∀ e ∈ E, holds L σ e

def vE (E : List (GEdge α)) : List (Edge G) := E.map (fun e => (e.1, e.2.1, L.val e.2.2))

theorem sat_iff (σ : Nat → G) (E : List (GEdge α)) : (∀ e ∈ E, holds L σ e) ↔ DlW.Sat σ (vE L E) := by
  unfold DlW.Sat vE
  constructor
  · intro h e he
    obtain ⟨e0, he0, rfl⟩ := List.mem_map.mp he
    exact h e0 he0
  · intro h e he
    exact h (e.1, e.2.1, L.val e.2.2) (List.mem_map.mpr ⟨e, he, rfl⟩)

structure Exact (E : List (GEdge α)) (t : Dl α) : Prop where
  size : SizeOk t.nVars (shape t)
  /-- entries outside the used block are as `resize` / the constructor leave them -/
  fresh : ∀ i j, i < t.dists.length → j < t.dists.length → (t.nVars ≤ i ∨ t.nVars ≤ j) →
    d O t i j = if i = j then O.zero else O.inf
  good : ∀ i j, i < t.nVars → j < t.nVars → L.Good (d O t i j)
  wts : ∀ e ∈ E, L.Wt e.2.2
  weak : Weak t.nVars (vE L E) (dn L t)

/-- `none` is `⊤` -/
abbrev toOpt (x : WithTop G) : Option G := x

abbrev rd (M : Mat G) (i j : Nat) : Option G := toOpt (M i j)

/-- The optional entries of the property statements (`Dl.dist?`, `Dl.rdist?`, `Dl.distOpt`, `DlR.distOpt`) ARE the
    denoted entries: `WithTop G` is `Option G` and `⊤` is `none` by definition; this lemma and `upd_val` are applied
    to them through that equality. -/
theorem weak_iff_opt {n : Nat} {E : List (GEdge α)} {M : Mat G} (hin : ∀ e ∈ E, e.1 < n ∧ e.2.1 < n) :
    Weak n (vE L E) M ↔
    (∀ i, i < n → rd M i i = some 0) ∧
    (∀ e ∈ E, ∃ x, rd M e.1 e.2.1 = some x ∧ x ≤ L.val e.2.2) ∧
    (∀ i j k, i < n → j < n → k < n → ∀ a b, rd M i k = some a → rd M k j = some b → ∃ c, rd M i j = some c ∧ c ≤ a + b) ∧
    (∀ i j, i < n → j < n → ∀ x, rd M i j = some x → ∀ σ : Nat → G, (∀ e ∈ E, holds L σ e) → σ j - σ i ≤ x) := by
  constructor
  · intro h
    refine ⟨h.diag, fun e he => ?_, fun i j k hi hj hk a b ha hb => ?_, fun i j hi hj x hx σ hσ => ?_⟩
    · exact WithTop.le_coe_iff.mp (h.respects (e.1, e.2.1, L.val e.2.2) (List.mem_map.mpr ⟨e, he, rfl⟩))
    · have hc := h.closed i j k hi hj hk
      rw [show M i k = (a : WithTop G) from ha, show M k j = (b : WithTop G) from hb, ← WithTop.coe_add] at hc
      exact WithTop.le_coe_iff.mp hc
    · have := h.implied i j hi hj σ ((sat_iff L σ E).mp hσ)
      rw [show M i j = (x : WithTop G) from hx] at this
      exact WithTop.coe_le_coe.mp this
  · rintro ⟨diag, respects, closed, implied⟩
    refine ⟨fun e he => ?_, diag, fun e he => ?_, fun i j k hi hj hk => ?_, fun i j hi hj σ hσ => ?_⟩
    · obtain ⟨e0, he0, rfl⟩ := List.mem_map.mp he
      exact hin e0 he0
    · obtain ⟨e0, he0, rfl⟩ := List.mem_map.mp he
      exact WithTop.le_coe_iff.mpr (respects e0 he0)
    · cases h1 : M i k with
      | top => rw [WithTop.top_add]; exact le_top
      | coe a =>
        cases h2 : M k j with
        | top => rw [WithTop.add_top]; exact le_top
        | coe b => rw [← WithTop.coe_add]; exact WithTop.le_coe_iff.mpr (closed i j k hi hj hk a b h1 h2)
    · cases h1 : M i j with
      | top => exact le_top
      | coe x => exact WithTop.coe_le_coe.mpr (implied i j hi hj x h1 σ ((sat_iff L σ E).mpr hσ))

theorem upd_val (x y z : WithTop G) (w : G) :
    toOpt (min z (x + (w : WithTop G) + y)) =
      (match toOpt x, toOpt y with
       | some a, some b => match toOpt z with
         | some c => some (min c (a + w + b))
         | none => some (a + w + b)
       | _, _ => toOpt z) := by
  cases x with
  | top => rw [WithTop.top_add, WithTop.top_add, min_eq_left le_top]
  | coe a =>
    cases y with
    | top => rw [WithTop.add_top, min_eq_left le_top]
    | coe b =>
      rw [← WithTop.coe_add, ← WithTop.coe_add]
      cases z with
      | top => rw [min_eq_right le_top]; rfl
      | coe c => rw [← WithTop.coe_min]; rfl

theorem nocycle_of_opt {m : WithTop G} {w : G} (h : ∀ x, toOpt m = some x → 0 ≤ x + w) : 0 ≤ m + (w : WithTop G) := by
  cases m with
  | top => rw [WithTop.top_add]; exact le_top
  | coe x => rw [← WithTop.coe_add]; exact WithTop.coe_le_coe.mpr (h x rfl)

theorem improves_of_opt {m : WithTop G} {w : G} (h : ∀ x, toOpt m = some x → w < x) : (w : WithTop G) < m := by
  cases m with
  | top => exact WithTop.coe_lt_top _
  | coe x => exact WithTop.coe_lt_coe.mpr (h x rfl)

section
variable {E : List (GEdge α)} {t : Dl α} (h : Exact L E t)
include h

theorem tight_witness {i j : Nat} (hi : i < t.nVars) (hj : j < t.nVars) {x : G} (hx : dn L t i j = (x : WithTop G)) :
    ∃ σ : Nat → G, (∀ e ∈ E, holds L σ e) ∧ σ j - σ i = x :=
  let ⟨σ, hσ, hf, _⟩ := h.weak.attain hi hj 0
  ⟨σ, (sat_iff L σ E).mpr hσ, hf x hx⟩

theorem infinite_means_unbounded {i j : Nat} (hi : i < t.nVars) (hj : j < t.nVars) (hx : dn L t i j = ⊤) (B : G) :
    ∃ σ : Nat → G, (∀ e ∈ E, holds L σ e) ∧ σ j - σ i > B :=
  let ⟨σ, hσ, _, ht⟩ := h.weak.attain hi hj (B + L.unit)
  ⟨σ, (sat_iff L σ E).mpr hσ, lt_of_lt_of_le (lt_add_of_pos_right B L.unit_pos) (ht hx)⟩

theorem exact_feasible : Feasible L E :=
  ⟨fun k => potv (dn L t) k t.nVars, (sat_iff L _ E).mpr (feasible0 h.weak)⟩

theorem Exact.congr_state {t2 : Dl α} (h1 : t2.nVars = t.nVars) (h2 : t2.dists = t.dists) (h3 : t2.preds = t.preds) :
    Exact L E t2 := by
  have hd : d O t2 = d O t := by funext a b; exact d_congr h2 a b
  have hdn : dn L t2 = dn L t := by funext a b; unfold dn; rw [hd]
  have hshape : shape t2 = shape t := by simp only [shape, h2, h3]
  refine ⟨?_, ?_, ?_, h.wts, ?_⟩
  · rw [h1, hshape]; exact h.size
  · rw [h1, h2, hd]; exact h.fresh
  · rw [h1, hd]; exact h.good
  · rw [h1, hdn]; exact h.weak

theorem Exact.add_redundant {a b : Nat} {w : α} (ha : a < t.nVars) (hb : b < t.nVars) (hw : L.Wt w)
    (hle : dn L t a b ≤ ((L.val w : G) : WithTop G)) : Exact L ((a, b, w) :: E) t := by
  refine ⟨h.size, h.fresh, h.good, ?_, ?_⟩
  · intro e he
    rcases List.mem_cons.mp he with rfl | he
    · exact hw
    · exact h.wts e he
  · have hw0 := h.weak
    refine ⟨?_, hw0.diag, ?_, hw0.closed, ?_⟩
    · intro e he
      rcases List.mem_cons.mp he with rfl | he
      · exact ⟨ha, hb⟩
      · exact hw0.edges_in e he
    · intro e he
      rcases List.mem_cons.mp he with rfl | he
      · exact hle
      · exact hw0.respects e he
    · intro i j hi hj σ hσ
      exact hw0.implied i j hi hj σ (fun e he => hσ e (List.mem_cons_of_mem _ he))
end

theorem good_fresh (i j : Nat) : L.Good (if i = j then O.zero else O.inf) := by
  split
  · exact L.zero.1
  · exact L.inf.1

theorem den_fresh (i j : Nat) : L.den (if i = j then O.zero else O.inf) = if i = j then 0 else ⊤ := by
  split
  · exact L.zero.2
  · exact L.inf.2

theorem init_exact (n : Nat) (hn : 1 ≤ n) : Exact L [] (init O n) := by
  have hlen : (init O n : Dl α).dists.length = n := by simp [init, initDists]
  have h00 : dn L (init O n) 0 0 = 0 := by
    unfold dn; rw [d_init n 0 0 hn hn, if_pos rfl]; exact L.zero.2
  refine ⟨sizeOk_init n hn, ?_, ?_, fun e he => (by cases he), ?_⟩
  · intro i j hi hj _
    rw [hlen] at hi hj
    exact d_init n i j hi hj
  · intro i j hi hj
    have hi' : i < 1 := hi
    have hj' : j < 1 := hj
    rw [d_init n i j (by omega) (by omega)]
    exact good_fresh L i j
  · show Weak 1 (vE L []) (dn L (init O n))
    refine ⟨fun e he => (by cases he), ?_, fun e he => (by cases he), ?_, ?_⟩
    · intro i hi
      have : i = 0 := by omega
      subst this; exact h00
    · intro i j k hi hj hk
      have : i = 0 := by omega
      have : j = 0 := by omega
      have : k = 0 := by omega
      subst_vars; rw [h00]; simp
    · intro i j hi hj σ _
      have : i = 0 := by omega
      have : j = 0 := by omega
      subst_vars; rw [h00]; simp

theorem Exact.extend {E : List (GEdge α)} {t t' : Dl α} (h : Exact L E t) (hn : t'.nVars = t.nVars + 1)
    (hs : SizeOk t'.nVars (shape t'))
    (hold : ∀ a b, a < t.nVars → b < t.nVars → d O t' a b = d O t a b)
    (hout : ∀ i j, i < t'.dists.length → j < t'.dists.length → (t.nVars ≤ i ∨ t.nVars ≤ j) →
      d O t' i j = if i = j then O.zero else O.inf) : Exact L E t' := by
  have hlen : t.nVars + 1 ≤ t'.dists.length := hn ▸ ((sizeOk_iff t').mpr hs).2.1
  have hnew : ∀ a b, a < t.nVars + 1 → b < t.nVars + 1 → (a = t.nVars ∨ b = t.nVars) →
      d O t' a b = if a = b then O.zero else O.inf := fun a b ha hb hab =>
    hout a b (Nat.lt_of_lt_of_le ha hlen) (Nat.lt_of_lt_of_le hb hlen)
      (hab.imp (fun e => Nat.le_of_eq e.symm) (fun e => Nat.le_of_eq e.symm))
  have hle : t.nVars ≤ t'.nVars := hn ▸ Nat.le_succ _
  refine ⟨hs, fun i j hi hj ho => hout i j hi hj (ho.imp (Nat.le_trans hle) (Nat.le_trans hle)), ?_, h.wts, ?_⟩
  · intro i j hi hj
    rw [hn] at hi hj
    by_cases hc : i < t.nVars ∧ j < t.nVars
    · rw [hold i j hc.1 hc.2]; exact h.good i j hc.1 hc.2
    · rw [hnew i j hi hj (by omega)]; exact good_fresh L i j
  · rw [hn]
    refine h.weak.extend (fun a b ha hb => ?_) (fun a b ha hb hab => ?_)
    · unfold dn; rw [hold a b ha hb]
    · unfold dn; rw [hnew a b ha hb hab]; exact den_fresh L a b

theorem newVar_exact {E : List (GEdge α)} {t : Dl α} (h : Exact L E t) :
    Exact L E (newVar O t).2 ∧ (newVar O t).1 = t.nVars := by
  obtain ⟨_, hold, hout⟩ := newVar_cells ((sizeOk_iff t).mpr h.size).2.1 h.fresh
  exact ⟨h.extend L (newVar_same O t).2.1 (sizeOk_newVar h.size) (fun a b ha hb => (hold a b ha hb).1) hout,
    (newVar_same O t).1⟩

theorem implied_of_le {E : List (GEdge α)} {t : Dl α} (h : Exact L E t) {f g : Nat} {w : α} (hf : f < t.nVars)
    (hg : g < t.nVars) (hle : dn L t f g ≤ ((L.val w : G) : WithTop G)) (σ : Nat → G) (hσ : ∀ e ∈ E, holds L σ e) :
    holds L σ (f, g, w) := by
  have h2 := le_trans (h.weak.implied f g hf hg σ ((sat_iff L σ E).mp hσ)) hle
  show σ g - σ f ≤ L.val w
  exact_mod_cast h2

theorem refuted_of_lt {E : List (GEdge α)} {t : Dl α} (h : Exact L E t) {f g : Nat} {w : α} (hf : f < t.nVars)
    (hg : g < t.nVars) (hlt : dn L t g f + ((L.val w : G) : WithTop G) < 0) (σ : Nat → G) (hσ : ∀ e ∈ E, holds L σ e) :
    ¬ holds L σ (f, g, w) := by
  intro hcon
  cases hx : dn L t g f with
  | top => rw [hx, WithTop.top_add] at hlt; exact absurd hlt (not_lt.mpr le_top)
  | coe x =>
    rw [hx, ← WithTop.coe_add] at hlt
    have c2 : x + L.val w < 0 := by exact_mod_cast hlt
    have h1 := h.weak.implied g f hg hf σ ((sat_iff L σ E).mp hσ)
    rw [hx] at h1
    have h1' : σ f - σ g ≤ x := by exact_mod_cast h1
    have hcon' : σ g - σ f ≤ L.val w := hcon
    have h0 : (σ f - σ g) + (σ g - σ f) ≤ x + L.val w := add_le_add h1' hcon'
    have e0 : (σ f - σ g) + (σ g - σ f) = 0 := by abel
    rw [e0] at h0
    exact absurd c2 (not_lt.mpr h0)

theorem new_distance_shortcut_valid {E : List (GEdge α)} (s : Sat) {t : Dl α} (h : Exact L E t)
    {f g : Nat} {w : α} (hf : f < t.nVars) (hg : g < t.nVars) (hw : L.Wt w) (hs : 0 < s.vals.length) :
    ((newDistance O s t f g w).1 = Lit.trueLit → ∀ σ : Nat → G, (∀ e ∈ E, holds L σ e) → holds L σ (f, g, w)) ∧
    ((newDistance O s t f g w).1 = Lit.falseLit → ∀ σ : Nat → G, (∀ e ∈ E, holds L σ e) → ¬ holds L σ (f, g, w)) := by
  unfold newDistance
  by_cases c1 : O.lt (d O t g f) (O.neg w) = true
  · rw [if_pos c1]
    exact ⟨fun hh => absurd (show Lit.falseLit = Lit.trueLit from hh) (by decide),
      fun _ => refuted_of_lt L h hf hg ((L.lt_neg (h.good g f hg hf) hw).mp c1)⟩
  · rw [if_neg c1]
    by_cases c2 : O.le (d O t f g) w = true
    · rw [if_pos c2]
      exact ⟨fun _ => implied_of_le L h hf hg ((L.le_w (h.good f g hf hg) hw).mp c2),
        fun hh => absurd (show Lit.trueLit = Lit.falseLit from hh) (by decide)⟩
    · rw [if_neg c2]
      constructor
      · intro hh
        have : true = false := congrArg Lit.sign hh
        cases this
      · intro hh
        have := congrArg Lit.var hh
        have hv : s.vals.length = 0 := this
        omega

section lit
variable {L} {s : Sat} {t : Dl α} {c : DConstr α} {b : Bool} {f g : Nat} {w : α}

section
variable (he : litEdge O c b = (f, g, w)) (h4 : L.Wt c.dist) (g12 : L.Good (d O t c.src c.dst))
  (g21 : L.Good (d O t c.dst c.src))
include he h4 g12 g21

theorem cnfTest_neg (h : cnfTest O t c b = true) : dn L t g f + (L.val w : WithTop G) < 0 := by
  cases b <;> cases he
  · rw [L.negStrict h4]; exact L.add_neg_unit_lt ((L.le_w g12 h4).mp h)
  · exact (L.lt_neg g21 h4).mp h

theorem cnfTest_nonneg (h : ¬ cnfTest O t c b = true) (al : b = false → L.Aligned (d O t c.src c.dst) c.dist) :
    0 ≤ dn L t g f + (L.val w : WithTop G) := by
  cases b <;> cases he
  · rw [L.negStrict h4]
    exact not_lt.mp fun hh => h ((L.le_w g12 h4).mpr ((L.step_le g12 h4 (al rfl)).mpr hh))
  · exact not_lt.mp (mt (L.lt_neg g21 h4).mpr h)

theorem impTest_lt (h : impTest O t c b = true) : (L.val w : WithTop G) < dn L t f g := by
  cases b <;> cases he
  · rw [L.negStrict h4]
    exact lt_of_lt_of_le (WithTop.coe_lt_coe.mpr (sub_lt_self _ L.unit_pos)) ((L.le_neg g21 h4).mp h)
  · exact (L.lt_w g12 h4).mp h

theorem impTest_le (h : ¬ impTest O t c b = true) (al : b = false → L.Aligned (d O t c.dst c.src) c.dist) :
    dn L t f g ≤ (L.val w : WithTop G) := by
  cases b <;> cases he
  · rw [L.negStrict h4]
    exact (L.step_lt g21 h4 (al rfl)).mp (not_le.mp (mt (L.le_neg g21 h4).mpr h))
  · exact not_lt.mp (mt (L.lt_w g12 h4).mpr h)
end

/-- What `propagate(lit)` does for an assigned literal `⟨c.b, b⟩` that stands for the edge `(f, g, w)`: a conflict (the
    edge closes a negative cycle with the path `g ⇝ f`), the matrix update (no cycle, the entry improves), or nothing.
    For a negated literal "no cycle" and "no improvement" are what the tests say only where the ε parts are aligned. -/
inductive LitOut (L : DLaws O G) (s : Sat) (t : Dl α) (c : DConstr α) (b : Bool) (f g : Nat) (w : α) :
    List Lit ⊕ (Sat × Dl α) → Prop
  | conflict : dn L t g f + (L.val w : WithTop G) < 0 →
      LitOut L s t c b f g w (.inl (walk s t g t.nVars f [] ++ [⟨c.b, !b⟩]))
  | enforce : ((b = false → L.Aligned (d O t c.src c.dst) c.dist) → 0 ≤ dn L t g f + (L.val w : WithTop G)) →
      (L.val w : WithTop G) < dn L t f g →
      LitOut L s t c b f g w (.inr (propagateEdge O s (armed t (f, g) c.b) f g w))
  | idle : ((b = false → L.Aligned (d O t c.src c.dst) c.dist) → 0 ≤ dn L t g f + (L.val w : WithTop G)) →
      ((b = false → L.Aligned (d O t c.dst c.src) c.dist) → dn L t f g ≤ (L.val w : WithTop G)) →
      LitOut L s t c b f g w (.inr (s, t))

theorem propagateLit_out (he : litEdge O c b = (f, g, w)) (h4 : L.Wt c.dist) (g12 : L.Good (d O t c.src c.dst))
    (g21 : L.Good (d O t c.dst c.src)) (hc : t.constrOf c.b = some c) (hv : s.value ⟨c.b, true⟩ = some b) :
    LitOut L s t c b f g w (propagateLit O s t ⟨c.b, b⟩) := by
  rw [propagateLit_eq O (pl := ⟨c.b, b⟩) hc hv, he]
  by_cases h1 : cnfTest O t c b = true
  · rw [if_pos h1]; exact .conflict (cnfTest_neg he h4 g12 g21 h1)
  · rw [if_neg h1]
    by_cases h2 : impTest O t c b = true
    · rw [if_pos h2]; exact .enforce (cnfTest_nonneg he h4 g12 g21 h1) (impTest_lt he h4 g12 g21 h2)
    · rw [if_neg h2]; exact .idle (cnfTest_nonneg he h4 g12 g21 h1) (impTest_le he h4 g12 g21 h2)

theorem LitOut.inl_iff {r : List Lit ⊕ (Sat × Dl α)} (h : LitOut L s t c b f g w r)
    (al : b = false → L.Aligned (d O t c.src c.dst) c.dist) :
    (∃ cl, r = .inl cl) ↔ dn L t g f + (L.val w : WithTop G) < 0 := by
  cases h with
  | conflict h => exact ⟨fun _ => h, fun _ => ⟨_, rfl⟩⟩
  | enforce h1 _ => exact ⟨fun ⟨_, e⟩ => (nomatch e), fun hlt => absurd hlt (not_lt.mpr (h1 al))⟩
  | idle h1 _ => exact ⟨fun ⟨_, e⟩ => (nomatch e), fun hlt => absurd hlt (not_lt.mpr (h1 al))⟩

theorem LitOut.of_inl {cl : List Lit} (h : LitOut L s t c b f g w (.inl cl)) :
    cl = walk s t g t.nVars f [] ++ [⟨c.b, !b⟩] ∧ dn L t g f + (L.val w : WithTop G) < 0 := by
  generalize hr : (Sum.inl cl : List Lit ⊕ (Sat × Dl α)) = r at h
  cases h with
  | conflict h => exact ⟨Sum.inl.inj hr, h⟩
  | enforce _ _ => cases hr
  | idle _ _ => cases hr

theorem LitOut.of_inr {r : Sat × Dl α} (h : LitOut L s t c b f g w (.inr r)) :
    ((b = false → L.Aligned (d O t c.src c.dst) c.dist) → 0 ≤ dn L t g f + (L.val w : WithTop G)) ∧
    ((r = propagateEdge O s (armed t (f, g) c.b) f g w ∧ (L.val w : WithTop G) < dn L t f g) ∨
     (r = (s, t) ∧ ((b = false → L.Aligned (d O t c.dst c.src) c.dist) → dn L t f g ≤ (L.val w : WithTop G)))) := by
  generalize hr : (Sum.inr r : List Lit ⊕ (Sat × Dl α)) = r' at h
  cases h with
  | conflict _ => cases hr
  | enforce h1 h2 => exact ⟨h1, .inl ⟨Sum.inr.inj hr, h2⟩⟩
  | idle h1 h2 => exact ⟨h1, .inr ⟨Sum.inr.inj hr, h2⟩⟩

end lit

def Room (t : Dl α) (f g : Nat) (w : α) : Prop :=
  ∀ a b, a < t.nVars → b < t.nVars → L.GoodV (upd (dn L t) f g (L.val w) a b)

section
variable {E : List (GEdge α)} {t : Dl α} (h : Exact L E t)
include h

theorem Exact.uhyp {f g : Nat} {w : α} (hf : f < t.nVars) (hg : g < t.nVars) (hfg : f ≠ g) (hw : L.Wt w)
    (hroom : Room L t f g w) (hcyc : 0 ≤ dn L t g f + ((L.val w : G) : WithTop G))
    (himp : ((L.val w : G) : WithTop G) < dn L t f g) : UHyp L t.nVars (dn L t) f g w :=
  ⟨h.weak.updHyp hf hg hfg hcyc himp, hw, hroom⟩

theorem update_closed_form (s : Sat) {f g : Nat} {w : α} (hf : f < t.nVars) (hg : g < t.nVars) (hfg : f ≠ g)
    (hw : L.Wt w) (hroom : Room L t f g w) (hcyc : 0 ≤ dn L t g f + ((L.val w : G) : WithTop G))
    (himp : ((L.val w : G) : WithTop G) < dn L t f g) :
    let t' := (propagateEdge O s t f g w).2
    Exact L ((f, g, w) :: E) t' ∧ t'.nVars = t.nVars ∧
    ∀ i j, i < t.nVars → j < t.nVars → dn L t' i j = upd (dn L t) f g (L.val w) i j := by
  intro t'
  have hy := h.uhyp L hf hg hfg hw hroom hcyc himp
  obtain ⟨hnv, hshp, hgood, hout, hmat⟩ := propagateEdge_spec L hy h.size.fits h.size.fitsP s t rfl rfl rfl rfl h.good
  have hlen : t'.dists.length = t.dists.length := by
    have := congrArg (fun p => p.1.length) hshp
    simpa [shape] using this
  refine ⟨⟨?_, ?_, ?_, ?_, ?_⟩, hnv, fun i j hi hj => (hmat i j hi hj).1⟩
  · show SizeOk (propagateEdge O s t f g w).2.nVars (shape (propagateEdge O s t f g w).2)
    rw [hnv, hshp]; exact h.size
  · intro i j hi hj hout'
    rw [hlen] at hi hj
    show d O (propagateEdge O s t f g w).2 i j = _
    have hout'' : t.nVars ≤ i ∨ t.nVars ≤ j := by
      have : (propagateEdge O s t f g w).2.nVars = t.nVars := hnv
      rw [← this]; exact hout'
    rw [hout i j (by omega)]
    exact h.fresh i j hi hj hout''
  · intro i j hi hj
    have hi' : i < t.nVars := by rw [← hnv]; exact hi
    have hj' : j < t.nVars := by rw [← hnv]; exact hj
    exact hgood i j hi' hj'
  · intro e he
    rcases List.mem_cons.mp he with rfl | he
    · exact hw
    · exact h.wts e he
  · show Weak (propagateEdge O s t f g w).2.nVars _ _
    rw [hnv]
    exact (update_weak h.weak hf hg hcyc).congr (fun a b ha hb => (hmat a b ha hb).1)

theorem infeasible_iff {a b : Nat} {w : α} (ha : a < t.nVars) (hb : b < t.nVars) (hab : a ≠ b) (hw : L.Wt w)
    (hroom : Room L t a b w) :
    ¬ Feasible L ((a, b, w) :: E) ↔ dn L t b a + ((L.val w : G) : WithTop G) < 0 := by
  constructor
  · intro hinf
    by_contra hcon
    apply hinf
    by_cases himp : ((L.val w : G) : WithTop G) < dn L t a b
    · exact exact_feasible L (update_closed_form L h Sat.init ha hb hab hw hroom (not_lt.mp hcon) himp).1
    · exact exact_feasible L (h.add_redundant L ha hb hw (not_lt.mp himp))
  · rintro hlt ⟨σ, hσ⟩
    exact refuted_of_lt L h ha hb hlt σ (fun e he => hσ e (List.mem_cons_of_mem _ he)) (hσ _ List.mem_cons_self)

theorem conflict_iff_infeasible (s : Sat) (c : DConstr α) (hc : t.constrOf c.b = some c)
    (hv : s.value ⟨c.b, true⟩ = some true) (h1 : c.src < t.nVars) (h2 : c.dst < t.nVars) (h3 : c.src ≠ c.dst)
    (h4 : L.Wt c.dist) (hroom : Room L t c.src c.dst c.dist) :
    (∃ cl, propagateLit O s t ⟨c.b, true⟩ = .inl cl) ↔ ¬ Feasible L ((c.src, c.dst, c.dist) :: E) :=
  ((propagateLit_out rfl h4 (h.good _ _ h1 h2) (h.good _ _ h2 h1) hc hv).inl_iff nofun).trans
    (infeasible_iff L h h1 h2 h3 h4 hroom).symm

theorem negated_conflict_iff_infeasible (s : Sat) (c : DConstr α) (hc : t.constrOf c.b = some c)
    (hv : s.value ⟨c.b, true⟩ = some false) (h1 : c.src < t.nVars) (h2 : c.dst < t.nVars) (h3 : c.src ≠ c.dst)
    (h4 : L.Wt c.dist) (hns : L.Wt (O.negStrict c.dist)) (hal : L.Aligned (d O t c.src c.dst) c.dist)
    (hroom : Room L t c.dst c.src (O.negStrict c.dist)) :
    (∃ cl, propagateLit O s t ⟨c.b, false⟩ = .inl cl) ↔ ¬ Feasible L ((c.dst, c.src, O.negStrict c.dist) :: E) :=
  ((propagateLit_out rfl h4 (h.good _ _ h1 h2) (h.good _ _ h2 h1) hc hv).inl_iff fun _ => hal).trans
    (infeasible_iff L h h2 h1 (Ne.symm h3) hns hroom).symm

theorem exact_armed (k : Nat × Nat) (b : Nat) : Exact L E (armed t k b) :=
  h.congr_state L (armed_same t k b).1 (armed_same t k b).2.1 (armed_same t k b).2.2

omit h in
theorem dn_armed (t : Dl α) (k : Nat × Nat) (b : Nat) : dn L (armed t k b) = dn L t :=
  funext fun a => funext fun b' => dn_congr L (armed_same t k b).2.1 a b'

theorem LitOut.exact {s s' : Sat} {t' : Dl α} {c : DConstr α} {b : Bool} {f g : Nat} {w : α}
    (out : LitOut L s t c b f g w (.inr (s', t'))) (hf : f < t.nVars) (hg : g < t.nVars) (hfg : f ≠ g) (hw : L.Wt w)
    (hroom : Room L t f g w) (al1 : b = false → L.Aligned (d O t c.src c.dst) c.dist)
    (al2 : b = false → L.Aligned (d O t c.dst c.src) c.dist) :
    Exact L ((f, g, w) :: E) t' ∧ t'.nVars = t.nVars := by
  obtain ⟨hcyc, ⟨e, himp⟩ | ⟨e, hle⟩⟩ := out.of_inr
  · have a1 := (armed_same t (f, g) c.b).1
    have r := update_closed_form L (exact_armed L h (f, g) c.b) s (a1 ▸ hf) (a1 ▸ hg) hfg hw
      (fun a b ha hb => by rw [dn_armed]; exact hroom a b (a1 ▸ ha) (a1 ▸ hb)) (by rw [dn_armed]; exact hcyc al1)
      (by rw [dn_armed]; exact himp)
    rw [show t' = _ from congrArg Prod.snd e]
    exact ⟨r.1, r.2.1.trans a1⟩
  · cases e; exact ⟨h.add_redundant L hf hg hw (hle al2), rfl⟩

theorem propagate_exact (s s' : Sat) {t' : Dl α} (c : DConstr α) (hc : t.constrOf c.b = some c) (b : Bool)
    (hv : s.value ⟨c.b, true⟩ = some b) (h1 : c.src < t.nVars) (h2 : c.dst < t.nVars) (h3 : c.src ≠ c.dst)
    (h4 : L.Wt c.dist)
    (hpos : b = true → Room L t c.src c.dst c.dist)
    (hneg : b = false → L.Wt (O.negStrict c.dist) ∧ L.Aligned (d O t c.src c.dst) c.dist ∧
      L.Aligned (d O t c.dst c.src) c.dist ∧ Room L t c.dst c.src (O.negStrict c.dist))
    (hp : propagateLit O s t ⟨c.b, b⟩ = .inr (s', t')) :
    Exact L ((if b then (c.src, c.dst, c.dist) else (c.dst, c.src, O.negStrict c.dist)) :: E) t' ∧
      t'.nVars = t.nVars := by
  have out := fun f g w he => propagateLit_out (L := L) (f := f) (g := g) (w := w) he h4 (h.good _ _ h1 h2)
    (h.good _ _ h2 h1) hc hv
  rw [hp] at out
  cases b with
  | true => exact (out _ _ _ rfl).exact L h h1 h2 h3 h4 (hpos rfl) nofun nofun
  | false =>
    obtain ⟨hns, al1, al2, hroom⟩ := hneg rfl
    exact (out _ _ _ rfl).exact L h h2 h1 (Ne.symm h3) hns hroom (fun _ => al1) fun _ => al2
end

end DlG
end Oratio
