namespace Oratio

def Ensures {ε α : Type} (E : ε → Prop) (P : α → Prop) : Except ε α → Prop
  | .ok v => P v
  | .error e => E e

namespace Ensures
variable {ε α β : Type} {E E' : ε → Prop} {P P' : α → Prop} {Q : β → Prop} {m : Except ε α}

@[simp] theorem error_iff {e : ε} : Ensures E P (.error e : Except ε α) ↔ E e := Iff.rfl

theorem mono (hm : Ensures E P m) (hE : ∀ e, E e → E' e) (hP : ∀ v, P v → P' v) : Ensures E' P' m := by
  cases m with
  | error e => exact hE e hm
  | ok v => exact hP v hm

theorem bind {f : α → Except ε β} (hm : Ensures E' P m) (hE : ∀ e, E' e → E e) (hf : ∀ v, P v → Ensures E Q (f v)) :
    Ensures E Q (m >>= f) := by
  cases m with
  | error e => exact hE e hm
  | ok v => exact hf v hm

theorem ite {c : Prop} [Decidable c] {a b : Except ε α} (ha : c → Ensures E P a) (hb : ¬ c → Ensures E P b) :
    Ensures E P (if c then a else b) := by
  split
  · exact ha ‹_›
  · exact hb ‹_›

theorem ite_iff {c : Prop} [Decidable c] {a b : Except ε α} :
    Ensures E P (if c then a else b) ↔ (c → Ensures E P a) ∧ (¬ c → Ensures E P b) := by
  split <;> simp [*]

theorem of_ok {v : α} (hm : Ensures E P m) (h : m = .ok v) : P v := by
  rw [h] at hm; exact hm

theorem of_error {e : ε} (hm : Ensures E P m) (h : m = .error e) : E e := by
  rw [h] at hm; exact hm

end Ensures
end Oratio
