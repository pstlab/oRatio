/-
C10X: the operations of the theory keep the path invariant, and what they tell the SAT core is
sound — once for both number types, over the laws `L : DLaws O G` and the matrix invariant
`DlG.Exact L E t`.
-/
import OratioProofs.Lemmas.DlPathWalk
import OratioProofs.Lemmas.DlExactG
import OratioProofs.Lemmas.UndoDl

namespace Oratio

namespace DlG
open Dl

variable {α G : Type} [AddCommGroup G] [LinearOrder G] [IsOrderedAddMonoid G] {O : DOps α} {L : DLaws O G}

theorem PathInv.init (s : Sat) (n : Nat) : PathInv L s (init O n) := by
  have h1 : (Dl.init O n).nVars = 1 := rfl
  refine ⟨fun k j bb hl => (by cases hl), ?_, ?_⟩
  · intro i j hi hj hij
    rw [h1] at hi hj
    omega
  · intro i j hi hj _
    rw [h1] at hi hj ⊢
    obtain rfl : i = 0 := by omega
    obtain rfl : j = 0 := by omega
    exact ⟨0, by omega, ChainN.root⟩

/-- the new time point is isolated, because the unused part of the matrix is in its initial state -/
theorem PathInv.newVar {s : Sat} {t : Dl α} (hP : PathInv L s t) (hsize : t.nVars ≤ t.dists.length)
    (hfresh : ∀ i j, i < t.dists.length → j < t.dists.length → (t.nVars ≤ i ∨ t.nVars ≤ j) →
      d O t i j = if i = j then O.zero else O.inf) : PathInv L s (newVar O t).2 := by
  obtain ⟨hlen, hold, hout⟩ := DlG.newVar_cells hsize hfresh
  obtain ⟨_, hn, hvd, hdc, _⟩ := Dl.newVar_same O t
  refine hP.extend hn (fun a b ha hb => ⟨congrArg L.den (hold a b ha hb).1, (hold a b ha hb).2⟩)
    (fun a b ha hb hab hne => ?_) hdc hvd
  unfold dn
  rw [hout a b (Nat.lt_of_lt_of_le ha hlen) (Nat.lt_of_lt_of_le hb hlen)
    (hab.imp (fun e => Nat.le_of_eq e.symm) (fun e => Nat.le_of_eq e.symm)), if_neg hne]
  exact L.inf.2

theorem PathInv.newDistance {s : Sat} {t : Dl α} (hP : PathInv L s t) (f g : Nat) (w : α) :
    PathInv L (newDistance O s t f g w).2.1 (newDistance O s t f g w).2.2 := by
  unfold Dl.newDistance
  split
  · exact hP
  · split
    · exact hP
    · refine hP.mono ?_ rfl rfl rfl rfl ?_
      · intro v b hvb
        show (s.vals ++ [none]).getD v none = some b
        rw [List.getD_eq_getElem?_getD] at hvb ⊢
        by_cases hlt : v < s.vals.length
        · rw [List.getElem?_append_left hlt]; exact hvb
        · rw [List.getElem?_eq_none (by omega)] at hvb
          cases hvb
      · intro b c hbc
        unfold constrOf at hbc ⊢
        show (t.varDists ++ [_]).find? _ = some c
        rw [List.find?_append, hbc]
        rfl

theorem PathInv.push {s : Sat} {t : Dl α} (hP : PathInv L s t) : PathInv L s t.push :=
  hP.mono (SatLe.refl s) rfl rfl rfl rfl (fun _ _ h => h)

/-- `pop()` returns to the state at the matching `push()` (C08), so the invariant that held there
    holds again for any SAT state that keeps the values it had then -/
theorem PathInv.pop {B cur : Dl α} (hL : Undo.Lg O B cur) {sB s' : Sat} (hP : PathInv L sB B) (hs : SatLe sB s') :
    PathInv L s' cur.pop := by
  rw [Undo.pop_of_Lg O hL]
  exact hP.assign hs

variable (L)

/-- the part of the state the comparisons read -/
structure Block (t : Dl α) : Prop where
  good : ∀ i j, i < t.nVars → j < t.nVars → L.Good (d O t i j)
  diag : ∀ i, i < t.nVars → dn L t i i = 0

/-- `Dl.ConstrsOk`, `DlR.ConstrsOkR` over the laws -/
def ConstrsOk (t : Dl α) : Prop :=
  ∀ c ∈ t.varDists, c.src < t.nVars ∧ c.dst < t.nVars ∧ c.src ≠ c.dst ∧ L.Wt c.dist ∧ L.Wt (O.negStrict c.dist)

variable {L}

theorem Update.constrsOk {s : Sat} {t t' : Dl α} {f g : Nat} {w : G} {cb : Nat} (hU : Update L s t t' f g w cb)
    (hok : ConstrsOk L t) : ConstrsOk L t' := by
  intro c hc
  rw [hU.varDists] at hc
  rw [hU.nVars]
  exact hok c hc

theorem PathInv.explain_lit {s : Sat} {t : Dl α} {c : DConstr α} {b : Bool} {f g : Nat} {w : α} (hP : PathInv L s t)
    (hB : Block L t) (hmem : c ∈ t.varDists) (h1 : c.src < t.nVars) (h2 : c.dst < t.nVars) (h4 : L.Wt c.dist)
    (he : litEdge O c b = (f, g, w)) (hn : dn L t g f + (L.val w : WithTop G) < 0) (acc : List Lit) :
    ∃ ls, walk s t g t.nVars f acc = acc ++ ls ∧ (∀ l ∈ ls, s.value l = some false) ∧
      ∀ cl : List Lit, ⟨c.b, !b⟩ ∈ cl → (∀ l ∈ ls, l ∈ cl) → TheoryValid L t cl := by
  cases b <;> cases he
  · exact hP.explain_cycle hB.diag hmem false (congrArg (fun x => (c.dst, c.src, x)) (L.negStrict h4).symm) h2 h1 hn acc
  · exact hP.explain_cycle hB.diag hmem true rfl h1 h2 hn acc

theorem scan_good {t : Dl α} (hB : Block L t) (hok : ConstrsOk L t) {s0 s' : Sat} (hP : PathInv L s0 t)
    (h : Sat.RecBy (ScanRec O t) s0 s') : LogGood L t s0 s' := by
  induction h with
  | refl => exact LogGood.refl t s0
  | step h1 hq ih =>
    obtain ⟨c, p, f, g, w, hmem, -, he, ht, rfl⟩ := hq
    obtain ⟨o1, o2, -, o4, -⟩ := hok c hmem
    obtain ⟨ls, e, fl, val⟩ := (hP.assign h1.le).explain_lit hB hmem o1 o2 o4 he
      (cnfTest_neg he o4 (hB.good _ _ o1 o2) (hB.good _ _ o2 o1) ht) [⟨c.b, !p⟩]
    rw [e]
    exact ih.step _ (val _ (by simp) (fun l hl => by simp [hl])) (by simpa using fl)

section Lit
variable {s : Sat} {t : Dl α} {c : DConstr α} (hc : t.constrOf c.b = some c) {b : Bool} (hv : s.value ⟨c.b, true⟩ = some b)
  (hr : c.src < t.nVars ∧ c.dst < t.nVars ∧ c.src ≠ c.dst ∧ L.Wt c.dist) (hB : Block L t)
include hc hv hr hB

theorem PathInv.conflict_valid (hP : PathInv L s t) {cl : List Lit} (hcl : propagateLit O s t ⟨c.b, b⟩ = .inl cl) :
    (∀ l ∈ cl, s.value l = some false) ∧ TheoryValid L t cl := by
  obtain ⟨h1, h2, _, h4⟩ := hr
  have out := propagateLit_out (L := L) rfl h4 (hB.good _ _ h1 h2) (hB.good _ _ h2 h1) hc hv
  rw [hcl] at out
  obtain ⟨rfl, hneg⟩ := out.of_inl
  obtain ⟨ls, e, fl, val⟩ := hP.explain_lit hB (constrOf_spec hc).1 h1 h2 h4 rfl hneg []
  rw [e]
  refine ⟨fun l hl => ?_, val _ (by simp) (fun l hl => by simp [hl])⟩
  simp only [List.nil_append, List.mem_append, List.mem_singleton] at hl
  exact hl.elim (fl l) fun e => e ▸ value_bnot hv

variable (L) in
structure EdgeOk (s : Sat) (t : Dl α) (cb f g : Nat) (w : α) : Prop where
  hf : f < t.nVars
  hg : g < t.nVars
  hfg : f ≠ g
  wt : L.Wt w
  cyc : 0 ≤ dn L t g f + (L.val w : WithTop G)
  imp : (L.val w : WithTop G) < dn L t f g
  asserts : Asserts L s t cb f g (L.val w)

variable (L) in
/-- what `propagate(lit)` needs of `propagate(from, to, dist)` for such an edge: the closed forms of the
    matrix and of the predecessors, and a well-formed block again (`Exact.enforces` below) -/
def Enforces (s : Sat) (t : Dl α) (cb : Nat) : Prop :=
  ∀ f g w, EdgeOk L s t cb f g w →
    Update L s t (propagateEdge O s (armed t (f, g) cb) f g w).2 f g (L.val w) cb ∧
    Block L (propagateEdge O s (armed t (f, g) cb) f g w).2

/-- `hneg`: for a negated literal the test `¬ d src dst ≤ dist` has to exclude a cycle with the strict reverse edge
    (`Aligned`) -/
theorem propagateLit_inr (hneg : b = false → L.Wt (O.negStrict c.dist) ∧ L.Aligned (d O t c.src c.dst) c.dist)
    {s' : Sat} {t' : Dl α}
    (hp : propagateLit O s t ⟨c.b, b⟩ = .inr (s', t')) :
    (s', t') = (s, t) ∨
    ∃ f g w, EdgeOk L s t c.b f g w ∧ propagateEdge O s (armed t (f, g) c.b) f g w = (s', t') := by
  obtain ⟨h1, h2, h3, h4⟩ := hr
  have out := propagateLit_out (L := L) rfl h4 (hB.good _ _ h1 h2) (hB.good _ _ h2 h1) hc hv
  rw [hp] at out
  obtain ⟨hcyc, ⟨e, himp⟩ | ⟨e, -⟩⟩ := out.of_inr
  · refine .inr ⟨_, _, _, ?_, e.symm⟩
    have hcyc' := hcyc fun hb => (hneg hb).2
    cases b
    · exact ⟨h2, h1, Ne.symm h3, (hneg rfl).1, hcyc', himp, c, hc, .inr ⟨hv, rfl, rfl, L.negStrict h4⟩⟩
    · exact ⟨h1, h2, h3, h4, hcyc', himp, c, hc, .inl ⟨hv, rfl, rfl, rfl⟩⟩
  · exact .inl e

theorem propagateLit_update (hneg : b = false → L.Wt (O.negStrict c.dist) ∧ L.Aligned (d O t c.src c.dst) c.dist)
    (hedge : Enforces L s t c.b)
    {s' : Sat} {t' : Dl α} (hp : propagateLit O s t ⟨c.b, b⟩ = .inr (s', t')) :
    (s', t') = (s, t) ∨
    ∃ f g w ups, Update L s t t' f g (L.val w) c.b ∧ Block L t' ∧ s' = scanUpdates O s t' ups := by
  rcases propagateLit_inr hc hv hr hB hneg hp with he | ⟨f, g, w, hE, he⟩
  · exact Or.inl he
  · obtain ⟨hU, hB'⟩ := hedge f g w hE
    obtain ⟨rfl, rfl⟩ := Prod.ext_iff.1 he
    exact Or.inr ⟨f, g, w, _, hU, hB', rfl⟩

theorem PathInv.propagate (hP : PathInv L s t)
    (hneg : b = false → L.Wt (O.negStrict c.dist) ∧ L.Aligned (d O t c.src c.dst) c.dist) (hedge : Enforces L s t c.b)
    {s' : Sat} {t' : Dl α} (hp : propagateLit O s t ⟨c.b, b⟩ = .inr (s', t')) :
    PathInv L s' t' ∧ SatLe s s' ∧ (ConstrsOk L t → LogGood L t s s') := by
  rcases propagateLit_update hc hv hr hB hneg hedge hp with he | ⟨f, g, w, ups, hU, hB', rfl⟩
  · cases he
    exact ⟨hP, SatLe.refl s, fun _ => LogGood.refl t s⟩
  · have h0 := hU.pathInv hP
    exact ⟨h0.assign (DlG.scan_le O t' s ups), DlG.scan_le O t' s ups,
      fun hok => (scan_good hB' (hU.constrsOk hok) h0 (scan_emits O s t' ups)).congr hU.varDists⟩
end Lit

theorem Exact.block {E : List (GEdge α)} {t : Dl α} (h : Exact L E t) : Block L t := ⟨h.good, h.weak.diag⟩

theorem Exact.enforces {E : List (GEdge α)} {t : Dl α} (h : Exact L E t)
    (hroom : ∀ f g w, f < t.nVars → g < t.nVars → L.Wt w → Room L t f g w) (s : Sat) (cb : Nat) :
    Enforces L s t cb := by
  intro f g w hE
  obtain ⟨a1, a2, a3⟩ := armed_same t (f, g) cb
  have hy := h.uhyp L hE.hf hE.hg hE.hfg hE.wt (hroom f g w hE.hf hE.hg hE.wt) hE.cyc hE.imp
  obtain ⟨hnv, _, hgood, _, hmat⟩ := propagateEdge_spec L hy h.size.fits h.size.fitsP s (armed t (f, g) cb)
    (funext fun a => funext fun b => (dn_congr L a2 a b).symm) (funext fun a => funext fun b => (p_congr a3 a b).symm)
    a1 (by simp only [shape, a2, a3]) (fun a b ha hb => by rw [d_congr a2]; exact h.good a b ha hb)
  obtain ⟨d1, d2, _⟩ := propagateEdge_armed_tables O s t (f, g) f g w cb
  refine ⟨⟨hy.toUpdHyp, hnv, fun a b ha hb => (hmat a b ha hb).1, fun a b ha hb => ?_, d1, d2, hE.asserts⟩,
    fun i j hi hj => hgood i j (hnv ▸ hi) (hnv ▸ hj), fun i hi => ?_⟩
  · obtain ⟨q1, q2⟩ := (hmat a b ha hb).2
    exact ⟨q1, fun hi hne => q2 hi (fun _ => hne)⟩
  · rw [hnv] at hi
    rw [(hmat i i hi hi).1]
    exact hy.upd_diag i hi

end DlG
end Oratio
