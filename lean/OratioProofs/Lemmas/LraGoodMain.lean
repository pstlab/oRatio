/-
`new_lt … new_gt`, `new_eq` keep the invariant `Lra.GoodState`; every operation does (`step_good`), so every reachable
state is good (`run_good`).
-/
import OratioModel
import OratioProofs.Lemmas.LraGoodAssert
import OratioProofs.Lemmas.LraGoodNew
import OratioProofs.Lemmas.LraNewRel

namespace Oratio
namespace Lra
open Lin

theorem LinOK.mono {t u : Lra} {l : Lin} (h : LinOK t l) (hle : t.vals.length ≤ u.vals.length) : LinOK u l :=
  ⟨h.1, fun p hp => ⟨Nat.lt_of_lt_of_le (h.2 p hp).1 hle, (h.2 p hp).2⟩⟩

theorem linOK_sub {t : Lra} {a b : Lin} (ha : LinOK t a) (hb : LinOK t b) : LinOK t (Lin.sub a b) :=
  ⟨(sub_spec a b ha.1 hb.1).1, fun p hp =>
    ⟨sub_vars_lt ha.1 hb.1 (fun q hq => (ha.2 q hq).1) (fun q hq => (hb.2 q hq).1) p hp,
      nz_sub ha.1 hb.1 (fun q hq => (ha.2 q hq).2) (fun q hq => (hb.2 q hq).2) p hp⟩⟩

theorem linOK_known_zero {t : Lra} {l : Lin} (hl : LinOK t l) : LinOK t { l with known := R.zero } := by
  obtain ⟨a, b, -⟩ := (wf_iff l).1 hl.1
  exact ⟨(wf_iff _).2 ⟨a, b, R.finWF_zero⟩, hl.2⟩

theorem linOK_relE {t : Lra} (g : GoodState t) {a b : Lin} (ha : LinOK t a) (hb : LinOK t b) :
    LinOK t (relE t a b) :=
  linOK_known_zero (linOK_substBasic g.tab g.nz (linOK_sub ha hb))

theorem finIR_relC {t : Lra} (g : GoodState t) (r : LRel) {a b : Lin} (ha : LinOK t a) (hb : LinOK t b) :
    IR.Fin (relC t r a b) := by
  have hk : R.FinWF (substBasic t (Lin.sub a b)).known :=
    ((wf_iff _).1 (linOK_substBasic g.tab g.nz (linOK_sub ha hb)).1).2.2
  unfold relC
  cases r
  · exact ⟨R.finWF_neg hk, R.finWF_ofInt _⟩
  · exact ⟨R.finWF_neg hk, R.finWF_neg R.finWF_zero⟩
  · exact ⟨R.finWF_neg hk, R.finWF_neg R.finWF_zero⟩
  · exact ⟨R.finWF_neg hk, R.finWF_ofInt _⟩

theorem relReg_good {t : Lra} (g : GoodState t) (up : Bool) {slack : Nat} (hs : slack < t.vals.length) {c : IR}
    (hc : IR.Fin c) (ctr : Nat) : GoodState (relReg t up slack c ctr) :=
  ⟨.ofGroups (g.gtab.congr rfl rfl rfl) (g.gvals.congr rfl rfl) (g.gbnd.congr rfl rfl rfl)
    (g.greg.mono (Nat.le_refl _) (fun e he => (List.mem_append.1 he).imp id fun h => by
      rw [List.mem_singleton.1 h]; exact ⟨hs, hc⟩) fun _ h => Or.inl h), g.nbin⟩

theorem newRel_good {s : Sat} {t : Lra} (g : GoodState t) {r : LRel} {a b : Lin} (ha : LinOK t a) (hb : LinOK t b)
    {l : Lit} {s' : Sat} {t' : Lra} {bd : Option Nat} (h : newRel s t r a b = some (l, s', t', bd)) :
    GoodState t' ∧ t.vals.length ≤ t'.vals.length :=
  have he := linOK_relE g ha hb
  (newRel_outcome h).induct (P := fun _ u => GoodState u ∧ t.vals.length ≤ u.vals.length) ⟨g, Nat.le_refl _⟩
    (fun _ _ hv => ⟨(newVarLin_good g he hv).1, (newVarLin_good g he hv).2.2⟩)
    fun _ _ hv h1 => ⟨relReg_good h1.1 _ (newVarLin_good g he hv).2.1 (finIR_relC g r ha hb) _, h1.2⟩

theorem newEq_good {s : Sat} {t : Lra} (g : GoodState t) {a b : Lin} (ha : LinOK t a) (hb : LinOK t b)
    {l : Lit} {s' : Sat} {t' : Lra} {bd : List Nat} (h : newEq s t a b = some (l, s', t', bd)) :
    GoodState t' := by
  obtain ⟨l1, s1, t1, b1, l2, s2, b2, h1, h2, -, -⟩ := newEq_nf h
  obtain ⟨g1, len1⟩ := newRel_good g ha hb h1
  exact (newRel_good g1 (ha.mono len1) (hb.mono len1) h2).1

theorem init_good : GoodState Lra.init := by
  refine ⟨⟨tabWF_init, ?_, ?_, ?_, ?_, rfl, ?_, ?_, trivial, ?_⟩, ?_⟩
  · intro e he; cases he
  · intro v hv; cases hv
  · intro e he; cases he
  · intro e he; cases he
  · intro x hx; exact absurd hx (Nat.not_lt_zero _)
  · intro e he; cases he
  · intro e he; cases he
  · intro x hx; exact absurd hx (Nat.not_lt_zero _)

theorem step_good (st : Sat × Lra) (op : LraOp) (g : GoodState st.2) (hv : ValidOp st.2 op) :
    GoodState (step st op).2 := by
  cases op with
  | newVar => exact newVar_good g
  | newVarLin l =>
    show GoodState (match Lra.newVarLin st.1 st.2 l with | some (_, t) => (st.1, t) | none => st).2
    cases h : Lra.newVarLin st.1 st.2 l with
    | none => exact g
    | some p => exact (newVarLin_good g hv (slack := p.1) (t1 := p.2) h).1
  | newRel r a b =>
    show GoodState (match Lra.newRel st.1 st.2 r a b with | some (_, s, t, _) => (s, t) | none => st).2
    cases h : Lra.newRel st.1 st.2 r a b with
    | none => exact g
    | some p =>
      obtain ⟨l, s', t', bd⟩ := p
      exact (newRel_good g hv.1 hv.2 h).1
  | newEq a b =>
    show GoodState (match Lra.newEq st.1 st.2 a b with | some (_, s, t, _) => (s, t) | none => st).2
    cases h : Lra.newEq st.1 st.2 a b with
    | none => exact g
    | some p =>
      obtain ⟨l, s', t', bd⟩ := p
      exact newEq_good g hv.1 hv.2 h
  | setLb x v p =>
    obtain ⟨hx, hw, hi, hr⟩ := hv
    exact (assertLower_good g hx ⟨hw.1, hr, hw.2, hi⟩).1
  | setUb x v p =>
    obtain ⟨hx, hw, hi, hr⟩ := hv
    exact (assertUpper_good g hx ⟨hw.1, hr, hw.2, hi⟩).1
  | setEq x v p =>
    obtain ⟨hx, hw, hi, hr⟩ := hv
    exact setEq_good g hx ⟨⟨hw.1, hr⟩, ⟨hw.2, hi⟩⟩
  | propagateLit p => exact propagateLit_good g
  | check fuel =>
    show GoodState (match st.2.check fuel with | some (_, t) => (st.1, t) | none => st).2
    cases h : st.2.check fuel with
    | none => exact g
    | some p =>
      obtain ⟨c, t'⟩ := p
      exact check_good fuel _ _ _ g h
  | push => exact push_good g
  | pop => exact pop_good g
  | satMove s' => exact g

theorem run_good : ∀ (ops : List LraOp) (st : Sat × Lra), GoodState st.2 → ValidRun st ops →
    GoodState (run st ops).2 := by
  intro ops
  induction ops with
  | nil => intro st g _; exact g
  | cons op ops ih =>
    intro st g hv
    exact ih _ (step_good st op g hv.1) hv.2

end Lra

end Oratio
