/-
What the proofs need of a number type: a denotation of matrix entries into `WithTop G` under
which the operations the C++ performs are exact (`Good` entries, `Wt` weights, `GoodV` the values
an entry can represent: a bounded range for the integers).  `spur`: only `idl_theory` guards the
first test of `propagate` with `x != inf()`; unguarded, a test between two infinite entries
compares their ε parts and may succeed, and the entry is rewritten with another infinite value.
-/
import OratioProofs.Lemmas.DlMat
import OratioProofs.Lemmas.DlW

namespace Oratio

structure DLaws {α : Type} (O : DOps α) (G : Type) [AddCommGroup G] [LinearOrder G] [IsOrderedAddMonoid G] where
  den : α → WithTop G
  /-- a weight read in `G` (weights are finite: `wt`) -/
  val : α → G
  /-- the step between `≤` and `<`: `1` for integers, `ε` for reals -/
  unit : G
  Good : α → Prop
  Wt : α → Prop
  GoodV : WithTop G → Prop
  spur : Prop
  /-- entry and weight lie on one grid of step `unit`, so that `≤ w` is `< w + unit` (`step_le`, `step_lt`): always
      for the integers, integer ε parts for the reals -/
  Aligned : α → α → Prop
  unit_pos : 0 < unit
  zero : Good O.zero ∧ den O.zero = 0
  inf : Good O.inf ∧ den O.inf = ⊤
  wt : ∀ {w}, Wt w → Good w ∧ den w = (val w : WithTop G)
  add : ∀ {x y}, Good x → Good y → (spur ∨ (den x ≠ ⊤ ∧ den y ≠ ⊤)) → GoodV (den x + den y) →
    Good (O.add x y) ∧ den (O.add x y) = den x + den y
  test1 : ∀ {x y w}, Good x → Good y → Wt w →
    ((O.finiteGuard x && O.lt x (O.sub y w)) = true →
      den x + (val w : WithTop G) < den y ∨ (spur ∧ den x = ⊤ ∧ den y = ⊤)) ∧
    (den x + (val w : WithTop G) < den y → (O.finiteGuard x && O.lt x (O.sub y w)) = true)
  /-- the sum need not be representable -/
  test2 : ∀ {x y z}, Good x → Good y → Good z → (spur ∨ (den x ≠ ⊤ ∧ den y ≠ ⊤)) →
    (O.lt (O.add x y) z = true → den x + den y < den z ∨ (spur ∧ den x + den y = ⊤ ∧ den z = ⊤)) ∧
    (den x + den y < den z → O.lt (O.add x y) z = true)
  lt_neg : ∀ {x w}, Good x → Wt w → (O.lt x (O.neg w) = true ↔ den x + (val w : WithTop G) < 0)
  lt_w : ∀ {x w}, Good x → Wt w → (O.lt w x = true ↔ (val w : WithTop G) < den x)
  le_w : ∀ {x w}, Good x → Wt w → (O.le x w = true ↔ den x ≤ (val w : WithTop G))
  le_neg : ∀ {x w}, Good x → Wt w → (O.le (O.neg w) x = true ↔ ((-val w : G) : WithTop G) ≤ den x)
  negStrict : ∀ {w}, Wt w → val (O.negStrict w) = -val w - unit
  step_le : ∀ {x w}, Good x → Wt w → Aligned x w →
    (den x ≤ (val w : WithTop G) ↔ den x + ((-val w - unit : G) : WithTop G) < 0)
  step_lt : ∀ {x w}, Good x → Wt w → Aligned x w →
    (den x < ((-val w : G) : WithTop G) ↔ den x ≤ ((-val w - unit : G) : WithTop G))

namespace DLaws
variable {α G : Type} [AddCommGroup G] [LinearOrder G] [IsOrderedAddMonoid G] {O : DOps α} (L : DLaws O G)

/-- one guarded relaxation of the first loop: either way the entry afterwards is the minimum -/
theorem guard {x y w : α} (gx : L.Good x) (gy : L.Good y) (hw : L.Wt w)
    (hV : L.GoodV (min (L.den y) (L.den x + (L.val w : WithTop G)))) :
    ((O.finiteGuard x && O.lt x (O.sub y w)) = true →
      (L.den x + (L.val w : WithTop G) < L.den y ∨ (L.spur ∧ L.den x = ⊤ ∧ L.den y = ⊤)) ∧
      L.Good (O.add x w) ∧ L.den (O.add x w) = min (L.den y) (L.den x + (L.val w : WithTop G))) ∧
    (¬ (O.finiteGuard x && O.lt x (O.sub y w)) = true →
      ¬ (L.den x + (L.val w : WithTop G) < L.den y) ∧
      L.den y = min (L.den y) (L.den x + (L.val w : WithTop G))) := by
  obtain ⟨gw, dw⟩ := L.wt hw
  obtain ⟨t1, t2⟩ := L.test1 gx gy hw
  constructor
  · intro hc
    have hcase := t1 hc
    have hmin : min (L.den y) (L.den x + (L.val w : WithTop G)) = L.den x + L.den w := by
      rw [dw]
      rcases hcase with h | ⟨_, h1, h2⟩
      · exact min_eq_right (le_of_lt h)
      · rw [h1, h2, WithTop.top_add, min_self]
    have hfin : L.spur ∨ (L.den x ≠ ⊤ ∧ L.den w ≠ ⊤) := by
      rcases hcase with h | ⟨h, _, _⟩
      · right
        rw [← dw] at h
        exact WithTop.add_ne_top.mp (ne_top_of_lt h)
      · left; exact h
    rw [hmin] at hV ⊢
    exact ⟨hcase, L.add gx gw hfin hV⟩
  · intro hc
    have hn : ¬ (L.den x + (L.val w : WithTop G) < L.den y) := fun h => hc (t2 h)
    exact ⟨hn, (min_eq_left (not_lt.mp hn)).symm⟩

/-- an entry that is at most `v` closes a negative cycle with the strict reverse edge `-v - unit` -/
theorem add_neg_unit_lt {x : WithTop G} {v : G} (h : x ≤ (v : WithTop G)) :
    x + ((-v - L.unit : G) : WithTop G) < 0 := by
  have h1 : (v : WithTop G) + ((-v - L.unit : G) : WithTop G) < 0 := by
    rw [← WithTop.coe_add, show v + (-v - L.unit) = -L.unit by abel]
    exact_mod_cast neg_neg_of_pos L.unit_pos
  exact lt_of_le_of_lt (add_le_add h le_rfl) h1

end DLaws
end Oratio
