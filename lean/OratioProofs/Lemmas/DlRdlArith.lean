/-
Arithmetic laws of the real-valued difference-logic instance `rdlOps : DOps IR`
(OratioModel/Net/Dl.lean), derived from the C15 lemmas on `R` / `IR`.

A matrix entry is *good* when it is a canonical `inf_rational` whose rational part is finite or
`+∞` and whose ε part is finite; it denotes `den x : WithTop (Lex (ℚ × ℚ))` (`⊤` = the rational
part is `+∞`, WHATEVER the ε part is — see the example on `exNet` in Properties/C10Rdl.lean).  A weight is
*finite* when both parts are canonical and finite.
-/
import OratioModel.Net.Dl
import OratioProofs.Lemmas.Rational
import OratioProofs.Lemmas.InfRational
import Mathlib.Algebra.Order.Monoid.Prod
import Mathlib.Algebra.Order.Group.Defs
import Mathlib.Algebra.Order.Monoid.WithTop

namespace Oratio

namespace IR
open R

def Good (x : IR) : Prop := x.rat.WF ∧ x.rat ≠ ninf ∧ FinWF x.inf

def den (x : IR) : WithTop QV := if x.rat.den = 0 then ⊤ else ((val x : QV) : WithTop QV)

theorem Fin.good {x : IR} (h : Fin x) : Good x :=
  ⟨h.1.1, fun e => h.1.2 (by rw [e]; rfl), h.2⟩

theorem Fin.den {x : IR} (h : Fin x) : den x = ((val x : QV) : WithTop QV) := by
  unfold IR.den; rw [if_neg h.1.2]

theorem den_of_fin {x : IR} (h : x.rat.den ≠ 0) : den x = ((val x : QV) : WithTop QV) := by
  unfold IR.den; rw [if_neg h]

theorem den_of_inf {x : IR} (h : x.rat.den = 0) : den x = ⊤ := by
  unfold IR.den; rw [if_pos h]

theorem den_eq_top {x : IR} : den x = ⊤ ↔ x.rat.den = 0 := by
  unfold IR.den; split
  · rename_i h; exact ⟨fun _ => h, fun _ => rfl⟩
  · rename_i h; exact ⟨fun h' => absurd h' (WithTop.coe_ne_top), fun h' => absurd h' h⟩

theorem Good.rat_cases {x : IR} (h : Good x) : FinWF x.rat ∨ x.rat = pinf := by
  rcases h.1.cases with e | e | hf
  · exact Or.inr e
  · exact absurd e h.2.1
  · exact Or.inl hf

theorem Good.fin_of {x : IR} (h : Good x) (hd : den x ≠ ⊤) : Fin x := by
  rcases h.rat_cases with hf | hp
  · exact ⟨hf, h.2.2⟩
  · exfalso; apply hd; apply den_of_inf; rw [hp]; rfl

theorem fin_zero : Fin rdlOps.zero := ⟨finWF_zero, finWF_zero⟩

theorem val_zero : val rdlOps.zero = 0 := by
  show (toLex (zero.toRat, zero.toRat) : QV) = 0
  rw [toRat_zero]; rfl

theorem den_zero : den rdlOps.zero = 0 := by
  rw [fin_zero.den, val_zero]; rfl

theorem good_inf : Good rdlOps.inf := ⟨by decide, by decide, finWF_zero⟩

theorem den_inf : den rdlOps.inf = ⊤ := den_of_inf rfl

theorem add_pinf_left {b : R} (hb : b.den ≠ 0) : R.add pinf b = pinf := add_infinite_left pinf_wf rfl hb

theorem good_add {x y : IR} (hx : Good x) (hy : Good y) :
    Good (rdlOps.add x y) ∧ den (rdlOps.add x y) = den x + den y := by
  show Good (IR.add x y) ∧ den (IR.add x y) = den x + den y
  have he := (add_fin hx.2.2 hy.2.2).1
  rcases hy.rat_cases with hyf | hyp
  · rcases hx.rat_cases with hxf | hxp
    · obtain ⟨h1, h2⟩ := val_add_fin ⟨hxf, hx.2.2⟩ ⟨hyf, hy.2.2⟩
      refine ⟨h1.good, ?_⟩
      rw [h1.den, h2, den_of_fin hxf.2, den_of_fin hyf.2]; rfl
    · have e : (IR.add x y).rat = pinf := by
        show R.add x.rat y.rat = pinf
        rw [hxp]; exact add_pinf_left hyf.2
      refine ⟨⟨by rw [e]; decide, by rw [e]; decide, he⟩, ?_⟩
      rw [den_of_inf (by rw [e]; rfl), den_of_inf (x := x) (by rw [hxp]; rfl), WithTop.top_add]
  · have e : (IR.add x y).rat = pinf := by
      show R.add x.rat y.rat = pinf
      rw [hyp]; exact add_infinite_right rfl
    refine ⟨⟨by rw [e]; decide, by rw [e]; decide, he⟩, ?_⟩
    rw [den_of_inf (by rw [e]; rfl), den_of_inf (x := y) (by rw [hyp]; rfl), WithTop.add_top]

theorem fin_neg {w : IR} (hw : Fin w) : Fin (rdlOps.neg w) ∧ val (rdlOps.neg w) = - val w := by
  refine ⟨⟨finWF_neg hw.1, finWF_neg hw.2⟩, ?_⟩
  show (toLex ((R.neg w.rat).toRat, (R.neg w.inf).toRat) : QV) = _
  rw [toRat_neg hw.1, toRat_neg hw.2]; rfl

theorem good_sub {y w : IR} (hy : Good y) (hw : Fin w) :
    Good (rdlOps.sub y w) ∧ den (rdlOps.sub y w) = den y + ((- val w : QV) : WithTop QV) := by
  have hn := fin_neg hw
  have e : rdlOps.sub y w = rdlOps.add y (rdlOps.neg w) := rfl
  rw [e]
  obtain ⟨h1, h2⟩ := good_add hy hn.1.good
  refine ⟨h1, ?_⟩
  rw [h2, hn.1.den, hn.2]

theorem fin_negStrict {w : IR} (hw : Fin w) :
    Fin (rdlOps.negStrict w) ∧ val (rdlOps.negStrict w) = - val w - QV.eps := by
  have hn := fin_neg hw
  have h1 : Fin (⟨R.zero, R.one⟩ : IR) := ⟨finWF_zero, by decide, by decide⟩
  have hn1 := fin_neg h1
  have e : rdlOps.negStrict w = IR.add (rdlOps.neg w) (rdlOps.neg ⟨R.zero, R.one⟩) := rfl
  rw [e]
  obtain ⟨a1, a2⟩ := val_add_fin hn.1 hn1.1
  refine ⟨a1, ?_⟩
  rw [a2, hn.2, hn1.2, sub_eq_add_neg]
  congr 2

theorem eq_pinf_fin {b : R} (hb : FinWF b) : R.eq pinf b = false := eq_false_of_ne hb.ne_pinf.symm

theorem eq_fin_pinf {a : R} (ha : FinWF a) : R.eq a pinf = false := eq_false_of_ne ha.ne_pinf

theorem lt_den {x y : IR} (hx : Good x) (hy : Good y) (hfin : den x ≠ ⊤ ∨ den y ≠ ⊤) :
    rdlOps.lt x y = true ↔ den x < den y := by
  show IR.lt x y = true ↔ _
  rcases hx.rat_cases with hxf | hxp
  · rcases hy.rat_cases with hyf | hyp
    · rw [lt_val ⟨hxf, hx.2.2⟩ ⟨hyf, hy.2.2⟩, den_of_fin hxf.2, den_of_fin hyf.2, WithTop.coe_lt_coe]
    · rw [den_of_fin hxf.2, den_of_inf (x := y) (by rw [hyp]; rfl)]
      unfold IR.lt; rw [hyp, hxf.lt_pinf]
      simp
  · rcases hy.rat_cases with hyf | hyp
    · rw [den_of_inf (x := x) (by rw [hxp]; rfl), den_of_fin hyf.2]
      unfold IR.lt; rw [hxp, hyf.1.pinf_lt, eq_pinf_fin hyf]
      simp
    · exfalso
      rcases hfin with h | h
      · exact h (den_of_inf (by rw [hxp]; rfl))
      · exact h (den_of_inf (by rw [hyp]; rfl))

/-- between two infinite entries the outcome of `<` depends on the ε parts they happen to carry -/
theorem lt_den_true {x y : IR} (hx : Good x) (hy : Good y) (h : rdlOps.lt x y = true) :
    den x < den y ∨ (den x = ⊤ ∧ den y = ⊤) := by
  by_cases hfin : den x ≠ ⊤ ∨ den y ≠ ⊤
  · left; exact (lt_den hx hy hfin).mp h
  · right
    constructor
    · by_contra hc; exact hfin (Or.inl hc)
    · by_contra hc; exact hfin (Or.inr hc)

theorem lt_den_of {x y : IR} (hx : Good x) (hy : Good y) (h : den x < den y) : rdlOps.lt x y = true :=
  (lt_den hx hy (Or.inl (ne_top_of_lt h))).mpr h

theorem le_den {x y : IR} (hx : Good x) (hy : Good y) (hfin : den x ≠ ⊤ ∨ den y ≠ ⊤) :
    rdlOps.le x y = true ↔ den x ≤ den y := by
  have wx : x.WF := ⟨hx.1, hx.2.2.1⟩
  have wy : y.WF := ⟨hy.1, hy.2.2.1⟩
  -- `≤` is "not `>`" in the order of canonical values
  show IR.le x y = true ↔ _
  rw [le_iff_key wx wy, ← not_lt, ← lt_iff_key wy wx, ← not_lt]
  exact not_congr (lt_den hy hx hfin.symm)

theorem finiteGuard_true (x : IR) : rdlOps.finiteGuard x = true := rfl

end IR
end Oratio
