/-
C10X (validity of difference-logic explanations): the vocabulary.

`Dl.Just`     — an entry `(k, j) ↦ bb` of `dist_constr` is *justified* under the SAT assignment:
                 constraint `bb` exists, is assigned, and in its assigned polarity it denotes the
                 edge `k → j` of weight `w` (`x_j - x_k ≤ w`).
`Dl.ChainN`   — `j` is reached from the root `i` by `n` predecessor steps of row `i` of `_preds`.
`Dl.PathInv`  — the path invariant tying `_preds` and `dist_constr` to the matrix.
`Dl.Agrees`   — a valuation `σ` and a total assignment `α` of the SAT variables agree on the
                 meaning of every constraint literal.
-/
import OratioModel.Net.Dl

namespace Oratio
namespace Dl

/-- entry `(k, j) ↦ bb` of `dist_constr` denotes, under `s`, the asserted edge `k → j` of weight `w`:
    a true literal stands for the edge `src → dst` of weight `dist`, a false literal for the
    reversed strict edge `dst → src` of weight `-dist - 1` (this is how `propagate(lit)` stores it) -/
def Just (s : Sat) (t : Dl Int) (k j bb : Nat) (w : Int) : Prop :=
  lookupPair t.distConstr (k, j) = some bb ∧
  ∃ c, constrOf t bb = some c ∧
    ((s.value ⟨bb, true⟩ = some true ∧ c.src = k ∧ c.dst = j ∧ w = c.dist) ∨
     (s.value ⟨bb, true⟩ = some false ∧ c.dst = k ∧ c.src = j ∧ w = -c.dist - 1))

/-- `ChainN t i n j`: following `_preds[i][·]` from `j` reaches the root `i` after exactly `n`
    steps (and not earlier) -/
inductive ChainN {α : Type} (t : Dl α) (i : Nat) : Nat → Nat → Prop
  | root : ChainN t i 0 i
  | step {n j : Nat} : j ≠ i → ChainN t i n (p t i j) → ChainN t i (n + 1) j

/-- the path invariant -/
structure PathInv (s : Sat) (t : Dl Int) : Prop where
  /-- every entry of `dist_constr` is a currently asserted constraint (in the right polarity)
      whose edge weight bounds the matrix entry of its pair -/
  dc : ∀ k j bb, lookupPair t.distConstr (k, j) = some bb →
    k < t.nVars ∧ j < t.nVars ∧ k ≠ j ∧
    ∃ w, Just s t k j bb w ∧ d idlOps t k j ≠ idlInf ∧ d idlOps t k j ≤ w
  /-- for a finite entry `d i j` (`i ≠ j`) the predecessor `k = preds i j` is a time point with
      `d i k` finite, `(k, j)` is a justified key of `dist_constr`, and
      `d i k + w(k, j) ≤ d i j` -/
  tree : ∀ i j, i < t.nVars → j < t.nVars → i ≠ j → d idlOps t i j ≠ idlInf →
    p t i j < t.nVars ∧ p t i j ≠ j ∧ d idlOps t i (p t i j) ≠ idlInf ∧
    ∃ bb w, Just s t (p t i j) j bb w ∧ d idlOps t i (p t i j) + w ≤ d idlOps t i j
  /-- well-foundedness: the walk from `j` back to the root `i` ends within `nVars` steps -/
  chain : ∀ i j, i < t.nVars → j < t.nVars → d idlOps t i j ≠ idlInf → ∃ n, n < t.nVars ∧ ChainN t i n j

/-- `σ` and `α` agree on the meaning of the constraint literals: a true literal means
    `σ dst - σ src ≤ dist`, a false one the reversed strict edge `σ src - σ dst ≤ -dist - 1` -/
def Agrees (t : Dl Int) (σ : Nat → Int) (α : Asg) : Prop :=
  ∀ c ∈ t.varDists, (α c.b = true → σ c.dst - σ c.src ≤ c.dist) ∧
                     (α c.b = false → σ c.src - σ c.dst ≤ -c.dist - 1)

/-- all constraints are between distinct time points and within the no-overflow range -/
def ConstrsOk (K : Int) (t : Dl Int) : Prop :=
  ∀ c ∈ t.varDists, c.src < t.nVars ∧ c.dst < t.nVars ∧ c.src ≠ c.dst ∧ -K ≤ c.dist ∧ c.dist + 1 ≤ K

end Dl
end Oratio
