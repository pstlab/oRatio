/-
Lemmas for property C12, real-valued instance.  How `rdl_theory` reads its weights `k + e·ε` under
rational valuations (the instance of `DlRel.Reads`); and the expression queries: `x * c + k` on
`inf_rational` bounds is exact on finite bounds and keeps infinite ones infinite with the sign of `c`
(for `c ≠ 0`), so the interval returned for `c·(x_a − x_b) + k` is the image of `distance(b, a)`.
Lower and upper bounds are read as the two sides of the interval arithmetic of linear arithmetic
(`Lra.Side.holds`, Lemmas/LraSide.lean and LraInterval.lean).
-/
import OratioProofs.Lemmas.DlRelRDefs
import OratioProofs.Lemmas.DlRel
import OratioProofs.Lemmas.LraInterval

namespace Oratio
namespace DlRelR
open Dl DlRel

theorem rdl_mkB (k : R) (e : Int) : rdlOps.mkB k e = some ⟨k, R.ofInt e⟩ := rfl

/-- in the form `DlRel.relOut_invalid_iff` asks for, with `P := fun _ => True` -/
theorem rdl_mkB_none (k : R) (e : Int) : rdlOps.mkB k e = none ↔ ¬ True := by
  simp [rdl_mkB]

theorem rdl_weight {k : R} {e : Int} {w : IR} (hk : R.FinWF k) (h : rdlOps.mkB k e = some w) :
    IR.Fin w ∧ w.inf.den = 1 := by
  obtain rfl := Option.some.inj h
  exact ⟨⟨hk, R.finWF_ofInt e⟩, rfl⟩

theorem edgeHoldsR_iff (σ : Nat → ℚ) (s d : Nat) (w : IR) :
    edgeHoldsR σ s d w ↔ (σ d - σ s < w.rat.toRat ∨ (σ d - σ s = w.rat.toRat ∧ 0 ≤ w.inf.toRat)) := by
  show (toLex (σ d - σ s, (0 : ℚ) - 0) : QV) ≤ IR.val w ↔ _
  rw [sub_zero]
  exact QV.le_iff ..

theorem edgeHoldsR_strict (σ : Nat → ℚ) (s d : Nat) (q : R) :
    edgeHoldsR σ s d ⟨q, R.ofInt (-1)⟩ ↔ σ d - σ s < q.toRat := by
  rw [edgeHoldsR_iff]
  show (_ ∨ (_ ∧ 0 ≤ (R.ofInt (-1)).toRat)) ↔ _
  rw [R.toRat_ofInt]
  constructor
  · rintro (h | ⟨-, h⟩)
    · exact h
    · exfalso; norm_num at h
  · intro h; exact Or.inl h

theorem edgeHoldsR_weak (σ : Nat → ℚ) (s d : Nat) (q : R) :
    edgeHoldsR σ s d ⟨q, R.ofInt 0⟩ ↔ σ d - σ s ≤ q.toRat := by
  rw [edgeHoldsR_iff]
  show (_ ∨ (_ ∧ 0 ≤ (R.ofInt 0).toRat)) ↔ _
  rw [R.toRat_ofInt]
  have h0 : (0 : ℚ) ≤ ((0 : Int) : ℚ) := by norm_num
  exact (or_congr_right (and_iff_left h0)).trans le_iff_lt_or_eq.symm

theorem rdl_reads (σ : Nat → ℚ) : Reads rdlOps σ (edgeHoldsR σ) where
  strict s d _ h := by
    obtain rfl := Option.some.inj h
    exact edgeHoldsR_strict σ s d _
  weak s d _ h := by
    obtain rfl := Option.some.inj h
    exact edgeHoldsR_weak σ s d _

open R

theorem smul_sub_neg (c : ℚ) (a b : QV) : QV.smul c a + QV.smul (-c) b = QV.smul c (a - b) := by
  show (toLex (c * (ofLex a).1 + -c * (ofLex b).1, c * (ofLex a).2 + -c * (ofLex b).2) : QV) =
    toLex (c * ((ofLex a).1 - (ofLex b).1), c * ((ofLex a).2 - (ofLex b).2))
  congr 1
  ext <;> (dsimp only; ring)

theorem smul_embed (c q : ℚ) : QV.smul c (toLex (q, 0)) = toLex (c * q, 0) := by
  show (toLex (c * q, c * 0) : QV) = _
  rw [mul_zero]

theorem evalQV_diff {l : Lin} {a b : Nat} {c k : R} (hl : l.WF) (hs : exprShape l = .diff a b c k)
    (σ : Nat → QV) (h0 : σ 0 = 0) : Lin.evalQV l σ = QV.smul c.toRat (σ a - σ b) + QV.ofQ k.toRat := by
  obtain ⟨-, -, ⟨rfl, rfl⟩ | ⟨c1, rfl, -, h1⟩⟩ := exprShape_diff hl hs
  · show ([QV.smul c.toRat (σ a)]).sum + _ = _
    rw [List.sum_cons, List.sum_nil, add_zero, h0, sub_zero]
  · show ([QV.smul c.toRat (σ a), QV.smul c1.toRat (σ b)]).sum + _ = _
    rw [List.sum_cons, List.sum_cons, List.sum_nil, add_zero, h1, smul_sub_neg]

/-- `x * c + k` as the query computes it (the ends of `DlRel.boundsLin_eq_shape` at `rdlOps`) -/
def sA (x : IR) (c k : R) : IR := rdlOps.addK (rdlOps.scale x c) k

theorem sA_eq (x : IR) (c k : R) : sA x c k = ⟨R.add (R.mul x.rat c) k, R.mul x.inf c⟩ := rfl

theorem fin_addR {m : IR} {k : R} (hm : IR.Fin m) (hk : FinWF k) :
    IR.Fin (IR.addR m k) ∧ IR.val (IR.addR m k) = IR.val m + QV.ofQ k.toRat := by
  obtain ⟨a1, a2⟩ := add_fin hm.1 hk
  refine ⟨⟨a1, hm.2⟩, ?_⟩
  show (toLex ((R.add m.rat k).toRat, m.inf.toRat) : QV) = toLex (m.rat.toRat + k.toRat, m.inf.toRat + 0)
  rw [a2, add_zero]

theorem sA_fin {x : IR} {c k : R} (hx : IR.Fin x) (hc : FinWF c) (hk : FinWF k) :
    IR.Fin (sA x c k) ∧ IR.val (sA x c k) = QV.smul c.toRat (IR.val x) + QV.ofQ k.toRat := by
  obtain ⟨m1, m2⟩ := Lra.fin_mulR hx hc
  exact (fin_addR m1 hk).imp_right fun e => e.trans (by rw [m2]; rfl)

theorem sA_rat_inf {x : IR} {c k : R} {i : R} (hx : x.rat = i) (hi : i = pinf ∨ i = ninf) (hc : FinWF c) (hk : FinWF k) :
    (0 < c.num → (sA x c k).rat = i) ∧ (c.num < 0 → (sA x c k).rat = R.neg i) := by
  have hw : i.WF ∧ i.den = 0 ∧ (R.neg i).WF := by rcases hi with rfl | rfl <;> decide
  refine ⟨fun hp => ?_, fun hn => ?_⟩
  · show R.add (R.mul x.rat c) k = i
    rw [hx, mul_inf_pos hw.1 hw.2.1 hc.1 hp, add_infinite_left hw.1 hw.2.1 hk.2]
  · show R.add (R.mul x.rat c) k = R.neg i
    rw [hx, mul_inf_neg hw.1 hw.2.1 hc.1 hn, add_infinite_left hw.2.2 hw.2.1 hk.2]

open Lra (Side SOk)

/-- `IR.GoodL` is `GoodS .lo`, `IR.Good` is `GoodS .hi` -/
def GoodS (d : Side) (b : IR) : Prop := b.rat.WF ∧ b.rat ≠ d.flip.inf ∧ FinWF b.inf

theorem GoodS.sok : ∀ {d : Side} {b : IR}, GoodS d b → SOk d b
  | .lo, _, h => h.1.cases.elim (fun e => absurd e h.2.1) fun e => e.elim .inr fun e => .inl ⟨e, h.2.2⟩
  | .hi, _, h => h.1.cases.elim .inr fun e => e.elim (fun e => absurd e h.2.1) fun e => .inl ⟨e, h.2.2⟩

theorem goodS_of_sok {d : Side} {b : IR} (h : SOk d b) (hi : FinWF b.inf) : GoodS d b := by
  refine ⟨h.rat_wf, fun e => ?_, hi⟩
  rcases h with f | e'
  · exact f.1.2 (e ▸ d.flip.inf_den)
  · rw [e'] at e; cases d <;> exact absurd e (by decide)

/-- the fixed readings `IR.lbHolds` / `IR.ubHolds` of a bound are `Side.holds` of its side -/
theorem holds_iff : ∀ {d : Side} {b : IR} (_ : SOk d b) (v : QV),
    d.holds b v ↔ (b.rat = d.inf ∨ (b.rat.den ≠ 0 ∧ d.le (IR.val b) v))
  | d, _, .inl f, v => (d.holds_fin f v).trans
      ⟨fun h => .inr ⟨f.1.2, h⟩, fun h => h.elim (fun e => absurd (e ▸ d.inf_den) f.1.2) And.right⟩
  | _, _, .inr e, v => iff_of_true (Side.holds_inf e v) (.inl e)

theorem lbHolds_iff {b : IR} (h : IR.GoodL b) (v : QV) : IR.lbHolds b v ↔ Side.lo.holds b v :=
  (holds_iff (GoodS.sok (d := .lo) h) v).symm

theorem ubHolds_iff {b : IR} (h : IR.Good b) (v : QV) : IR.ubHolds b v ↔ Side.hi.holds b v :=
  (holds_iff (GoodS.sok (d := .hi) h) v).symm

theorem ubHolds_fin {x : IR} (h : IR.Fin x) (v : QV) : IR.ubHolds x v ↔ v ≤ IR.val x :=
  (holds_iff (d := .hi) (.inl h) v).symm.trans (Side.hi.holds_fin h v)

theorem lbHolds_fin {x : IR} (h : IR.Fin x) (v : QV) : IR.lbHolds x v ↔ IR.val x ≤ v :=
  (holds_iff (d := .lo) (.inl h) v).symm.trans (Side.lo.holds_fin h v)

theorem goodL_neg {x : IR} (h : IR.Good x) : IR.GoodL (rdlOps.neg x) := by
  refine ⟨wf_neg h.1, fun e => ?_, finWF_neg h.2.2⟩
  rcases h.rat_cases with hf | hp
  · exact hf.2 (congrArg R.den e)
  · rw [show (rdlOps.neg x).rat = R.neg x.rat from rfl, hp] at e
    exact absurd e (by decide)

theorem holds_addR {d : Side} {m : IR} {k : R} (hm : SOk d m) (hk : FinWF k) :
    SOk d (IR.addR m k) ∧ ∀ v, d.holds (IR.addR m k) (v + QV.ofQ k.toRat) ↔ d.holds m v := by
  rcases hm with hf | hi
  · obtain ⟨f', hv⟩ := fin_addR hf hk
    refine ⟨.inl f', fun v => ?_⟩
    rw [d.holds_fin f', d.holds_fin hf, hv]
    cases d <;> exact add_le_add_iff_right _
  · have e : (IR.addR m k).rat = d.inf := by
      show R.add m.rat k = _
      rw [hi, add_infinite_left d.inf_wf d.inf_den hk.2]
    exact ⟨.inr e, fun v => iff_of_true (Side.holds_inf e _) (Side.holds_inf hi _)⟩

theorem sA_holds {d e : Side} {b : IR} {c k : R} (hc : FinWF c) (hk : FinWF k)
    (h : (0 < c.num ∧ e = d) ∨ (c.num < 0 ∧ e = d.flip)) (hb : GoodS e b) :
    GoodS d (sA b c k) ∧ ∀ v, d.holds (sA b c k) (QV.smul c.toRat v + QV.ofQ k.toRat) ↔ e.holds b v := by
  have hm := Lra.isMul_mulR hc b
  obtain ⟨s1, t1⟩ : SOk d (IR.mulR b c) ∧ ∀ v, d.holds (IR.mulR b c) (c.toRat • v) ↔ e.holds b v := by
    rcases h with ⟨hp, rfl⟩ | ⟨hn, rfl⟩
    · exact Side.scale_pos _ hm hc hp hb.sok
    · exact Side.scale_neg _ hm hc hn hb.sok
  obtain ⟨s2, t2⟩ := holds_addR s1 hk
  exact ⟨goodS_of_sok s2 (mul_fin hb.2.2 hc).1, fun v => (t2 _).trans (t1 v)⟩

def scaled (c k : R) (p : IR × IR) : IR × IR :=
  if c.isPositive then (sA p.1 c k, sA p.2 c k) else (sA p.2 c k, sA p.1 c k)

theorem scaled_spec {lo hi : IR} {c k : R} (hl : IR.GoodL lo) (hh : IR.Good hi) (hc : FinWF c) (hcn : c.num ≠ 0)
    (hk : FinWF k) :
    IR.GoodL (scaled c k (lo, hi)).1 ∧ IR.Good (scaled c k (lo, hi)).2 ∧
    ∀ v : QV, (IR.lbHolds (scaled c k (lo, hi)).1 (QV.smul c.toRat v + QV.ofQ k.toRat) ∧
        IR.ubHolds (scaled c k (lo, hi)).2 (QV.smul c.toRat v + QV.ofQ k.toRat)) ↔
      (IR.lbHolds lo v ∧ IR.ubHolds hi v) := by
  rcases Int.lt_or_gt_of_ne hcn with hn | hp
  · obtain ⟨g1, t1⟩ := sA_holds (d := .lo) hc hk (.inr ⟨hn, rfl⟩) hh
    obtain ⟨g2, t2⟩ := sA_holds (d := .hi) hc hk (.inr ⟨hn, rfl⟩) hl
    rw [scaled, if_neg (by rw [isPositive_iff]; omega)]
    refine ⟨g1, g2, fun v => ?_⟩
    rw [lbHolds_iff g1, ubHolds_iff g2, lbHolds_iff hl, ubHolds_iff hh]
    exact (and_congr (t1 v) (t2 v)).trans And.comm
  · obtain ⟨g1, t1⟩ := sA_holds (d := .lo) hc hk (.inl ⟨hp, rfl⟩) hl
    obtain ⟨g2, t2⟩ := sA_holds (d := .hi) hc hk (.inl ⟨hp, rfl⟩) hh
    rw [scaled, if_pos ((isPositive_iff c).2 hp)]
    refine ⟨g1, g2, fun v => ?_⟩
    rw [lbHolds_iff g1, ubHolds_iff g2, lbHolds_iff hl, ubHolds_iff hh]
    exact and_congr (t1 v) (t2 v)

theorem boundsLin_rdl (t : Dl IR) (l : Lin) :
    boundsLin rdlOps t l = match exprShape l with
      | .const k => some (⟨k, R.zero⟩, ⟨k, R.zero⟩)
      | .diff a b c k => some (scaled c k (distance rdlOps t b a))
      | .other => none := by
  rw [boundsLin_eq_shape]
  cases exprShape l <;> rfl

theorem boundsLin_rdl_diff (t : Dl IR) {l : Lin} {a b : Nat} {c k : R} (hs : exprShape l = .diff a b c k) :
    boundsLin rdlOps t l = some (scaled c k (distance rdlOps t b a)) := by
  rw [boundsLin_rdl, hs]

end DlRelR
end Oratio
