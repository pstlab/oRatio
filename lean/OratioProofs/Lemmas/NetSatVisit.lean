/-
C07N: `clausePropagate` and `visitWatchers` keep the weak well-formedness `WfS` and the semantic
invariant `Ent orig K`; a reported conflict is a stored clause containing `¬p` all of whose literals
are false.
-/
import OratioProofs.Lemmas.SatCoreStep

namespace Oratio
namespace Sat

theorem swap1_head (c : Clause) (k : Nat) (hk : 1 ≤ k) (l : Lit) (r : List Lit) (hc : c = l :: r) :
    ∃ r', swap1 c k = l :: r' := by
  subst hc
  unfold swap1
  split
  · next a b h1 hk' =>
    match r, h1 with
    | a' :: t, h1 =>
      match k, hk, hk' with
      | k + 1, _, hk' =>
        simp only [List.set_cons_succ]
        exact ⟨_, rfl⟩
  · exact ⟨r, rfl⟩

theorem setClause_step {orig K : Cnf} {s : Sat} (hw : s.WfS) (he : s.Ent orig K) {id : Nat} {c c' : Clause}
    (hm : (id, c) ∈ s.cls) (hp : c'.Perm c)
    (hh : ∀ l r, c = l :: r → l ∈ s.trail → s.reason.getD l.var none = some id → ∃ r', c' = l :: r') :
    (s.setClause id c').WfS ∧ (s.setClause id c').Ent orig K ∧ (id, c') ∈ (s.setClause id c').cls :=
  ⟨hw.setClause hm hp hh, he.setClause' hw.ids hm hp, (mem_setClause' hm).2 (Or.inr rfl)⟩

theorem not_reason_of_watched {s : Sat} (hw : s.WfS) {p : Lit} (hpt : p ∈ s.trail) {id : Nat} {c : Clause}
    (hm : (id, c) ∈ s.cls) (hpc : p.neg ∈ c) : s.reason.getD p.var none ≠ some id := by
  intro hr
  obtain ⟨b, hs⟩ := an_suffix_of_mem hpt
  obtain ⟨rest, hmr, hb⟩ := hw.r p b hs id hr
  have e : c = p :: rest := mem_unique' hw.ids hm hmr
  rw [e] at hpc
  rcases List.mem_cons.1 hpc with h | h
  · exact Lit.neg_ne p h
  · rcases hb _ h with h' | h'
    · rw [Lit.neg_neg] at h'
      have hnd : ((p :: b).map Lit.var).Nodup := hw.a.trailNodup.sublist (hs.sublist.map _)
      simp only [List.map_cons, List.nodup_cons] at hnd
      exact hnd.1 (List.mem_map.2 ⟨p, h', rfl⟩)
    · have h0 : p.var = 0 := by
        have := congrArg Lit.var h'
        simpa [Lit.neg, Lit.falseLit] using this
      exact (hw.a.trailVal p hpt).2 h0

theorem value_falseLit {s : Sat} (ha : s.WfA) : s.value Lit.falseLit = some false :=
  ha.value_false.2 (Or.inr rfl)

theorem clausePropagate_sound {orig K : Cnf} {s : Sat} {p : Lit} {id : Nat} (hw : s.WfS) (he : s.Ent orig K)
    (hpt : p ∈ s.trail) (hid : ∃ c, (id, c) ∈ s.cls ∧ p.neg ∈ c) :
    (s.clausePropagate id p).2.WfS ∧ (s.clausePropagate id p).2.Ent orig K ∧
    ((s.clausePropagate id p).1 = false →
      ∃ c, (id, c) ∈ (s.clausePropagate id p).2.cls ∧ p.neg ∈ c ∧ ∀ l ∈ c, (s.clausePropagate id p).2.value l = some false) := by
  obtain ⟨c0, hm0, hpc0⟩ := hid
  rw [clausePropagate_eq_norm, clauseOf_of_mem' hw.ids hm0]
  have hperm := normCl_perm c0 p
  generalize hc : normCl c0 p = c at hperm
  -- the normalisation keeps the head of a reason clause
  have hh0 : ∀ l r, c0 = l :: r → l ∈ s.trail → s.reason.getD l.var none = some id → ∃ r', c = l :: r' := by
    intro l r e hl hr
    rw [← hc]
    unfold normCl
    subst e
    match r with
    | [] => exact ⟨[], rfl⟩
    | l1 :: rest =>
      simp only
      split
      · rename_i hv
        have hv' : l.var = p.var := by simpa using hv
        have : l = p := hw.a.trail_var_inj hl hpt hv'
        subst this
        exact absurd hr (not_reason_of_watched hw hpt hm0 hpc0)
      · exact ⟨_, rfl⟩
  obtain ⟨w1, e1, m1⟩ := setClause_step hw he hm0 hperm hh0
  have hpc : p.neg ∈ c := hperm.mem_iff.2 hpc0
  have key := cpTail_cases (s := s) (id := id) (p := p) (c := c) (P := fun x => x.2.WfS ∧ x.2.Ent orig K ∧ (x.1 = false →
    ∃ c, (id, c) ∈ x.2.cls ∧ p.neg ∈ c ∧ ∀ l ∈ c, x.2.value l = some false))
  generalize s.setClause id c = s1 at w1 e1 m1 key
  have ww : (s1.watch p id).WfS := w1.watch m1 hpc
  have ew : (s1.watch p id).Ent orig K := e1.watch p id
  have hrest : findNonFalse s1 c 1 = none → ∀ l r, c = l :: r → ∀ x ∈ r, s1.value x = some false := by
    intro hnone l r e x hx
    obtain ⟨j, hj, rfl⟩ := List.getElem_of_mem hx
    have := findNonFalse_none hnone (j + 1) (by omega) (by rw [e]; simp; omega)
    rw [e] at this
    simpa [List.getD_eq_getElem?_getD, hj] using this
  refine key (fun _ => ⟨ww, ew, fun h => by cases h⟩) (fun k hk => ?_) (fun hnone hv => ?_) (fun hnone hv => ?_)
  · obtain ⟨k1, k2, _⟩ := findNonFalse_some hk
    have hp2 := swap1_perm c k
    obtain ⟨w2, e2, m2⟩ := setClause_step w1 e1 m1 hp2 fun l r e _ _ => swap1_head c k k1 l r e
    have hlen : 1 < (swap1 c k).length := by rw [hp2.length_eq]; omega
    have hmem : ((swap1 c k).getD 1 Lit.falseLit).neg.neg ∈ swap1 c k := by
      rw [Lit.neg_neg, List.getD_eq_getElem?_getD, List.getElem?_eq_getElem hlen]
      exact List.getElem_mem _
    exact ⟨w2.watch m2 hmem, e2.watch _ _, fun h => by cases h⟩
  · match c, hv, hrest hnone, m1, hpc with
    | [], hv, _, _, _ => exact absurd (value_falseLit w1.a) (by simp only [List.headD_nil] at hv; rw [hv]; simp)
    | h :: t, hv, hrest, mw, hpc =>
      simp only [List.headD_cons] at hv ⊢
      have ht : ∀ r ∈ t, r.neg ∈ (s1.watch p id).trail ∨ r = Lit.falseLit :=
        fun r hr => ww.a.value_false.1 (hrest h t rfl r hr)
      have hlt : h.var < (s1.watch p id).vals.length := ww.rng _ mw h (List.mem_cons_self ..)
      exact ⟨ww.enq hv hlt (fun e => by cases e) (fun id' e => Option.some.inj e ▸ ⟨t, mw, ht⟩),
        ew.enq ww.a hv hlt (ents_unitN ew (ew.clauses _ mw) ht), fun hb => by cases hb⟩
  · refine ⟨ww, ew, fun _ => ⟨c, m1, hpc, fun l hl => ?_⟩⟩
    match c, hl, hv, hrest hnone with
    | h :: t, hl, hv, hrest => exact (List.mem_cons.1 hl).elim (fun e => e ▸ hv) (hrest _ _ rfl l)

theorem visit_sound {orig K : Cnf} {p : Lit} : ∀ (tmp : List Nat) (s : Sat), s.WfS → s.Ent orig K → p ∈ s.trail →
    (∀ id ∈ tmp, ∃ c, (id, c) ∈ s.cls ∧ p.neg ∈ c) →
    (visitWatchers s p tmp).1.WfS ∧ (visitWatchers s p tmp).1.Ent orig K ∧
    ∀ id, (visitWatchers s p tmp).2 = some id → (visitWatchers s p tmp).1.queue = [] ∧
      ∃ c, (id, c) ∈ (visitWatchers s p tmp).1.cls ∧ p.neg ∈ c ∧ ∀ l ∈ c, (visitWatchers s p tmp).1.value l = some false
  | [], s, hw, he, _, _ => ⟨hw, he, fun id h => by cases h⟩
  | id :: rest, s, hw, he, hpt, htmp => by
    unfold visitWatchers
    obtain ⟨c1, c2, c4⟩ := clausePropagate_sound hw he hpt (htmp id (List.mem_cons_self ..))
    have c3 := ext_clausePropagate s id p
    rcases hcp : s.clausePropagate id p with ⟨b, s'⟩
    rw [hcp] at c1 c2 c3 c4
    simp only at c1 c2 c3 c4
    have hrest : ∀ id' ∈ rest, ∃ c, (id', c) ∈ s'.cls ∧ p.neg ∈ c := fun id' h' =>
      let ⟨_, hc, hpc⟩ := htmp id' (List.mem_cons_of_mem _ h'); c3.mem_cls ⟨hw.idlt, hw.ids⟩ hc hpc
    cases b with
    | true =>
      simp only
      exact visit_sound rest s' c1 c2 (c3.trail.subset hpt) hrest
    | false =>
      simp only
      obtain ⟨c, hc, hpc, hf⟩ := c4 rfl
      refine ⟨?_, c2.of_eq rfl rfl rfl rfl rfl rfl, ?_⟩
      · apply c1.setWatchesQ _ [] (fun x hx => by cases hx)
        intro i id' hid'
        rw [ListAux.getD_set] at hid'
        split at hid'
        · rename_i hi
          rcases List.mem_append.1 hid' with h | h
          · exact c1.w i id' (hi.1 ▸ h)
          · obtain ⟨d, hd, hpd⟩ := hrest id' h
            exact ⟨d, hd, p.neg, hpd, by rw [Lit.neg_neg]; exact hi.1⟩
        · exact c1.w i id' hid'
      · intro id' e
        simp only [Option.some.injEq] at e; subst e
        exact ⟨trivial, c, hc, hpc, hf⟩

end Sat
end Oratio
