/-
The fields of `Lra.GoodCore` in four groups, by what they read: tableau, watch lists and number of variables
(`GoodTab`); tableau and values (`GoodVals`); bounds, undo log and number of variables (`GoodBnd`); the registered
assertions and named expressions (`GoodReg`).  An operation proves anew the groups it writes to and carries the
others over with their `congr` lemma; `pau_good`, `check_good`: `check` keeps `GoodState`.
-/
import OratioModel
import OratioProofs.Lemmas.LraBoundKinds
import OratioProofs.Lemmas.LraCheckRows
import OratioProofs.Lemmas.LraNoZero

namespace Oratio
namespace Lra
open Lin

theorem inB_congr {t u : Lra} (hb : u.bounds = t.bounds) {x : Nat} (hv : u.value x = t.value x) (h : InB t x) :
    InB u x := by
  unfold InB
  rw [hv, lb_eq_of_bounds hb, ub_eq_of_bounds hb]
  exact h

theorem value_fin_of_vals {t : Lra} (h : ∀ v ∈ t.vals, IR.Fin v) (x : Nat) : IR.Fin (t.value x) := by
  unfold value
  by_cases hx : x < t.vals.length
  · rw [List.getD_eq_getElem?_getD, List.getElem?_eq_getElem hx]
    exact h _ (List.getElem_mem hx)
  · rw [List.getD_eq_getElem?_getD, List.getElem?_eq_none (Nat.le_of_not_lt hx)]
    exact finIR_zero

theorem vals_fin_of_value {t : Lra} (h : ∀ x, IR.Fin (t.value x)) : ∀ v ∈ t.vals, IR.Fin v := by
  intro v hv
  obtain ⟨i, hi, rfl⟩ := List.getElem_of_mem hv
  have := h i
  unfold value at this
  rw [List.getD_eq_getElem?_getD, List.getElem?_eq_getElem hi] at this
  exact this

structure GoodTab (t : Lra) : Prop where
  tab : TabWF t
  nz : ∀ e ∈ t.tableau, ∀ p ∈ e.2.vars, p.2.num ≠ 0

structure GoodVals (t : Lra) : Prop where
  vfin : ∀ v ∈ t.vals, IR.Fin v
  rowsRat : ∀ e ∈ t.tableau, t.ratAssign e.1 = Lin.evalS e.2 t.ratAssign
  rowsInf : ∀ e ∈ t.tableau, t.infAssign e.1 = Lin.evalS { e.2 with known := R.zero } t.infAssign

structure GoodBnd (t : Lra) : Prop where
  blen : t.bounds.length = 2 * t.vals.length
  bwf : ∀ x, x < t.vals.length → LowerOK (t.lb x) ∧ UpperOK (t.ub x) ∧ IR.le (t.lb x) (t.ub x) = true
  lay : LayersOK t.bounds t.layers

structure GoodReg (t : Lra) : Prop where
  asrts : ∀ e ∈ t.vAsrts, e.2.x < t.vals.length ∧ IR.Fin e.2.v
  exprs : ∀ e ∈ t.exprs, e.2 < t.vals.length

section
variable {t u : Lra}

theorem GoodCore.ofGroups (a : GoodTab t) (b : GoodVals t) (c : GoodBnd t) (d : GoodReg t) : GoodCore t :=
  ⟨a.tab, a.nz, b.vfin, b.rowsRat, b.rowsInf, c.blen, c.bwf, d.asrts, c.lay, d.exprs⟩

theorem GoodCore.gtab (g : GoodCore t) : GoodTab t := ⟨g.tab, g.nz⟩
theorem GoodCore.gvals (g : GoodCore t) : GoodVals t := ⟨g.vfin, g.rowsRat, g.rowsInf⟩
theorem GoodCore.gbnd (g : GoodCore t) : GoodBnd t := ⟨g.blen, g.bwf, g.lay⟩
theorem GoodCore.greg (g : GoodCore t) : GoodReg t := ⟨g.asrts, g.exprs⟩

theorem GoodTab.congr (g : GoodTab t) (h1 : u.tableau = t.tableau) (h2 : u.tWatches = t.tWatches)
    (h3 : u.vals.length = t.vals.length) : GoodTab u :=
  ⟨tabWF_congr h1 h2 h3 g.tab, h1 ▸ g.nz⟩

theorem GoodVals.congr (g : GoodVals t) (h1 : u.tableau = t.tableau) (h2 : u.vals = t.vals) : GoodVals u := by
  have hr : u.ratAssign = t.ratAssign := by unfold ratAssign value; rw [h2]
  have hi : u.infAssign = t.infAssign := by unfold infAssign value; rw [h2]
  exact ⟨h2 ▸ g.vfin, by rw [h1, hr]; exact g.rowsRat, by rw [h1, hi]; exact g.rowsInf⟩

-- `update_holds` is stated for one component of the values and rows `σ e.1 = evalS e.2 σ - c e.2` with an offset `c`:
-- `c = 0` for the rational parts, the known term for the ε parts (which satisfy the rows without it)
theorem GoodVals.ratRows (g : GoodVals t) : ∀ e ∈ t.tableau,
    (t.value e.1).rat.toRat = Lin.evalS e.2 (fun x => (t.value x).rat.toRat) - (fun _ : Lin => (0 : Rat)) e.2 :=
  fun e he => by rw [sub_zero]; exact g.rowsRat e he

theorem GoodVals.infRows (g : GoodVals t) : ∀ e ∈ t.tableau,
    (t.value e.1).inf.toRat = Lin.evalS e.2 (fun x => (t.value x).inf.toRat) - (fun l : Lin => l.known.toRat) e.2 :=
  fun e he => by rw [← evalS_homog]; exact g.rowsInf e he

theorem GoodVals.ofComps (r1 : ∀ x, R.FinWF (u.value x).rat)
    (r2 : ∀ e ∈ u.tableau,
      (u.value e.1).rat.toRat = Lin.evalS e.2 (fun x => (u.value x).rat.toRat) - (fun _ : Lin => (0 : Rat)) e.2)
    (i1 : ∀ x, R.FinWF (u.value x).inf)
    (i2 : ∀ e ∈ u.tableau,
      (u.value e.1).inf.toRat = Lin.evalS e.2 (fun x => (u.value x).inf.toRat) - (fun l : Lin => l.known.toRat) e.2) :
    GoodVals u :=
  ⟨vals_fin_of_value fun x => ⟨r1 x, i1 x⟩, fun e he => by have := r2 e he; rwa [sub_zero] at this,
    fun e he => by rw [evalS_homog]; exact i2 e he⟩

theorem GoodVals.update (g : GoodVals t) (ht : TabWF t) {xi : Nat} (hnb : t.rowOf xi = none) (hxi : xi < t.vals.length)
    {v : IR} (hv : IR.Fin v) : GoodVals (t.update xi v) := by
  have hfin := value_fin_of_vals g.vfin
  obtain ⟨-, -, -, -, -, r6, r7⟩ := update_holds isComp_rat ht hnb hxi (fun x => (hfin x).1) hv.1 (fun _ => 0) g.ratRows
  obtain ⟨-, -, -, -, -, i6, i7⟩ := update_holds isComp_inf ht hnb hxi (fun x => (hfin x).2) hv.2
    (fun l => l.known.toRat) g.infRows
  exact .ofComps r6 r7 i6 i7

theorem GoodBnd.congr (g : GoodBnd t) (h1 : u.bounds = t.bounds) (h2 : u.layers = t.layers)
    (h3 : u.vals.length = t.vals.length) : GoodBnd u :=
  ⟨by rw [h1, h3]; exact g.blen, fun x hx => by rw [lb_eq_of_bounds h1, ub_eq_of_bounds h1]; exact g.bwf x (h3 ▸ hx),
    by rw [h1, h2]; exact g.lay⟩

theorem GoodReg.mono (g : GoodReg t) (hn : t.vals.length ≤ u.vals.length)
    (ha : ∀ e ∈ u.vAsrts, e ∈ t.vAsrts ∨ (e.2.x < u.vals.length ∧ IR.Fin e.2.v))
    (he : ∀ e ∈ u.exprs, e ∈ t.exprs ∨ e.2 < u.vals.length) : GoodReg u :=
  ⟨fun e h => (ha e h).elim (fun h' => ⟨Nat.lt_of_lt_of_le (g.asrts e h').1 hn, (g.asrts e h').2⟩) id,
    fun e h => (he e h).elim (fun h' => Nat.lt_of_lt_of_le (g.exprs e h') hn) id⟩

theorem GoodReg.congr (g : GoodReg t) (h1 : u.vAsrts = t.vAsrts) (h2 : u.exprs = t.exprs)
    (h3 : u.vals.length = t.vals.length) : GoodReg u :=
  g.mono h3.ge (fun _ h => Or.inl (h1 ▸ h)) (fun _ h => Or.inl (h2 ▸ h))

theorem GoodCore.update {t : Lra} (g : GoodCore t) {xi : Nat} (hnb : t.isBasic xi = false) (hxi : xi < t.vals.length)
    {v : IR} (hv : FinIR v) :
    GoodCore (t.update xi v) ∧ (t.update xi v).value xi = v ∧
    (∀ x, t.isBasic x = false → x ≠ xi → (t.update xi v).value x = t.value x) ∧
    (t.update xi v).tableau = t.tableau ∧ (t.update xi v).vals.length = t.vals.length ∧
    (t.update xi v).bounds = t.bounds := by
  have hnb' := (isBasic_false_iff t xi).1 hnb
  obtain ⟨r1, r2, r3, r4, r5, -⟩ := update_holds isComp_rat g.tab hnb' hxi (fun x => (value_fin_of_vals g.vfin x).1) hv.1
    (fun _ => 0) g.gvals.ratRows
  obtain ⟨hb, hva, hly, hex, -⟩ := (C09_core_iff t (t.update xi v)).1 (C09_core_update t xi v)
  exact ⟨.ofGroups (g.gtab.congr r1 r2 r3) (g.gvals.update g.tab hnb' hxi hv) (g.gbnd.congr hb hly r3)
    (g.greg.congr hva hex r3), r4, fun x hx hne => r5 x ((isBasic_false_iff t x).1 hx) hne, r1, r3, hb⟩

end

/-- given that `σ` satisfies the rows, `τ` satisfies the rows without their known terms iff
    `σ + τ` satisfies the rows -/
theorem rows_sum_iff {m : List (Nat × Lin)} {σ τ : Nat → Rat} (hσ : ∀ e ∈ m, σ e.1 = Lin.evalS e.2 σ) :
    (∀ e ∈ m, τ e.1 = Lin.evalS { e.2 with known := R.zero } τ) ↔
      (∀ e ∈ m, (fun x => σ x + τ x) e.1 = Lin.evalS e.2 (fun x => σ x + τ x)) := by
  constructor
  · intro h e he
    rw [evalS_add]
    show σ e.1 + τ e.1 = _
    rw [hσ e he, h e he]
  · intro h e he
    have := h e he
    rw [evalS_add] at this
    have h2 : σ e.1 + τ e.1 = Lin.evalS e.2 σ + Lin.evalS { e.2 with known := R.zero } τ := this
    rw [hσ e he] at h2
    linarith

theorem isBasic_iff_keys (t : Lra) (x : Nat) : t.isBasic x = true ↔ x ∈ t.tableau.map Prod.fst := by
  rw [← Bool.not_eq_false, isBasic_false_iff, show t.rowOf x = ListAux.lookupBy t.tableau x from rfl,
    ListAux.lookupBy_eq_none, List.mem_map]
  exact ⟨fun h => by_contra fun hc => h fun e he hx => hc ⟨e, he, hx⟩, fun ⟨e, he, hx⟩ h => h e he hx⟩

theorem GoodTab.pivot {t : Lra} (g : GoodTab t) {xi xj : Nat} {l : Lin} (hl : t.rowOf xi = some l) {aij : R}
    (hcf : Lin.find l.vars xj = some aij) : GoodTab (t.pivot xi xj) := by
  have hxj : (l.coeff xj).num ≠ 0 := by
    unfold Lin.coeff; rw [hcf]; exact nz_find (g.nz (xi, l) (tabFind_some_mem hl)) hcf
  exact ⟨tabWF_pivot g.tab hl hxj, nz_pivot ((tabWF_iff _).1 g.tab).1 g.nz hl hcf⟩

theorem GoodVals.pivot {t : Lra} (g : GoodVals t) (ht : TabWF t) {xi xj : Nat} {l : Lin} (hl : t.rowOf xi = some l)
    (hxj : (l.coeff xj).num ≠ 0) : GoodVals (t.pivot xi xj) := by
  have hvals : (t.pivot xi xj).vals = t.vals := (pivot_vals_bounds _ _ _).1
  have hR := (pivot_holds ht hl hxj t.ratAssign).1 g.rowsRat
  -- `pivot_holds` is about rows with their known terms, which the ε parts `τ` alone do not satisfy; `σ + τ` does
  have hS := (pivot_holds ht hl hxj (fun x => t.ratAssign x + t.infAssign x)).1 ((rows_sum_iff g.rowsRat).1 g.rowsInf)
  refine ⟨?_, ?_, ?_⟩
  · rw [hvals]; exact g.vfin
  · unfold ratAssign value; rw [hvals]; exact hR
  · unfold infAssign value; rw [hvals]; exact (rows_sum_iff hR).2 hS

/-- an `update` of `x_j` (`pauPre_eq_update`), then the pivot -/
theorem GoodVals.pau {t : Lra} (g : GoodVals t) (ht : TabWF t) {xi xj : Nat} {l : Lin} (hl : t.rowOf xi = some l)
    (hxj : (l.coeff xj).num ≠ 0) {v : IR} (hv : IR.Fin v) : GoodVals (t.pivotAndUpdate xi xj v) := by
  obtain ⟨cf, hcf, hn⟩ := coeff_num_ne_zero hxj
  obtain ⟨hi, hlen⟩ := (tabWF_iff t).1 ht
  obtain ⟨hnb, hlt, -, -⟩ := hi.entering hlen hl (by rw [hcf]; rfl)
  obtain ⟨hw, hid, -⟩ := pauPre_eq_update ht hl hcf hn (value_fin_of_vals g.vfin) hv
  obtain ⟨vs, e, hvs⟩ := update_only_vals t xj (IR.addAssign (t.value xj) (pauTheta t xi xj v))
  rw [pivotAndUpdate_def, hid]
  exact (g.update ht hnb hlt hw).pivot (tabWF_congr (by rw [e]) (by rw [e]) (by rw [e]; exact hvs) ht)
    (by rw [rowOf_eq_of_tableau (by rw [e])]; exact hl) hxj

theorem pau_good {t : Lra} (g : GoodState t) {xi xj : Nat} {l : Lin} (hl : t.rowOf xi = some l) {aij : R}
    (hcf : Lin.find l.vars xj = some aij) {v : IR} (hv : IR.Fin v)
    (hvb : IR.lt v (t.lb xi) = false ∧ IR.gt v (t.ub xi) = false) :
    GoodState (t.pivotAndUpdate xi xj v) := by
  obtain ⟨hi, hlen⟩ := (tabWF_iff t).1 g.tab
  have hn : aij.num ≠ 0 := nz_find (g.nz (xi, l) (tabFind_some_mem hl)) hcf
  have hxj' : (l.coeff xj).num ≠ 0 := by unfold Lin.coeff; rw [hcf]; exact hn
  obtain ⟨hnb, hlt, -, -⟩ := hi.entering hlen hl (by rw [hcf]; rfl)
  obtain ⟨hw, hid, hxi⟩ := pauPre_eq_update g.tab hl hcf hn (value_fin_of_vals g.vfin) hv
  obtain ⟨u1, -, u3, u4, u5, u6⟩ := g.toGoodCore.update ((isBasic_false_iff t xj).2 hnb) hlt hw
  rw [pivotAndUpdate_def]
  rw [hid] at hxi ⊢
  generalize t.update xj (IR.addAssign (t.value xj) (pauTheta t xi xj v)) = u at u1 u3 u4 u5 u6 hxi
  have hlu : u.rowOf xi = some l := by rw [rowOf_eq_of_tableau u4]; exact hl
  obtain ⟨hb, hva, hly, hex, -⟩ := (C09_core_iff u (u.pivot xi xj)).1 (C09_core_pivot u xi xj)
  have hvals : (u.pivot xi xj).vals = u.vals := (pivot_vals_bounds _ _ _).1
  have hlen' : (u.pivot xi xj).vals.length = u.vals.length := by rw [hvals]
  refine ⟨.ofGroups (u1.gtab.pivot hlu hcf) (u1.gvals.pivot u1.tab hlu hxj') (u1.gbnd.congr hb hly hlen')
    (u1.greg.congr hva hex hlen'), fun x hx hxb => ?_⟩
  rw [hlen', u5] at hx
  rw [pivot_isBasic u1.tab hlu hxj' x] at hxb
  by_cases hx1 : x = xi
  · subst hx1
    unfold InB
    rw [value_eq_of_vals hvals, hxi, lb_eq_of_bounds (hb.trans u6), ub_eq_of_bounds (hb.trans u6)]; exact hvb
  · by_cases hx2 : x = xj
    · rw [if_pos hx2] at hxb; cases hxb
    · rw [if_neg hx2, if_neg hx1, isBasic_eq_of_tableau u4] at hxb
      exact inB_congr (hb.trans u6) (by rw [value_eq_of_vals hvals]; exact u3 x hxb hx2) (g.nbin x hx hxb)

theorem check_good (fuel : Nat) : ∀ (t t' : Lra) (c : Option (List Lit)), GoodState t →
    t.check fuel = some (c, t') → GoodState t' := fun _ _ _ g h =>
  (check_induction_wf (P := GoodState) (fun t xi xj l v _ g hrow hne hv => by
    obtain ⟨cf, hcf, -⟩ := coeff_num_ne_zero hne
    obtain ⟨hlo, hup, hle⟩ := g.bwf xi (g.tab.wlen ▸ (g.tab.bound _ (tabFind_some_mem hrow)).1)
    have hvfin := value_fin_of_vals g.vfin xi
    have hlu : IR.lt (t.ub xi) (t.lb xi) = false := IR.not_lt_of_le hup.wf hlo.wf hle
    rcases hv with ⟨rfl, hlt⟩ | ⟨rfl, hgt⟩
    · exact pau_good g hrow hcf (SOk.of_ltB (d := .lo) hvfin (lowerOK_iff.1 hlo).1 hlt).1
        ⟨IR.not_lt_of_le hlo.wf hlo.wf (IR.le_refl' hlo.wf), by rw [IR.gt_swap]; exact hlu⟩
    · exact pau_good g hrow hcf (SOk.of_ltB (d := .hi) hvfin (upperOK_iff.1 hup).1 hgt).1
        ⟨hlu, by rw [IR.gt_swap]; exact IR.not_lt_of_le hup.wf hup.wf (IR.le_refl' hup.wf)⟩) g.tab g h).2.1

/-- the ε parts through `rows_sum_iff` -/
theorem GoodVals.extend {t u : Lra} (g : GoodVals t) (ht : TabWF t) {v : IR} (hv : u.vals = t.vals ++ [v])
    (hfin : IR.Fin v)
    (hrows : ∀ e ∈ u.tableau, e ∈ t.tableau ∨ (e.1 = t.vals.length ∧ e.2.WF ∧ (∀ p ∈ e.2.vars, p.1 < t.vals.length) ∧
      v.rat.toRat = Lin.evalS e.2 t.ratAssign ∧ v.inf.toRat = Lin.evalS { e.2 with known := R.zero } t.infAssign)) :
    GoodVals u := by
  have hrat : u.ratAssign = Function.update t.ratAssign t.vals.length v.rat.toRat := by
    funext x; unfold ratAssign; rw [value_append hv, Function.update_apply]; split <;> rfl
  have hsum : (fun x => u.ratAssign x + u.infAssign x) =
      Function.update (fun x => t.ratAssign x + t.infAssign x) t.vals.length (v.rat.toRat + v.inf.toRat) := by
    funext x; unfold ratAssign infAssign; rw [value_append hv, Function.update_apply]; split <;> rfl
  have hR : ∀ e ∈ u.tableau, u.ratAssign e.1 = Lin.evalS e.2 u.ratAssign := by
    rw [hrat]
    exact rows_extend ht (fun e he => (hrows e he).imp id fun ⟨a, b, c, d, _⟩ => ⟨a, b, c, d⟩) g.rowsRat
  refine ⟨fun w hw => (List.mem_append.1 (hv ▸ hw)).elim (g.vfin w) fun h => List.mem_singleton.1 h ▸ hfin, hR,
    (rows_sum_iff hR).2 ?_⟩
  rw [hsum]
  exact rows_extend ht (fun e he => (hrows e he).imp id fun ⟨a, b, c, d, d'⟩ => ⟨a, b, c, by rw [evalS_add, d, d']⟩)
    ((rows_sum_iff g.rowsRat).1 g.rowsInf)

theorem GoodVals.withSlack {t : Lra} (g : GoodVals t) (ht : TabWF t) {e : Lin} (he : e.WF)
    (hev : ∀ p ∈ e.vars, p.1 < t.vals.length) (ex : List (String × Nat)) : GoodVals (withSlack t e ex) := by
  obtain ⟨v1, v2, v3⟩ := valueLin_exact t he (value_fin_of_vals g.vfin)
  refine g.extend ht (withSlack_vals t e ex) v1 fun r hr => ?_
  exact (mem_tabInsert_cases (withSlack_tableau t e ex ▸ hr)).imp id fun h => by rw [h]; exact ⟨rfl, he, hev, v2, v3⟩

theorem valsOK_iff (t : Lra) : ValsOK t ↔ GoodVals t :=
  ⟨fun h => ⟨vals_fin_of_value h.1, h.2.1, h.2.2⟩, fun g => ⟨value_fin_of_vals g.vfin, g.rowsRat, g.rowsInf⟩⟩

theorem valsOK_pivotAndUpdate {t : Lra} (ht : TabWF t) (hv : ValsOK t) {xi xj : Nat} {l : Lin}
    (hl : t.rowOf xi = some l) (hxj : (l.coeff xj).num ≠ 0) {v : IR} (hvf : IR.Fin v) :
    ValsOK (t.pivotAndUpdate xi xj v) :=
  (valsOK_iff _).2 (((valsOK_iff _).1 hv).pau ht hl hxj hvf)

/-- the bound a pivot moves `x_i` to is violated, hence finite -/
theorem valsOK_check (fuel : Nat) (t t' : Lra) (c : Option (List Lit)) (ht : TabWF t) (hb : BoundsOK t) (hv : ValsOK t)
    (h : t.check fuel = some (c, t')) : ValsOK t' :=
  (check_induction_wf (P := fun u => BoundsOK u ∧ ValsOK u) (fun u xi xj l v hu hP hrow hne hcase => by
    refine ⟨boundsOK_congr ((C09_core_iff _ _).1 (C09_core_pivotAndUpdate u xi xj v)).1 hP.1,
      valsOK_pivotAndUpdate hu hP.2 hrow hne ?_⟩
    rcases hcase with ⟨rfl, hlt⟩ | ⟨rfl, hgt⟩
    · exact (SOk.of_ltB (d := .lo) (hP.2.1 xi) (hP.1 xi).1 hlt).1
    · exact (SOk.of_ltB (d := .hi) (hP.2.1 xi) (hP.1 xi).2 hgt).1) ht ⟨hb, hv⟩ h).2.1.2

end Lra

end Oratio
