/-
C07N: `Net.propagate` keeps the network invariant, bounded (`NetInvB m`) and hence full: what a round keeps (`Kept`),
and the inductive description `Run` of a terminating run with the invariant at every node; only conflicts of
`lra.check` are guarded (`ConflictsCurrent`).
-/
import OratioProofs.Lemmas.NetInv

namespace Oratio
namespace NetCheck
open Sat Net

theorem NetInvB.lraCheck {m : Nat} {n : Net} {orig L : Cnf} {fr : List Frame} (h : NetInvB m n orig L fr) {fuel : Nat}
    {c : Option (List Lit)} {t : Lra} (hchk : n.lra.check fuel = some (c, t)) :
    NetInvB m { n with lra := t } orig L fr ∧ (∀ α, TModel { n with lra := t } α ↔ TModel n α) ∧
    ∀ cnfl, c = some cnfl → TEntails { n with lra := t } orig cnfl ∧ ∀ l ∈ cnfl, n.sat.value l = some false := by
  obtain ⟨k1, k2, k3⟩ := lraCheck_spec h.th hchk
  have hk := (Lra.check_writes hchk).kept
  have hlem : ∀ d ∈ L, TEntails { n with lra := t } orig d :=
    fun d hd => TEntails.congr (fun α hm => (k2 α).1 hm) (h.lemmas d hd)
  exact ⟨⟨h.sat, hlem, k1, h.flv, h.flen, h.reg.congr rfl hk.vAsrts rfl rfl (Lra.check_good fuel n.lra t c h.reg.good hchk)
      hk.aWatches hk.sAsrts⟩, k2,
    fun cnfl hc => ⟨TEntails.cut hlem (k3 cnfl hc).1, (k3 cnfl hc).2⟩⟩

theorem NetInvB.theoryPropagate {m : Nat} {n n2 : Net} {orig L : Cnf} {fr : List Frame} (h : NetInvB m n orig L fr) {p : Lit}
    (hpv : n.sat.value p = some true) {oc : Option (List Lit)} (htp : Net.theoryPropagate n p = (oc, n2)) :
    ∃ new, NetInvB m n2 orig (L ++ new) fr ∧ RecsRel n.sat n2.sat new ∧ (∀ α, TModel n2 α ↔ TModel n α) ∧
      ∀ c, oc = some c → TEntails n2 orig c ∧ (∀ l ∈ c, n2.sat.value l = some false) ∧ p.neg ∈ c := by
  obtain ⟨t1, t2, t3, t4, t5⟩ := theoryPropagate_spec h.th p hpv
  obtain ⟨hrb, hpc, hreg2⟩ := theoryPropagate_recs h.th h.reg p hpv
  rw [htp] at t1 t2 t3 t4 t5 hrb hpc hreg2
  obtain ⟨new, hrecs⟩ := hrb.recs
  obtain ⟨⟨w1, e1, d1⟩, r2⟩ := recs_wfs h.sat.wf (h.sat.ent.mono_orig (append_sub _ _ new)) h.sat.dec hrecs
    (fun c hc => Ents.of_mem (List.mem_append_right _ (List.mem_append_right _ hc)))
  have hlemL : ∀ c ∈ L, TEntails n2 orig c := fun c hc => TEntails.congr (fun α hm => (t3 α).1 hm) (h.lemmas c hc)
  have hlem2 : ∀ c ∈ L ++ new, TEntails n2 orig c := by
    intro c hc
    rcases List.mem_append.1 hc with hc | hc
    · exact hlemL c hc
    · rcases t4 c (by rw [r2.log]; exact List.mem_append_right _ hc) with h' | h'
      · exact TEntails.congr (fun α hm => (t3 α).1 hm) (tentails_of_ents' h.lemmas (h.sat.ent.log c h'))
      · exact TEntails.cut hlemL h'
  exact ⟨new, ⟨⟨w1, e1, d1⟩, hlem2, t1.mono_origN (append_sub _ _ new), FramesLv.keep r2.keep fr h.flv,
      h.flen.trans (congrArg List.length r2.trailLim.symm), hreg2⟩, r2, t3,
    fun c hc => ⟨TEntails.cut hlemL (t5 c hc).1, (t5 c hc).2, hpc c hc⟩⟩

end NetCheck

namespace Net
open Sat NetCheck

structure Kept (m : Nat) (orig : Cnf) (n n' : Net) : Prop where
  inv : ∃ L fr, NetInvB m n' orig L fr
  dead : n'.sat.dead = n.sat.dead
  tm : ∀ α, TModel n' α ↔ TModel n α
  decs : n'.sat.decisions <:+ n.sat.decisions

theorem Kept.trans {m : Nat} {orig : Cnf} {a b c : Net} (h1 : Kept m orig a b) (h2 : Kept m orig b c) : Kept m orig a c :=
  ⟨h2.inv, h2.dead.trans h1.dead, fun α => (h2.tm α).trans (h1.tm α), h2.decs.trans h1.decs⟩

theorem round_inv {m : Nat} {n : Net} {orig L : Cnf} {fr : List Frame} (h : NetInvB m n orig L fr) (fuel : Nat) :
    match round n fuel with
    | .stuck => True
    | .done n' => Kept m orig n n' ∧ n'.sat.queue = []
    | .go n1 => Kept m orig n n1
    | .conflict chk n1 c => Kept m orig n n1 ∧ n1.sat.queue = [] ∧ TEntails n1 orig c ∧
        (∀ l ∈ c, n1.sat.value l = some false) ∧ (chk = false → HasCurrent n1.sat c) := by
  unfold round
  cases hq : n.sat.queue with
  | nil =>
    dsimp only
    cases hchk : n.lra.check fuel with
    | none => trivial
    | some res =>
      obtain ⟨c, t⟩ := res
      obtain ⟨k1, k2, k3⟩ := h.lraCheck hchk
      have hk : Kept m orig n { n with lra := t } := ⟨⟨L, fr, k1⟩, rfl, k2, List.suffix_refl _⟩
      cases c with
      | none => exact ⟨hk, hq⟩
      | some cnfl => exact ⟨hk, hq, (k3 cnfl rfl).1, (k3 cnfl rfl).2, fun e => nomatch e⟩
  | cons p q =>
    dsimp only
    rcases hvw : Sat.visitWatchers { n.sat with queue := q, watches := n.sat.watches.set p.idx [] } p
      (n.sat.watches.getD p.idx []) with ⟨s1, oid⟩
    obtain ⟨hs1, hk1, hf1, hp1, hpl1, hc1⟩ := h.sat.visit hq hvw
    have hinv1 : NetInvB m { n with sat := s1 } orig L fr := h.setSat s1 hs1 hk1 (congrArg List.length hf1.trailLim) hf1.lenVals
    cases oid with
    | some id =>
      dsimp only
      obtain ⟨w1, c, w2, hcl, w3, w4⟩ := hc1 id rfl
      rw [hcl]
      exact ⟨⟨⟨L, fr, hinv1⟩, hf1.dead, fun _ => Iff.rfl, hf1.decisions ▸ List.suffix_refl _⟩, w1,
        tentails_of_ents' hinv1.lemmas (hs1.ent.clauses _ w2), w4,
        fun _ => ⟨p.neg, w3, by rw [Lit.neg_neg]; exact hp1, hpl1⟩⟩
    | none =>
      dsimp only
      have hpv : ({ n with sat := s1 } : Net).sat.value p = some true := hs1.wf.a.value_true.2 (Or.inl hp1)
      rcases htp : theoryPropagate { n with sat := s1 } p with ⟨oc, n2⟩
      obtain ⟨new, hinv2, r2, t3, t5⟩ := hinv1.theoryPropagate hpv htp
      have hk2 : Kept m orig n n2 := ⟨⟨_, fr, hinv2⟩, r2.dead.trans hf1.dead, t3,
        (r2.decisions.trans hf1.decisions) ▸ List.suffix_refl _⟩
      cases oc with
      | none => exact hk2
      | some cnfl =>
        dsimp only
        obtain ⟨u1, u2, u3⟩ := t5 cnfl rfl
        have hinv3 : NetInvB m { n2 with sat := { n2.sat with queue := [] } } orig (L ++ new) fr :=
          hinv2.setSat _ hinv2.sat.clearQueue (fun v b hv => ⟨hv, rfl⟩) rfl rfl
        refine ⟨⟨⟨_, fr, hinv3⟩, hk2.dead, hk2.tm, hk2.decs⟩, rfl, u1, u2, fun _ => ⟨p.neg, u3, ?_, ?_⟩⟩
        · rw [Lit.neg_neg]; exact r2.trail.subset hp1
        · have hpa : s1.vals.getD p.var none = some p.sign := value_eq_true.1 hpv
          show n2.sat.level.getD p.neg.var 0 = n2.sat.trailLim.length
          rw [show p.neg.var = p.var from rfl, (r2.keep p.var p.sign hpa).2, r2.trailLim]
          exact hpl1

inductive Run (m : Nat) (orig : Cnf) : Net → Nat → Bool → Net → Prop
  | done {n n' : Net} {fuel : Nat} : round n fuel = .done n' → Kept m orig n n' → n'.sat.queue = [] →
      Run m orig n (fuel + 1) true n'
  | root {n n1 : Net} {fuel : Nat} {chk : Bool} {c : Clause} : round n fuel = .conflict chk n1 c → Kept m orig n n1 →
      n1.sat.trailLim = [] → n1.sat.queue = [] →
      (∃ L fr, NetInvB m { n1 with sat := { n1.sat with dead := true } } orig L fr) →
      Run m orig n (fuel + 1) false { n1 with sat := { n1.sat with dead := true } }
  | learn {n n1 n2 n' : Net} {fuel : Nat} {chk b : Bool} {c : Clause} : round n fuel = .conflict chk n1 c →
      Kept m orig n n1 → learnFrom n1 c = some n2 → Kept m orig n1 n2 → n2.sat.decisionLevel < n1.sat.decisionLevel →
      Run m orig n2 fuel b n' → Run m orig n (fuel + 1) b n'
  | go {n n1 n' : Net} {fuel : Nat} {b : Bool} : round n fuel = .go n1 → Kept m orig n n1 → Run m orig n1 fuel b n' →
      Run m orig n (fuel + 1) b n'

theorem propagate_run {m : Nat} {orig : Cnf} : ∀ (fuel : Nat) (n : Net) (L : Cnf) (fr : List Frame),
    NetInvB m n orig L fr → n.sat.dead = false → ConflictsCurrent n fuel → ∀ b n', propagate n fuel = some (b, n') →
    Run m orig n fuel b n'
  | 0, n, _, _, _, _, _, b, n', he => by simp [propagate] at he
  | fuel + 1, n, L, fr, h, hd, hg, b, n', he => by
    rw [propagate_succ] at he
    rw [conflictsCurrent_succ] at hg
    have hr := round_inv h fuel
    cases hround : round n fuel with
    | stuck => rw [hround] at he; cases he
    | done n1 =>
      rw [hround] at he hr
      cases he
      exact Run.done hround hr.1 hr.2
    | go n1 =>
      rw [hround] at he hg hr
      obtain ⟨L1, fr1, h1⟩ := hr.inv
      exact Run.go hround hr (propagate_run fuel n1 L1 fr1 h1 (hr.dead.trans hd) hg b n' he)
    | conflict chk n1 c =>
      rw [hround] at he hg hr
      obtain ⟨k, hq1, hT, hF, hcur⟩ := hr
      obtain ⟨L1, fr1, h1⟩ := k.inv
      dsimp only at he hg
      by_cases hroot : n1.sat.rootLevel = true
      · rw [if_pos hroot] at he
        cases he
        exact Run.root hround k ((rootLevel_iff _).1 hroot) hq1 ⟨_, _, h1.rootConflict hT hF ((rootLevel_iff _).1 hroot)⟩
      · rw [if_neg hroot] at he
        obtain ⟨g1, g2⟩ := hg (by simpa using hroot)
        cases hlf : learnFrom n1 c with
        | none => rw [hlf] at he; cases he
        | some n2 =>
          rw [hlf] at he
          have hcur' : HasCurrent n1.sat c := by
            cases chk with
            | true => exact g1 rfl
            | false => exact hcur rfl
          obtain ⟨fr2, l1, l2, l3, l4, l5⟩ := h1.learn hq1 (dl_pos_of_not_root hroot) hT hF hcur' hlf
          exact Run.learn hround k hlf ⟨⟨_, _, l1⟩, l2, l3, l5⟩ l4
            (propagate_run fuel n2 _ fr2 l1 (by rw [l2, k.dead]; exact hd) (g2 n2 hlf) b n' he)

/-- what `Net.propagate` on `n` with answer `b` leaves -/
structure PropOut (n n' : Net) (orig : Cnf) (b : Bool) : Prop where
  inv : ∃ L' fr', NetInv n' orig L' fr'
  queue : n'.sat.queue = []
  dead : n'.sat.dead = !b
  root : b = false → n'.sat.trailLim = []
  tm : ∀ α, TModel n' α ↔ TModel n α

theorem PropOut.trans {n n1 n' : Net} {orig : Cnf} {b : Bool} (h : PropOut n1 n' orig b) (ht : ∀ α, TModel n1 α ↔ TModel n α) :
    PropOut n n' orig b := ⟨h.inv, h.queue, h.dead, h.root, fun α => (h.tm α).trans (ht α)⟩

/-- `PropOut` under the invariant bounded by `m`; `decs` is what `check(lits)` needs (NetCheckFalse) -/
structure PropOutB (m : Nat) (n n' : Net) (orig : Cnf) (b : Bool) : Prop where
  inv : ∃ L' fr', NetInvB m n' orig L' fr'
  queue : n'.sat.queue = []
  dead : n'.sat.dead = !b
  root : b = false → n'.sat.trailLim = []
  tm : ∀ α, TModel n' α ↔ TModel n α
  decs : n'.sat.decisions <:+ n.sat.decisions

theorem PropOutB.trans {m : Nat} {n n1 n' : Net} {orig : Cnf} {b : Bool} (h : PropOutB m n1 n' orig b)
    (k : Kept m orig n n1) : PropOutB m n n' orig b :=
  ⟨h.inv, h.queue, h.dead, h.root, fun α => (h.tm α).trans (k.tm α), h.decs.trans k.decs⟩

theorem Run.out {m : Nat} {orig : Cnf} {n n' : Net} {fuel : Nat} {b : Bool} (r : Run m orig n fuel b n')
    (hd : n.sat.dead = false) : PropOutB m n n' orig b := by
  induction r with
  | done _ k hq => exact ⟨k.inv, hq, k.dead.trans hd, nofun, k.tm, k.decs⟩
  | root _ k hroot hq hi => exact ⟨hi, hq, rfl, fun _ => hroot, k.tm, k.decs⟩
  | learn _ k _ k2 _ _ ih => exact (ih ((k2.dead.trans k.dead).trans hd)).trans (k.trans k2)
  | go _ k _ ih => exact (ih (k.dead.trans hd)).trans k

theorem propagate_invB {m : Nat} {orig : Cnf} (fuel : Nat) (n : Net) (L : Cnf) (fr : List Frame)
    (h : NetInvB m n orig L fr) (hd : n.sat.dead = false) (hg : ConflictsCurrent n fuel) (b : Bool) (n' : Net)
    (he : propagate n fuel = some (b, n')) : PropOutB m n n' orig b :=
  (propagate_run fuel n L fr h hd hg b n' he).out hd

theorem propagate_inv {orig : Cnf} (fuel : Nat) (n : Net) (L : Cnf) (fr : List Frame)
    (h : NetInv n orig L fr) (hd : n.sat.dead = false) (hg : ConflictsCurrent n fuel) (b : Bool) (n' : Net)
    (he : propagate n fuel = some (b, n')) : PropOut n n' orig b := by
  have r := propagate_invB (m := n.sat.decisionLevel) fuel n L fr (.ofInv h) hd hg b n' he
  obtain ⟨L', fr', hi⟩ := r.inv
  refine ⟨⟨L', fr', hi.toInv ?_⟩, r.queue, r.dead, r.root, r.tm⟩
  have := r.decs.length_le
  rwa [hi.sat.wf.a.decLen, h.sat.wf.a.decLen] at this

end Net
end Oratio
