/-
"No zero coefficient" is kept by the operations on linear expressions that the model uses (`+=`, `-`, `* c`, `/ c`
with `c ≠ 0`), by `substBasic` and by `pivot` (a coefficient that cancels is erased from the row).
-/
import OratioModel
import OratioProofs.Lemmas.LraPivot
import OratioProofs.Lemmas.LraRelSemDefs
import OratioProofs.Lemmas.LraSubst

namespace Oratio
namespace Lra
open Lin

def NZ (m : List (Nat × R)) : Prop := ∀ p ∈ m, p.2.num ≠ 0

def RowsNoZero (t : Lra) : Prop := ∀ e ∈ t.tableau, NoZero e.2

theorem nz_nil : NZ [] := fun _ h => by cases h

theorem nz_insert {m : List (Nat × R)} {v : Nat} {c : R} (hm : NZ m) (hc : c.num ≠ 0) : NZ (Lin.insert m v c) := by
  intro p hp
  rcases mem_insert hp with h | h
  · exact hm p h
  · rw [h]; exact hc

theorem nz_set {m : List (Nat × R)} {v : Nat} {c : R} (hm : NZ m) (hc : c.num ≠ 0) : NZ (Lin.set m v c) := by
  intro p hp
  rcases mem_set hp with h | h
  · exact hm p h
  · rw [h]; exact hc

theorem nz_erase {m : List (Nat × R)} {v : Nat} (hm : NZ m) : NZ (Lin.erase m v) :=
  fun p hp => hm p (mem_erase hp)

theorem nz_mapC {f : R → R} {m : List (Nat × R)} (hw : CoefWF m) (hm : NZ m)
    (hf : ∀ c, R.FinWF c → c.num ≠ 0 → (f c).num ≠ 0) : NZ (mapC f m) := by
  intro p hp
  obtain ⟨q, hq, rfl⟩ := List.mem_map.1 hp
  exact hf q.2 (hw q hq) (hm q hq)

theorem nz_of_not_eq_zero {c : R} (hc : R.FinWF c) (h : R.eq c R.zero = false) : c.num ≠ 0 := by
  intro h0
  rw [R.wf_num_zero hc.1 h0] at h
  revert h
  decide

theorem nz_addTerm {m : List (Nat × R)} {t : Nat × R} (hw : CoefWF m) (hm : NZ m) (ht : R.FinWF t.2)
    (hn : t.2.num ≠ 0) : NZ (addTerm m t) := by
  unfold addTerm
  cases hf : Lin.find m t.1 with
  | none => exact nz_insert hm hn
  | some c =>
    simp only
    split
    · exact nz_erase hm
    · next hz =>
      exact nz_set hm (nz_of_not_eq_zero (R.finWF_addAssign (coefWF_find hw hf) ht) (by simpa using hz))

theorem nz_foldl_addTerm (r m : List (Nat × R)) (hs : Sorted m) (hw : CoefWF m) (hm : NZ m) (hwr : CoefWF r) (hnr : NZ r) :
    NZ (r.foldl addTerm m) :=
  foldl_addTerm_ind hs hw hwr hm fun _ t ht _ b c => nz_addTerm b c (hwr t ht) (hnr t ht)

theorem find_foldl_addTerm_ne (r m : List (Nat × R)) (hs : Sorted m) (hw : CoefWF m) (hwr : CoefWF r) (w : Nat)
    (hne : ∀ p ∈ r, p.1 ≠ w) : Lin.find (r.foldl addTerm m) w = Lin.find m w :=
  foldl_addTerm_ind (P := fun m' => Lin.find m' w = Lin.find m w) hs hw hwr rfl fun _ t ht a _ c =>
    (find_addTerm_of_ne a (Ne.symm (hne t ht))).trans c

theorem nz_sub {l r : Lin} (hl : l.WF) (hr : r.WF) (hnl : NZ l.vars) (hnr : NZ r.vars) : NZ (Lin.sub l r).vars := by
  obtain ⟨ls, lw, -⟩ := (wf_iff l).1 hl
  obtain ⟨-, rw', -⟩ := (wf_iff r).1 hr
  show NZ (r.vars.foldl subTerm l.vars)
  rw [foldl_subTerm]
  exact nz_foldl_addTerm _ _ ls lw hnl (coefWF_mapC (fun c hc => R.finWF_neg hc) rw')
    (nz_mapC rw' hnr (fun c _ hn => R.neg_num_ne_zero hn))

theorem nz_find {m : List (Nat × R)} (hm : NZ m) {v : Nat} {c : R} (h : Lin.find m v = some c) : c.num ≠ 0 :=
  hm (v, c) (find_mem h)

theorem nz_substRow {xj : Nat} {ex rl : Lin} (hex : ex.WF) (hexn : NZ ex.vars) (hrl : rl.WF) (hrln : NZ rl.vars)
    (hxj : (Lin.find rl.vars xj).isSome = true) : NZ (substRow xj ex rl).vars := by
  obtain ⟨es, ew, -⟩ := (wf_iff ex).1 hex
  obtain ⟨rs, rw', -⟩ := (wf_iff rl).1 hrl
  obtain ⟨c, hc⟩ := Option.isSome_iff_exists.1 hxj
  have hcc : pivCC xj rl = c := by unfold pivCC; rw [hc]; rfl
  have hcw : R.FinWF c := coefWF_find rw' hc
  unfold substRow
  rw [hcc]
  exact nz_foldl_addTerm _ _ (sorted_erase _ rs) (coefWF_erase rw') (nz_erase hrln)
    (coefWF_mapC (fun x hx => (R.mul_fin hx hcw).1) ew)
    (nz_mapC ew hexn (fun x hx hn => R.mul_num_ne_zero hx hcw hn (nz_find hrln hc)))

theorem substRow_key {xj : Nat} {ex rl : Lin} (hex : ex.WF) (hrl : rl.WF) {w : Nat} (hw : w ≠ xj)
    (hno : Lin.find ex.vars w = none) (h : (Lin.find rl.vars w).isSome = true) :
    (Lin.find (substRow xj ex rl).vars w).isSome = true := by
  obtain ⟨rs, rw', -⟩ := (wf_iff rl).1 hrl
  obtain ⟨-, ew, -⟩ := (wf_iff ex).1 hex
  show (Lin.find ((mapC _ ex.vars).foldl addTerm (Lin.erase rl.vars xj)) w).isSome = true
  rw [find_foldl_addTerm_ne _ _ (sorted_erase _ rs) (coefWF_erase rw')
    (coefWF_mapC (f := fun x => R.mul x (pivCC xj rl)) (fun c hc => (R.mul_fin hc (getD_finWF rw' xj)).1) ew) w,
    find_erase _ _ rs, if_neg hw]
  · exact h
  · intro p hp hpw
    obtain ⟨q, hq, rfl⟩ := List.mem_map.1 hp
    have h2 : (Lin.find ex.vars w).isSome = true := by rw [← hpw]; exact find_isSome_iff.2 ⟨q, hq, rfl⟩
    rw [hno] at h2; cases h2

theorem nz_substStep {t : Lra} (hrows : ∀ r l, t.rowOf r = some l → l.WF)
    (hnzr : ∀ r l, t.rowOf r = some l → NZ l.vars) {e : Lin} (he : e.WF) (hne : NZ e.vars) (v : Nat)
    (hv : t.rowOf v ≠ none → (Lin.find e.vars v).isSome = true) :
    NZ (substStep t e v).vars ∧
    (∀ w, w ≠ v → (∀ rl, t.rowOf v = some rl → Lin.find rl.vars w = none) →
      (Lin.find e.vars w).isSome = true → (Lin.find (substStep t e v).vars w).isSome = true) := by
  cases hr : t.rowOf v with
  | none => rw [substStep_of_none hr]; exact ⟨hne, fun w _ _ h => h⟩
  | some rl =>
    rw [substStep_of_row hr]
    exact ⟨nz_substRow (hrows v rl hr) (hnzr v rl hr) he hne (hv (by rw [hr]; simp)),
      fun w hwv hno hw => substRow_key (hrows v rl hr) he hwv (hno rl rfl) hw⟩

theorem nz_substFold {t : Lra} (hrows : ∀ r l, t.rowOf r = some l → l.WF)
    (hnzr : ∀ r l, t.rowOf r = some l → NZ l.vars)
    (hnb : ∀ r l v, t.rowOf r = some l → (Lin.find l.vars v).isSome = true → t.rowOf v = none) :
    ∀ (ks : List Nat) (e : Lin), e.WF → NZ e.vars → ks.Nodup →
      (∀ v ∈ ks, t.rowOf v ≠ none → (Lin.find e.vars v).isSome = true) →
      NZ (ks.foldl (substStep t) e).vars := by
  intro ks
  induction ks with
  | nil => intro e _ hne _ _; exact hne
  | cons v ks ih =>
    intro e he hne hnd hk
    obtain ⟨hv, hnd'⟩ := List.nodup_cons.1 hnd
    obtain ⟨s1, -, -⟩ := substStep_spec hrows he v
    obtain ⟨n1, n2⟩ := nz_substStep hrows hnzr he hne v (hk v List.mem_cons_self)
    rw [List.foldl_cons]
    refine ih _ s1 n1 hnd' ?_
    intro w hw hwb
    refine n2 w (fun h => hv (h ▸ hw)) ?_ (hk w (List.mem_cons_of_mem _ hw) hwb)
    intro rl hrl
    cases hf : Lin.find rl.vars w with
    | none => rfl
    | some c => exact absurd (hnb v rl w hrl (by rw [hf]; rfl)) hwb

theorem nz_substBasic {t : Lra} (ht : TabWF t) (hrz : RowsNoZero t) {l : Lin} (hl : l.WF) (hn : NZ l.vars) :
    NZ (substBasic t l).vars := by
  have hi := ((tabWF_iff t).1 ht).1
  rw [substBasic_eq]
  obtain ⟨ls, -, -⟩ := (wf_iff l).1 hl
  refine nz_substFold hi.rows (fun r rl h => hrz (r, rl) (tabFind_some_mem h)) hi.nonbasic _ l hl hn
    (((sorted_iff_keys l.vars).1 ls).imp Nat.ne_of_lt) ?_
  intro v hv _
  obtain ⟨p, hp, rfl⟩ := List.mem_map.1 hv
  exact find_isSome_iff.2 ⟨p, hp, rfl⟩

theorem nz_pivExpr {l : Lin} (hl : l.WF) (hln : NZ l.vars) {xi xj : Nat} {cf : R}
    (hcf : Lin.find l.vars xj = some cf) : NZ (pivExpr l xi xj).vars := by
  obtain ⟨ls, lw, -⟩ := (wf_iff l).1 hl
  have hcw : R.FinWF cf := coefWF_find lw hcf
  have hcn : cf.num ≠ 0 := nz_find hln hcf
  have hnw : R.FinWF (R.neg cf) := R.finWF_neg hcw
  have hnn : (R.neg cf).num ≠ 0 := R.neg_num_ne_zero hcn
  unfold pivExpr
  simp only [hcf, Option.getD_some]
  apply nz_insert
  · unfold Lin.divAssignR
    rw [hnw.not_inf]
    simp only [Bool.false_eq_true, if_false]
    exact nz_mapC (f := fun x => R.divAssign x (R.neg cf)) (coefWF_erase lw) (nz_erase hln)
      (fun x hx hn => by rw [R.divAssign_eq_div]; exact R.div_num_ne_zero hx hnw hn hnn)
  · exact R.div_num_ne_zero R.finWF_one hcw (by decide) hcn

theorem nz_pivot {t : Lra} (ht : Inv t) (hnz : RowsNoZero t) {xi xj : Nat} {l : Lin} (hl : t.rowOf xi = some l)
    {cf : R} (hcf : Lin.find l.vars xj = some cf) : RowsNoZero (t.pivot xi xj) := by
  have hrow : ∀ r rl, t.rowOf r = some rl → NZ rl.vars := fun r rl h => hnz (r, rl) (tabFind_some_mem h)
  have hxi : Lin.find l.vars xi = none := Option.not_isSome_iff_eq_none.1 fun h => by
    rw [ht.nonbasic xi l xi hl h] at hl; cases hl
  obtain ⟨e1, -⟩ := pivExpr_spec (ht.rows xi l hl) hcf (nz_find (hrow xi l hl) hcf) hxi
  have hexn := nz_pivExpr (xi := xi) (ht.rows xi l hl) (hrow xi l hl) hcf
  obtain ⟨p1, -, -, p4⟩ := pivot_spec ht hl hcf (nz_find (hrow xi l hl) hcf)
  rintro ⟨r, row⟩ he
  have hr := tabFind_of_mem p1.keys he
  rw [← rowOf_eq, p4] at hr
  split at hr
  · rw [← Option.some.inj hr]; exact hexn
  split at hr
  · cases hr
  obtain ⟨rl, hrl, e⟩ := Option.map_eq_some_iff.1 hr
  split at e <;> rw [← e]
  · next hk => exact nz_substRow e1 hexn (ht.rows _ rl hrl) (hrow _ rl hrl) hk
  · exact hrow _ rl hrl

end Lra

end Oratio
