/-
Literals, total and partial assignments (`OratioModel/Sat/Basic.lean`).  No solver state enters.
-/
import OratioModel.Sat.Basic

namespace Oratio

@[simp] theorem Lit.neg_neg (l : Lit) : l.neg.neg = l := by cases l; simp [Lit.neg]
@[simp] theorem Lit.neg_var (l : Lit) : l.neg.var = l.var := rfl

theorem Lit.neg_ne (l : Lit) : l.neg ≠ l := by cases l; simp [Lit.neg]

theorem Lit.idx_inj {a b : Lit} (h : a.idx = b.idx) : a = b := by
  cases a with | mk v s => cases b with | mk w t =>
  simp only [Lit.idx] at h
  cases s <;> cases t <;> simp at h ⊢ <;> omega

theorem Asg.lit_mk_true (α : Asg) (v : Nat) : α.lit ⟨v, true⟩ = α v := rfl
theorem Asg.lit_mk_false (α : Asg) (v : Nat) : α.lit ⟨v, false⟩ = !α v := rfl

theorem Asg.lit_neg (α : Asg) (l : Lit) : α.lit l.neg = !α.lit l := by
  cases l with | mk v s => cases s <;> simp [Asg.lit, Lit.neg]

theorem Asg.lit_falseLit {α : Asg} (h : α 0 = false) : α.lit Lit.falseLit = false := h
theorem Asg.lit_trueLit {α : Asg} (h : α 0 = false) : α.lit Lit.trueLit = true := by
  rw [Lit.trueLit, Asg.lit_mk_false, h]; rfl

theorem Lra.lit_of_neg_false {α : Asg} {l : Lit} (h : α.lit l.neg = false) : α.lit l = true := by
  rw [Asg.lit_neg] at h; simpa using h

theorem Lra.lit_of_neg_true {α : Asg} {l : Lit} (h : α.lit l.neg = true) : α.lit l = false := by
  rw [Asg.lit_neg] at h; simpa using h

theorem Lra.alpha_of_var {α : Asg} {p : Lit} (hp : α.lit p = true) : α.lit ⟨p.var, true⟩ = p.sign := by
  unfold Asg.lit at hp ⊢
  cases hsg : p.sign <;> simp [hsg] at hp ⊢ <;> exact hp

theorem Asg.clause_iff {α : Asg} {c : Clause} : α.clause c = true ↔ ∃ l ∈ c, α.lit l = true := List.any_eq_true

theorem Asg.clause_eq_false_iff {α : Asg} {c : Clause} : α.clause c = false ↔ ∀ l ∈ c, α.lit l = false := by
  simp only [Asg.clause, List.any_eq_false, Bool.not_eq_true]

theorem Asg.clause_nil (α : Asg) : α.clause [] = false := rfl
theorem Asg.clause_cons (α : Asg) (l : Lit) (c : Clause) : α.clause (l :: c) = (α.lit l || α.clause c) := rfl
theorem Asg.clause_singleton (α : Asg) (l : Lit) : α.clause [l] = α.lit l := Bool.or_false _

theorem Asg.clause_append (α : Asg) (c d : Clause) : α.clause (c ++ d) = (α.clause c || α.clause d) :=
  List.any_append

theorem Asg.clause_perm (α : Asg) {c c' : Clause} (hp : c'.Perm c) : α.clause c' = α.clause c := hp.any_eq

theorem Asg.cnf_iff {α : Asg} {F : Cnf} : α.cnf F = true ↔ ∀ c ∈ F, α.clause c = true := List.all_eq_true

theorem Asg.cnf_cons (α : Asg) (c : Clause) (F : Cnf) : α.cnf (c :: F) = (α.clause c && α.cnf F) := rfl

theorem Asg.cnf_append (α : Asg) (F G : Cnf) : α.cnf (F ++ G) = (α.cnf F && α.cnf G) := List.all_append

theorem Asg.cnf_of_sub {α : Asg} {F G : Cnf} (hs : ∀ d ∈ F, d ∈ G) (h : α.cnf G = true) : α.cnf F = true :=
  Asg.cnf_iff.2 fun d hd => Asg.cnf_iff.1 h d (hs d hd)

theorem litValue_eq_none {vals : List (Option Bool)} {l : Lit} :
    litValue vals l = none ↔ vals.getD l.var none = none := by
  unfold litValue; split <;> simp_all

theorem litValue_neg (vals : List (Option Bool)) (l : Lit) : litValue vals l.neg = (litValue vals l).map (!·) := by
  unfold litValue
  show (match vals.getD l.var none with | none => none | some b => some (if (!l.sign) = true then b else !b)) = _
  cases vals.getD l.var none with
  | none => rfl
  | some b => cases l.sign <;> simp

theorem litValue_set_self {vals : List (Option Bool)} {l : Lit} (h : l.var < vals.length) :
    litValue (vals.set l.var (some l.sign)) l = some true := by
  unfold litValue
  simp [h]

theorem litValue_set_ne {vals : List (Option Bool)} {l z : Lit} {b : Option Bool} (h : z.var ≠ l.var) :
    litValue (vals.set l.var b) z = litValue vals z := by
  unfold litValue
  simp [Ne.symm h]

end Oratio
