/-
The at-most-one-value predicate in the statement of `C14_eq_iff_same`.
-/
import OratioModel.Sat.Ov

namespace Oratio
open Enc

/-- `v` takes at most one VALUE (two entries whose guards are both true carry the same value) -/
def Ov.AtMostOneValue (α : Asg) (s : Ov) (v : Nat) : Prop :=
  ∀ e ∈ s.dom v, ∀ f ∈ s.dom v, α.lit e.2 = true → α.lit f.2 = true → e.1 = f.1

end Oratio
