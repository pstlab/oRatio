/-
C07N, search operations: `new_var`, `assume`, `pop`, `new_clause` (root level) and `next()` keep the
network invariant; networks whose LRA tableau has no rows need no side condition.
-/
import OratioProofs.Lemmas.NetPropagate
import OratioProofs.Lemmas.NetSatOps
import OratioProofs.Lemmas.NetStart
import OratioProofs.Lemmas.LraGoodMain

namespace Oratio
namespace Net
open Sat

theorem NetInv.satNewVar {n : Net} {orig L : Cnf} {fr : List Frame} (h : NetInv n orig L fr) :
    NetInv { n with sat := n.sat.newVar.2 } orig L fr :=
  ⟨h.sat.newVar, h.lemmas, h.th.assign _ (newVar_keep n.sat).le, FramesLv.keep (newVar_keep n.sat) fr h.flv, h.flen,
    ThReg.mono h.reg (by show n.sat.vals.length ≤ (n.sat.vals ++ [none]).length; simp)⟩

theorem NetInv.pop {n : Net} {orig L : Cnf} {fr : List Frame} (h : NetInv n orig L fr) (hq : n.sat.queue = [])
    (hne : n.sat.trailLim ≠ []) : ∃ fr', NetInv n.pop orig L fr' := by
  obtain ⟨fr', h1, pf⟩ := (NetCheck.NetInvB.iff_inv.1 h).popTo hq (n.sat.decisionLevel - 1)
  rw [popTo_pred hne] at h1 pf
  exact ⟨fr', h1.toInv (by rw [pf.level]; exact Nat.min_le_right _ _)⟩

theorem tmodel_push (n : Net) (s : Sat) (α : Asg) :
    TModel { n with sat := s, lra := n.lra.push, idl := n.idl.push, rdl := n.rdl.push } α ↔ TModel n α :=
  TModel.congr (n := n) (n' := { n with sat := s, lra := n.lra.push, idl := n.idl.push, rdl := n.rdl.push })
    (LraSame.of_eq rfl rfl rfl) rfl rfl α

end Net

namespace NetCheck
open Sat Net

theorem SInvB.pushLevel {m : Nat} {orig K : Cnf} {s : Sat} (h : SInvB m orig K s) (hq : s.queue = [])
    (hm : m ≤ s.decisionLevel) (p : Lit) : SInvB m orig K (s.pushLevel p) :=
  ⟨h.wf.pushLevel hq p, h.ent.pushLevel h.wf.a p,
    Nat.min_eq_left (h.wf.a.decLen ▸ hm : m ≤ s.decisions.length) ▸ h.dec.pushLevel p⟩

theorem NetInvB.pushStart {m : Nat} {n : Net} {orig L : Cnf} {fr : List Frame} (h : NetInvB m n orig L fr)
    (hq : n.sat.queue = []) (hm : m ≤ n.sat.decisionLevel) (p : Lit) :
    NetInvB m (pushStart n p) orig L (⟨n.sat, n.lra, n.idl, n.rdl⟩ :: fr) := by
  have k1 : AssignedKeep n.sat (n.sat.pushLevel p) := fun v b hv => ⟨hv, rfl⟩
  refine ⟨h.sat.pushLevel hq hm p, fun c hc => TEntails.congr (fun α hm => (tmodel_push n _ α).1 hm) (h.lemmas c hc),
    h.th.push _ k1.le, ⟨fun v b hb => ?_, FramesLv.keep k1 fr h.flv⟩, ?_, ?_⟩
  · refine ⟨hb, ?_⟩
    show n.sat.level.getD v 0 ≤ fr.length
    rw [h.flen]
    rcases h.sat.wf.a.valTrail v b hb with rfl | ht
    · rw [h.sat.wf.lvl0]; omega
    · exact h.sat.wf.a.lvl_le ht
  · show fr.length + 1 = (n.sat.trail.length :: n.sat.trailLim).length
    rw [List.length_cons, h.flen]; rfl
  · show ThReg n.sat.vals.length n.lra.push n.idl.push n.rdl.push
    exact ⟨h.reg.lra, h.reg.idl, h.reg.rdl, Lra.step_good (n.sat, n.lra) .push h.reg.good trivial, h.reg.aw, h.reg.sa⟩

theorem NetInvB.atAssume {m : Nat} {n : Net} {orig L : Cnf} {fr : List Frame} (h : NetInvB m n orig L fr)
    (hq : n.sat.queue = []) (hm : m ≤ n.sat.decisionLevel) {p : Lit} (hv : n.sat.value p = none)
    (hp : p.var < n.sat.vals.length) :
    NetInvB m (assumeStart n p) orig L (⟨n.sat, n.lra, n.idl, n.rdl⟩ :: fr) := by
  have h1 := h.pushStart hq hm p
  obtain ⟨w, e, k⟩ := pushEnq_wfs h.sat.wf h.sat.ent hq hv hp
  exact h1.setSat _ ⟨w, e, h1.sat.dec.enq h1.sat.wf.a hv⟩ k rfl (by simp only [enq, List.length_set]; rfl)

end NetCheck

namespace Net
open Sat NetCheck

theorem NetInv.atAssume {n : Net} {orig L : Cnf} {fr : List Frame} (h : NetInv n orig L fr) (hq : n.sat.queue = [])
    {p : Lit} (hv : n.sat.value p = none) (hp : p.var < n.sat.vals.length) :
    NetInv (assumeStart n p) orig L (⟨n.sat, n.lra, n.idl, n.rdl⟩ :: fr) :=
  ((NetInvB.ofInv (m := 0) h).atAssume hq (Nat.zero_le _) hv hp).withDec
    (fun m => DecOK.assume h.sat.wf.a (h.sat.dec m) hv hp)

theorem NetInv.assume {n : Net} {orig L : Cnf} {fr : List Frame} (h : NetInv n orig L fr) (hq : n.sat.queue = [])
    (hd : n.sat.dead = false) {p : Lit} (hv : n.sat.value p = none) (hp : p.var < n.sat.vals.length) (fuel : Nat)
    (hg : ConflictsCurrent (assumeStart n p) fuel) (b : Bool) (n' : Net) (he : n.assume p fuel = some (b, n')) :
    PropOut n n' orig b := by
  rw [assume_eq hv] at he
  exact (propagate_inv fuel _ _ _ (h.atAssume hq hv hp) hd hg b n' he).trans (fun α => tmodel_push n _ α)

theorem check_noRows {t : Lra} (ht : t.tableau = []) (fuel : Nat) : t.check (fuel + 1) = some (none, t) := by
  unfold Lra.check
  rw [ht]
  rfl

theorem popTo_tableau (n : Net) (lvl : Nat) : (Net.popTo n lvl).lra.tableau = n.lra.tableau :=
  popTo_go_induct (P := fun n' => n'.lra.tableau = n.lra.tableau) lvl
    (fun n' _ h => (Lra.pop_writes n'.lra).tableau.trans h) _ n rfl

theorem learnFrom_tableau {n n' : Net} {c : Clause} (h : learnFrom n c = some n') : n'.lra.tableau = n.lra.tableau := by
  unfold learnFrom at h
  split at h
  · cases h
  · simp only [Option.some.injEq] at h
    rw [← h]
    exact popTo_tableau _ _

theorem theoryPropagate_tableau (n : Net) (p : Lit) : (theoryPropagate n p).2.lra.tableau = n.lra.tableau := by
  unfold theoryPropagate
  split
  · rfl
  · exact (Lra.propagateLit_writes _ _ _).tableau
  · split <;> rfl
  · split <;> rfl

theorem round_noRows {n : Net} (ht : n.lra.tableau = []) (fuel : Nat) :
    match round n fuel with
    | .stuck => True
    | .done n' => n'.lra.tableau = []
    | .go n' => n'.lra.tableau = []
    | .conflict chk n' _ => chk = false ∧ n'.lra.tableau = [] := by
  unfold round
  cases n.sat.queue with
  | nil =>
    cases fuel with
    | zero => exact trivial
    | succ k => rw [check_noRows ht k]; exact ht
  | cons p q =>
    dsimp only
    rcases Sat.visitWatchers { n.sat with queue := q, watches := n.sat.watches.set p.idx [] } p
      (n.sat.watches.getD p.idx []) with ⟨s1, _ | id⟩
    · dsimp only
      have htp := theoryPropagate_tableau { n with sat := s1 } p
      rcases htpe : theoryPropagate { n with sat := s1 } p with ⟨_ | c, n2⟩ <;> rw [htpe] at htp
      · exact htp.trans ht
      · exact ⟨rfl, htp.trans ht⟩
    · exact ⟨rfl, ht⟩

theorem noRows_propagate : ∀ (fuel : Nat) (n : Net), n.lra.tableau = [] →
    ConflictsCurrent n fuel ∧ ∀ b n', propagate n fuel = some (b, n') → n'.lra.tableau = []
  | 0, n, _ => ⟨trivial, fun b n' he => by simp [propagate] at he⟩
  | fuel + 1, n, ht => by
    rw [conflictsCurrent_succ, propagate_succ]
    have hr := round_noRows ht fuel
    cases hround : round n fuel with
    | stuck => exact ⟨trivial, nofun⟩
    | done n1 =>
      rw [hround] at hr
      exact ⟨trivial, fun b n' he => by cases he; exact hr⟩
    | go n1 =>
      rw [hround] at hr
      exact noRows_propagate fuel n1 hr
    | conflict chk n1 c =>
      rw [hround] at hr
      obtain ⟨rfl, ht1⟩ := hr
      have hl : ∀ n2, learnFrom n1 c = some n2 → n2.lra.tableau = [] := fun n2 hlf => (learnFrom_tableau hlf).trans ht1
      refine ⟨fun _ => ⟨nofun, fun n2 hlf => (noRows_propagate fuel n2 (hl n2 hlf)).1⟩, fun b n' he => ?_⟩
      dsimp only at he
      split at he
      · cases he; exact ht1
      · cases hlf : learnFrom n1 c with
        | none => rw [hlf] at he; cases he
        | some n2 =>
          rw [hlf] at he
          exact (noRows_propagate fuel n2 (hl n2 hlf)).2 b n' he

theorem NetInv.addOrig {n : Net} {orig L : Cnf} {fr : List Frame} (h : NetInv n orig L fr) (c : Clause) (s' : Sat)
    (hs : SInv ((orig ++ L) ++ [c]) (orig ++ [c]) s') (hk : AssignedKeep n.sat s') (hl : s'.trailLim = n.sat.trailLim)
    (hlen : s'.vals.length = n.sat.vals.length) : NetInv { n with sat := s' } (orig ++ [c]) L fr := by
  have hsub : ∀ d ∈ orig, d ∈ orig ++ [c] := fun d hd => List.mem_append_left _ hd
  exact ⟨hs.mono_orig (append_swap orig L [c]), fun d hd => (h.lemmas d hd).mono_F hsub,
    ThInv.assign (n := n) (orig := (orig ++ [c]) ++ L)
      (h.th.mono_origN fun d hd => append_swap orig L [c] d (List.mem_append_left _ hd)) s' hk.le,
    FramesLv.keep hk fr h.flv, h.flen.trans (congrArg List.length hl.symm), h.reg.of_len hlen⟩

theorem NetInv.clause {n : Net} {orig L : Cnf} {fr : List Frame} (h : NetInv n orig L fr) (hroot : n.sat.trailLim = [])
    (c : List Lit) (hr : ∀ l ∈ c, l.var < n.sat.vals.length) :
    NetInv { n with sat := (n.sat.newClause c).2 } (orig ++ [c]) L fr ∧ (n.sat.newClause c).2.trailLim = [] ∧
    ((n.sat.newClause c).1 = false → (n.sat.newClause c).2.dead = true) := by
  obtain ⟨k1, k2, k3, k4, k5, k6, k7, k8, k9⟩ := newClause_sinv h.sat hroot c hr
  exact ⟨h.addOrig c _ k1 k2 (by rw [k3, hroot]) k8, k3, k4⟩

/-- the network when `next()` calls `propagate`: one level popped, the blocking clause recorded -/
def nextStart (n : Net) : Net := { n.pop with sat := n.sat.pop.record (n.sat.decisions.map Lit.neg) }

theorem next_eq {n : Net} (hroot : n.sat.rootLevel = false) (fuel : Nat) : n.next fuel = propagate (nextStart n) fuel := by
  unfold Net.next
  rw [if_neg (by simp [hroot])]
  rfl

theorem NetInv.atNext {n : Net} {orig L : Cnf} {fr : List Frame} (h : NetInv n orig L fr) (hq : n.sat.queue = [])
    (hne : n.sat.trailLim ≠ []) : ∃ fr', NetInv (nextStart n) (orig ++ [n.sat.decisions.map Lit.neg]) L fr' := by
  obtain ⟨fr', hp⟩ := h.pop hq hne
  obtain ⟨k1, k2, k3, k4, k5⟩ := nextStart_sinv h.sat hq hne
  exact ⟨fr', hp.addOrig _ _ k1 k2 k3 (by rw [k4]; exact (pop_lenVals n.sat).symm)⟩

theorem NetInv.next {n : Net} {orig L : Cnf} {fr : List Frame} (h : NetInv n orig L fr) (hq : n.sat.queue = [])
    (hd : n.sat.dead = false) (hroot : n.sat.rootLevel = false) (fuel : Nat) (hg : ConflictsCurrent (nextStart n) fuel)
    (b : Bool) (n' : Net) (he : n.next fuel = some (b, n')) :
    PropOut n n' (orig ++ [n.sat.decisions.map Lit.neg]) b := by
  have hne : n.sat.trailLim ≠ [] := by simpa [rootLevel] using hroot
  rw [next_eq hroot] at he
  obtain ⟨fr', hi⟩ := h.atNext hq hne
  have hd' : (nextStart n).sat.dead = false := by
    show (n.sat.pop.record (n.sat.decisions.map Lit.neg)).dead = false
    rw [(nextStart_sinv h.sat hq hne).2.2.2.2]; exact hd
  refine (propagate_inv fuel _ _ _ hi hd' hg b n' he).trans (fun α => ?_)
  exact (TModel.congr (n := n.pop) (n' := nextStart n) (LraSame.refl _) rfl rfl α).trans (TModel.pop n α)

end Net
end Oratio
