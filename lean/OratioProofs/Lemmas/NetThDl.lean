/-
One call of `propagate(lit)` of a difference logic, once over the laws `L : DLaws O G`, then for IDL and RDL (instances
of C10X / C10XR): the invariant is kept, the conflict clause is false and a theory lemma, the recorded clauses are
theory lemmas.  The SAT core changes only by well-shaped `record`s (`Sat.RecBy Sat.GoodRec`): the scan records a lemma only for an
UNDECIDED constraint, whose literal is the head; the rest is the explanation walk, all false, and non-empty because
`src ≠ dst` (the first predecessor edge is justified by an assigned constraint).
-/
import OratioProofs.Lemmas.NetSoundDefs
import OratioProofs.Lemmas.NetSatRecs

namespace Oratio
namespace Net

section sorted
variable {α : Type} (O : DOps α)

theorem propagateLit_sorted {s : Sat} {t : Dl α} (h : Undo.SortedK t.distConstr) (pl : Lit) {s' : Sat} {t' : Dl α}
    (he : Dl.propagateLit O s t pl = .inr (s', t')) : Undo.SortedK t'.distConstr := by
  rcases DlG.propagateLit_run O he with e | ⟨c, b, f, g, w, -, -, e⟩
  · cases e; exact h
  · have e' : t'.distConstr = _ :=
      (congrArg (·.2.distConstr) e).symm.trans (DlG.propagateEdge_armed_tables O s t (f, g) f g w c.b).1
    rw [e']
    exact Undo.sorted_assign h _ _

end sorted

theorem lit_eta (p : Lit) : (⟨p.var, p.sign⟩ : Lit) = p := rfl

theorem constr_lit {α : Type} {s : Sat} {t : Dl α} {p : Lit} {c : DConstr α} (hc : t.constrOf p.var = some c)
    (hp : s.value p = some true) :
    c ∈ t.varDists ∧ t.constrOf c.b = some c ∧ s.value ⟨c.b, true⟩ = some p.sign ∧ (⟨c.b, p.sign⟩ : Lit) = p := by
  obtain ⟨hmem, hb⟩ := Dl.constrOf_spec hc
  exact ⟨hmem, by rw [hb]; exact hc, by rw [hb]; exact Lra.value_of_var hp, by rw [hb]⟩

section step
open DlG
variable {α G : Type} [AddCommGroup G] [LinearOrder G] [IsOrderedAddMonoid G] {O : DOps α} {L : DLaws O G}

/-- `hal`: the ε parts that the negation of a constraint compares are integral (nothing to ask for the integers) -/
theorem propagateLit_step {E : List (GEdge α)} {s : Sat} {t : Dl α} (h : Exact L E t)
    (hroom : ∀ f g w, f < t.nVars → g < t.nVars → L.Wt w → Room L t f g w) (hP : PathInv L s t) (hok : ConstrsOk L t)
    (hal : ∀ c ∈ t.varDists, L.Aligned (Dl.d O t c.src c.dst) c.dist ∧ L.Aligned (Dl.d O t c.dst c.src) c.dist)
    (p : Lit) (hp : s.value p = some true) :
    match Dl.propagateLit O s t p with
    | .inl cl => (∀ l ∈ cl, s.value l = some false) ∧ TheoryValid L t cl
    | .inr (s', t') =>
      (∃ E', Exact L E' t') ∧ PathInv L s' t' ∧ ConstrsOk L t' ∧ Dl.SatLe s s' ∧ t'.varDists = t.varDists ∧
      t'.nVars = t.nVars ∧ LogGood L t s s' := by
  cases hc : t.constrOf p.var with
  | none =>
    rw [propagateLit_none O hc]
    exact ⟨⟨E, h⟩, hP, hok, Dl.SatLe.refl s, rfl, rfl, LogGood.refl t s⟩
  | some c =>
    obtain ⟨hmem, hc', hv, hpe⟩ := constr_lit hc hp
    obtain ⟨h1, h2, h3, h4, h5⟩ := hok c hmem
    rw [← hpe]
    cases hres : Dl.propagateLit O s t ⟨c.b, p.sign⟩ with
    | inl cl => exact hP.conflict_valid hc' hv ⟨h1, h2, h3, h4⟩ h.block hres
    | inr r =>
      obtain ⟨s', t'⟩ := r
      obtain ⟨q1, q2, q3⟩ := hP.propagate hc' hv ⟨h1, h2, h3, h4⟩ h.block (fun _ => ⟨h5, (hal c hmem).1⟩)
        (h.enforces hroom s c.b) hres
      obtain ⟨e1, e2⟩ := propagate_exact L h s s' c hc' p.sign hv h1 h2 h3 h4 (fun _ => hroom _ _ _ h1 h2 h4)
        (fun _ => ⟨h5, (hal c hmem).1, (hal c hmem).2, hroom _ _ _ h2 h1 h5⟩) hres
      have hvd := propagateLit_varDists O s s' t t' _ hres
      refine ⟨⟨_, e1⟩, q1, fun c' hc'm => ?_, q2, hvd, e2, q3 hok⟩
      rw [hvd] at hc'm
      rw [e2]
      exact hok c' hc'm

end step

theorem idl_propagate {s : Sat} {t : Dl Int} (h : IdlBase s t) (p : Lit) (hp : s.value p = some true) :
    match Dl.propagateLit idlOps s t p with
    | .inl cl => (∀ l ∈ cl, s.value l = some false) ∧ ∀ σ α, Dl.Agrees t σ α → α.clause cl = true
    | .inr (s', t') =>
      IdlBase s' t' ∧ Dl.SatLe s s' ∧ t'.varDists = t.varDists ∧
      (∀ B, Undo.Lg idlOps B t → Undo.Lg idlOps B t') ∧
      ∃ new, s'.log = s.log ++ new ∧ ∀ cl ∈ new, ∀ σ α, Dl.Agrees t σ α → α.clause cl = true := by
  obtain ⟨K, E, hE, hok⟩ := h.exact
  have r := propagateLit_step (L := Dl.lawsFor t.nVars K hE.range) hE.toM.toG (fun _ _ _ hf hg hw => hE.toM.room hf hg hw)
    (Dl.pathInv_iff.mp h.path) (Dl.constrsOk_iff.mp hok) (fun _ _ => ⟨trivial, trivial⟩) p hp
  cases hres : Dl.propagateLit idlOps s t p with
  | inl cl => rw [hres] at r; exact r
  | inr x =>
    obtain ⟨s', t'⟩ := x
    rw [hres] at r
    obtain ⟨⟨E', e1⟩, q1, q2, q3, q4, q5, new, n1, n2⟩ := r
    exact ⟨⟨⟨K, E', (Dl.ExactM.ofG (by rw [q5]; exact hE.range) e1).ofM, Dl.constrsOk_iff.mpr q2⟩, Dl.pathInv_iff.mpr q1,
      propagateLit_sorted idlOps h.sorted p hres⟩, q3, q4, fun B hB => Undo.Lg_propagateLit idlOps hB s p hres,
      new, n1, fun cl hcl => (n2 cl hcl).1⟩

theorem rdl_propagate {s : Sat} {t : Dl IR} (h : RdlBase s t) (p : Lit) (hp : s.value p = some true) :
    match Dl.propagateLit rdlOps s t p with
    | .inl cl => (∀ l ∈ cl, s.value l = some false) ∧ ∀ σ α, DlR.AgreesR t σ α → α.clause cl = true
    | .inr (s', t') =>
      RdlBase s' t' ∧ Dl.SatLe s s' ∧ t'.varDists = t.varDists ∧
      (∀ B, Undo.Lg rdlOps B t → Undo.Lg rdlOps B t') ∧
      ∃ new, s'.log = s.log ++ new ∧ ∀ cl ∈ new, ∀ σ α, DlR.AgreesR t σ α → α.clause cl = true := by
  obtain ⟨E, hE⟩ := h.exact
  have r := propagateLit_step hE.toG (fun f g w _ _ _ => DlR.room t f g w) (DlR.pathInvR_iff.mp h.path)
    (DlR.constrsOkR_iff.mp h.ok) (fun c hc => ⟨⟨h.eps _ _, h.epsC c hc⟩, h.eps _ _, h.epsC c hc⟩) p hp
  cases hres : Dl.propagateLit rdlOps s t p with
  | inl cl => rw [hres] at r; exact r
  | inr x =>
    obtain ⟨s', t'⟩ := x
    rw [hres] at r
    obtain ⟨⟨E', e1⟩, q1, q2, q3, q4, q5, new, n1, n2⟩ := r
    exact ⟨⟨⟨E', Dl.ExactR.ofG e1⟩, DlR.constrsOkR_iff.mpr q2, DlR.pathInvR_iff.mpr q1, propagateLit_sorted rdlOps h.sorted p hres,
      C10R_epsInt_propagate s s' t t' p h.eps (fun c0 hc0 => h.epsC c0 (Dl.constrOf_spec hc0).1) hres,
      fun c' hc'm => h.epsC c' (q4 ▸ hc'm)⟩, q3, q4, fun B hB => Undo.Lg_propagateLit rdlOps hB s p hres,
      new, n1, fun cl hcl => (n2 cl hcl).1⟩

end Net

namespace DlG
open Dl Sat
variable {α G : Type} [AddCommGroup G] [LinearOrder G] [IsOrderedAddMonoid G] {O : DOps α} {L : DLaws O G}

theorem PathInv.walk_ne {s : Sat} {t : Dl α} (hP : PathInv L s t) (hdiag : ∀ i, i < t.nVars → dn L t i i = 0)
    {i j : Nat} (hi : i < t.nVars) (hj : j < t.nVars) (hij : i ≠ j) (hfin : dn L t i j ≠ ⊤) (acc : List Lit) :
    ∃ x ls, walk s t i t.nVars j acc = acc ++ x :: ls ∧ ∀ l ∈ x :: ls, s.value l = some false := by
  obtain ⟨n, hn, hch⟩ := hP.chain i j hi hj hfin
  cases hch with
  | root => exact absurd rfl hij
  | @step n' _ hne hch' =>
    obtain ⟨t1, _, t3, bb, w0, t4, _⟩ := hP.tree i j hi hj hij hfin
    obtain ⟨v, hv, _⟩ := t4.2.sound
    obtain ⟨k, hk⟩ : ∃ k, t.nVars = k + 1 := ⟨t.nVars - 1, by omega⟩
    rw [hk, walk_step s t k acc hne t4.1 hv]
    obtain ⟨ls, e, fl, _⟩ := hP.walk_spec hdiag hi hch' t1 t3 k (by omega) (acc ++ [⟨bb, !v⟩])
    refine ⟨⟨bb, !v⟩, ls, by rw [e]; simp, fun l hlm => ?_⟩
    rcases List.mem_cons.1 hlm with rfl | hlm
    · exact value_bnot hv
    · exact fl l hlm

theorem scan_recs {t : Dl α} (hB : Block L t) (hok : ConstrsOk L t) {s0 s' : Sat}
    (hreg : ∀ c ∈ t.varDists, c.b < s0.vals.length) (hP : PathInv L s0 t) (h : Sat.RecBy (ScanRec O t) s0 s') :
    Sat.RecBy Sat.GoodRec s0 s' :=
  h.mono fun s1 cl h1 ⟨c, p, f, g, w, hmem, hnone, he, ht, e⟩ => by
    obtain ⟨o1, o2, o3, o4, _⟩ := hok c hmem
    have hn := cnfTest_neg he o4 (hB.good _ _ o1 o2) (hB.good _ _ o2 o1) ht
    have hfg : f < t.nVars ∧ g < t.nVars ∧ g ≠ f ∧ s1.value ⟨c.b, !p⟩ = none := by
      cases p <;> cases he
      · exact ⟨o2, o1, o3, hnone⟩
      · exact ⟨o1, o2, Ne.symm o3, Sat.value_neg_none hnone⟩
    obtain ⟨x, ls, e', fl⟩ := (hP.assign h1.le).walk_ne hB.diag hfg.2.1 hfg.1 hfg.2.2.1
      (WithTop.add_ne_top.mp (ne_top_of_lt hn)).1 [⟨c.b, !p⟩]
    exact ⟨⟨c.b, !p⟩, x :: ls, e.trans e', hfg.2.2.2, by rw [h1.lenVals]; exact hreg c hmem, fl, by simp⟩

theorem PathInv.propagate_recs {s : Sat} {t : Dl α} (hP : PathInv L s t) {c : DConstr α} (hc : t.constrOf c.b = some c)
    {b : Bool} (hv : s.value ⟨c.b, true⟩ = some b)
    (hr : c.src < t.nVars ∧ c.dst < t.nVars ∧ c.src ≠ c.dst ∧ L.Wt c.dist) (hB : Block L t)
    (hneg : b = false → L.Wt (O.negStrict c.dist) ∧ L.Aligned (d O t c.src c.dst) c.dist) (hedge : Enforces L s t c.b)
    {s' : Sat} {t' : Dl α} (hp : propagateLit O s t ⟨c.b, b⟩ = .inr (s', t'))
    (hok : ConstrsOk L t) (hreg : ∀ c ∈ t.varDists, c.b < s.vals.length) : Sat.RecBy Sat.GoodRec s s' := by
  rcases propagateLit_update hc hv hr hB hneg hedge hp with he | ⟨f, g, w, ups, hU, hB', rfl⟩
  · cases he
    exact .refl s
  · exact scan_recs hB' (hU.constrsOk hok) (by rw [hU.varDists]; exact hreg) (hU.pathInv hP) (scan_emits O s t' ups)

theorem propagateLit_step_recs {E : List (GEdge α)} {s : Sat} {t : Dl α} (h : Exact L E t)
    (hroom : ∀ f g w, f < t.nVars → g < t.nVars → L.Wt w → Room L t f g w) (hP : PathInv L s t) (hok : ConstrsOk L t)
    (hal : ∀ c ∈ t.varDists, L.Aligned (d O t c.src c.dst) c.dist)
    (hreg : ∀ c ∈ t.varDists, c.b < s.vals.length) (p : Lit) (hp : s.value p = some true) :
    match propagateLit O s t p with
    | .inl cl => p.neg ∈ cl
    | .inr (s', t') => Sat.RecBy Sat.GoodRec s s' ∧ t'.varDists = t.varDists := by
  cases hres : propagateLit O s t p with
  | inl cl => exact propagateLit_inl_mem O hres
  | inr r =>
    obtain ⟨s', t'⟩ := r
    refine ⟨?_, propagateLit_varDists O s s' t t' p hres⟩
    cases hc : t.constrOf p.var with
    | none =>
      rw [propagateLit_none O hc] at hres
      cases hres
      exact .refl s
    | some c =>
      obtain ⟨hmem, hc', hv, hpe⟩ := Net.constr_lit hc hp
      obtain ⟨h1, h2, h3, h4, h5⟩ := hok c hmem
      rw [← hpe] at hres
      exact hP.propagate_recs hc' hv ⟨h1, h2, h3, h4⟩ h.block (fun _ => ⟨h5, hal c hmem⟩) (h.enforces hroom s c.b) hres hok hreg

end DlG

namespace Net

theorem idl_propagate_recs {s : Sat} {t : Dl Int} (h : IdlBase s t) (hreg : ∀ c ∈ t.varDists, c.b < s.vals.length)
    (p : Lit) (hp : s.value p = some true) :
    match Dl.propagateLit idlOps s t p with
    | .inl cl => p.neg ∈ cl
    | .inr (s', t') => Sat.RecBy Sat.GoodRec s s' ∧ t'.varDists = t.varDists := by
  obtain ⟨K, E, hE, hok⟩ := h.exact
  have r := DlG.propagateLit_step_recs (L := Dl.lawsFor t.nVars K hE.range) hE.toM.toG
    (fun _ _ _ hf hg hw => hE.toM.room hf hg hw) (Dl.pathInv_iff.mp h.path) (Dl.constrsOk_iff.mp hok)
    (fun _ _ => trivial) hreg p hp
  cases hres : Dl.propagateLit idlOps s t p <;> rw [hres] at r <;> exact r

theorem rdl_propagate_recs {s : Sat} {t : Dl IR} (h : RdlBase s t) (hreg : ∀ c ∈ t.varDists, c.b < s.vals.length)
    (p : Lit) (hp : s.value p = some true) :
    match Dl.propagateLit rdlOps s t p with
    | .inl cl => p.neg ∈ cl
    | .inr (s', t') => Sat.RecBy Sat.GoodRec s s' ∧ t'.varDists = t.varDists := by
  obtain ⟨E, hE⟩ := h.exact
  have r := DlG.propagateLit_step_recs hE.toG (fun f g w _ _ _ => DlR.room t f g w) (DlR.pathInvR_iff.mp h.path)
    (DlR.constrsOkR_iff.mp h.ok) (fun c hc => ⟨h.eps _ _, h.epsC c hc⟩) hreg p hp
  cases hres : Dl.propagateLit rdlOps s t p <;> rw [hres] at r <;> exact r

end Net

end Oratio
