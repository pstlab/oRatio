/-
Lemmas for property C13: root-level unit propagation (`Enc.propagate`) keeps the invariant,
keeps the set of models when it succeeds, and only fails on states without models.
Core Lean only.
-/
import OratioProofs.Lemmas.Enc
namespace Oratio
namespace EncL
open Enc

theorem lit_false_of_decided {s : Enc} {c : Clause}
    (hany : ¬ c.any (fun l => s.value l = some true) = true)
    {α : Asg} (hm : Models α s) {x : Lit} (hx : x ∈ c) (hd : s.value x ≠ none) :
    α.lit x = false := by
  cases hv : s.value x with
  | none => exact absurd hv hd
  | some b =>
    cases b with
    | false => exact value_sound hm hv
    | true => exact absurd (List.any_eq_true.2 ⟨x, hx, by simp [hv]⟩) hany

theorem clauseState_conflict {s : Enc} {c : Clause} (h : clauseState s c = .conflict)
    {α : Asg} (hm : Models α s) : α.clause c = false := by
  unfold clauseState at h
  split at h
  · cases h
  · next hany =>
    split at h
    · next hf =>
      rw [Asg.clause_eq_false_iff]
      intro l hl
      refine lit_false_of_decided hany hm hl ?_
      intro hn
      have : l ∈ c.filter (fun l => s.value l = none) := by
        rw [List.mem_filter]; exact ⟨hl, by simp [hn]⟩
      rw [hf] at this
      cases this
    · cases h
    · split at h <;> cases h

theorem unit_aux {s : Enc} {c : Clause} {l : Lit} {rest : List Lit}
    (hany : ¬ c.any (fun l => s.value l = some true) = true)
    (hf : c.filter (fun l => s.value l = none) = l :: rest) (hr : ∀ x ∈ rest, x = l) :
    l ∈ c ∧ s.value l = none ∧ ∀ α, Models α s → α.clause c = true → α.lit l = true := by
  have hl : l ∈ c.filter (fun l => s.value l = none) := by rw [hf]; simp
  rw [List.mem_filter] at hl
  refine ⟨hl.1, by simpa using hl.2, fun α hm hc => ?_⟩
  rw [Asg.clause_iff] at hc
  obtain ⟨x, hx, hxt⟩ := hc
  by_cases hn : s.value x = none
  · have hxf : x ∈ c.filter (fun l => s.value l = none) := by
      rw [List.mem_filter]; exact ⟨hx, by simp [hn]⟩
    rw [hf, List.mem_cons] at hxf
    rcases hxf with rfl | hxr
    · exact hxt
    · rw [← hr x hxr]; exact hxt
  · have := lit_false_of_decided hany hm hx hn
    rw [this] at hxt
    cases hxt

theorem clauseState_unit {s : Enc} {c : Clause} {l : Lit} (h : clauseState s c = .unit l) :
    l ∈ c ∧ s.value l = none ∧ ∀ α, Models α s → α.clause c = true → α.lit l = true := by
  unfold clauseState at h
  split at h
  · cases h
  · next hany =>
    split at h
    · cases h
    · next l' hf =>
      cases h
      exact unit_aux hany hf (by simp)
    · next l' rest hf =>
      split at h
      · next hall =>
        cases h
        refine unit_aux hany hf ?_
        intro x hx
        rw [List.all_eq_true] at hall
        simpa using hall x hx
      · cases h

theorem sweep_spec (cs : List Clause) : ∀ (s : Enc), WF s → (∀ c ∈ cs, c ∈ s.clauses) →
    (sweep s cs = none → ∀ α, ¬ Models α s) ∧
    (∀ s' ch, sweep s cs = some (s', ch) →
      s'.clauses = s.clauses ∧ s'.exprs = s.exprs ∧ WF s' ∧ s'.nvars = s.nvars ∧
      ∀ α, Models α s' ↔ Models α s) := by
  induction cs with
  | nil =>
    intro s hw _
    refine ⟨fun h => by simp [sweep] at h, fun s' ch h => ?_⟩
    simp only [sweep, Option.some.injEq, Prod.mk.injEq] at h
    obtain ⟨rfl, _⟩ := h
    exact ⟨rfl, rfl, hw, rfl, fun _ => Iff.rfl⟩
  | cons c cs ih =>
    intro s hw hcs
    have hc : c ∈ s.clauses := hcs c (by simp)
    have hcs' : ∀ c ∈ cs, c ∈ s.clauses := fun d hd => hcs d (by simp [hd])
    have hctrue : ∀ α, Models α s → α.clause c = true := fun α hm =>
      ((models_iff α s).1 hm).1 c hc
    cases hst : clauseState s c with
    | sat => simpa only [sweep, hst] using ih s hw hcs'
    | unresolved => simpa only [sweep, hst] using ih s hw hcs'
    | conflict =>
      refine ⟨fun _ α hm => ?_, fun s' ch h => by simp [sweep, hst] at h⟩
      have h1 := hctrue α hm
      rw [clauseState_conflict hst hm] at h1
      cases h1
    | unit l =>
      obtain ⟨hlc, hln, hlt⟩ := clauseState_unit hst
      have hlr : l.var < s.nvars := hw.clause_lt hc hlc
      have hms : ∀ α, Models α { s with vals := s.vals.set l.var (some l.sign) } ↔ Models α s := by
        intro α
        rw [models_set hlr hln]
        exact ⟨fun h => h.1, fun h => ⟨h, hlt α h (hctrue α h)⟩⟩
      have hnv : ({ s with vals := s.vals.set l.var (some l.sign) } : Enc).nvars = s.nvars := by
        simp [Enc.nvars]
      obtain ⟨ih1, ih2⟩ := ih { s with vals := s.vals.set l.var (some l.sign) } (wf_set hw hln) hcs'
      cases hsw : sweep { s with vals := s.vals.set l.var (some l.sign) } cs with
      | none =>
        refine ⟨fun _ α hm => ih1 hsw α ((hms α).2 hm), fun s' ch h => ?_⟩
        simp [sweep, hst, hsw] at h
      | some r =>
        obtain ⟨s1, ch1⟩ := r
        refine ⟨fun h => by simp [sweep, hst, hsw] at h, fun s' ch h => ?_⟩
        simp only [sweep, hst, hsw, Option.some.injEq, Prod.mk.injEq] at h
        obtain ⟨rfl, _⟩ := h
        obtain ⟨e1, e2, e3, e4, e5⟩ := ih2 s1 ch1 hsw
        exact ⟨e1, e2, e3, e4.trans hnv, fun α => (e5 α).trans (hms α)⟩

theorem propagateFuel_spec (n : Nat) : ∀ (s : Enc), Inv s →
    Inv (propagateFuel n s).2 ∧
    ((propagateFuel n s).1 = true → ∀ α, Sat α (propagateFuel n s).2 ↔ Sat α s) ∧
    ((propagateFuel n s).1 = false → ∀ α, ¬ Sat α s) := by
  induction n with
  | zero =>
    intro s h
    exact ⟨h, fun _ _ => Iff.rfl, fun hf => by simp [propagateFuel] at hf⟩
  | succ n ih =>
    intro s h
    obtain ⟨sw1, sw2⟩ := sweep_spec s.clauses s h.1 (fun _ hc => hc)
    cases hsw : sweep s s.clauses with
    | none =>
      have e : propagateFuel (n + 1) s = (false, s) := by simp only [propagateFuel, hsw]
      rw [e]
      exact ⟨h, fun hf => by simp at hf, fun _ α hα => sw1 hsw α hα.2⟩
    | some r =>
      obtain ⟨s', ch⟩ := r
      obtain ⟨_, e2, e3, _, e5⟩ := sw2 s' ch hsw
      have hsat : ∀ α, Sat α s' ↔ Sat α s := fun α => and_congr Iff.rfl (e5 α)
      have hinv : Inv s' := inv_of_refines h e3 e2 (fun α hα => (hsat α).1 hα)
      cases ch with
      | true =>
        have e : propagateFuel (n + 1) s = propagateFuel n s' := by
          simp only [propagateFuel, hsw, if_true]
        rw [e]
        obtain ⟨i1, i2, i3⟩ := ih s' hinv
        exact ⟨i1, fun ht α => (i2 ht α).trans (hsat α), fun hf α hα => i3 hf α ((hsat α).2 hα)⟩
      | false =>
        have e : propagateFuel (n + 1) s = (true, s') := by
          simp only [propagateFuel, hsw, Bool.false_eq_true, if_false]
        rw [e]
        exact ⟨hinv, fun _ α => hsat α, fun hf => by simp at hf⟩

end EncL
end Oratio
