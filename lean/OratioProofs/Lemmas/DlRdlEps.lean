/-
Every matrix entry of a difference logic is built from the weights by `+`: for any `O : DOps α`, a
predicate that holds for `0`, `+∞`, the weights and is closed under `+` holds for every entry
(`DlG.AllP`).  Read for the reals at "the ε part is an integer" (`DlR.EpsI`, `inf.den = 1`), which is what
the strict negation `-d - ε` of `propagate(lit)` needs (see C10R_negation_is_reverse_edge).
-/
import OratioProofs.Lemmas.DlRdl
import OratioProofs.Lemmas.DlGen


namespace Oratio
namespace DlG
open Dl

variable {α : Type} (O : DOps α) (P : α → Prop)

/-- all entries, and the default read outside the matrix -/
def AllP (t : Dl α) : Prop := ∀ a b, P (d O t a b)

theorem d_setD_cases (t : Dl α) (i j : Nat) (x : α) (a b : Nat) :
    d O (setD t i j x) a b = x ∨ d O (setD t i j x) a b = d O t a b := by
  by_cases hi : i < t.dists.length
  · by_cases hj : j < (t.dists.getD i []).length
    · rw [d_setD t i j x a b hi hj]
      split
      · left; rfl
      · right; rfl
    · right
      have : (t.dists.getD i []).set j x = t.dists.getD i [] := List.set_eq_of_length_le (by omega)
      simp only [d_eq, setD, this]
      congr 2
      simp [List.getD_eq_getElem?_getD, hi]
  · right
    have : t.dists.set i ((t.dists.getD i []).set j x) = t.dists := List.set_eq_of_length_le (by omega)
    simp only [d_eq, setD, this]

theorem allP_wr {t : Dl α} (h : AllP O P t) (i j : Nat) (x : α) (y : Nat) (hx : P x) : AllP O P (wr O t i j x y) := by
  intro a b
  rw [Dl.d_congr (dists_wr _ _ _ _ _)]
  rcases d_setD_cases O t i j x a b with e | e <;> rw [e]
  · exact hx
  · exact h a b

/-- every value `propagate(from, to, dist)` writes is the weight or a sum of entries -/
theorem allP_propagateEdge (hadd : ∀ x y, P x → P y → P (O.add x y)) (s : Sat) (t : Dl α) (f g : Nat) (w : α) (hw : P w)
    (h : AllP O P t) : AllP O P (propagateEdge O s t f g w).2 :=
  propagateEdge_writes O (AllP O P) w (fun t i j x y ht hx => allP_wr O P ht i j x y (by
    rcases hx with rfl | ⟨a, b, rfl | ⟨c, e, rfl⟩⟩
    exacts [hw, hadd _ _ (ht a b) hw, hadd _ _ (ht a b) (ht c e)])) s t f g h

end DlG

namespace DlR

def EpsI (x : IR) : Prop := x.inf.den = 1

theorem R_add_den_one {a b : R} (ha : a.den = 1) (hb : b.den = 1) : (R.add a b).den = 1 := by
  unfold R.add
  by_cases h1 : (a.num == 0 || b.isInfinite) = true
  · rw [if_pos h1]; exact hb
  by_cases h2 : (b.num == 0 || a.isInfinite) = true
  · rw [if_neg h1, if_pos h2]; exact ha
  · rw [if_neg h1, if_neg h2, if_pos (by rw [ha, hb]; rfl)]; rfl

theorem epsI_add (x y : IR) (hx : EpsI x) (hy : EpsI y) : EpsI (rdlOps.add x y) := R_add_den_one hx hy

theorem epsI_negStrict (w : IR) (hw : EpsI w) : EpsI (rdlOps.negStrict w) := by
  show (R.add (R.neg w.inf) (R.neg R.one)).den = 1
  exact R_add_den_one hw rfl

theorem epsI_zero : EpsI rdlOps.zero := rfl
theorem epsI_inf : EpsI rdlOps.inf := rfl

end DlR
end Oratio
